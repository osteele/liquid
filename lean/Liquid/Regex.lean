import Liquid.Basic
/-!
# A leftmost-first backtracking regular-expression matcher (DESIGN §4)

Models the semantics Go's `regexp` documents for its non-POSIX mode: "the match that a
backtracking engine would have found first". Continuation-passing style, structurally
recursive on the expression; `star` runs a fuel-bounded loop whose iterations must consume
input. Positions are absolute byte offsets carried next to the remaining suffix, so no
function ever recomputes a length.
-/

inductive Pred where
  | eq (b : UInt8) | ne (b : UInt8) | space | word | anyNoNL | any
  deriving Repr, DecidableEq, Inhabited

def Pred.test : Pred → UInt8 → Bool
  | .eq b, c => c == b
  | .ne b, c => c != b
  | .space, c => c == 32 || c == 9 || c == 10 || c == 12 || c == 13
  | .word, c => (48 ≤ c && c ≤ 57) || (65 ≤ c && c ≤ 90) || (97 ≤ c && c ≤ 122) || c == 95
  | .anyNoNL, c => c != 10
  | .any, _ => true

inductive Re where
  | chr (p : Pred) | eps | seq (a b : Re) | alt (a b : Re)
  | star (greedy : Bool) (a : Re) | group (i : Nat) (a : Re)
  deriving Repr, Inhabited

/-- a capture: group index, absolute start and end offsets -/
structure Cap where
  idx : Nat
  s : Nat
  e : Nat
  deriving Repr, DecidableEq

abbrev Caps := List Cap

def Caps.find (c : Caps) (i : Nat) : Option (Nat × Nat) :=
  match c.find? (fun x => x.idx == i) with
  | some x => some (x.s, x.e)
  | none => none

/-- continuation: remaining suffix, absolute position, captures -/
abbrev K (R : Type) := Bytes → Nat → Caps → Option R

/-- star loop: fuel-bounded; an iteration must advance the position. -/
def starLoop {R : Type} (ma : Bytes → Nat → Caps → K R → Option R) (greedy : Bool) :
    Nat → Bytes → Nat → Caps → K R → Option R
  | 0, s, p, c, k => k s p c
  | n+1, s, p, c, k =>
    let more := fun (_ : Unit) =>
      ma s p c (fun s' p' c' => if p < p' then starLoop ma greedy n s' p' c' k else none)
    if greedy then
      match more () with
      | some r => some r
      | none => k s p c
    else
      match k s p c with
      | some r => some r
      | none => more ()

def Re.m {R : Type} (fuel : Nat) : Re → Bytes → Nat → Caps → K R → Option R
  | .chr pr, s, p, c, k => match s with
      | [] => none
      | x :: xs => if pr.test x then k xs (p+1) c else none
  | .eps, s, p, c, k => k s p c
  | .seq a b, s, p, c, k => a.m fuel s p c (fun s' p' c' => b.m fuel s' p' c' k)
  | .alt a b, s, p, c, k => match a.m fuel s p c k with
      | some r => some r
      | none => b.m fuel s p c k
  | .star g a, s, p, c, k => starLoop (fun s p c k => a.m fuel s p c k) g fuel s p c k
  | .group i a, s, p, c, k => a.m fuel s p c (fun s' p' c' => k s' p' (⟨i, p, p'⟩ :: c'))

/-- match at the head of `s` (which sits at absolute offset `p`): end offset and captures -/
def Re.matchAt (fuel : Nat) (re : Re) (s : Bytes) (p : Nat) : Option (Nat × Caps) :=
  re.m fuel s p [] (fun _ p' c => some (p', c))

/-- leftmost match at or after the head of `s`: (bytes skipped, end offset, captures).
    Tail recursive. -/
def Re.search (fuel : Nat) (re : Re) : Bytes → Nat → Nat → Option (Nat × Nat × Caps)
  | [], _, _ => none     -- the token regexps never match the empty string
  | x :: xs, p, skipped =>
    match re.matchAt fuel (x :: xs) p with
    | some (e, c) => some (skipped, e, c)
    | none => re.search fuel xs (p+1) (skipped+1)

/-! ## Derived forms -/
def Re.lit (s : Bytes) : Re := s.foldr (fun b acc => Re.seq (.chr (.eq b)) acc) .eps
def Re.opt (a : Re) : Re := .alt a .eps            -- greedy `?`
def Re.plusLazy (a : Re) : Re := .seq a (.star false a)
def Re.plus (a : Re) : Re := .seq a (.star true a)
def Re.alts : List Re → Re
  | [] => .eps                 -- the empty pattern
  | [a] => a
  | a :: as => .alt a (Re.alts as)

/-! ## What a match can consume: the language of an expression; the continuation is only ever called behind a word of it -/

/-- the words an expression can consume: captures, preferences and fuel forgotten -/
inductive Re.Lang : Re → Bytes → Prop
  | chr {pr : Pred} {x : UInt8} : pr.test x = true → Re.Lang (.chr pr) [x]
  | eps : Re.Lang .eps []
  | seq {a b : Re} {u v : Bytes} : Re.Lang a u → Re.Lang b v → Re.Lang (.seq a b) (u ++ v)
  | altL {a b : Re} {w : Bytes} : Re.Lang a w → Re.Lang (.alt a b) w
  | altR {a b : Re} {w : Bytes} : Re.Lang b w → Re.Lang (.alt a b) w
  | starNil {g : Bool} {a : Re} : Re.Lang (.star g a) []
  | starCons {g : Bool} {a : Re} {u v : Bytes} : Re.Lang a u → Re.Lang (.star g a) v → Re.Lang (.star g a) (u ++ v)
  | group {i : Nat} {a : Re} {w : Bytes} : Re.Lang a w → Re.Lang (.group i a) w

theorem lang_seq {a b : Re} {w : Bytes} (h : (Re.seq a b).Lang w) : ∃ u v, w = u ++ v ∧ a.Lang u ∧ b.Lang v := by
  cases h with
  | seq hu hv => exact ⟨_, _, rfl, hu, hv⟩

theorem starLoop_sound {R} {a : Re} {g : Bool} (ma : Bytes → Nat → Caps → K R → Option R)
    (hma : ∀ s p c k r, ma s p c k = some r → ∃ w t c', s = w ++ t ∧ a.Lang w ∧ k t (p + w.length) c' = some r) :
    ∀ n s p c k r, starLoop ma g n s p c k = some r →
      ∃ w t c', s = w ++ t ∧ (Re.star g a).Lang w ∧ k t (p + w.length) c' = some r := by
  intro n
  induction n with
  | zero => intro s p c k r h; exact ⟨[], s, c, rfl, .starNil, h⟩
  | succ n ih =>
    intro s p c k r h
    have hmore : ∀ r, ma s p c (fun s' p' c' => if p < p' then starLoop ma g n s' p' c' k else none) = some r →
        ∃ w t c', s = w ++ t ∧ (Re.star g a).Lang w ∧ k t (p + w.length) c' = some r := by
      intro r hr
      obtain ⟨u, t1, c1, rfl, hu, hk1⟩ := hma _ _ _ _ _ hr
      split at hk1
      · obtain ⟨v, t, c2, rfl, hv, hk2⟩ := ih _ _ _ _ _ hk1
        refine ⟨u ++ v, t, c2, (List.append_assoc ..).symm, .starCons hu hv, ?_⟩
        rw [List.length_append, ← Nat.add_assoc]
        exact hk2
      · cases hk1
    unfold starLoop at h
    cases g with
    | true =>
      simp only [if_true] at h
      split at h
      · next r' hr' => cases h; exact hmore _ hr'
      · exact ⟨[], s, c, rfl, .starNil, h⟩
    | false =>
      simp only [Bool.false_eq_true, if_false] at h
      split at h
      · next r' hr' => cases h; exact ⟨[], s, c, rfl, .starNil, hr'⟩
      · exact hmore _ h

/-- the matcher is sound for the language: the continuation it succeeds with was called behind a word of the expression -/
theorem Re.m_sound {R} (fuel : Nat) : ∀ (re : Re) s p c (k : K R) r, re.m fuel s p c k = some r →
    ∃ w t c', s = w ++ t ∧ re.Lang w ∧ k t (p + w.length) c' = some r := by
  intro re
  induction re with
  | chr pr =>
    intro s p c k r h
    unfold Re.m at h
    split at h
    · cases h
    · next x xs =>
      split at h
      · next hx => exact ⟨[x], xs, c, rfl, .chr hx, h⟩
      · cases h
  | eps => intro s p c k r h; exact ⟨[], s, c, rfl, .eps, h⟩
  | seq a b iha ihb =>
    intro s p c k r h
    unfold Re.m at h
    obtain ⟨u, t1, c1, rfl, hu, h1⟩ := iha _ _ _ _ _ h
    obtain ⟨v, t, c2, rfl, hv, h2⟩ := ihb _ _ _ _ _ h1
    refine ⟨u ++ v, t, c2, (List.append_assoc ..).symm, .seq hu hv, ?_⟩
    rw [List.length_append, ← Nat.add_assoc]
    exact h2
  | alt a b iha ihb =>
    intro s p c k r h
    unfold Re.m at h
    split at h
    · next r' hr' =>
      cases h
      obtain ⟨w, t, c', e, hw, hk⟩ := iha _ _ _ _ _ hr'
      exact ⟨w, t, c', e, .altL hw, hk⟩
    · obtain ⟨w, t, c', e, hw, hk⟩ := ihb _ _ _ _ _ h
      exact ⟨w, t, c', e, .altR hw, hk⟩
  | star g a iha => exact fun s p c k r h => starLoop_sound _ (fun s p c k r h => iha s p c k r h) _ _ _ _ _ _ h
  | group i a iha =>
    intro s p c k r h
    unfold Re.m at h
    obtain ⟨w, t, c', e, hw, hk⟩ := iha _ _ _ _ _ h
    exact ⟨w, t, _, e, .group hw, hk⟩

/-- A match found at `p` ends between `p` and the end of the input. -/
theorem Re.matchAt_bounds (fuel : Nat) (re : Re) (s : Bytes) (p e : Nat) (c : Caps)
    (h : re.matchAt fuel s p = some (e, c)) : p ≤ e ∧ e ≤ p + s.length := by
  obtain ⟨w, t, c', rfl, _, hk⟩ := Re.m_sound fuel _ _ _ _ _ _ h
  cases hk
  rw [List.length_append]
  omega

/-- `Re.search` answers at the FIRST position at which `matchAt` does, or not at all when `matchAt` answers nowhere -/
theorem Re.search_first (fuel : Nat) (re : Re) : ∀ (s : Bytes) (p sk : Nat),
    (re.search fuel s p sk = none ∧ ∀ i, i < s.length → re.matchAt fuel (s.drop i) (p + i) = none) ∨
    ∃ n e c, re.search fuel s p sk = some (sk + n, e, c) ∧ n < s.length ∧
      (∀ i, i < n → re.matchAt fuel (s.drop i) (p + i) = none) ∧ re.matchAt fuel (s.drop n) (p + n) = some (e, c) := by
  intro s
  induction s with
  | nil => exact fun p sk => .inl ⟨rfl, fun i hi => absurd hi (Nat.not_lt_zero i)⟩
  | cons x xs ih =>
    intro p sk
    rw [Re.search]
    cases hm : re.matchAt fuel (x :: xs) p with
    | some r => exact .inr ⟨0, r.1, r.2, rfl, Nat.succ_pos _, fun i hi => absurd hi (Nat.not_lt_zero i), hm⟩
    | none =>
      have shift : ∀ i, re.matchAt fuel ((x :: xs).drop (i + 1)) (p + (i + 1)) = re.matchAt fuel (xs.drop i) (p + 1 + i) := by
        intro i; rw [List.drop_succ_cons, Nat.add_assoc, Nat.add_comm 1 i]
      have below : ∀ n, (∀ i, i < n → re.matchAt fuel (xs.drop i) (p + 1 + i) = none) →
          ∀ i, i < n + 1 → re.matchAt fuel ((x :: xs).drop i) (p + i) = none := by
        intro n h i hi
        cases i with
        | zero => exact hm
        | succ i => rw [shift]; exact h i (Nat.lt_of_succ_lt_succ hi)
      rcases ih (p + 1) (sk + 1) with ⟨h1, h2⟩ | ⟨n, e, c, h1, h2, h3, h4⟩
      · exact .inl ⟨h1, below xs.length h2⟩
      · exact .inr ⟨n + 1, e, c, by rw [h1, Nat.add_assoc, Nat.add_comm 1 n], Nat.succ_lt_succ h2, below n h3,
          by rw [shift]; exact h4⟩

theorem Re.search_bounds (fuel : Nat) (re : Re) : ∀ (s : Bytes) (p sk n e : Nat) (c : Caps),
    re.search fuel s p sk = some (n, e, c) →
      sk ≤ n ∧ p + (n - sk) ≤ e ∧ e ≤ p + s.length := by
  intro s p sk n e c h
  rcases Re.search_first fuel re s p sk with ⟨h1, _⟩ | ⟨n', e', c', h1, hn, _, h4⟩
  · rw [h1] at h
    cases h
  · rw [h1] at h
    cases h
    have hb := Re.matchAt_bounds fuel re _ _ _ _ h4
    rw [List.length_drop] at hb
    rw [Nat.add_sub_cancel_left]
    exact ⟨Nat.le_add_right sk n', hb.1, by omega⟩
