import Liquid.Value
import Liquid.Utf8
/-!
# Variable, property and index lookup: model of `values/value.go` (the `Value` wrappers)

`values.ValueOf` picks a wrapper by the dynamic Go type; the wrapper decides what `a.b`,
`a[i]` and `Int()` mean. The model works on the `GoVal` directly: `unwrap` is what the
wrapper's `Interface()` returns (drops resolved, pointers followed), and each operation
dispatches on the unwrapped value exactly as the wrapper methods do.
-/

namespace GoVal

/-- `ValueOf(v).Interface()`: drops are resolved, non-struct pointers followed, a nil pointer
    is nil. (A pointer to a struct keeps its pointer: `structValue` wraps it.) -/
def unwrap : GoVal → GoVal
  | .drop v => unwrap v
  | .nilPtr => .nil
  | .ptr (.drop v) => unwrap v                -- *T implements the drop interface when T does
  | .ptr (.struct fs) => .ptr (.struct fs)
  | .ptr (.range a b) => .ptr (.range a b)    -- values.Range and time.Time are structs too
  | .ptr (.time u) => .ptr (.time u)
  | .ptr v => unwrap v
  | v => v

def firstKey : Bytes := [102, 105, 114, 115, 116]
def lastKey : Bytes := [108, 97, 115, 116]
def sizeKey : Bytes := [115, 105, 122, 101]

/-- elements of an array-kind value (`arrayValue`): slices, fixed arrays and `[]byte` -/
def elems? : GoVal → Option (List GoVal)
  | .slice _ xs => some xs
  | .array _ xs => some xs
  | .bytes s => some (s.map fun b => .int .u8 b.toNat)
  | _ => none

/-- float → `int` conversion used by array indexing (`int(ix)`): truncation toward zero;
    outside the int64 range Go's result is implementation-defined -/
def truncToInt (q : Rat) : Option Int :=
  let t : Int := if q ≥ 0 then q.floor else -((-q).floor)
  if IntKind.i64.inRange t then some t else none

inductive LRes where
  | val (v : GoVal)
  | unmodelled (why : String)
  deriving Repr

/-- Go's `==` on two interface values holding `a` and `b` (used by `MapSlice` lookup):
    different dynamic types are unequal; equal types compare by value; uncomparable types panic. -/
def ifaceEq (a b : GoVal) : Option Bool :=
  match a, b with
  | .nil, .nil => some true
  | .bool x, .bool y => some (x == y)
  | .int k n, .int k' m => some (k == k' && n == m)
  | .flt k q, .flt k' r => some (k == k' && q == r)
  | .str s, .str t => some (s == t)
  | .slice _ _, .slice _ _ => none      -- possibly the same uncomparable type: may panic
  | .map _ _ _, .map _ _ _ => none
  | .bytes _, .bytes _ => none
  | .mapSlice _, .mapSlice _ => none
  | .keyedMap _, .keyedMap _ => none
  | .drop _, .drop _ => none
  | .struct _, .struct _ => none
  | .array _ _, .array _ _ => none
  | .ptr _, .ptr _ => none
  | .range a b, .range c d => some (a == c && b == d)
  | .time a, .time b => some (a == b)
  | .nilPtr, .nilPtr => some true
  | _, _ => some false

def lookupFields (fs : List (Bytes × GoVal)) (name : Bytes) : Option GoVal :=
  match fs.find? (fun kv => kv.1 == name) with
  | some kv => some kv.2
  | none => none

/-- `string(rune(n))` -/
def runeString (n : Int) : Bytes :=
  if n < 0 || n > 0x10FFFF then encodeRune 0xFFFD else encodeRune n.toNat

/-- convert an index value to a map's key type, as `ir.Convert(kt)` does when
    `ir.Type().ConvertibleTo(kt) && ir.Type().Comparable()`; `none` = not convertible -/
def convertKey (kt : Ty) (idx : GoVal) : Option (Option GoVal) :=
  match kt, idx with
  | .str, .str s => some (some (.str s))
  | .str, .int _ _ => some none                             -- an integer is not converted to a string key (no rune conversion)
  | .int k, .int _ n => if k.inRange n then some (some (.int k n)) else none   -- wrap-around: unmodelled
  | .int k, .flt _ q =>
    (match truncToInt q with
     | some t => if k.inRange t then some (some (.int k t)) else none
     | none => none)
  | .flt k, .flt _ q => some (some (.flt k q))
  | .flt k, .int _ n => some (some (.flt k (n : Rat)))      -- exact only for |n| ≤ 2^53 (guarded by callers' universe)
  | .bool, .bool b => some (some (.bool b))
  | .any, .str s => some (some (.str s))
  | .any, .int k n => some (some (.int k n))
  | .any, .flt k q => some (some (.flt k q))
  | .any, .bool b => some (some (.bool b))
  | .any, .range a b => some (some (.range a b))
  | .any, .time t => some (some (.time t))
  | .any, _ => some none                                    -- convertible but not comparable: no lookup
  | _, _ => some none

def mapFind (kvs : List (GoVal × GoVal)) (k : GoVal) : Option GoVal :=
  match kvs.find? (fun kv => ifaceEq kv.1 k == some true) with
  | some kv => some kv.2
  | none => none

def mapSliceFind : List (GoVal × GoVal) → GoVal → LRes
  | [], _ => .val .nil           -- not found: nil, like an entry that holds nil
  | (k, v) :: r, e =>
    match ifaceEq e k with
    | some true => .val v
    | some false => mapSliceFind r e
    | none => mapSliceFind r e        -- `safeEqual`: operands of an uncomparable type are unequal

/-- a name `reflect`'s `MethodByName` can find is exported: it starts with an upper-case letter (every method of
    `time.Time` and `values.Range` starts with an ASCII one) -/
def exportedName : Bytes → Bool
  | b :: _ => 65 ≤ b.toNat && b.toNat ≤ 90
  | [] => false

/-- a property of a `time.Time` or `values.Range` (or a pointer to one): these are structs without exported fields,
    so every name reads as nil, except the name of a METHOD, which `structValue.PropertyValue` invokes
    (`{{ t.Year }}`, `{{ (1..3).Len }}`). The methods of Go's `time.Time` are outside the model. -/
def methodOnly (name : GoVal) : LRes :=
  match name with
  | .str s => if exportedName s then .unmodelled "method of time.Time / values.Range invoked as a property" else .val .nil
  | _ => .val .nil

/-- `IndexValue` -/
def indexValue (recv idx : GoVal) : LRes :=
  let i := idx.unwrap
  match recv.unwrap with
  | .slice _ xs | .array _ xs => indexList xs i
  | .bytes s => indexList (s.map fun b => .int .u8 b.toNat) i
  | .map kt _ kvs =>
    (match i with
     | .nil => .val .nil
     | _ =>
       match convertKey kt i with
       | none => .unmodelled "map key conversion"
       | some none => .val .nil
       | some (some k) => .val ((mapFind kvs k).getD .nil))
  | .keyedMap kvs =>
    (match i with
     | .str s => .val ((lookupFields kvs s).getD .nil)
     | _ => .val .nil)
  | .mapSlice kvs => mapSliceFind kvs i
  | .struct fs | .ptr (.struct fs) =>
    (match i with
     | .str s => .val ((lookupFields fs s).getD .nil)
     | _ => .val .nil)
  | .range _ _ | .time _ | .ptr (.range _ _) | .ptr (.time _) => methodOnly i   -- structs without exported fields
  | _ => .val .nil
where
  indexList (xs : List GoVal) (i : GoVal) : LRes :=
    let n? : Option (Option Int) := match i with
      | .int .int n => some (some n)
      | .flt _ q => some (truncToInt q)
      | _ => none
    match n? with
    | none => .val .nil
    | some none => .unmodelled "float index out of int range"
    | some (some n) =>
      let n := if n < 0 then n + xs.length else n
      if 0 ≤ n ∧ n < xs.length then .val (xs.getD n.toNat .nil) else .val .nil

/-- `PropertyValue` with a property *name* (the index is always a Go string) -/
def propertyValue (recv : GoVal) (name : Bytes) : LRes :=
  match recv.unwrap with
  | .slice _ xs | .array _ xs => propList xs
  | .bytes s => propList (s.map fun b => .int .u8 b.toNat)
  | .map kt _ kvs =>
    let found : Option GoVal := match kt with
      | .str | .any => mapFind kvs (.str name)
      | _ => none                                  -- a string is not convertible to the key type
    (match found with
     | some v => .val v
     | none => if name == sizeKey then .val (.int .int kvs.length) else .val .nil)
  | .keyedMap kvs =>
    (match lookupFields kvs name with
     | some v => .val v
     | none => if name == sizeKey then .val (.int .int kvs.length) else .val .nil)
  | .str s => if name == sizeKey then .val (.int .int s.length) else .val .nil
  | .mapSlice kvs =>
    (match mapSliceFind kvs (.str name) with
     | .val v => if (match v with | .nil | .nilPtr => true | _ => false) && name == sizeKey then .val (.int .int kvs.length) else .val v
     | r => r)
  | .struct fs | .ptr (.struct fs) => .val ((lookupFields fs name).getD .nil)
  | .range _ _ | .time _ | .ptr (.range _ _) | .ptr (.time _) => methodOnly (.str name)
  | _ => .val .nil
where
  propList (xs : List GoVal) : LRes :=
    if name == firstKey then .val (xs.head?.getD .nil)
    else if name == lastKey then .val (xs.getLast?.getD .nil)
    else if name == sizeKey then .val (.int .int xs.length)
    else .val .nil

/-- `Value.Int()`: only a Go `int` converts; anything else is a `TypeError` (recovered) -/
def intOf (v : GoVal) : Option Int :=
  match v.unwrap with
  | .int .int n => some n
  | _ => none

/-- `Value.Test()`: `value != nil && value != false` on the wrapped interface value -/
def test (v : GoVal) : Bool :=
  match v.unwrap with
  | .nil => false
  | .bool false => false
  | _ => true

end GoVal
