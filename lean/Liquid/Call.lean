import Liquid.Convert
/-!
# The filter call layer: `expressions.ApplyFilter` + `values.Call` (DESIGN §4, A.7)

## Interface for filter models (everything a `Filters/*.lean` file needs)

```
inductive Param    | val (t : ParamTy) | fn (t : ParamTy)          -- `T`  |  default-function `func(T) T`
structure FilterSig  (name : Bytes) (params : List Param) (hasErr : Bool)   -- params.head = the receiver
def stdFilters : List FilterSig                                    -- every filter of AddStandardFilters

inductive Arg      | val (v : GoVal) | fn (c : Option (Res Cause GoVal))
abbrev FilterImpl := List Arg → Res Cause (Except Cause GoVal)
def applyFilter (impls : Bytes → Option FilterImpl) (name : Bytes) (recv : GoVal) (args : List GoVal) : Res Cause GoVal
```

A `FilterImpl` is the Go function body. It receives one `Arg` per *parameter* (receiver first,
always exactly `params.length` of them), already converted by `values.Call`:

* `Arg.val v` — `v` has the parameter's type: the converted argument, or the type's zero value when
  the argument was `nil` or absent;
* `Arg.fn none` — a default-function parameter without an argument: the identity function;
  `Arg.fn (some r)` — the constant function returning the argument converted to `T`; the
  conversion is *lazy* in Go (it runs, and may panic with a `TypeError`, only when the filter calls
  the function), so `r` is the unevaluated `Res`. Use `Arg.call a dflt` for the Go call `f(dflt)`.

and returns

* `.ok (.ok v)`       — the Go function returned `v` (and a nil error),
* `.ok (.error c)`    — it returned a non-nil `error` (second result) with cause `c`,
* `.err c`            — it panicked with a value `Evaluate` recovers as an error (`values.TypeError`
                         from `MustConvert…`, `InterpreterError`): *not* wrapped in a `FilterError`,
* `.panic` / `.unmodelled` as everywhere.

Helpers: `ret v`, `retErr c`, and `FilterImpl.ofEager` (adapter for bodies of type
`List GoVal → Res Cause GoVal`). A file that implements filters exports a
`List (Bytes × FilterImpl)`; `Std.lean` concatenates these lists (`stdFilterImpls`), and `lookupImpl` looks a
name up in the result.

## What `applyFilter` does, in the order of the Go code

1. unknown name ⇒ `panic(UndefinedFilter(name))`, recovered ⇒ `err (undefinedFilter name)`;
2. `values.Call`: more arguments (receiver included) than parameters ⇒ `CallParityError`, returned
   by `ApplyFilter` and therefore wrapped by `makeFilter` ⇒ `err (filterErr name parity)`;
3. arguments left to right: default-function parameter ⇒ constant function (even for a `nil`
   argument); `nil` argument ⇒ zero value; otherwise `MustConvert` — failure is
   `panic(TypeError)` ⇒ `err typeErr` (not wrapped);
4. missing arguments ⇒ zero values / identity functions;
5. the call; a returned error ⇒ `err (filterErr name c)`;
6. a `[]byte` result becomes a `string`.

`viaValue` models `values.ValueOf(x).Interface()`, which the expression evaluator applies to
every variable it reads and to every filter result (`makeFilter`): drops are resolved
(recursively), a pointer that does not point to a struct is dereferenced, a nil pointer is nil.
`evalFilter` = `viaValue` on receiver and arguments, `applyFilter`, `viaValue` on the result: the
meaning of the expression `x | name: a0, a1` with `x`, `a0`, `a1` bound to the given values.

Not modelled: filters that take an `expressions.Closure` parameter (none of the standard
filters does), variadic filters (none).
-/

inductive Param where
  | val (t : ParamTy)
  | fn (t : ParamTy)
  deriving Repr, DecidableEq, Inhabited

structure FilterSig where
  name : Bytes
  params : List Param
  hasErr : Bool := false
  deriving Repr, DecidableEq

inductive Arg where
  | val (v : GoVal)
  | fn (c : Option (Res Cause GoVal))

abbrev FilterImpl := List Arg → Res Cause (Except Cause GoVal)

/-- the Go function returned `v` -/
def ret (v : GoVal) : Res Cause (Except Cause GoVal) := .ok (.ok v)
/-- the Go function returned a non-nil error -/
def retErr (c : Cause) : Res Cause (Except Cause GoVal) := .ok (.error c)

/-- the Go call `f(dflt)` of a default-function parameter -/
def Arg.call (a : Arg) (dflt : GoVal) : Res Cause GoVal :=
  match a with
  | .fn none => .ok dflt
  | .fn (some r) => r
  | .val v => .ok v

/-- Adapter for filter bodies written over plain values, `List GoVal → Res Cause GoVal`: the
arguments are the converted values, receiver first; a default-function parameter contributes its
constant (evaluated *eagerly* — a body that calls the function only on some paths, like `slice`,
must be written against `Arg` directly) and is *dropped* when absent (such parameters are always
last, so the body sees a shorter list and applies its own default). `returnsErr`: an `err c` of the
body is the Go function's returned error (`(T, error)` filters); otherwise it is a recovered panic. -/
def FilterImpl.ofEager (returnsErr : Bool) (f : List GoVal → Res Cause GoVal) : FilterImpl := fun args =>
  let rec collect : List Arg → Res Cause (List GoVal)
    | [] => .ok []
    | .val v :: r => (collect r).bind fun vs => .ok (v :: vs)
    | .fn none :: r => collect r
    | .fn (some c) :: r => c.bind fun v => (collect r).bind fun vs => .ok (v :: vs)
  (collect args).bind fun vs =>
    match f vs with
    | .ok v => ret v
    | .err c => if returnsErr then retErr c else .err c
    | .panic w => .panic w
    | .unmodelled w => .unmodelled w

/-! ## The registry of `filters.AddStandardFilters` -/

section
open Param ParamTy
private def sig (name : String) (params : List Param) (hasErr : Bool := false) : FilterSig :=
  { name := name.toUTF8.toList, params := params, hasErr := hasErr }

def stdFilters : List FilterSig := [
  -- value filters
  sig "default" [val any, val any],
  sig "json" [val any],
  -- array filters
  sig "compact" [val anys],
  sig "concat" [val anys, val anys],
  sig "join" [val anys, fn str],
  sig "map" [val anys, val str],
  sig "reverse" [val anys],
  sig "sort" [val anys, val any],
  sig "first" [val anys],
  sig "last" [val anys],
  sig "uniq" [val anys],
  -- date filters
  sig "date" [val time, fn str] true,
  -- number filters
  sig "abs" [val f64],
  sig "ceil" [val f64],
  sig "floor" [val f64],
  sig "modulo" [val f64, val f64] true,     -- after the D17 repair: (float64, error)
  sig "minus" [val f64, val f64],
  sig "plus" [val f64, val f64],
  sig "times" [val f64, val f64],
  sig "divided_by" [val f64, val any] true,
  sig "round" [val f64, fn int],
  -- sequence filters
  sig "size" [val any],
  -- string filters
  sig "append" [val str, val str],
  sig "capitalize" [val str, val str],
  sig "downcase" [val str, val str],
  sig "escape" [val str],
  sig "escape_once" [val str, val str],
  sig "newline_to_br" [val str],
  sig "prepend" [val str, val str],
  sig "remove" [val str, val str],
  sig "remove_first" [val str, val str],
  sig "replace" [val str, val str, val str],
  sig "replace_first" [val str, val str, val str],
  sig "sort_natural" [val anys, val any],
  sig "slice" [val str, val int, fn int],
  sig "split" [val str, val str],
  sig "strip_html" [val str],
  sig "strip_newlines" [val str],
  sig "strip" [val str],
  sig "lstrip" [val str],
  sig "rstrip" [val str],
  sig "truncate" [val str, fn int, fn str],
  sig "truncatewords" [val str, fn int, fn str],
  sig "upcase" [val str, val str],
  sig "url_encode" [val str],
  sig "url_decode" [val str] true,
  -- debugging filters
  sig "inspect" [val any],
  sig "type" [val any]
]
end

def lookupSig (name : Bytes) : Option FilterSig := stdFilters.find? (·.name == name)

/-- look a name up in an association list of implementations -/
def lookupImpl (table : List (Bytes × FilterImpl)) (name : Bytes) : Option FilterImpl :=
  (table.find? (·.1 == name)).map (·.2)

/-! ## `values.Call` -/

/-- `convertCallArguments`: one `Arg` per parameter. Precondition (checked by the caller):
`args.length ≤ params.length`. -/
def convertArgs : List Param → List GoVal → (budget : Int := 1000000) → Res Cause (List Arg)
  | [], _, _ => .ok []
  | .fn _ :: ps, [], n => (convertArgs ps [] n).bind fun r => .ok (.fn none :: r)
  | .val t :: ps, [], n => (convertArgs ps [] n).bind fun r => .ok (.val t.zero :: r)
  | .fn t :: ps, a :: as, n => (convertArgs ps as n).bind fun r => .ok (.fn (some (convert a t n)) :: r)
  | .val t :: ps, a :: as, n =>
    match a with
    | .nil => (convertArgs ps as n).bind fun r => .ok (.val t.zero :: r)
    | _ => (convert a t n).bind fun c => (convertArgs ps as n).bind fun r => .ok (.val c :: r)

/-- `ApplyFilter`'s result conversion -/
def bytesToString : GoVal → GoVal
  | .bytes s => .str s
  | v => v

def applyFilter (impls : Bytes → Option FilterImpl) (name : Bytes) (recv : GoVal) (args : List GoVal)
    (budget : Int := 1000000) : Res Cause GoVal :=
  match lookupSig name with
  | none => .err (.undefinedFilter name)
  | some sg =>
    if (recv :: args).length > sg.params.length then .err (.filterErr name .parity) else
    (convertArgs sg.params (recv :: args) budget).bind fun cargs =>
    match impls name with
    | none => .unmodelled "filter body not modelled"
    | some f =>
      (f cargs).bind fun
        | .error c => .err (.filterErr name c)
        | .ok v => .ok (bytesToString v)

/-! ## `values.ValueOf(x).Interface()` -/

def viaValue : GoVal → GoVal
  | .drop v => viaValue v
  | .nilPtr => .nil
  | .ptr (.drop v) => viaValue v              -- *T implements drop when T does
  | .ptr (.struct fs) => .ptr (.struct fs)    -- pointer to struct: structValue keeps the pointer
  | .ptr (.range a b) => .ptr (.range a b)
  | .ptr (.time u) => .ptr (.time u)
  | .ptr v => viaValue v
  | v => v

/-- the expression `x | name: a0, a1, …` evaluated with the variables bound to `recv`, `args` -/
def evalFilter (impls : Bytes → Option FilterImpl) (name : Bytes) (recv : GoVal) (args : List GoVal)
    (budget : Int := 1000000) : Res Cause GoVal :=
  (applyFilter impls name (viaValue recv) (args.map viaValue) budget).bind fun v => .ok (viaValue v)

/-! ## Canonical text of a cause (the `err <kind>` field of the line protocol; names omitted) -/

def Cause.kind : Cause → String
  | .syntax => "syntax"
  | .typeErr => "typeErr"
  | .interp => "interp"
  | .undefinedFilter _ => "undefinedFilter"
  | .filterErr _ inner => "filterErr:" ++ inner.kind
  | .parity => "parity"
  | .divZero => "divZero"
  | .io => "io"
  | .brk => "break"
  | .cont => "continue"
  | .other _ => "other"
  | .none => "none"
