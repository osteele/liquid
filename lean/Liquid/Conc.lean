/-!
# An abstract interleaving machine (DESIGN §6, property C04)

Threads are straight-line sequences of memory accesses over one shared store; a schedule
chooses which thread performs its next step. A location carries the *region* that owns it:

* `owner = none`   — the shared region: everything that exists before the goroutines start
  (engine configuration, compiled templates, binding values);
* `owner = some i` — allocated by thread `i` during its parse or render (variable map copy,
  output buffer, forloop record, cycle map, results of sort/reverse/concat …).

A step reads a location (the value read is appended to the thread's observations, so that
every later step and the final result depend on it), writes a location with a value computed
from the observations so far, or is a pure local computation appending to the observations.
The result of a thread is its list of observations.

There is no synchronisation primitive in the machine, so *any* two accesses to one location
by different threads, one of them a write, are a data race (`HasRace`); `sync.Once` of
`values.dropWrapper` is outside the machine (fact class `synchronised`, Go's `sync` trusted).
-/

namespace Conc

abbrev Tid := Nat
abbrev Val := Nat

structure Loc where
  owner : Option Tid
  addr : Nat
  deriving DecidableEq, Repr

abbrev Store := Loc → Val

def Store.set (σ : Store) (l : Loc) (v : Val) : Store :=
  fun l' => if l' = l then v else σ l'

inductive Step where
  /-- load `l`; the value is appended to the observations -/
  | read (l : Loc)
  /-- store at `l` a value computed from the observations so far -/
  | write (l : Loc) (f : List Val → Val)
  /-- local computation producing output -/
  | pure (f : List Val → Val)

/-- A thread is the sequence of steps of one `ParseTemplate` or `Render` call. -/
abbrev Thread := List Step

/-- Effect of one step on the store and on the executing thread's observations. -/
def Step.exec (s : Step) (σ : Store) (out : List Val) : Store × List Val :=
  match s with
  | .read l => (σ, out ++ [σ l])
  | .write l f => (σ.set l (f out), out)
  | .pure f => (σ, out ++ [f out])

structure Event where
  tid : Tid
  loc : Loc
  isWrite : Bool
  deriving DecidableEq, Repr

def Step.event (i : Tid) : Step → Option Event
  | .read l => some ⟨i, l, false⟩
  | .write l _ => some ⟨i, l, true⟩
  | .pure _ => none

/-- Thread state: the steps still to run and the observations made so far. -/
structure TState where
  rest : List Step
  out : List Val

structure Config where
  store : Store
  threads : List TState
  /-- memory accesses performed so far, oldest first -/
  trace : List Event

/-- Thread `i` performs its next step (no effect when `i` names no thread or a finished one). -/
def step (c : Config) (i : Tid) : Config :=
  match c.threads[i]? with
  | none => c
  | some t =>
    match t.rest with
    | [] => c
    | s :: rest =>
      { store := (s.exec c.store t.out).1
        threads := c.threads.set i ⟨rest, (s.exec c.store t.out).2⟩
        trace := c.trace ++ (s.event i).toList }

/-- A schedule names, for every step of the execution, the thread that moves. Every list of
thread ids is a schedule: the theorems quantify over all of them. -/
abbrev Schedule := List Tid

def runFrom (sched : Schedule) (c : Config) : Config := sched.foldl step c

def init (σ : Store) (ts : List Thread) : Config :=
  { store := σ, threads := ts.map (fun t => ⟨t, []⟩), trace := [] }

/-- Run threads `ts` from store `σ` under `sched`. -/
def run (sched : Schedule) (σ : Store) (ts : List Thread) : Config := runFrom sched (init σ ts)

/-- Observations of thread `i`. -/
def Config.result (c : Config) (i : Tid) : Option (List Val) := c.threads[i]?.map (·.out)

/-- Thread `i` exists and has no step left. -/
def Config.finished (c : Config) (i : Tid) : Bool :=
  match c.threads[i]? with
  | some t => t.rest.isEmpty
  | none => false

/-- Sequential execution of a step list. -/
def seqRun : List Step → Store → List Val → Store × List Val
  | [], σ, out => (σ, out)
  | s :: rest, σ, out => seqRun rest (s.exec σ out).1 (s.exec σ out).2

/-- Result of a thread that runs alone from store `σ`. -/
def runAlone (σ : Store) (t : Thread) : List Val := (seqRun t σ []).2

/-! ## Data races -/

def Event.conflicts (a b : Event) : Bool :=
  decide (a.tid ≠ b.tid) && decide (a.loc = b.loc) && (a.isWrite || b.isWrite)

/-- Two accesses to one location by different threads, at least one a write. -/
def HasRace (tr : List Event) : Prop :=
  ∃ a ∈ tr, ∃ b ∈ tr, a.tid ≠ b.tid ∧ a.loc = b.loc ∧ (a.isWrite = true ∨ b.isWrite = true)

/-- Executable version of `HasRace` (`hasRace_iff` in `Proofs/ConcLemmas.lean`). -/
def hasRace (tr : List Event) : Bool := tr.any fun a => tr.any fun b => a.conflicts b

/-! ## Ownership discipline -/

/-- Locations thread `i` may touch at all: the shared region and its own allocations. -/
def Visible (i : Tid) (l : Loc) : Prop := l.owner = none ∨ l.owner = some i

/-- Every write of every thread targets a location owned by that thread. -/
@[reducible] def WritesOwned (ts : List Thread) : Prop :=
  ∀ i t, ts[i]? = some t → ∀ l f, Step.write l f ∈ t → l.owner = some i

/-- No thread reads another thread's allocations (they are unreachable: a pointer to them
would have to be stored in the shared region, which `WritesOwned` excludes). -/
@[reducible] def ReadsVisible (ts : List Thread) : Prop :=
  ∀ i t, ts[i]? = some t → ∀ l, Step.read l ∈ t → Visible i l

/-- Executable check of both conditions for one step of thread `i`. -/
def Step.confinedB (i : Tid) : Step → Bool
  | .read l => decide (l.owner = none) || decide (l.owner = some i)
  | .write l _ => decide (l.owner = some i)
  | .pure _ => true

def confinedFrom : Tid → List Thread → Bool
  | _, [] => true
  | i, t :: ts => t.all (Step.confinedB i) && confinedFrom (i + 1) ts

/-- Executable check of `WritesOwned ∧ ReadsVisible` (`confinedB_confined`). -/
def confinedB (ts : List Thread) : Bool := confinedFrom 0 ts

end Conc
