import Liquid.Sprint
import Liquid.MapOrder
/-!
# `values.Convert` for the parameter types of the standard filters (DESIGN §4, A.7)

`convert v t` models `values.Convert(v, reflect.TypeOf(t))` for
`t ∈ {any, bool, int, float64, string, []any, time.Time}` — the parameter types (and
default-function result types) that occur in `filters.AddStandardFilters`.

Line by line:

1. `value = ToLiquid(value)` (one level).
2. `typ.Kind() != String && value != nil && rv.Type().ConvertibleTo(typ)` ⇒ Go conversion
   `rv.Convert(typ)`. By Go's convertibility rules (checked against `reflect` on the real code):
   * `any`     — every non-nil value, unchanged;
   * `bool`    — only `bool`;
   * `int`     — every integer kind (two's-complement wrap for `uint`/`uint64` above 2⁶³−1) and both
                 float kinds (truncation toward zero; out of the `int64` range the result is
                 implementation-defined ⇒ `unmodelled`). A *string is not* convertible to `int`;
   * `float64` — every integer kind (round to nearest-even, `roundF64`) and both float kinds;
   * `[]any`   — only `[]any` itself (passed by reference, elements untouched — but see `holdsDrop` below);
   * `time.Time` — only `time.Time`.
3. `typ == time.Time` and a string ⇒ `ParseDate` (`Cal.parseDate` in `Liquid/Time.lean`: the five
   all-digit layouts under `time.Local` = UTC; `now` and every other string `unmodelled`).
4. the `switch typ.Kind()`:
   * Bool: `!(value == nil || value == false)`;
   * Int: `bool` ⇒ 0/1, `string` ⇒ `strconv.ParseInt(s, 10, 64)`, anything else (nil included) `TypeError`;
   * Float64: `string` ⇒ `strconv.ParseFloat(s, 64)`, anything else `TypeError`;
   * Slice: `yaml.MapSlice` ⇒ its values, each through `ToLiquid` (a nil value stays nil); `Range` ⇒
     `AsArray`; array / typed slice (`[]byte` included) ⇒ each element through `convertElement`,
     i.e. `Convert(·, any)` = `ToLiquid`, except that a nil element stays nil
     (`fixes/array-nil-element`); map ⇒ the values in sorted key order (the D9 repair; the model's
     entry list *is* in that order), each through `convertElement`. A `[]any` is passed by
     reference by rule 2 *unless one of its elements is a drop* (`holdsDrop`,
     `fixes/drops-in-arrays`): then it is converted element by element like a typed slice. Since
     `ToLiquid` is the identity on everything but drops, both cases are `xs.map toLiquid`.
     NB `Convert(nil, any)` itself is still a `TypeError` (no rule applies to a nil value and an
     interface target): only the element position keeps a nil;
   * String: `[]byte` ⇒ the bytes; `fmt.Stringer` (only `time.Time` in the model ⇒ `Time.String()`, `timeString`);
     everything else `fmt.Sprint` (nil ⇒ `<nil>`);
   * otherwise (`any` with a nil value, `time.Time` with a non-time value) `TypeError`.
-/

/-- parameter types of the standard filters -/
inductive ParamTy where
  | any | bool | int | f64 | str | anys | time
  deriving Repr, DecidableEq, Inhabited

/-- Unix seconds of Go's zero `time.Time` (January 1, year 1 UTC) -/
def zeroTimeUnix : Int := -62135596800

/-- `reflect.Zero(typ).Interface()` -/
def ParamTy.zero : ParamTy → GoVal
  | .any => .nil
  | .bool => .bool false
  | .int => .int .int 0
  | .f64 => .flt .f64 0
  | .str => .str []
  | .anys => .slice .any []
  | .time => .time zeroTimeUnix

/-! ## float64 rounding (`Liquid/F64.lean`) -/

/-- `Representable q`: the exact rational `q` is a `float64` value (the guard of C17) -/
def Representable (q : Rat) : Prop := roundF64 q = some q

instance (q : Rat) : Decidable (Representable q) := inferInstanceAs (Decidable (roundF64 q = some q))

/-- The `float64` result of an operation whose exact result is `q`: IEEE-754 operations (and
`strconv.ParseFloat`, and integer→float conversion) return the exact result rounded to nearest,
ties to even. Overflow (±Inf) is outside the model, and so is a zero result that Go would sign
negative (`negZero`: the sign rule of the operation gives `-` — the model has no −0). -/
def f64Round (q : Rat) (negZero : Bool := false) : Res Cause Rat :=
  match roundF64 q with
  | none => .unmodelled "float64: overflow to ±Inf"
  | some r => if r == 0 && negZero then .unmodelled "float64: negative zero" else .ok r

/-! ## integers -/

def minInt64 : Int := -(2 ^ 63)
def maxInt64 : Int := 2 ^ 63 - 1

def inInt64 (n : Int) : Bool := minInt64 ≤ n && n ≤ maxInt64

/-- two's-complement reinterpretation of an integer modulo 2⁶⁴ as `int64` -/
def wrapInt64 (n : Int) : Int :=
  let m := n % (2 ^ 64)
  if m ≥ 2 ^ 63 then m - 2 ^ 64 else m

/-- truncation toward zero of a rational -/
def ratTrunc (q : Rat) : Int := Int.tdiv q.num q.den

/-- Go's `int64(f)` for a float holding `q`: defined only inside the `int64` range -/
def floatToInt64 (q : Rat) : Res Cause Int :=
  let t := ratTrunc q
  if inInt64 t then .ok t else .unmodelled "float→int conversion out of range is implementation-defined"

/-! ## `strconv.ParseInt(s, 10, 64)` -/


def digitsVal : Bytes → Nat → Nat
  | [], acc => acc
  | d :: ds, acc => digitsVal ds (acc * 10 + (d.toNat - 48))

/-- `some n` iff `strconv.ParseInt(s, 10, 64)` returns `n` without error -/
def parseInt10 (s : Bytes) : Option Int :=
  let (neg, ds) := match s with
    | 43 :: r => (false, r)
    | 45 :: r => (true, r)
    | r => (false, r)
  if ds.isEmpty || !ds.all isDigit then none else
  let n : Int := digitsVal ds 0
  let v := if neg then -n else n
  if inInt64 v then some v else none

/-! ## `strconv.ParseFloat(s, 64)` on decimal spellings -/

/-- result of reading a numeric spelling -/
inductive NumSpelling where
  | num (q : Rat)        -- the plain decimal grammar `[+-] digits [. digits] [e [+-] digits]`, exact value
  | special              -- forms ParseFloat also accepts but the model does not evaluate (inf, nan, hex, `_`)
  | bad                  -- rejected by ParseFloat
  deriving Repr, DecidableEq

def spanDigits : Bytes → Bytes × Bytes
  | [] => ([], [])
  | d :: r => if isDigit d then let (a, b) := spanDigits r; (d :: a, b) else ([], d :: r)

/-- after the sign: a hex prefix `0x`/`0X`, or a first letter of `inf`/`infinity`/`nan` (any case).
Together with "contains `_`" this over-approximates the non-decimal spellings ParseFloat accepts. -/
def startsSpecial : Bytes → Bool
  | 48 :: 120 :: _ => true
  | 48 :: 88 :: _ => true
  | c :: _ => c == 105 || c == 73 || c == 110 || c == 78
  | [] => false

/-- exact value of `mant × 10^e` -/
def scale10 (mant : Nat) (e : Int) : Rat :=
  if e ≥ 0 then ((mant * 10 ^ e.toNat : Nat) : Rat) else mkRat mant (10 ^ (-e).toNat)

def readNumber (s : Bytes) : NumSpelling :=
  let (neg, r) := match s with
    | 43 :: r => (false, r)
    | 45 :: r => (true, r)
    | r => (false, r)
  let (ip, r1) := spanDigits r
  let (fp, r2) := match r1 with
    | 46 :: r' => spanDigits r'
    | _ => ([], r1)
  let fallback : NumSpelling := if s.any (· == 95) || startsSpecial r then .special else .bad
  if ip.isEmpty && fp.isEmpty then fallback else
  let expPart : Option (Option Int) :=     -- none = malformed; some none = no exponent
    match r2 with
    | [] => some none
    | c :: r3 =>
      if c == 101 || c == 69 then
        let (eneg, r4) := match r3 with
          | 43 :: r => (false, r)
          | 45 :: r => (true, r)
          | r => (false, r)
        if r4.isEmpty || !r4.all isDigit then none
        else let e : Int := digitsVal r4 0; some (some (if eneg then -e else e))
      else none
  match expPart with
  | none => fallback
  | some eo =>
    let e := eo.getD 0
    let mant := digitsVal (ip ++ fp) 0
    if e.natAbs > 5000 then .special else
    let q := scale10 mant (e - fp.length)
    .num (if neg then -q else q)

/-- `strconv.ParseFloat(s, 64)` as `Convert` uses it: a decimal spelling converts to the nearest
`float64` (ParseFloat is correctly rounded); overflow is ParseFloat's range *error*, hence a
`TypeError`; a negative spelling that rounds to zero is −0 (`unmodelled`), and so are the special
forms; everything else is a `TypeError`. -/
def parseFloatStr (s : Bytes) : Res Cause Rat :=
  match readNumber s with
  | .bad => .err .typeErr
  | .special => .unmodelled "ParseFloat: inf/nan/hex/underscore spelling"
  | .num q =>
    match roundF64 q with
    | none => .err .typeErr
    | some r => if r == 0 && s.head? == some 45 then .unmodelled "ParseFloat: negative zero" else .ok r

/-! ## `Convert` -/

/-- `Convert(v, any)` -/
def convAny (v : GoVal) : Res Cause GoVal :=
  match v.toLiquid with
  | .nil => .err .typeErr
  | w => .ok w

/-- `convertElement(·, any)` over the elements of a container: `ToLiquid`, a nil stays nil -/
def convElems (xs : List GoVal) : List GoVal := xs.map GoVal.toLiquid

/-- `Range.AsArray` (after the D6 repair: empty when `e < b`; ranges longer than `maxRangeArrayLen` are
rejected by `Convert` before) -/
def rangeInts (a b : Int) : List GoVal :=
  (List.range (b + 1 - a).toNat).map fun (i : Nat) => GoVal.int .int (a + (i : Int))

/-- `values.Convert(v0, t)`. `budget` is NOT part of the semantics: the largest `b - a` for which the executable
    model builds the array of the range `(a..b)` (the code's own limit is `maxRangeArrayLen`, the line above the test) -/
def convert (v0 : GoVal) (t : ParamTy) (budget : Int := 1000000) : Res Cause GoVal :=
  let v := v0.toLiquid
  match t with
  | .any => convAny v0
  | .bool =>
    match v with
    | .nil => .ok (.bool false)
    | .bool b => .ok (.bool b)
    | _ => .ok (.bool true)
  | .int =>
    match v with
    | .int _ n => .ok (.int .int (wrapInt64 n))
    | .flt _ q => (floatToInt64 q).bind fun n => .ok (.int .int n)
    | .bool b => .ok (.int .int (if b then 1 else 0))
    | .str s => match parseInt10 s with
      | some n => .ok (.int .int n)
      | none => .err .typeErr
    | _ => .err .typeErr
  | .f64 =>
    match v with
    | .int _ n => (f64Round n).bind fun q => .ok (.flt .f64 q)
    | .flt _ q => .ok (.flt .f64 q)
    | .str s => (parseFloatStr s).bind fun q => .ok (.flt .f64 q)
    | _ => .err .typeErr
  | .str =>
    match v with
    | .bytes b => .ok (.str b)
    | .time u => (timeString u).bind fun b => .ok (.str b)
    -- a whole-number float is the text an object node prints (`writeObject`), not fmt's exponent form
    | .flt k q => (if isWholeSmall q then fmtFloatF k q else fmtFloatG k q).bind fun b => .ok (.str b)
    | w => (sprintR w).bind fun b => .ok (.str b)       -- `fmt.Sprint(ResolveDrops(value))`
  | .anys =>
    match v with
    | .mapSlice kvs => .ok (.slice .any (convElems (kvs.map (·.2))))
    | .range a b =>
      if b - a + 1 > 10000000 then .err .typeErr          -- maxRangeArrayLen: "range too large to convert to an array"
      -- `budget` has no counterpart in the code: it keeps the executable model from building a huge list (the
      -- driver runs with the default); the theorems hold for every budget (`Proofs/Budget.lean`)
      else if b - a > budget then .unmodelled "range of more than a million items"
      else .ok (.slice .any (rangeInts a b))
    | .slice _ xs => .ok (.slice .any (convElems xs))     -- `[]any` without a drop: by reference, and `convElems xs = xs`
    | .array _ xs => .ok (.slice .any (convElems xs))
    | .bytes s => .ok (.slice .any (s.map fun b => .int .u8 b.toNat))
    | .map _ _ kvs =>                                       -- for _, key := range SortedMapKeys(rv)
      (MapOrder.sortedMapEntries kvs).bind fun es => .ok (.slice .any (convElems (es.map (·.2))))
    | .keyedMap kvs => .ok (.slice .any (convElems ((MapOrder.sortedFields kvs).map (·.2))))   -- a map[string]any: the same
    | _ => .err .typeErr
  | .time =>
    match v with
    | .time u => .ok (.time u)
    | .str s =>
      match Cal.parseDate s with
      | .time u => .ok (.time u)
      | .reject => .err .typeErr
      | .unknown => .unmodelled "ParseDate: a string that is not one of the all-digit layouts (or `now`: the clock)"
    | _ => .err .typeErr
