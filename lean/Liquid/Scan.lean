import Liquid.Regex
/-!
# The template tokenizer: model of `parser/scanner.go` (`Scan`, `formTokenMatcher`)

`scan delims src line` is a line-by-line port of `Scan`: the gap before a match becomes a text
token, the match becomes an object or tag token (decided by the *prefix of the source*, as the
code does), hyphens are detected at fixed offsets relative to the delimiter lengths, and the
running line number advances by the newlines of everything emitted so far.
-/

structure Delims where
  ol : Bytes
  or : Bytes
  tl : Bytes
  tr : Bytes
  deriving Repr, DecidableEq, Inhabited

/-- `{{ }} {% %}` as explicit bytes (so that `decide` can evaluate examples in the kernel) -/
def Delims.default : Delims := ⟨[123, 123], [125, 125], [123, 37], [37, 125]⟩

/-- `Scan`'s defaulting: a slice that does not have exactly four entries selects the defaults;
    an empty entry selects the default of its position. -/
def Delims.ofList : List Bytes → Delims
  | [a, b, c, d] =>
    ⟨if a.isEmpty then Delims.default.ol else a,
     if b.isEmpty then Delims.default.or else b,
     if c.isEmpty then Delims.default.tl else c,
     if d.isEmpty then Delims.default.tr else d⟩
  | _ => Delims.default

inductive TokTy where
  | text | tag | obj | trimL | trimR
  deriving Repr, DecidableEq, Inhabited

structure Token where
  ty : TokTy
  line : Nat := 0
  name : Bytes := []
  args : Bytes := []
  source : Bytes := []
  deriving Repr, DecidableEq, Inhabited

/-- `[^t0]|t0[^t1]|t0t1[^t2]…` — anything that is not the beginning of the closing delimiter. -/
def exclAlts (tr : Bytes) : List Re :=
  (List.range tr.length).filterMap fun i =>
    match tr[i]? with
    | some b => some (Re.seq (Re.lit (tr.take i)) (.chr (.ne b)))
    | none => none

def sp : Re := .star true (.chr .space)
def hy : Re := Re.opt (.chr (.eq 45))

/-- model of the pattern built by `formTokenMatcher`:
    `OL-?\s*((?s:.+?))\s*-?OR | TL-?\s*(\w+)(?:\s+((?:EXCL)+?))?\s*-?TR` -/
def tokenRe (d : Delims) : Re :=
  let objRe := Re.seq (Re.lit d.ol) (.seq hy (.seq sp (.seq (.group 1 (Re.plusLazy (.chr .any)))
                (.seq sp (.seq hy (Re.lit d.or))))))
  let tagRe := Re.seq (Re.lit d.tl) (.seq hy (.seq sp (.seq (.group 2 (Re.plus (.chr .word)))
                (.seq (Re.opt (.seq (Re.plus (.chr .space)) (.group 3 (Re.plusLazy (Re.alts (exclAlts d.tr))))))
                (.seq sp (.seq hy (Re.lit d.tr)))))))
  .alt objRe tagRe

/-- `data[a:b]` expressed on the token's own source (which starts at absolute offset `ts`) -/
def subAt (src : Bytes) (ts a b : Nat) : Bytes := (src.drop (a - ts)).take (b - a)

def isHyphenAt (src : Bytes) (i : Nat) : Bool := src[i]? == some 45

/-- the tokens `Scan` appends for one match whose source is `src` (at offset `ts`) -/
def tokensOfMatch (d : Delims) (src : Bytes) (ts : Nat) (caps : Caps) (line : Nat) : List Token :=
  if isPrefixOfB d.ol src then
    let args := match caps.find 1 with
      | some (a, b) => subAt src ts a b
      | none => []
    (if isHyphenAt src d.ol.length then [{ ty := .trimL }] else []) ++
    [{ ty := .obj, line := line, args := args, source := src }] ++
    (if isHyphenAt src (src.length - d.or.length - 1) then [{ ty := .trimR }] else [])
  else if isPrefixOfB d.tl src then
    let name := match caps.find 2 with
      | some (a, b) => subAt src ts a b
      | none => []
    let args := match caps.find 3 with
      | some (a, b) => if a > 0 then subAt src ts a b else []
      | none => []
    (if isHyphenAt src d.tl.length then [{ ty := .trimL }] else []) ++
    [{ ty := .tag, line := line, name := name, args := args, source := src }] ++
    (if isHyphenAt src (src.length - d.tr.length - 1) then [{ ty := .trimR }] else [])
  else []

/-- the name of the tag token that `tokensOfMatch` emits for this match (`none` when it emits an
    object or nothing): `Scan` decides object / tag by the prefix of the source -/
def tagNameOfMatch (d : Delims) (src : Bytes) (ts : Nat) (caps : Caps) : Option Bytes :=
  if isPrefixOfB d.ol src then none
  else if isPrefixOfB d.tl src then
    some (match caps.find 2 with
      | some (a, b) => subAt src ts a b
      | none => [])
  else none

def nameRaw : Bytes := [114, 97, 119]                          -- "raw"
def nameComment : Bytes := [99, 111, 109, 109, 101, 110, 116]  -- "comment"
def nameEnd : Bytes := [101, 110, 100]                         -- "end"

/-- model of the pattern built by `formEndTagMatcher`: `TL-?\s*NAME\s*-?TR` -/
def endTagRe (d : Delims) (name : Bytes) : Re :=
  Re.seq (Re.lit d.tl) (.seq hy (.seq sp (.seq (Re.lit name) (.seq sp (.seq hy (Re.lit d.tr))))))

/-- after a tag named `raw` or `comment`: the number of bytes before the first end tag of that
    block in `rest` (which sits at absolute offset `p`); 0 when there is no such tag ahead, or
    when the match was not such a tag. These bytes become one text token. -/
def lexSkip (mfuel : Nat) (d : Delims) (name : Option Bytes) (rest : Bytes) (p : Nat) : Nat :=
  match name with
  | some n =>
    if n == nameRaw || n == nameComment then
      match (endTagRe d (nameEnd ++ n)).search mfuel rest p 0 with
      | some (a, _, _) => a
      | none => 0
    else 0
  | none => 0

/-- the match loop of `Scan` (one `FindStringSubmatchIndex` from the end of the previous match per
    round, which is what `FindAll` does), generic in the regexp. `s` is the unread suffix at
    absolute offset `p`; `n` bounds the number of matches. After a `raw` / `comment` tag the
    bytes up to the block's end tag are one text token (`lexSkip`). -/
def scanLoop (mfuel : Nat) (re : Re) (d : Delims) : Nat → Bytes → Nat → Nat → List Token
  | 0, s, _, line => if s.isEmpty then [] else [{ ty := .text, line := line, source := s }]
  | n+1, s, p, line =>
    match re.search mfuel s p 0 with
    | none => if s.isEmpty then [] else [{ ty := .text, line := line, source := s }]
    | some (skip, e, caps) =>
      let ts := p + skip
      let pre := s.take skip
      let src := (s.drop skip).take (e - ts)
      let rest := s.drop (skip + (e - ts))
      let line1 := line + countNL pre
      let line2 := line1 + countNL src
      (if pre.isEmpty then [] else [{ ty := .text, line := line, source := pre }]) ++
      tokensOfMatch d src ts caps line1 ++
      (if e ≤ ts then   -- an empty match: cannot happen for a token regexp; stop scanning
         (if rest.isEmpty then [] else [{ ty := .text, line := line2, source := rest }])
       else
         let a := lexSkip mfuel d (tagNameOfMatch d src ts caps) rest e
         let body := rest.take a
         (if body.isEmpty then [] else [{ ty := .text, line := line2, source := body }]) ++
         scanLoop mfuel re d n (rest.drop a) (e + a) (line2 + countNL body))

def scanWith (re : Re) (d : Delims) (src : Bytes) (line : Nat) : List Token :=
  scanLoop (src.length + 1) re d (src.length + 1) src 0 line

/-- model of `parser.Scan(data, loc, delims)` -/
def scan (delims : List Bytes) (src : Bytes) (line : Nat) : List Token :=
  let d := Delims.ofList delims
  scanWith (tokenRe d) d src line

/-! ## Printing (line protocol) -/
def TokTy.code : TokTy → String
  | .text => "X" | .tag => "T" | .obj => "O" | .trimL => "L" | .trimR => "R"

def Token.show (t : Token) : String :=
  s!"{t.ty.code},{t.line},{hexField t.name},{hexField t.args},{hexField t.source}"
