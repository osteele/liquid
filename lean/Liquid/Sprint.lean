import Liquid.Value
import Liquid.F64
import Liquid.Time
/-!
# `fmt.Sprint` and `render.writeObject` (DESIGN §4, Appendix A.4/A.7)

`sprint v` is the text Go's `fmt.Sprint(v)` (= `%v`) produces for the value `v`:

* `nil` `<nil>`, booleans, integers in decimal, strings raw, `[]byte` as `[97 98]`;
* floats as `strconv` `'g'` with the shortest round-trip precision (`%v`): a model float is an
  exact rational `q`; `shortestDigits` finds the decimal with the fewest significant digits
  (1..17, float32: 1..9) that `roundF64` (`roundF32`) maps back to `q`, closest to `q` among those —
  the specification of `strconv`'s shortest formatting. Scientific form is chosen exactly as
  `strconv/ftoa.go` does for `%g` with the shortest precision (`eprec = 6`): decimal exponent
  `x < -4 || x >= 6` (so `1000000.0` prints `1e+06`; the threshold 21 belongs to encoding/json);
* slices/arrays `[a b c]`, maps `map[k:v k:v]` with the keys sorted as `internal/fmtsort` does
  (same dynamic key type: by value; mixed dynamic key types are ordered by type *address* and are
  `unmodelled`), `yaml.MapSlice` `[{k v} {k v}]`, `Range` `{a b}`, structs `{f1 f2}`, the harness's
  drop type `struct{ v any }` `{inner}`; a nil pointer `<nil>`; non-nil pointers (an address) are
  `unmodelled`;
* `time.Time` is a `fmt.Stringer`: `Time.String()` = `Format("2006-01-02 15:04:05.999999999 -0700 MST")`
  plus the monotonic reading. The model's times are `time.Unix(u, 0).UTC()`: no fraction, no
  monotonic reading, offset `+0000`, zone `UTC` (`timeString`; `$GOROOT/src/time/format.go`).

`writeObject v` models `render/render.go:writeObject` *after* the D23 repair (whole floats below
10^21 are written in plain decimal instead of `%v`'s exponent form); a `time.Time` is written as
`value.Format("2006-01-02 15:04:05 -0700")` (`timeObjectText`). `Format` prints the year with
`appendInt(b, year, 4)`: a minus sign for a negative year, then at least four digits (`-0001`,
`0000`, `10000`), so the text is modelled for every year, not only 0..9999.
-/

/-! ## decimal digits -/

def decDigitsAux : Nat → Nat → Bytes → Bytes
  | 0, _, acc => acc
  | fuel + 1, n, acc =>
    if n < 10 then (48 + n).toUInt8 :: acc
    else decDigitsAux fuel (n / 10) ((48 + n % 10).toUInt8 :: acc)

/-- decimal representation of a natural number (ASCII digits, no leading zeros, `0` for zero) -/
def natDec (n : Nat) : Bytes := decDigitsAux (n + 1) n []

/-- `strconv.Itoa` / `%d` -/
def intDec (n : Int) : Bytes :=
  if n < 0 then 45 :: natDec n.natAbs else natDec n.natAbs

/-- drop trailing ASCII zeros -/
def stripTrailingZeros (ds : Bytes) : Bytes :=
  (ds.reverse.dropWhile (· == 48)).reverse

def zeros (n : Nat) : Bytes := List.replicate n 48

/-- `k` with `d = 2^k`, if `d` is a power of two -/
def log2Exact (d : Nat) : Option Nat :=
  let k := Nat.log2 d
  if 2 ^ k == d then some k else none

/-- The digits of a dyadic rational as `strconv`'s `decimalSlice`: `(neg, digits, dp)` with
`|q| = 0.d₁d₂… × 10^dp`, digits without trailing zeros (empty for 0). `none`: not dyadic. -/
def decimalOf (q : Rat) : Option (Bool × Bytes × Int) :=
  match log2Exact q.den with
  | none => none
  | some k =>
    let n := q.num.natAbs * 5 ^ k
    if n == 0 then some (false, [], 0) else
    let ds := natDec n
    some (q.num < 0, stripTrailingZeros ds, (ds.length : Int) - (k : Int))

/-- `%e` part of `strconv.fmtE` with the shortest precision: `d[.ddd]e±XX` -/
def fmtE (ds : Bytes) (x : Int) : Bytes :=
  let mant := match ds with
    | [] => [48]
    | [d] => [d]
    | d :: rest => d :: 46 :: rest
  let ex := natDec x.natAbs
  let ex := if ex.length < 2 then 48 :: ex else ex
  mant ++ [101, if x < 0 then 45 else 43] ++ ex

/-- `%f` part of `strconv.fmtF` with the shortest precision -/
def fmtF (ds : Bytes) (dp : Int) : Bytes :=
  if dp ≤ 0 then
    [48, 46] ++ zeros (-dp).toNat ++ ds
  else
    let p := dp.toNat
    if p ≥ ds.length then ds ++ zeros (p - ds.length)
    else ds.take p ++ [46] ++ ds.drop p

/-- value of the digit string `ds` scaled so that it has `dp` digits before the point -/
def digitsValue (ds : Bytes) (dp : Int) : Rat :=
  let n : Nat := ds.foldl (fun acc d => acc * 10 + (d.toNat - 48)) 0
  let e : Int := dp - ds.length
  if e ≥ 0 then ((n * 10 ^ e.toNat : Nat) : Rat) else mkRat n (10 ^ (-e).toNat)

/-- add one unit in the last place to a digit string (most significant first); `true` = carried out
of the first digit (the result is then `1` followed by zeros, one digit longer) -/
def incDigits (ds : Bytes) : Bytes × Bool :=
  let r := ds.foldr (fun d (acc : Bytes × Bool) =>
    if acc.2 then (if d == 57 then (48 :: acc.1, true) else ((d + 1) :: acc.1, false)) else (d :: acc.1, false))
    ([], true)
  if r.2 then (49 :: r.1, true) else (r.1, false)

/-- the two `n`-digit decimals around the exact digits `(ds, dp)`: truncation and its successor,
ordered so that the one nearer to the exact value comes first (ties: even last digit first) -/
def nDigitCandidates (ds : Bytes) (dp : Int) (n : Nat) : List (Bytes × Int) :=
  let hd := ds.take n
  let hd := hd ++ zeros (n - hd.length)
  let tl := ds.drop n
  let lo : Bytes × Int := (hd, dp)
  let (up, carried) := incDigits hd
  let hi : Bytes × Int := if carried then (up.take n, dp + 1) else (up, dp)
  -- compare the tail with one half
  let cmp : Ordering := match tl with
    | [] => .lt
    | d :: rest => if d < 53 then .lt else if d > 53 then .gt else if rest.all (· == 48) then .eq else .gt
  if tl.all (· == 48) then [lo] else
  match cmp with
  | .lt => [lo, hi]
  | .gt => [hi, lo]
  | .eq => if (hd.getLast?.getD 48) % 2 == 0 then [lo, hi] else [hi, lo]

/-- `strconv`'s shortest decimal for the positive float `q` of a format with rounding function
`rnd`: fewest digits that round back to `q`. Result `(digits without trailing zeros, dp)`. -/
def shortestAux (rnd : Rat → Option Rat) (q : Rat) (ds : Bytes) (dp : Int) : Nat → Nat → Option (Bytes × Int)
  | 0, _ => none
  | fuel + 1, n =>
    match (nDigitCandidates ds dp n).find? (fun c => rnd (digitsValue c.1 c.2) == some q) with
    | some c => some (stripTrailingZeros c.1, c.2)
    | none => shortestAux rnd q ds dp fuel (n + 1)

/-- `(neg, digits, dp)` of `strconv`'s shortest formatting of the float holding `q`
(`maxDigits` = 17 for float64, 9 for float32); `none` when `q` is not a value of the format -/
def shortestDigits (rnd : Rat → Option Rat) (maxDigits : Nat) (q : Rat) : Option (Bool × Bytes × Int) :=
  match decimalOf q with
  | none => none
  | some (_, [], _) => some (false, [], 0)
  | some (neg, ds, dp) =>
    if rnd q != some q then none else
    let a := if q < 0 then -q else q
    (shortestAux rnd a ds dp maxDigits 1).map fun (d, p) => (neg, d, p)

def FltKind.rnd : FltKind → Rat → Option Rat
  | .f32 => roundF32
  | .f64 => roundF64

def FltKind.maxDigits : FltKind → Nat
  | .f32 => 9
  | .f64 => 17

/-- `strconv.FormatFloat(q, 'g', -1, bits)` for a float holding exactly `q` -/
def fmtFloatG (k : FltKind) (q : Rat) : Res Cause Bytes :=
  match shortestDigits k.rnd k.maxDigits q with
  | none => .unmodelled "float: not a value of the format"
  | some (_, [], _) => .ok [48]
  | some (neg, ds, dp) =>
    let x := dp - 1
    let body := if x < -4 || x ≥ 6 then fmtE ds x else fmtF ds dp
    .ok (if neg then 45 :: body else body)

/-- `strconv.FormatFloat(q, 'f', -1, bits)` (used by the repaired `writeObject` for whole floats) -/
def fmtFloatF (k : FltKind) (q : Rat) : Res Cause Bytes :=
  match shortestDigits k.rnd k.maxDigits q with
  | none => .unmodelled "float: not a value of the format"
  | some (_, [], _) => .ok [48]
  | some (neg, ds, dp) =>
    let body := fmtF ds dp
    .ok (if neg then 45 :: body else body)

/-! ## `time.Time.Format` for a UTC time with whole seconds -/

/-- `time.appendInt(b, x, width)`: sign, then the decimal digits zero-padded to `width` -/
def appendInt (x : Int) (width : Nat) : Bytes :=
  let ds := natDec x.natAbs
  (if x < 0 then [45] else []) ++ zeros (width - ds.length) ++ ds

/-- `2006-01-02 15:04:05` -/
def timeDateClock (t : Cal.Broken) : Bytes :=
  appendInt t.year 4 ++ 45 :: appendInt t.month 2 ++ 45 :: appendInt t.day 2 ++ 32 ::
    appendInt t.hour 2 ++ 58 :: appendInt t.min 2 ++ 58 :: appendInt t.sec 2

def notModelledTime : String := "time.Time: instant beyond ±2^62 s (Go's int64 arithmetic wraps near the ends)"

/-- `t.Format("2006-01-02 15:04:05 -0700")` for `t = time.Unix(u, 0).UTC()` -/
def timeObjectText (u : Int) : Res Cause Bytes :=
  if Cal.timeModelled u then .ok (timeDateClock (Cal.broken u) ++ [32, 43, 48, 48, 48, 48])
  else .unmodelled notModelledTime

/-- `t.String()` for `t = time.Unix(u, 0).UTC()`: `2006-01-02 15:04:05 +0000 UTC` -/
def timeString (u : Int) : Res Cause Bytes :=
  if Cal.timeModelled u then .ok (timeDateClock (Cal.broken u) ++ [32, 43, 48, 48, 48, 48, 32, 85, 84, 67])
  else .unmodelled notModelledTime

/-! ## map key order of `internal/fmtsort` -/

/-- `some (a < b)` when fmtsort's order of two keys is determined by their values -/
def fmtKeyLess : GoVal → GoVal → Option Bool
  | .int k a, .int k' b => if k = k' then some (a < b) else none
  | .flt k a, .flt k' b => if k = k' then some (a < b) else none
  | .str a, .str b => some (a < b)
  | .bool a, .bool b => some (!a && b)
  | _, _ => none

/-- insertion of a printed entry into a list sorted by key; `none` if some comparison is undetermined -/
def insertEntry (e : GoVal × Bytes) : List (GoVal × Bytes) → Option (List (GoVal × Bytes))
  | [] => some [e]
  | f :: rest =>
    match fmtKeyLess e.1 f.1 with
    | none => none
    | some true => some (e :: f :: rest)
    | some false => (insertEntry e rest).map (f :: ·)

def sortEntries : List (GoVal × Bytes) → Option (List (GoVal × Bytes))
  | [] => some []
  | e :: rest => (sortEntries rest).bind (insertEntry e)

def joinSp : List Bytes → Bytes
  | [] => []
  | [a] => a
  | a :: rest => a ++ 32 :: joinSp rest

def bracket (l r : UInt8) (body : Bytes) : Bytes := l :: (body ++ [r])

def mapText (entries : List (GoVal × Bytes)) : Res Cause Bytes :=
  match sortEntries entries with
  | none => .unmodelled "fmt: map keys of mixed dynamic type are ordered by type address"
  | some es => .ok ([109, 97, 112, 91] ++ joinSp (es.map (·.2)) ++ [93])

/-! ## `fmt.Sprint` -/

mutual
/-- a `time.Time` occurs somewhere in the value -/
def GoVal.hasTime : GoVal → Bool
  | .time _ => true
  | .slice _ xs => hasTimeList xs
  | .array _ xs => hasTimeList xs
  | .map _ _ kvs => hasTimeKVs kvs
  | .mapSlice kvs => hasTimeKVs kvs
  | .keyedMap kvs => hasTimeFields kvs
  | .struct fs => hasTimeFields fs
  | .ptr v => v.hasTime
  | .drop v => v.hasTime
  | _ => false
def hasTimeList : List GoVal → Bool
  | [] => false
  | x :: xs => x.hasTime || hasTimeList xs
def hasTimeKVs : List (GoVal × GoVal) → Bool
  | [] => false
  | (k, v) :: r => k.hasTime || v.hasTime || hasTimeKVs r
def hasTimeFields : List (Bytes × GoVal) → Bool
  | [] => false
  | (_, v) :: r => v.hasTime || hasTimeFields r
end

mutual
def sprint : GoVal → Res Cause Bytes
  | .nil => .ok [60, 110, 105, 108, 62]
  | .bool true => .ok [116, 114, 117, 101]
  | .bool false => .ok [102, 97, 108, 115, 101]
  | .int _ n => .ok (intDec n)
  | .flt k q => fmtFloatG k q
  | .str s => .ok s
  | .bytes s => .ok (bracket 91 93 (joinSp (s.map fun b => natDec b.toNat)))
  | .slice _ xs => (sprintAll xs).bind fun bs => .ok (bracket 91 93 (joinSp bs))
  | .array _ xs => (sprintAll xs).bind fun bs => .ok (bracket 91 93 (joinSp bs))
  | .map _ _ kvs => (sprintKVs kvs).bind mapText
  | .mapSlice kvs => (sprintItems kvs).bind fun bs => .ok (bracket 91 93 (joinSp bs))
  | .keyedMap kvs => (sprintFields kvs).bind fun es => mapText (es.map fun (k, b) => (.str k, k ++ 58 :: b))
  | .range a b => .ok (bracket 123 125 (intDec a ++ 32 :: intDec b))
  | .ptr _ => .unmodelled "fmt: a pointer prints as an address"
  | .nilPtr => .ok [60, 110, 105, 108, 62]
  | .drop v =>
    -- the harness's drop type has one *unexported* field: below it `fmt` may not call methods, so a
    -- `time.Time` there is printed as the struct `{wall ext loc}`, not through `String()`
    if v.hasTime then .unmodelled "fmt: a time.Time below an unexported field prints as a struct"
    else (sprint v).bind fun b => .ok (bracket 123 125 b)
  | .struct fs => (sprintFields fs).bind fun es => .ok (bracket 123 125 (joinSp (es.map (·.2))))
  | .time u => timeString u
def sprintAll : List GoVal → Res Cause (List Bytes)
  | [] => .ok []
  | x :: xs => (sprint x).bind fun b => (sprintAll xs).bind fun bs => .ok (b :: bs)
/-- map entries: the key with the printed `k:v` -/
def sprintKVs : List (GoVal × GoVal) → Res Cause (List (GoVal × Bytes))
  | [] => .ok []
  | (k, v) :: r => (sprint k).bind fun kb => (sprint v).bind fun vb => (sprintKVs r).bind fun es =>
      .ok ((k, kb ++ 58 :: vb) :: es)
/-- `yaml.MapItem`s: `{k v}` -/
def sprintItems : List (GoVal × GoVal) → Res Cause (List Bytes)
  | [] => .ok []
  | (k, v) :: r => (sprint k).bind fun kb => (sprint v).bind fun vb => (sprintItems r).bind fun es =>
      .ok (bracket 123 125 (kb ++ 32 :: vb) :: es)
def sprintFields : List (Bytes × GoVal) → Res Cause (List (Bytes × Bytes))
  | [] => .ok []
  | (k, v) :: r => (sprint v).bind fun vb => (sprintFields r).bind fun es => .ok ((k, vb) :: es)
end

/-! ## `values.ResolveDrops` -/

mutual
/-- `values.ResolveDrops` (`fixes/nested-drops-resolved`): `ToLiquid` at every depth of a value that is about
    to be printed. A drop is the value it yields; the elements of slices and arrays, the values of maps and
    of the items of a `yaml.MapSlice` are resolved in turn (keys are not, nor the fields of a struct, nor what
    a pointer points to). The code rebuilds a container that holds a drop as `[]any` / `map[K]any` and returns
    any other value itself; `fmt` prints a container without its type, so the model keeps the type. -/
def GoVal.resolveDrops : GoVal → GoVal
  | .drop v => v.resolveDrops
  | .ptr (.drop v) => v.resolveDrops
  | .slice t xs => .slice t (resolveDropsList xs)
  | .array t xs => .array t (resolveDropsList xs)
  | .map k t kvs => .map k t (resolveDropsVals kvs)
  | .mapSlice kvs => .mapSlice (resolveDropsVals kvs)
  | .keyedMap fs => .keyedMap (resolveDropsFields fs)
  | v => v
def resolveDropsList : List GoVal → List GoVal
  | [] => []
  | x :: xs => x.resolveDrops :: resolveDropsList xs
def resolveDropsVals : List (GoVal × GoVal) → List (GoVal × GoVal)
  | [] => []
  | (k, v) :: r => (k, v.resolveDrops) :: resolveDropsVals r
def resolveDropsFields : List (Bytes × GoVal) → List (Bytes × GoVal)
  | [] => []
  | (k, v) :: r => (k, v.resolveDrops) :: resolveDropsFields r
end

/-- `fmt.Sprint(values.ResolveDrops(v))`: how the library prints a value in Go syntax (the fallback of
    `writeObject`, `Convert` to a string, `join`, the key of `sort_natural`) -/
def sprintR (v : GoVal) : Res Cause Bytes := sprint v.resolveDrops

/-! ## `render.writeObject` -/

/-- the float case added by the D23 repair: a whole float below 10^21 in plain decimal -/
def isWholeSmall (q : Rat) : Bool := q.den == 1 && q.num.natAbs < 10 ^ 21

mutual
/-- `writeObject` after its `ToLiquid` step -/
def writeObjectL : GoVal → Res Cause Bytes
  | .nil => .ok []
  | .time u => timeObjectText u
  | .bytes s => .ok s
  | .flt k q => if isWholeSmall q then fmtFloatF k q else fmtFloatG k q
  | .slice _ xs => writeObjects xs
  | .array _ xs => writeObjects xs
  | .mapSlice kvs => (sprintItems (resolveDropsVals kvs)).bind fun bs => .ok bs.flatten     -- a slice of MapItem structs
  | .drop v => writeObjectL v          -- not reached from `writeObject`: `ToLiquid` leaves no drop
  | .ptr (.drop v) => writeObjectL v
  | .ptr (.ptr _) => .unmodelled "fmt: pointer to pointer"
  | .ptr .nilPtr => .unmodelled "fmt: pointer to pointer"
  | .ptr v => sprint v        -- writeObject(reflect.Value) ⇒ Sprint prints the value it holds
  | .nilPtr => .ok [60, 105, 110, 118, 97, 108, 105, 100, 32, 114, 101, 102, 108, 101, 99, 116, 46, 86, 97, 108, 117, 101, 62]
  | v => sprintR v
/-- the elements of an array, each through `writeObject` (`ToLiquid`, then `writeObjectL`) -/
def writeObjects : List GoVal → Res Cause Bytes
  | [] => .ok []
  | .drop v :: xs => (writeObjectL v).bind fun a => (writeObjects xs).bind fun b => .ok (a ++ b)
  | .ptr (.drop v) :: xs => (writeObjectL v).bind fun a => (writeObjects xs).bind fun b => .ok (a ++ b)
  | x :: xs => (writeObjectL x).bind fun a => (writeObjects xs).bind fun b => .ok (a ++ b)
end

/-- `render/render.go:writeObject` -/
def writeObject (v : GoVal) : Res Cause Bytes := writeObjectL v.toLiquid
