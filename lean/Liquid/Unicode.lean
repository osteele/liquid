import Liquid.Utf8
import Liquid.Generated.CaseTables
/-!
# Case mapping (`unicode.ToUpper` / `unicode.ToLower`) on every rune

`strings.ToUpper` / `strings.ToLower` map each rune with `unicode.ToUpper` / `unicode.ToLower`: the *simple*
case mapping of the Unicode data the Go standard library carries (one rune to one rune, no `ß → SS`, no
locale: U+0130 and U+0131 are mapped as UnicodeData.txt says, `İ → i`, `ı → I`). That mapping is not part
of the repository under verification; it belongs to the toolchain the engine is built with. Translator T6
(`translate/casetables`, DESIGN 5.4) calls both functions on every rune U+0000..U+10FFFF on every check run
and writes the result as range tables (`Liquid/Generated/CaseTables.lean`: `upperRanges`, `lowerRanges`,
a few hundred ranges, Unicode 15.0.0 with go1.23). The model looks a rune up there; every rune has an answer.

`upperRune` / `lowerRune` keep the `Option` type they had when the table was partial (the filter models and
the `sort_natural` keys are written over it); they answer `some` everywhere (`upperRune_total`,
`Proofs/CaseLemmas.lean`). What the theorems need of the tables — images are scalar values, both maps are
idempotent — is computed over the ranges in `Proofs/CaseTables.lean` and re-checked whenever the tables change.
The `strf` stream compares the lookup with the real filters on every rune (thorough tier) or on every rune of
every range, the range borders and a random sample (quick tier).
-/

/-- `unicode.ToUpper` -/
def toUpperRune (r : Rune) : Rune := caseLookup upperRanges r

/-- `unicode.ToLower` -/
def toLowerRune (r : Rune) : Rune := caseLookup lowerRanges r

/-- `unicode.ToUpper`, in the shape the filter models use (`some` on every rune) -/
def upperRune (r : Rune) : Option Rune := some (toUpperRune r)

/-- `unicode.ToLower`, in the shape the filter models use (`some` on every rune) -/
def lowerRune (r : Rune) : Option Rune := some (toLowerRune r)
