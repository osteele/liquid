import Liquid.Scan
/-!
# The token pattern as the source writes it (translator T4, DESIGN 5.4)

`parser/scanner.go` never contains the token regular expression: `formTokenMatcher` *builds* its text
from the four delimiters with `fmt.Sprintf`, `regexp.QuoteMeta`, `strings.Join` and a loop over the
closing tag delimiter. This file holds both ends of the syntactic tie between that text and the model's
`tokenRe` (`Liquid/Scan.lean`):

* the source side — `StrExpr`/`TokenReSrc`: the string-building expressions of `formTokenMatcher` as
  data (what translator T4 writes into `Generated/TokenRe.lean`), and `TokenReSrc.pattern`, their
  meaning: the text handed to `regexp.MustCompile` for a delimiter list;
* the model side — `Re.toGoSyntax`: the model's regular expression written in Go (RE2) syntax.

The obligation `token_re_is_source` (`Proofs/TokenRe.lean`) equates the two.

## The normal form printed by `Re.toGoSyntax`

One regular expression has many spellings. The printer fixes one, by these rules only:

* a byte is written with `regexp.QuoteMeta` (`{` ↦ `\{`), a negated byte as `[^…]` around the same
  quoting; `\s`, `\w`; `.` (any byte but newline) and `(?s:.)` (any byte): *the flag `s` is scoped to
  the single dot*;
* derived forms are recognised structurally: `alt a eps` is `a?` (`alt eps a` is `a??`),
  `seq a (star g a)` is `a+` / `a+?`, `star` is `*` / `*?`;
* a capture group is `( … )`; groups are numbered by Go in the order of their opening parentheses,
  `Re.groupOrder` lists the model's indices in that order (it must be `1, 2, 3, …`);
* parentheses: the operand of a postfix operator is wrapped in a non-capturing group `(?: … )` unless
  it is a single `chr` or a capture group; an alternation is wrapped when it is an operand of a
  concatenation or of a postfix operator; nothing else is ever wrapped.

The source spells the object arguments `((?s:.+?))` — flag group around the *repetition* — where the
normal form has `((?s:.)+?)`. The two are the same expression (`(?s:X)` only sets the flag for the dots
inside `X`; there is one dot). `normalizeFormat` rewrites exactly this spelling in the *format string*
(a literal of the source, so the rewriting is a computation on known bytes) before the pattern is
built; every other character of the source pattern is reproduced by the printer as it stands, including
the redundant group of `(?:[^x])+?` for a one-byte delimiter (there the operand is the `seq` of an empty
literal prefix and the class).

Byte/rune caveat (the model's, not the printer's): the model matches bytes, Go matches runes of the
UTF-8 decoding. The printed text is the Go spelling of the expression read over runes; the two readings
agree on what `Scan` extracts (tied by the `scan` and `rex` streams), and the `range` loop of the source
over `delims[3]` is a loop over *bytes* only for an ASCII delimiter — `TokenReSrc.pattern` answers
`none` otherwise.
-/

/-! ## `regexp.QuoteMeta` -/

/-- `regexp.special`: the bytes of ``\.+*?()|[]{}^$`` -/
def isRegexSpecial (b : UInt8) : Bool :=
  b == 92 || b == 46 || b == 43 || b == 42 || b == 63 || b == 40 || b == 41 || b == 124 ||
  b == 91 || b == 93 || b == 123 || b == 125 || b == 94 || b == 36

def quoteByte (b : UInt8) : Bytes := if isRegexSpecial b then [92, b] else [b]

/-- `regexp.QuoteMeta` (it works on bytes; bytes ≥ 0x80 are never special) -/
def quoteMeta : Bytes → Bytes
  | [] => []
  | b :: r => quoteByte b ++ quoteMeta r

/-! ## The model's expression in Go syntax -/

deriving instance DecidableEq for Re

def Pred.toGo : Pred → Bytes
  | .eq b => quoteByte b
  | .ne b => [91, 94] ++ quoteByte b ++ [93]            -- [^b]
  | .space => [92, 115]                                  -- \s
  | .word => [92, 119]                                   -- \w
  | .anyNoNL => [46]                                     -- .
  | .any => [40, 63, 115, 58, 46, 41]                    -- (?s:.)

/-- `(?:s)` when `c`, else `s` -/
def goWrap (c : Bool) (s : Bytes) : Bytes := if c then [40, 63, 58] ++ s ++ [41] else s

/-- `?` after a repetition operator when it is lazy -/
def lazyMark (greedy : Bool) : Bytes := if greedy then [] else [63]

/-- Printer with a context: `0` = operand of `|` (or top level), `1` = operand of a concatenation,
`2` = operand of a postfix operator. -/
def Re.toGoP : Re → Nat → Bytes
  | .chr p, _ => p.toGo
  | .eps, ctx => goWrap (2 ≤ ctx) []
  | .group _ a, _ => [40] ++ a.toGoP 0 ++ [41]
  | .star g a, ctx => goWrap (2 ≤ ctx) (a.toGoP 2 ++ [42] ++ lazyMark g)
  | .alt a .eps, ctx => goWrap (2 ≤ ctx) (a.toGoP 2 ++ [63])
  | .alt .eps a, ctx => goWrap (2 ≤ ctx) (a.toGoP 2 ++ [63, 63])
  | .alt a b, ctx => goWrap (1 ≤ ctx) (a.toGoP 0 ++ [124] ++ b.toGoP 0)
  | .seq a (.star g b), ctx =>
    if a = b then goWrap (2 ≤ ctx) (a.toGoP 2 ++ [43] ++ lazyMark g)
    else goWrap (2 ≤ ctx) (a.toGoP 1 ++ (b.toGoP 2 ++ [42] ++ lazyMark g))
  | .seq a b, ctx => goWrap (2 ≤ ctx) (a.toGoP 1 ++ b.toGoP 1)

/-- the model's regular expression in Go syntax (normal form above) -/
def Re.toGoSyntax (r : Re) : Bytes := r.toGoP 0

/-- the group indices in the order of their opening parentheses in `toGoSyntax` -/
def Re.groupOrder : Re → List Nat
  | .chr _ => []
  | .eps => []
  | .group i a => i :: a.groupOrder
  | .star _ a => a.groupOrder
  | .alt a b => a.groupOrder ++ b.groupOrder
  | .seq a (.star _ b) => if a = b then a.groupOrder else a.groupOrder ++ b.groupOrder
  | .seq a b => a.groupOrder ++ b.groupOrder

/-! ## The source side -/

/-- a Go string expression of `formTokenMatcher` (`delims` is its parameter) -/
inductive StrExpr where
  /-- a string literal -/
  | lit (s : Bytes)
  /-- `delims[i]` -/
  | delim (i : Nat)
  /-- `delims[i][0:idx]`, `idx` the key of the enclosing `range delims[i]` loop -/
  | delimPrefix (i : Nat)
  /-- `string(val)`, `val` the value of the enclosing `range` loop -/
  | rangeVal
  /-- `regexp.QuoteMeta(e)` -/
  | quote (e : StrExpr)
  /-- `a + b` -/
  | cat (a b : StrExpr)
  /-- `strings.Join(exclusion, sep)`, `exclusion` the slice filled by the loop -/
  | joinExcl (sep : Bytes)
  deriving Repr, DecidableEq, Inhabited

/-- `formTokenMatcher` as data: `regexp.MustCompile(fmt.Sprintf(format, args…))` after
`for idx, val := range delims[exclOver] { exclusion = append(exclusion, exclItem) }` -/
structure TokenReSrc where
  format : Bytes
  args : List StrExpr
  exclOver : Nat
  exclItem : StrExpr
  deriving Repr, DecidableEq, Inhabited

structure StrEnv where
  delims : List Bytes
  idx : Nat := 0
  val : Bytes := []
  excl : List Bytes := []

def joinBytes (sep : Bytes) : List Bytes → Bytes
  | [] => []
  | [a] => a
  | a :: r => a ++ sep ++ joinBytes sep r

def StrExpr.eval (env : StrEnv) : StrExpr → Option Bytes
  | .lit s => some s
  | .delim i => env.delims[i]?
  | .delimPrefix i => (env.delims[i]?).map (·.take env.idx)
  | .rangeVal => some env.val
  | .quote e => (e.eval env).map quoteMeta
  | .cat a b => match a.eval env, b.eval env with
    | some x, some y => some (x ++ y)
    | _, _ => none
  | .joinExcl sep => some (joinBytes sep env.excl)

/-- `fmt.Sprintf` restricted to what occurs: verbs `%s` and `%v` applied to strings, `%%`.
Anything else (another verb, a missing or an extra argument) is outside the fragment: `none`. -/
def sprintf : Bytes → List Bytes → Option Bytes
  | [], [] => some []
  | [], _ :: _ => none
  | b :: r, as =>
    if b != 37 then (sprintf r as).map (b :: ·) else
    match r with
    | [] => none
    | v :: r' =>
      if v == 37 then (sprintf r' as).map (37 :: ·)
      else if v == 115 || v == 118 then
        match as with
        | a :: as' => (sprintf r' as').map (a ++ ·)
        | [] => none
      else none

def evalAll (env : StrEnv) : List StrExpr → Option (List Bytes)
  | [] => some []
  | e :: r => match e.eval env, evalAll env r with
    | some x, some xs => some (x :: xs)
    | _, _ => none

/-- the loop `for idx, val := range s`, for an ASCII `s` (one iteration per byte) -/
def exclusionLoop (delims : List Bytes) (item : StrExpr) (s : Bytes) : List Nat → Option (List Bytes)
  | [] => some []
  | i :: r => match s[i]? with
    | none => none
    | some b => match item.eval { delims := delims, idx := i, val := [b] }, exclusionLoop delims item s r with
      | some x, some xs => some (x :: xs)
      | _, _ => none

def isAscii (s : Bytes) : Bool := s.all (· < 128)

/-- the text `formTokenMatcher(delims)` hands to `regexp.MustCompile` -/
def TokenReSrc.pattern (src : TokenReSrc) (delims : List Bytes) : Option Bytes :=
  match delims[src.exclOver]? with
  | none => none
  | some s =>
    if !isAscii s then none else
    match exclusionLoop delims src.exclItem s (List.range s.length) with
    | none => none
    | some excl =>
      match evalAll { delims := delims, excl := excl } src.args with
      | none => none
      | some as => sprintf src.format as

/-! ## Normalisation of the source spelling -/

/-- replace every occurrence of `pat` in `s` by `rep` (left to right, non-overlapping); the counter is
the number of bytes still to skip after a replacement -/
def replaceAllAux (pat rep : Bytes) : Nat → Bytes → Bytes
  | _, [] => []
  | n+1, _ :: r => replaceAllAux pat rep n r
  | 0, b :: r =>
    if !pat.isEmpty && isPrefixOfB pat (b :: r) then rep ++ replaceAllAux pat rep (pat.length - 1) r
    else b :: replaceAllAux pat rep 0 r

def replaceAll (pat rep s : Bytes) : Bytes := replaceAllAux pat rep 0 s

/-- `(?s:.+?)` ↦ `(?s:.)+?` : scope the flag `s` to the dot (see the header) -/
def normalizeFormat (fmt : Bytes) : Bytes :=
  replaceAll [40, 63, 115, 58, 46, 43, 63, 41] [40, 63, 115, 58, 46, 41, 43, 63] fmt

def TokenReSrc.normalized (src : TokenReSrc) : TokenReSrc := { src with format := normalizeFormat src.format }

def Delims.toList (d : Delims) : List Bytes := [d.ol, d.or, d.tl, d.tr]

/-- The structure of `formTokenMatcher` the theorems are proved for; `token_re_src_is_standard`
re-checks on every run that it is what T4 extracts. Format:
``%s-?\s*((?s:.+?))\s*-?%s|%s-?\s*(\w+)(?:\s+((?:%s)+?))?\s*-?%s`` (the last but one verb is `%v` in the source:
T4 writes `%s` for both, they print a string alike) -/
def stdTokenReSrc : TokenReSrc :=
  { format := [37, 115, 45, 63, 92, 115, 42, 40, 40, 63, 115, 58, 46, 43, 63, 41, 41, 92, 115, 42, 45, 63, 37, 115, 124,
               37, 115, 45, 63, 92, 115, 42, 40, 92, 119, 43, 41, 40, 63, 58, 92, 115, 43, 40, 40, 63, 58, 37, 115, 41,
               43, 63, 41, 41, 63, 92, 115, 42, 45, 63, 37, 115],
    args := [.quote (.delim 0), .quote (.delim 1), .quote (.delim 2), .joinExcl [124], .quote (.delim 3)],
    exclOver := 3,
    exclItem := .cat (.quote (.delimPrefix 3)) (.cat (.lit [91, 94]) (.cat (.quote .rangeVal) (.lit [93]))) }
