/-!
# Facts about stores to shared variables in the Go source (DESIGN 5.4, translator T3)

`translate/writes.go` lists every store (`ssa.Store`, `ssa.MapUpdate`, mutating builtin) of the
library packages whose address is rooted in a *captured* variable (`ssa.FreeVar`) or in a
*package-level* variable (`ssa.Global`) and writes the table `sharedWrites : List WriteFact`
into `Liquid/Generated/Writes.lean` on every `./check` run. The proof obligation over that
table is `no_shared_writes` in `Proofs/C04.lean`.
-/

/-- What kind of shared variable a store writes, and whether the write can happen after the
call that owns the variable has returned. -/
inductive WriteClass where
  /-- captured variable; the writing closure cannot outlive the call that created it (deferred,
      called directly, or handed to a synchronous consumer such as `sort.Slice`) -/
  | capturedLocal
  /-- captured variable; the writing closure flows to a return, a store, a struct/map/slice
      element, a `go` statement or a non-synchronous call argument: a variable of the *compile*
      step written at *render* time, by whichever goroutine renders -/
  | capturedEscaping
  /-- captured variable written only inside `sync.Once.Do` -/
  | synchronised
  /-- package-level variable -/
  | global
  /-- a package-level variable (its address, or the pointer / map / slice / interface it holds) handed as
      receiver or argument to a call that is not in the translator's read-only list (`regexp`, `reflect`,
      `fmt`, `strings`, …): the callee may write through it (`sync.Map.Store`, `sync.Pool.Put`, a setter) -/
  | globalCall
  deriving DecidableEq, Repr

structure WriteFact where
  /-- package path relative to the module -/
  pkg : String
  /-- function (closures are `outer$n`) -/
  fn : String
  /-- the captured or package-level variable at the root of the written address -/
  var : String
  cls : WriteClass
  /-- the store is in a package initialiser or `init` function -/
  inInit : Bool
  deriving Repr

/-- The facts that contradict "no render-time closure writes a variable it captured at compile
time and no package-level variable is written outside init". -/
def WriteFact.offending (w : WriteFact) : Bool :=
  w.cls = .capturedEscaping ∨ (w.cls = .global ∧ !w.inInit)

/-- The package-level variables that the library hands to calls outside the read-only list, each
audited by reading the callee: none of them is written through.
* `expressions.closureType`, `expressions.interfaceType`: `reflect.Type` values, used as the argument of
  `Type.ConvertibleTo` (an interface method call; reflect types are immutable);
* `render.invalidLoc`: a zero `parser.SourceLoc`-carrying token passed by value as the `Locatable` of
  `wrapRenderError` / `renderErrorf`, which only call its `SourceLocation()` / `SourceText()`;
* `tags.errLoopBreak`, `tags.errLoopContinueLoop`: sentinel `error` values passed to `ctx.WrapError`, which
  wraps (reads) them. -/
def auditedGlobalCalls : List (String × String) := [
  ("expressions", "closureType"), ("expressions", "interfaceType"),
  ("render", "invalidLoc"),
  ("tags", "errLoopBreak"), ("tags", "errLoopContinueLoop")
]

/-- a `globalCall` fact outside `init` must name an audited variable -/
def WriteFact.unauditedGlobalCall (w : WriteFact) : Bool :=
  w.cls = .globalCall && !w.inInit && !(auditedGlobalCalls.any fun a => a.1 == w.pkg && a.2 == w.var)
