import Liquid.Value
import Liquid.F64
/-!
# The expression lexer: model of `expressions/scanner.rl`

A ragel scanner: at each position the longest match among the rules wins and ties go to the
rule listed first; when a rule that had started (e.g. an unterminated string) does not
complete, the scanner falls back to the longest rule that did match. Whitespace is skipped;
any other byte is a token of its own. `parse` appends `;` to the source.
-/

inductive ETok where
  | lit (v : GoVal)
  | ident (s : Bytes)
  | keyword (s : Bytes)       -- `identifier:`
  | property (s : Bytes)      -- `.identifier`
  | assign | cycle | loop | when
  | eq | neq | ge | le | and_ | or_ | contains | in_ | dotdot
  | ch (b : UInt8)
  deriving Repr, Inhabited

def isAlpha (b : UInt8) : Bool := (65 ≤ b && b ≤ 90) || (97 ≤ b && b ≤ 122)
def isAlnum (b : UInt8) : Bool := isAlpha b || isDigit b
/-- ragel `space`: `\t \n \v \f \r` and space -/
def isLexSpace (b : UInt8) : Bool := b == 32 || (9 ≤ b && b ≤ 13)
def isIdStart (b : UInt8) : Bool := isAlpha b || b == 95
def isIdCont (b : UInt8) : Bool := isAlnum b || b == 95 || b == 45

def spanLen (p : UInt8 → Bool) : Bytes → Nat
  | [] => 0
  | b :: bs => if p b then spanLen p bs + 1 else 0

/-- length of the literal `w` if `s` starts with it -/
def litLen (w : Bytes) (s : Bytes) : Option Nat := if isPrefixOfB w s then some w.length else none

/-- `identifier = (alpha|'_') (alnum|'_'|'-')* '?'?` -/
def identLen : Bytes → Option Nat
  | [] => none
  | b :: bs =>
    if isIdStart b then
      let n := spanLen isIdCont bs
      let q := match bs.drop n with
        | 63 :: _ => 1
        | _ => 0
      some (1 + n + q)
    else none

/-- `int = '-'? digit+` -/
def intLen (s : Bytes) : Option Nat :=
  let (sg, r) := match s with
    | 45 :: r => (1, r)
    | r => (0, r)
  let n := spanLen isDigit r
  if n == 0 then none else some (sg + n)

/-- `float = '-'? digit+ ('.' digit+)?` -/
def floatLen (s : Bytes) : Option Nat :=
  match intLen s with
  | none => none
  | some n =>
    match s.drop n with
    | 46 :: r =>
      let m := spanLen isDigit r
      if m == 0 then some n else some (n + 1 + m)
    | _ => some n

/-- `'"' (any - '"')* '"'` (same for `'`) -/
def stringLen : Bytes → Option Nat
  | q :: r =>
    if q == 34 || q == 39 then
      let n := spanLen (fun b => b != q) r
      match r.drop n with
      | _ :: _ => some (n + 2)
      | [] => none
    else none
  | [] => none

def propertyLen : Bytes → Option Nat
  | 46 :: r => (identLen r).map (· + 1)
  | _ => none

inductive Rule where
  | rAssign | rCycle | rLoop | rWhen | rInt | rFloat | rString | rBool | rNil
  | rEq | rNeq | rGe | rLe | rAnd | rOr | rContains | rIn | rDotdot
  | rKeyword | rIdent | rProperty | rSpace | rAny
  deriving Repr, DecidableEq

def kwAssign : Bytes := [37, 97, 115, 115, 105, 103, 110, 32]        -- "%assign "
def kwCycle : Bytes := [123, 37, 99, 121, 99, 108, 101, 32]          -- "{%cycle "
def kwLoop : Bytes := [37, 108, 111, 111, 112, 32]                   -- "%loop "
def kwWhen : Bytes := [123, 37, 119, 104, 101, 110, 32]              -- "{%when "
def kwTrue : Bytes := [116, 114, 117, 101]
def kwFalse : Bytes := [102, 97, 108, 115, 101]
def kwNil : Bytes := [110, 105, 108]
def kwAnd : Bytes := [97, 110, 100]
def kwOr : Bytes := [111, 114]
def kwContains : Bytes := [99, 111, 110, 116, 97, 105, 110, 115]
def kwIn : Bytes := [105, 110]

/-- every rule with the length it matches at the head of `s`, in the order of `scanner.rl` -/
def ruleMatches (s : Bytes) : List (Rule × Option Nat) :=
  [ (.rAssign, litLen kwAssign s), (.rCycle, litLen kwCycle s), (.rLoop, litLen kwLoop s), (.rWhen, litLen kwWhen s),
    (.rInt, intLen s), (.rFloat, floatLen s), (.rString, stringLen s),
    (.rBool, match litLen kwTrue s with | some n => some n | none => litLen kwFalse s),
    (.rNil, litLen kwNil s),
    (.rEq, litLen [61, 61] s), (.rNeq, litLen [33, 61] s), (.rGe, litLen [62, 61] s), (.rLe, litLen [60, 61] s),
    (.rAnd, litLen kwAnd s), (.rOr, litLen kwOr s), (.rContains, litLen kwContains s),
    (.rIn, litLen kwIn s), (.rDotdot, litLen [46, 46] s),
    (.rKeyword, match identLen s with
        | some n => (match s.drop n with | 58 :: _ => some (n + 1) | _ => none)
        | none => none),
    (.rIdent, identLen s), (.rProperty, propertyLen s),
    (.rSpace, let n := spanLen isLexSpace s; if n == 0 then none else some n),
    (.rAny, match s with | [] => none | _ => some 1) ]

/-- longest match, ties to the earlier rule -/
def bestRule (ms : List (Rule × Option Nat)) : Option (Rule × Nat) :=
  ms.foldl (fun best (r, m) =>
    match m, best with
    | some n, none => some (r, n)
    | some n, some (_, bn) => if n > bn then some (r, n) else best
    | none, _ => best) none

inductive LexErr where
  | syntax      -- a literal out of range (SyntaxError after the repair of D1)
  deriving Repr, DecidableEq

/-- the value of an integer literal: `strconv.ParseInt(tok, 10, 64)` then `int(n)` -/
def intLitValue (tok : Bytes) : Option Int :=
  let (neg, ds) := match tok with
    | 45 :: r => (true, r)
    | r => (false, r)
  let n : Nat := ds.foldl (fun acc d => acc * 10 + (d.toNat - 48)) 0
  let v : Int := if neg then -(n : Int) else (n : Int)
  if IntKind.i64.inRange v then some v else none

/-- the value of a float literal: `strconv.ParseFloat(tok, 64)`; `none` when out of range.
    A literal that denotes −0 is outside the model. -/
def floatLitValue (tok : Bytes) : Option (Option Rat) :=
  let (neg, ds) := match tok with
    | 45 :: r => (true, r)
    | r => (false, r)
  let ip := ds.takeWhile isDigit
  let fp := (ds.drop (ip.length + 1))
  let q := decimalOfDigits ip fp
  match roundF64 q with
  | none => some none                         -- out of range: error
  | some r => if neg && r == 0 then none      -- −0: unmodelled
              else some (some (if neg then -r else r))

def mkTok (r : Rule) (tok : Bytes) : Res LexErr (Option ETok) :=
  match r with
  | .rAssign => .ok (some .assign) | .rCycle => .ok (some .cycle) | .rLoop => .ok (some .loop) | .rWhen => .ok (some .when)
  | .rInt => match intLitValue tok with
      | some n => .ok (some (.lit (.int .int n)))
      | none => .err .syntax
  | .rFloat => match floatLitValue tok with
      | some (some q) => .ok (some (.lit (.flt .f64 q)))
      | some none => .err .syntax
      | none => .unmodelled "negative zero literal"
  | .rString => .ok (some (.lit (.str ((tok.drop 1).take (tok.length - 2)))))
  | .rBool => .ok (some (.lit (.bool (tok == kwTrue))))
  | .rNil => .ok (some (.lit .nil))
  | .rEq => .ok (some .eq) | .rNeq => .ok (some .neq) | .rGe => .ok (some .ge) | .rLe => .ok (some .le)
  | .rAnd => .ok (some .and_) | .rOr => .ok (some .or_) | .rContains => .ok (some .contains)
  | .rIn => .ok (some .in_) | .rDotdot => .ok (some .dotdot)
  | .rKeyword => .ok (some (.keyword (tok.take (tok.length - 1))))
  | .rIdent => .ok (some (.ident tok))
  | .rProperty => .ok (some (.property (tok.drop 1)))
  | .rSpace => .ok none
  | .rAny => match tok with
      | b :: _ => .ok (some (.ch b))
      | [] => .ok none

/-- tokenise; fuel = remaining length. Note: the yacc parser pulls tokens lazily, so a lexing
    error after the point where the parser has already failed is never raised — `lexAux`
    (hence `lex`) therefore returns the tokens up to the first error and the error separately. -/
def lexAux : Nat → Bytes → List ETok → (List ETok × Option (Res LexErr Unit))
  | 0, _, acc => (acc.reverse, none)
  | _, [], acc => (acc.reverse, none)
  | n+1, s@(_ :: _), acc =>
    match bestRule (ruleMatches s) with
    | none => (acc.reverse, none)
    | some (r, len) =>
      let len := max len 1
      match mkTok r (s.take len) with
      | .ok (some t) => lexAux n (s.drop len) (t :: acc)
      | .ok none => lexAux n (s.drop len) acc
      | .err e => (acc.reverse, some (.err e))
      | .panic w => (acc.reverse, some (.panic w))
      | .unmodelled w => (acc.reverse, some (.unmodelled w))

/-- tokens of `source ++ ";"` up to the first lexing failure, and that failure if any -/
def lex (source : Bytes) : List ETok × Option (Res LexErr Unit) :=
  let s := source ++ [59]
  lexAux s.length s []
