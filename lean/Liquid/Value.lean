import Liquid.Basic
/-!
# The value universe (DESIGN §4, row `Value.lean`; Appendix A.7)

`GoVal` is a Go value *with its representation*: numeric width, typed vs generic container,
ordered map, pointer, drop. C18 is about exactly these distinctions, and `values.Equal`,
`Convert`, `fmt.Sprint` dispatch on them.

Floats are exact rationals (every finite `float64` is one); NaN, ±Inf and −0 are outside the
model (`unmodelled`). A `map`'s entry list is in no particular order (a Go map has none): every
operation that iterates a map sorts the entries first (`Liquid/MapOrder.lean`: the order of
`values.SortedMapKeys`), as the repaired code does; lookups find the entry by its key.
-/

inductive IntKind where
  | int | i8 | i16 | i32 | i64 | uint | u8 | u16 | u32 | u64
  deriving Repr, DecidableEq, Inhabited

inductive FltKind where
  | f32 | f64
  deriving Repr, DecidableEq, Inhabited

def IntKind.isSigned : IntKind → Bool
  | .int | .i8 | .i16 | .i32 | .i64 => true
  | _ => false

def IntKind.bits : IntKind → Nat
  | .int | .i64 | .uint | .u64 => 64
  | .i8 | .u8 => 8
  | .i16 | .u16 => 16
  | .i32 | .u32 => 32

def IntKind.minVal (k : IntKind) : Int := if k.isSigned then -(2 ^ (k.bits - 1) : Int) else 0
def IntKind.maxVal (k : IntKind) : Int := if k.isSigned then (2 ^ (k.bits - 1) : Int) - 1 else (2 ^ k.bits : Int) - 1
def IntKind.inRange (k : IntKind) (n : Int) : Bool := k.minVal ≤ n && n ≤ k.maxVal

def IntKind.code : IntKind → Nat
  | .int => 0 | .i8 => 1 | .i16 => 2 | .i32 => 3 | .i64 => 4
  | .uint => 5 | .u8 => 6 | .u16 => 7 | .u32 => 8 | .u64 => 9

def IntKind.ofCode : Nat → IntKind
  | 0 => .int | 1 => .i8 | 2 => .i16 | 3 => .i32 | 4 => .i64
  | 5 => .uint | 6 => .u8 | 7 => .u16 | 8 => .u32 | _ => .u64

def FltKind.code : FltKind → Nat
  | .f32 => 0 | .f64 => 1
def FltKind.ofCode : Nat → FltKind
  | 0 => .f32 | _ => .f64

/-- static Go types of container elements / map keys -/
inductive Ty where
  | any | bool | int (k : IntKind) | flt (k : FltKind) | str | bytes
  | slice (e : Ty) | arr (e : Ty) | map (k v : Ty)
  /-- the value slot of a map of an *unexported* named type of the library (at present only
      `tags.cycleCounters`, a `map[string]int` holding the cycle positions of a loop execution):
      `.map .str .priv kvs`. No binding can have this type (the line protocol does not decode it),
      so such a value always originates in the renderer. It behaves like `int` everywhere else. -/
  | priv
  deriving Repr, DecidableEq, Inhabited

inductive GoVal where
  | nil
  | bool (b : Bool)
  | int (k : IntKind) (n : Int)
  | flt (k : FltKind) (q : Rat)
  | str (s : Bytes)
  | bytes (s : Bytes)
  | slice (elem : Ty) (xs : List GoVal)
  | array (elem : Ty) (xs : List GoVal)
  | map (key val : Ty) (kvs : List (GoVal × GoVal))
  | mapSlice (kvs : List (GoVal × GoVal))
  | keyedMap (kvs : List (Bytes × GoVal))
  | range (a b : Int)
  | ptr (v : GoVal)
  | nilPtr
  | drop (v : GoVal)
  | struct (fields : List (Bytes × GoVal))
  | time (unix : Int)
  deriving Repr, Inhabited

namespace GoVal

/-- `values.ToLiquid` (after `fixes/nested-drops-resolved`): a drop that yields a drop is resolved in
    turn, until the value is no drop. The code stops after `maxDropDepth` = 64 drops in a row (a guard
    against a drop that yields itself, which no `GoVal` is); the model follows the chain to its end, and
    `GoVal.parse` admits no value in which the guard could be reached (`withinDropDepth`). -/
def toLiquid : GoVal → GoVal
  | .drop v => toLiquid v
  | .ptr (.drop v) => toLiquid v      -- the method set of *T includes T's ToLiquid
  | v => v

/-- generic `[]any` -/
def anys (xs : List GoVal) : GoVal := .slice .any xs
/-- Go `int` -/
def ofInt (n : Int) : GoVal := .int .int n
def f64 (q : Rat) : GoVal := .flt .f64 q
def ofStr (s : Bytes) : GoVal := .str s

def isNil : GoVal → Bool
  | .nil => true
  | _ => false

/-- `maxDropDepth` of `values/drop.go`: the number of drops in a row that `ToLiquid` resolves, and the
    depth to which `ResolveDrops` descends into containers -/
def maxDropDepth : Nat := 64

mutual
/-- a drop occurs somewhere in the value -/
def hasDrop : GoVal → Bool
  | .drop _ => true
  | .slice _ xs | .array _ xs => hasDropList xs
  | .map _ _ kvs | .mapSlice kvs => hasDropKVs kvs
  | .keyedMap fs | .struct fs => hasDropFields fs
  | .ptr v => hasDrop v
  | _ => false
def hasDropList : List GoVal → Bool
  | [] => false
  | x :: xs => hasDrop x || hasDropList xs
def hasDropKVs : List (GoVal × GoVal) → Bool
  | [] => false
  | (k, v) :: r => hasDrop k || hasDrop v || hasDropKVs r
def hasDropFields : List (Bytes × GoVal) → Bool
  | [] => false
  | (_, v) :: r => hasDrop v || hasDropFields r
end

mutual
/-- nesting depth of the value (constructors on the longest path) -/
def depth : GoVal → Nat
  | .drop v | .ptr v => depth v + 1
  | .slice _ xs | .array _ xs => depthList xs + 1
  | .map _ _ kvs | .mapSlice kvs => depthKVs kvs + 1
  | .keyedMap fs | .struct fs => depthFields fs + 1
  | _ => 1
def depthList : List GoVal → Nat
  | [] => 0
  | x :: xs => max (depth x) (depthList xs)
def depthKVs : List (GoVal × GoVal) → Nat
  | [] => 0
  | (k, v) :: r => max (max (depth k) (depth v)) (depthKVs r)
def depthFields : List (Bytes × GoVal) → Nat
  | [] => 0
  | (_, v) :: r => max (depth v) (depthFields r)
end

/-- the guards of `values.ToLiquid` / `values.ResolveDrops` (64 drops in a row, 64 levels of
    containers) cannot be reached in this value: it holds no drop, or is nested less deeply -/
def withinDropDepth (v : GoVal) : Bool := !v.hasDrop || v.depth ≤ maxDropDepth

end GoVal

/-! ## Line-protocol codec for `GoVal` (one field, no spaces, self-delimiting prefix code)

```
n | t | f | i<k>:<dec>; | d<k>:<num>/<den>; | s<hex>; | b<hex>;
L<ty>[ v* ] | A<ty>[ v* ] | M<kty><vty>{ (k v)* } | S{ (k v)* } | K{ (s<hex>; v)* }
R<a>:<b>; | P v | N | D v | T{ (s<hex>; v)* } | U<int>; | X<text>;   (X = not representable)
ty ::= a | o | i<k> | d<k> | s | y | l<ty> | r<ty> | m<kty><vty>
```
-/

def Ty.enc : Ty → String
  | .any => "a" | .bool => "o" | .int k => s!"i{k.code}" | .flt k => s!"d{k.code}"
  | .str => "s" | .bytes => "y" | .slice e => "l" ++ e.enc | .arr e => "r" ++ e.enc
  | .map k v => "m" ++ k.enc ++ v.enc
  | .priv => "z"

mutual
def GoVal.enc : GoVal → String
  | .nil => "n"
  | .bool true => "t"
  | .bool false => "f"
  | .int k n => s!"i{k.code}:{n};"
  | .flt k q => s!"d{k.code}:{q.num}/{q.den};"
  | .str s => "s" ++ hexEncode s ++ ";"
  | .bytes s => "b" ++ hexEncode s ++ ";"
  | .slice e xs => "L" ++ e.enc ++ "[" ++ GoVal.encList xs ++ "]"
  | .array e xs => "A" ++ e.enc ++ "[" ++ GoVal.encList xs ++ "]"
  | .map k v kvs => "M" ++ k.enc ++ v.enc ++ "{" ++ GoVal.encKVs kvs ++ "}"
  | .mapSlice kvs => "S{" ++ GoVal.encKVs kvs ++ "}"
  | .keyedMap kvs => "K{" ++ GoVal.encFields kvs ++ "}"
  | .range a b => s!"R{a}:{b};"
  | .ptr v => "P" ++ v.enc
  | .nilPtr => "N"
  | .drop v => "D" ++ v.enc
  | .struct fs => "T{" ++ GoVal.encFields fs ++ "}"
  | .time u => s!"U{u};"
def GoVal.encList : List GoVal → String
  | [] => ""
  | x :: xs => x.enc ++ GoVal.encList xs
def GoVal.encKVs : List (GoVal × GoVal) → String
  | [] => ""
  | (k, v) :: r => k.enc ++ v.enc ++ GoVal.encKVs r
def GoVal.encFields : List (Bytes × GoVal) → String
  | [] => ""
  | (k, v) :: r => "s" ++ hexEncode k ++ ";" ++ v.enc ++ GoVal.encFields r
end

/-! ### Decoder (fuel-bounded recursive descent over `List Char`) -/

abbrev P (α : Type) := List Char → Option (α × List Char)

def takeUntil (stop : Char) : List Char → List Char → Option (List Char × List Char)
  | _, [] => none
  | acc, c :: cs => if c == stop then some (acc.reverse, cs) else takeUntil stop (c :: acc) cs

def parseIntChars (cs : List Char) : Option Int :=
  match cs with
  | '-' :: ds => (String.ofList ds).toNat?.map (fun n => -(n : Int))
  | ds => (String.ofList ds).toNat?.map (fun n => (n : Int))

def digitVal (c : Char) : Nat := c.toNat - 48

def Ty.dec : Nat → P Ty
  | 0, _ => none
  | _+1, [] => none
  | f+1, c :: cs =>
    match c with
    | 'a' => some (.any, cs)
    | 'o' => some (.bool, cs)
    | 's' => some (.str, cs)
    | 'y' => some (.bytes, cs)
    | 'i' => match cs with
      | d :: r => some (.int (IntKind.ofCode (digitVal d)), r)
      | [] => none
    | 'd' => match cs with
      | d :: r => some (.flt (FltKind.ofCode (digitVal d)), r)
      | [] => none
    | 'l' => (Ty.dec f cs).map fun (t, r) => (.slice t, r)
    | 'r' => (Ty.dec f cs).map fun (t, r) => (.arr t, r)
    | 'm' => match Ty.dec f cs with
      | some (k, r) => (Ty.dec f r).map fun (v, r') => (.map k v, r')
      | none => none
    | _ => none

mutual
def GoVal.dec : Nat → P GoVal
  | 0, _ => none
  | _+1, [] => none
  | f+1, c :: cs =>
    match c with
    | 'n' => some (.nil, cs)
    | 't' => some (.bool true, cs)
    | 'f' => some (.bool false, cs)
    | 'N' => some (.nilPtr, cs)
    | 'i' => match cs with
      | d :: ':' :: r => match takeUntil ';' [] r with
        | some (ds, r') => (parseIntChars ds).map fun n => (.int (IntKind.ofCode (digitVal d)) n, r')
        | none => none
      | _ => none
    | 'd' => match cs with
      | d :: ':' :: r => match takeUntil '/' [] r with
        | some (ns, r1) => match takeUntil ';' [] r1 with
          | some (ds, r2) => match parseIntChars ns, (String.ofList ds).toNat? with
            | some n, some dn => some (.flt (FltKind.ofCode (digitVal d)) (mkRat n dn), r2)
            | _, _ => none
          | none => none
        | none => none
      | _ => none
    | 's' => (takeUntil ';' [] cs).map fun (h, r) => (.str (hexDecodeChars h), r)
    | 'b' => (takeUntil ';' [] cs).map fun (h, r) => (.bytes (hexDecodeChars h), r)
    | 'L' => match Ty.dec 64 cs with
      | some (t, '[' :: r) => (GoVal.decList f r).map fun (xs, r') => (.slice t xs, r')
      | _ => none
    | 'A' => match Ty.dec 64 cs with
      | some (t, '[' :: r) => (GoVal.decList f r).map fun (xs, r') => (.array t xs, r')
      | _ => none
    | 'M' => match Ty.dec 64 cs with
      | some (k, r) => match Ty.dec 64 r with
        | some (v, '{' :: r') => (GoVal.decKVs f r').map fun (kvs, r'') => (.map k v kvs, r'')
        | _ => none
      | none => none
    | 'S' => match cs with
      | '{' :: r => (GoVal.decKVs f r).map fun (kvs, r') => (.mapSlice kvs, r')
      | _ => none
    | 'K' => match cs with
      | '{' :: r => (GoVal.decFields f r).map fun (kvs, r') => (.keyedMap kvs, r')
      | _ => none
    | 'T' => match cs with
      | '{' :: r => (GoVal.decFields f r).map fun (kvs, r') => (.struct kvs, r')
      | _ => none
    | 'R' => match takeUntil ':' [] cs with
      | some (a, r) => match takeUntil ';' [] r with
        | some (b, r') => match parseIntChars a, parseIntChars b with
          | some x, some y => some (.range x y, r')
          | _, _ => none
        | none => none
      | none => none
    | 'P' => (GoVal.dec f cs).map fun (v, r) => (.ptr v, r)
    | 'D' => (GoVal.dec f cs).map fun (v, r) => (.drop v, r)
    | 'U' => match takeUntil ';' [] cs with
      | some (a, r) => (parseIntChars a).map fun n => (.time n, r)
      | none => none
    | _ => none
def GoVal.decList : Nat → P (List GoVal)
  | 0, _ => none
  | _+1, [] => none
  | f+1, c :: cs =>
    if c == ']' then some ([], cs) else
    match GoVal.dec f (c :: cs) with
    | some (v, r) => (GoVal.decList f r).map fun (vs, r') => (v :: vs, r')
    | none => none
def GoVal.decKVs : Nat → P (List (GoVal × GoVal))
  | 0, _ => none
  | _+1, [] => none
  | f+1, c :: cs =>
    if c == '}' then some ([], cs) else
    match GoVal.dec f (c :: cs) with
    | some (k, r) => match GoVal.dec f r with
      | some (v, r') => (GoVal.decKVs f r').map fun (kvs, r'') => ((k, v) :: kvs, r'')
      | none => none
    | none => none
def GoVal.decFields : Nat → P (List (Bytes × GoVal))
  | 0, _ => none
  | _+1, [] => none
  | f+1, c :: cs =>
    if c == '}' then some ([], cs) else
    match c with
    | 's' => match takeUntil ';' [] cs with
      | some (h, r) => match GoVal.dec f r with
        | some (v, r') => (GoVal.decFields f r').map fun (kvs, r'') => ((hexDecodeChars h, v) :: kvs, r'')
        | none => none
      | none => none
    | _ => none
end

/-- decode one protocol field; `none` for malformed input or a value outside the model (`X…`, or drops
    nested so deeply that the code's `maxDropDepth` guards could cut the resolution short) -/
def GoVal.parse (s : String) : Option GoVal :=
  let cs := s.toList
  match GoVal.dec (cs.length + 1) cs with
  | some (v, []) => if v.withinDropDepth then some v else none
  | _ => none
