import Liquid.Scan
/-!
# The block parser: model of `parser/parser.go:parseTokens` and `render/blocks.go`

The same explicit stack machine as the Go code, written as a fold over the tokens. The AST
under construction is a zipper: the current append point (`cur`, reversed) plus a stack of
partially built blocks. "Pop on an empty stack" cannot be written in this representation
without a guard, exactly as in the Go code (`RequiresParent`/`CanHaveParent` precede the pop).
-/

/-- one `AddBlock(name).Clause(c₁).Clause(c₂)…` chain of `AddStandardTags` -/
structure BlockDef where
  name : Bytes
  clauses : List Bytes
  deriving Repr, DecidableEq

abbrev Grammar := List BlockDef

inductive Syn where
  | start (name : Bytes)
  | clause (name : Bytes) (parents : List Bytes)
  | end_ (name : Bytes) (startName : Bytes)
  deriving Repr, DecidableEq

def endPrefix : Bytes := [101, 110, 100]   -- "end"
def commentName : Bytes := [99, 111, 109, 109, 101, 110, 116]
def rawName : Bytes := [114, 97, 119]
def endcommentName : Bytes := endPrefix ++ commentName
def endrawName : Bytes := endPrefix ++ rawName

/-- `grammar.BlockSyntax(name)`: the block-start definitions, their `end…` tags, and the
    clause names with the set of blocks that admit them. -/
def Grammar.syntaxOf (g : Grammar) (name : Bytes) : Option Syn :=
  if g.any (fun b => b.name == name) then some (.start name)
  else match g.find? (fun b => endPrefix ++ b.name == name) with
    | some b => some (.end_ name b.name)
    | none =>
      let parents := (g.filter (fun b => b.clauses.contains name)).map (·.name)
      if parents.isEmpty then none else some (.clause name parents)

inductive AST where
  | text (tok : Token)
  | obj (tok : Token)
  | tag (tok : Token)
  | trim (left : Bool)
  | raw (slices : List Bytes)
  | block (tok : Token) (body : List AST) (clauses : List (Token × List AST))
  deriving Repr, Inhabited

inductive PErrKind where
  | objSyntax (c : Cause)          -- expressions.Parse failed on an object
  | notInside                      -- clause/end tag without its block
  | unterminated                   -- end of input inside a block / comment / raw
  | tagSyntax (c : Cause)          -- compile: a tag's or block's arguments do not parse
  | undefinedTag                   -- compile: no such tag
  deriving Repr, DecidableEq

structure PErr where
  kind : PErrKind
  line : Nat
  deriving Repr, DecidableEq

/-- a block under construction -/
structure Frame where
  tok : Token                               -- the opening tag
  outer : List AST                          -- enclosing append point (reversed)
  body : Option (List AST)                  -- `some` once the first clause has started
  clauses : List (Token × List AST)         -- finished clauses (reversed)
  cur : Option Token                        -- clause being filled (`none`: still in the body)
  deriving Repr

inductive PMode where
  | normal
  | comment (openTok : Token)
  | raw (openTok : Token) (slicesRev : List Bytes)
  deriving Repr

structure PState where
  cur : List AST := []                      -- current append point (reversed)
  stack : List Frame := []
  mode : PMode := .normal
  deriving Repr

def closeFrame (f : Frame) (cur : List AST) : AST :=
  match f.cur, f.body with
  | none, _ => .block f.tok cur.reverse []
  | some c, some body => .block f.tok body (f.clauses.reverse ++ [(c, cur.reverse)])
  | some c, none => .block f.tok [] (f.clauses.reverse ++ [(c, cur.reverse)])   -- unreachable

/-- the negation of the guard of the "not inside" error,
    `cs.RequiresParent() && (sd == nil || !cs.CanHaveParent(sd))`; `top` is the innermost open
    block (`sd`) -/
def parentOk (cs : Syn) (top : Option Frame) : Bool :=
  match cs, top with
  | .start _, _ => true
  | _, none => false
  | .clause _ parents, some f => parents.contains f.tok.name
  | .end_ _ startName, some f => f.tok.name == startName

/-- one iteration of the token loop; `chk` is `expressions.Parse` on an object's arguments -/
def parseStep (g : Grammar) (chk : Bytes → Option Cause) (s : PState) (tok : Token) : Res PErr PState :=
  match s.mode with
  | .comment o =>
    if tok.ty == .tag && tok.name == endcommentName then .ok { s with mode := .normal } else
    let _ := o; .ok s
  | .raw o sl =>
    if tok.ty == .tag && tok.name == endrawName then
      .ok { s with cur := .raw sl.reverse :: s.cur, mode := .normal }
    else .ok { s with mode := .raw o (tok.source :: sl) }
  | .normal =>
    match tok.ty with
    | .obj =>
      match chk tok.args with
      | some c => .err ⟨.objSyntax c, tok.line⟩
      | none => .ok { s with cur := .obj tok :: s.cur }
    | .text => .ok { s with cur := .text tok :: s.cur }
    | .trimL => .ok { s with cur := .trim true :: s.cur }
    | .trimR => .ok { s with cur := .trim false :: s.cur }
    | .tag =>
      match g.syntaxOf tok.name with
      | none => .ok { s with cur := .tag tok :: s.cur }
      | some cs =>
        if tok.name == commentName then .ok { s with mode := .comment tok }
        else if tok.name == rawName then .ok { s with mode := .raw tok [] }
        else if !parentOk cs s.stack.head? then .err ⟨.notInside, tok.line⟩
        else match cs, s.stack with
          | .start _, st =>
            .ok { cur := [], stack := { tok := tok, outer := s.cur, body := none, clauses := [], cur := none } :: st, mode := .normal }
          | .clause _ _, f :: fs =>
            (match f.cur with
             | none => .ok { cur := [], stack := { f with body := some s.cur.reverse, cur := some tok } :: fs, mode := .normal }
             | some c0 => .ok { cur := [], stack := { f with clauses := (c0, s.cur.reverse) :: f.clauses, cur := some tok } :: fs, mode := .normal })
          | .end_ _ _, f :: fs =>
            .ok { cur := closeFrame f s.cur :: f.outer, stack := fs, mode := .normal }
          | _, [] => .panic "pop of an empty block stack"   -- excluded by parentOk

def parseLoop (g : Grammar) (chk : Bytes → Option Cause) : PState → List Token → Res PErr PState
  | s, [] => .ok s
  | s, t :: ts =>
    match parseStep g chk s t with
    | .ok s' => parseLoop g chk s' ts
    | .err e => .err e
    | .panic w => .panic w
    | .unmodelled w => .unmodelled w

/-- model of `Config.parseTokens` -/
def parseTokens (g : Grammar) (chk : Bytes → Option Cause) (toks : List Token) : Res PErr (List AST) :=
  match parseLoop g chk {} toks with
  | .ok s =>
    match s.mode with
    | .comment o => .err ⟨.unterminated, o.line⟩
    | .raw o _ => .err ⟨.unterminated, o.line⟩
    | .normal =>
      match s.stack with
      | f :: _ => .err ⟨.unterminated, f.tok.line⟩
      | [] => .ok s.cur.reverse
  | .err e => .err e
  | .panic w => .panic w
  | .unmodelled w => .unmodelled w

/-- the table `AddStandardTags` builds (checked against the source by translator T1) -/
def stdGrammar : Grammar :=
  [ ⟨[99, 97, 112, 116, 117, 114, 101], []⟩,                                   -- capture
    ⟨[99, 97, 115, 101], [[101, 108, 115, 101], [119, 104, 101, 110]]⟩,        -- case: else when (T1 writes names sorted)
    ⟨commentName, []⟩,
    ⟨[102, 111, 114], [[101, 108, 115, 101]]⟩,                                 -- for: else
    ⟨[105, 102], [[101, 108, 115, 101], [101, 108, 115, 105, 102]]⟩,           -- if: else elsif
    ⟨rawName, []⟩,
    ⟨[116, 97, 98, 108, 101, 114, 111, 119], []⟩,                              -- tablerow
    ⟨[117, 110, 108, 101, 115, 115], [[101, 108, 115, 101]]⟩ ]                 -- unless: else

/-- plain (non-block) tags of `AddStandardTags` -/
def stdTags : List Bytes :=
  [ [97, 115, 115, 105, 103, 110], [98, 114, 101, 97, 107], [99, 111, 110, 116, 105, 110, 117, 101],
    [99, 121, 99, 108, 101], [105, 110, 99, 108, 117, 100, 101] ]       -- assign break continue cycle include (sorted)

/-! ## Printing (line protocol): the shape of the tree -/

mutual
def AST.shape : AST → String
  | .text t => s!"X{t.line}"
  | .obj t => s!"O{t.line}"
  | .tag t => s!"T{t.line}:{hexField t.name}"
  | .trim true => "L"
  | .trim false => "R"
  | .raw sl => "W:" ++ hexField sl.flatten
  | .block t body cls => s!"B{t.line}:{hexField t.name}(" ++ AST.shapeList body ++ AST.shapeClauses cls ++ ")"
def AST.shapeList : List AST → String
  | [] => ""
  | n :: ns => n.shape ++ ";" ++ AST.shapeList ns
def AST.shapeClauses : List (Token × List AST) → String
  | [] => ""
  | (t, body) :: cs => s!"|C{t.line}:{hexField t.name}(" ++ AST.shapeList body ++ ")" ++ AST.shapeClauses cs
end
