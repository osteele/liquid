import Liquid.Parse
import Liquid.Eval
import Liquid.TrimWriter
import Liquid.MapOrder
/-!
# Compilation and rendering: model of `render/*.go` and `tags/*.go`

Rendering is an *interaction tree* of calls to the caller's writer (`Prog.call b k`: one
`w.Write(b)`, `k` receives what the writer answered), so that what the code does after a
failed write is part of the model (C20). The success path of the tree is the output.
`M` adds the per-render state: the flat variable map and the trim writer.
-/

/-! ## Errors -/

/-- what the message of a cause-less (`Errorf`-made) error says; `byCause` = the text of the cause -/
inductive Msg where
  | byCause | undefinedTag | unterminated | notInside | cycleOutside | loopMod | includeArg | tagSyntax
  deriving Repr, DecidableEq, Inhabited

/-- a `parser.Error` / `render.Error`: line, whether its path is the template's path (false =
    the empty path of `invalidLoc`), `Cause()` (`Cause.none` = nil) and what its message names -/
structure SErr where
  line : Nat
  pathSet : Bool
  cause : Cause
  msg : Msg := .byCause
  deriving Repr, DecidableEq, Inhabited

inductive RawErr where
  | plain (c : Cause)          -- an `error` that is not a `parser.Error`
  | located (e : SErr)
  deriving Repr, DecidableEq, Inhabited

/-- a `Locatable`: line and whether it carries the template's path -/
structure Loc where
  line : Nat
  pathSet : Bool := true
  deriving Repr, DecidableEq

def invalidLoc : Loc := ⟨0, false⟩

/-- `SourceLoc.IsZero`, given the path the template was parsed with -/
def Loc.isZero (path : Bytes) (l : Loc) : Bool := (!l.pathSet || path.isEmpty) && l.line == 0

/-- `parser.WrapError(err, loc)` (after the repair of D12) -/
def wrapError (path : Bytes) (err : RawErr) (loc : Loc) : SErr :=
  match err with
  | .plain c => ⟨loc.line, loc.pathSet, c, .byCause⟩
  | .located e =>
    if (e.pathSet && !path.isEmpty) || e.line != 0 || loc.isZero path then e
    else ⟨loc.line, loc.pathSet, if e.cause == .none then .other "located:none" else e.cause, e.msg⟩

/-- `parser.Errorf(loc, …)`: a located error without cause -/
def errorfAt (loc : Loc) (m : Msg) : SErr := ⟨loc.line, loc.pathSet, .none, m⟩

/-! ## The compiled tree -/

/-- a branch test; `line` is the line of the tag it belongs to (the `if`/`unless` tag or the
    `elsif` clause), where its render-time errors are located -/
inductive CondT where
  | expr (line : Nat) (e : Expr) | notExpr (line : Nat) (e : Expr) | always
  deriving Repr, Inhabited

inductive Node where
  | text (line : Nat) (src : Bytes)
  | obj (line : Nat) (e : Expr)
  | raw (slices : List Bytes)
  | trim (left : Bool)
  | assign (line : Nat) (x : Bytes) (e : Expr)
  | capture (line : Nat) (x : Bytes) (body : List Node)
  | ifB (line : Nat) (branches : List (CondT × List Node))
  | caseB (line : Nat) (subject : Expr) (cases : List (Option (Nat × List Expr) × List Node))
  | loop (line : Nat) (tablerow : Bool) (var : Bytes) (e : Expr) (mods : LoopMods)
         (body : List Node) (clauses : List (List Node))
  | cycle (line : Nat) (group : Bytes) (first : Bytes) (rest : List Bytes)
  | brk (line : Nat)
  | cont (line : Nat)
  | incl (line : Nat) (args : Bytes)
  deriving Repr, Inhabited

def nmIf : Bytes := [105, 102]
def nmUnless : Bytes := [117, 110, 108, 101, 115, 115]
def nmCase : Bytes := [99, 97, 115, 101]
def nmFor : Bytes := [102, 111, 114]
def nmTablerow : Bytes := [116, 97, 98, 108, 101, 114, 111, 119]
def nmCapture : Bytes := [99, 97, 112, 116, 117, 114, 101]
def nmElse : Bytes := [101, 108, 115, 101]
def nmElsif : Bytes := [101, 108, 115, 105, 102]
def nmWhen : Bytes := [119, 104, 101, 110]
def nmAssign : Bytes := [97, 115, 115, 105, 103, 110]
def nmInclude : Bytes := [105, 110, 99, 108, 117, 100, 101]
def nmBreak : Bytes := [98, 114, 101, 97, 107]
def nmContinue : Bytes := [99, 111, 110, 116, 105, 110, 117, 101]
def nmCycle : Bytes := [99, 121, 99, 108, 101]
def nmForloop : Bytes := [102, 111, 114, 108, 111, 111, 112]

/-- compile-time result: a located error or a value -/
abbrev CRes (α : Type) := Res SErr α

def liftParse {α} (line : Nat) (keepCause : Bool) : Res ParseErr α → CRes α
  | .ok a => .ok a
  | .err _ => .err (if keepCause then ⟨line, true, .syntax, .byCause⟩ else ⟨line, true, .none, .tagSyntax⟩)
  | .panic w => .panic w
  | .unmodelled w => .unmodelled w

/-- the tests of an `if`/`unless` block's clauses (compiled after all bodies) -/
def compileIfClauseTests : List (Token × List Node) → CRes (List (CondT × List Node))
  | [] => .ok []
  | (t, body) :: cs => do
    let test ← (if t.name == nmElsif then do
        let e ← liftParse t.line true (parseExprSource t.args)
        pure (CondT.expr t.line e)
      else pure CondT.always : CRes CondT)
    let rest ← compileIfClauseTests cs
    pure ((test, body) :: rest)

def compileCaseClauses : List (Token × List Node) → CRes (List (Option (Nat × List Expr) × List Node))
  | [] => .ok []
  | (t, body) :: cs => do
    let c ← (if t.name == nmWhen then do
        let st ← liftParse t.line true (parseStatement kwWhen t.args)
        match st with
        | .when es => pure (some (t.line, es))
        | _ => .err ⟨t.line, true, .syntax, .byCause⟩
      else pure none : CRes (Option (Nat × List Expr)))
    let rest ← compileCaseClauses cs
    pure ((c, body) :: rest)

mutual
/-- model of `Config.compileNode`: bodies first, then clause bodies, then the block's own
    arguments, then the clauses' arguments. `comment` blocks never reach here. -/
def compileNode : AST → CRes (List Node)
  | .text t => .ok [.text t.line t.source]
  | .obj t =>
    -- the object was parsed by `parseTokens` already; re-parse to obtain the tree
    (match parseExprSource t.args with
     | .ok e => .ok [.obj t.line e]
     | .err _ => .err ⟨t.line, true, .syntax, .byCause⟩
     | .panic w => .panic w
     | .unmodelled w => .unmodelled w)
  | .trim l => .ok [.trim l]
  | .raw sl => .ok [.raw sl]
  | .tag t =>
    if t.name == nmAssign then do
      let st ← liftParse t.line false (parseStatement kwAssign t.args)
      match st with
      | .assign x e => pure [.assign t.line x e]
      | _ => .err ⟨t.line, true, .none, .tagSyntax⟩
    else if t.name == nmInclude then .ok [.incl t.line t.args]
    else if t.name == nmBreak then .ok [.brk t.line]
    else if t.name == nmContinue then .ok [.cont t.line]
    else if t.name == nmCycle then do
      let st ← liftParse t.line false (parseStatement kwCycle t.args)
      match st with
      | .cycle g v0 vs => pure [.cycle t.line g v0 vs]
      | _ => .err ⟨t.line, true, .none, .tagSyntax⟩
    else .err ⟨t.line, true, .none, .undefinedTag⟩
  | .block t body clauses => do
    let b ← compileList body
    let cs ← compileClauses clauses
    if t.name == nmIf || t.name == nmUnless then do
      let e ← liftParse t.line true (parseExprSource t.args)
      let first : CondT := if t.name == nmIf then .expr t.line e else .notExpr t.line e
      let rest ← compileIfClauseTests cs
      pure [.ifB t.line ((first, b) :: rest)]
    else if t.name == nmCase then do
      let e ← liftParse t.line true (parseExprSource t.args)
      let cases ← compileCaseClauses cs
      pure [.caseB t.line e cases]
    else if t.name == nmFor || t.name == nmTablerow then do
      let st ← liftParse t.line true (parseStatement kwLoop t.args)
      match st with
      | .loop x e m => pure [.loop t.line (t.name == nmTablerow) x e m b (cs.map (·.2))]
      | _ => .err ⟨t.line, true, .syntax, .byCause⟩
    else if t.name == nmCapture then pure [.capture t.line t.args b]
    else .unmodelled "block without a standard compiler"
def compileList : List AST → CRes (List Node)
  | [] => .ok []
  | n :: ns => do
    let a ← compileNode n
    let b ← compileList ns
    pure (a ++ b)
def compileClauses : List (Token × List AST) → CRes (List (Token × List Node))
  | [] => .ok []
  | (t, body) :: cs => do
    let b ← compileList body
    let rest ← compileClauses cs
    pure ((t, b) :: rest)
end

/-- `chk` of `parseTokens`: `expressions.Parse` on an object's arguments -/
def objChk (args : Bytes) : Option Cause :=
  match parseExprSource args with
  | .ok _ => none
  | _ => some .syntax

def liftPErr : Res PErr α → CRes α
  | .ok a => .ok a
  | .err e => .err (match e.kind with
      | .objSyntax c => ⟨e.line, true, c, .byCause⟩
      | .tagSyntax c => ⟨e.line, true, c, .byCause⟩
      | .notInside => ⟨e.line, true, .none, .notInside⟩
      | .unterminated => ⟨e.line, true, .none, .unterminated⟩
      | .undefinedTag => ⟨e.line, true, .none, .undefinedTag⟩)
  | .panic w => .panic w
  | .unmodelled w => .unmodelled w

/-- objects whose arguments are outside the lexer model must surface as `unmodelled`, not as errors -/
def firstUnmodelledObj : List Token → Option String
  | [] => none
  | t :: ts =>
    if t.ty == .obj then
      match parseExprSource t.args with
      | .unmodelled w => some w
      | _ => firstUnmodelledObj ts
    else firstUnmodelledObj ts

/-- model of `render.Config.Compile(source, loc)` -/
def compileSource (delims : List Bytes) (src : Bytes) (line : Nat) : CRes (List Node) :=
  let toks := scan delims src line
  match firstUnmodelledObj toks with
  | some w => .unmodelled w
  | none => do
    let ast ← liftPErr (parseTokens stdGrammar objChk toks)
    compileList ast

/-! ## The interaction tree -/

inductive WriteRes where
  | ok
  | failed (accepted : Nat)
  deriving Repr

inductive Prog (α : Type) where
  | ret (a : α)
  | fail (e : RawErr)
  | panic (why : String)
  | unmodelled (why : String)
  | call (b : Bytes) (k : WriteRes → Prog α)

namespace Prog
def bind {α β} : Prog α → (α → Prog β) → Prog β
  | .ret a, f => f a
  | .fail e, _ => .fail e
  | .panic w, _ => .panic w
  | .unmodelled w, _ => .unmodelled w
  | .call b k, f => .call b (fun r => (k r).bind f)

/-- handle a failure (used where a node wraps the error of its children) -/
def mapFail {α} (g : RawErr → RawErr) : Prog α → Prog α
  | .ret a => .ret a
  | .fail e => .fail (g e)
  | .panic w => .panic w
  | .unmodelled w => .unmodelled w
  | .call b k => .call b (fun r => (k r).mapFail g)

/-- catch a failure and continue -/
def tryCatch {α} (p : Prog α) (h : RawErr → Prog α) : Prog α :=
  match p with
  | .ret a => .ret a
  | .fail e => h e
  | .panic w => .panic w
  | .unmodelled w => .unmodelled w
  | .call b k => .call b (fun r => tryCatch (k r) h)

/-- the underlying write calls on the success path -/
def calls {α} : Prog α → List Bytes
  | .call b k => b :: calls (k .ok)
  | _ => []

inductive Outcome (α : Type) where
  | ok (a : α) | err (e : RawErr) | panic (w : String) | unmodelled (w : String)
  deriving Repr

/-- run against a writer that never fails: everything written, and the outcome -/
def runPure {α} : Prog α → Bytes × Outcome α
  | .ret a => ([], .ok a)
  | .fail e => ([], .err e)
  | .panic w => ([], .panic w)
  | .unmodelled w => ([], .unmodelled w)
  | .call b k => let (out, o) := runPure (k .ok); (b ++ out, o)
end Prog

structure Cfg where
  strict : Bool := false
  path : Bytes := []
  delims : List Bytes := []
  /-- NOT part of the semantics and without a counterpart in the Go code (which iterates a range lazily, without
      limit): the largest `b - a` for which the EXECUTABLE model materialises the items of a loop over `(a..b)`;
      beyond it `loopItems` answers `unmodelled`. The driver runs with the default; the theorems are stated for
      every value of it (`Proofs/Budget.lean`: raising it never changes an answer that was given). -/
  budget : Int := 100000
  deriving Repr, Inhabited

structure RS where
  env : Env
  tw : TW
  deriving Repr

abbrev M (α : Type) := RS → Prog (α × RS)

namespace M
def pure {α} (a : α) : M α := fun s => .ret (a, s)
def bind {α β} (m : M α) (f : α → M β) : M β := fun s => (m s).bind (fun (a, s') => f a s')
instance : Monad M := { pure := M.pure, bind := M.bind }
def fail {α} (e : RawErr) : M α := fun _ => .fail e
def getEnv : M Env := fun s => .ret (s.env, s)
def setVar (x : Bytes) (v : GoVal) : M Unit := fun s => .ret ((), { s with env := s.env.set x v })
def getVar (x : Bytes) : M GoVal := fun s => .ret (s.env.get x, s)
def mapFail {α} (g : RawErr → RawErr) (m : M α) : M α := fun s => (m s).mapFail g
/-- lift an evaluation result; evaluation errors are plain errors -/
def ofRes {α} : Res Cause α → M α
  | .ok a => pure a
  | .err c => fail (.plain c)
  | .panic w => fun _ => .panic w
  | .unmodelled w => fun _ => .unmodelled w
end M

/-! ## Trim-writer operations with their failure continuations -/

/-- `tw.Flush()` -/
def flushM : M Unit := fun s =>
  if s.tw.buf.isEmpty then .ret ((), s)
  else .call s.tw.buf fun
    | .ok => .ret ((), { s with tw := { s.tw with buf := [] } })
    | .failed _ => .fail (.plain .io)

/-- `tw.Write(b)` (what `io.WriteString(w, …)` and `fmt.Fprintf(w, …)` do on a trim writer) -/
def writeM (b : Bytes) : M Unit := fun s =>
  let b' := if s.tw.trim then trimLeftSpace b else b
  if s.tw.buf.isEmpty then .ret ((), { s with tw := { buf := b', trim := false } })
  else .call s.tw.buf fun
    | .ok => .ret ((), { s with tw := { buf := b', trim := false } })
    | .failed _ => .fail (.plain .io)

/-- `tw.TrimLeft()`: always one underlying call, possibly with zero bytes -/
def trimLeftM : M Unit := fun s =>
  .call (trimRightSpace s.tw.buf) fun
    | .ok => .ret ((), { s with tw := { s.tw with buf := [] } })
    | .failed _ => .fail (.plain .io)

def trimRightM : M Unit := fun s => .ret ((), { s with tw := { s.tw with trim := true } })

/-- run `m` against a private in-memory writer (capture, include): the text it rendered,
    including the final flush; the outer trim writer is untouched -/
def captureM {α} (m : M α) : M (α × Bytes) := fun s =>
  let p := (m { env := s.env, tw := {} }).bind (fun (a, s1) => (flushM s1).bind (fun (_, s2) => .ret (a, s2)))
  match p.runPure with
  | (out, .ok (a, s2)) => .ret ((a, out), { s with env := s2.env })
  | (_, .err e) => .fail e
  | (_, .panic w) => .panic w
  | (_, .unmodelled w) => .unmodelled w

/-! ## Values as output -/

/-- what the renderer needs from the value layer besides `Prims` -/
structure OutPrims where
  /-- the sequence of `w.Write` calls that `writeObject(w, value)` makes (`Liquid/Std.lean`) -/
  chunks : GoVal → Res Cause (List Bytes)

/-- `tw.WriteVerbatim(b)` (`render/trimwriter.go`, repair `fixes/verbatim-output-not-trimmed`):
    `tw.trim = false; tw.Write(b); tw.Flush()` — output that is not literal text of the template
    (the value of an object, the body of a raw block, what a tag writes: `TagNode.render` hands the tag
    `verbatimWriter{w}`, here the `cycle` value and the output of an included file). In terms of the
    other operations it is
    `Write ""` (drops a pending right trim without applying it and flushes the text pending
    before), `Write b` (flag clear, buffer empty: no call, `b` buffered unchanged), `Flush`
    (`b` goes out at once, one call unless `b` is empty, so a later `TrimLeft` finds nothing of it);
    the underlying calls and the failure points are those of the Go method. -/
def writeVerbatimM (b : Bytes) : M Unit := do writeM []; writeM b; flushM

/-- the `Write` calls of `writeObject` / of a raw node on `verbatimWriter{w}`: one `WriteVerbatim`
    per chunk (none for nil or an empty array: then a pending right trim stays pending) -/
def writeAllM : List Bytes → M Unit
  | [] => pure ()
  | c :: cs => do writeVerbatimM c; writeAllM cs

/-! ## Loops -/

def mkPair (k v : GoVal) : GoVal := .slice .any [k, v]

def rangeItems (a b : Int) : List GoVal :=
  if b < a then [] else (List.range (b - a + 1).toNat).map fun (i : Nat) => GoVal.int .int (a + (i : Int))

/-- `makeIterator` (after the repairs of D9 and D15): the items a loop visits. A map is visited in the
    order of `values.SortedMapKeys` (`MapOrder.sortedMapEntries`: the entry list of the value is in no
    particular order), an `IterationKeyedMap` in the order of `sort.Strings` of its keys. -/
def loopItems (budget : Int) : GoVal → Res Cause (List GoVal)
  -- the Go code iterates a range lazily and has no limit: `budget` (`Cfg.budget`) only keeps the executable model
  -- from building a huge list; every theorem holds for every budget
  | .range a b => if b - a > budget then .unmodelled "huge range" else .ok (rangeItems a b)
  | .nil => .ok []
  | .keyedMap kvs => .ok ((MapOrder.sortedFields kvs).map fun kv => GoVal.str kv.1)   -- makeIterationKeyedMap: sort.Strings(keys)
  | .mapSlice kvs => .ok (kvs.map fun kv => mkPair kv.1 kv.2)
  | .slice _ xs => .ok xs
  | .array _ xs => .ok xs
  | .bytes s => .ok (s.map fun b => GoVal.int .u8 b.toNat)
  | .map _ _ kvs =>                                                    -- for i, k := range values.SortedMapKeys(rv)
    (MapOrder.sortedMapEntries kvs).bind fun es => .ok (es.map fun kv => mkPair kv.1 kv.2)
  | _ => .ok []

def dotCycles : Bytes := [46, 99, 121, 99, 108, 101, 115]

def strKey (s : String) : GoVal := .str s.toUTF8.toList

/-- the `forloop` record of iteration `i` of `n`, keys in sorted order -/
def forloopRec (i n : Nat) (cycles : List (GoVal × GoVal)) : GoVal :=
  .map .str .any [
    (.str dotCycles, .map .str .priv cycles),
    (.str [102, 105, 114, 115, 116], .bool (i == 0)),                         -- first
    (.str [105, 110, 100, 101, 120], .int .int (i + 1)),                      -- index
    (.str [105, 110, 100, 101, 120, 48], .int .int i),                        -- index0
    (.str [108, 97, 115, 116], .bool (i + 1 == n)),                           -- last
    (.str [108, 101, 110, 103, 116, 104], .int .int n),                       -- length
    (.str [114, 105, 110, 100, 101, 120], .int .int (n - i)),                 -- rindex
    (.str [114, 105, 110, 100, 101, 120, 48], .int .int ((n : Int) - i - 1))  -- rindex0
  ]

def natBytes (n : Nat) : Bytes := (toString n).toUTF8.toList

/-- `tableRowDecorator.before` -/
def tablerowBefore (cols i : Nat) : M Unit := do
  let row := i / cols
  let col := i % cols
  if col == 0 then
    writeM (bs "<tr class=\"row" ++ natBytes (row + 1) ++ bs "\">")
  writeM (bs "<td class=\"col" ++ natBytes (col + 1) ++ bs "\">")

/-- `tableRowDecorator.after` -/
def tablerowAfter (cols i l : Nat) : M Unit := do
  writeM (bs "</td>")
  if (i + 1) % cols == 0 || i + 1 == l then
    writeM (bs "</tr>")

/-- the cycle counters of the current `forloop` record: `.cycles` of the value bound to `forloop`,
    provided it has the renderer's own unexported type `cycleCounters` (`.map .str .priv`): a record
    bound by the caller, whatever its shape, is not accepted (`cycle must be within a forloop`) -/
def cyclesOf (v : GoVal) : Option (List (GoVal × GoVal) × (List (GoVal × GoVal) → GoVal)) :=
  match v with
  | .map .str .any kvs =>
    (match kvs with
     | (.str k, .map .str .priv cyc) :: rest =>
       if k == dotCycles then some (cyc, fun c => .map .str .any ((.str k, .map .str .priv c) :: rest)) else none
     | _ => none)
  | _ => none

def cycleGet (cyc : List (GoVal × GoVal)) (g : Bytes) : Nat :=
  match cyc.find? (fun kv => match kv.1 with | .str k => k == g | _ => false) with
  | some (_, .int _ n) => n.toNat
  | _ => 0

/-- insert keeping the keys sorted bytewise (the codec's canonical order) -/
def cycleSet : List (GoVal × GoVal) → Bytes → Nat → List (GoVal × GoVal)
  | [], g, n => [(.str g, .int .int n)]
  | (.str k, v) :: r, g, n =>
    if k == g then (.str k, .int .int n) :: r
    else if decide (g < k) then (.str g, .int .int n) :: (.str k, v) :: r
    else (.str k, v) :: cycleSet r g n
  | kv :: r, g, n => kv :: cycleSet r g n

/-! ## Rendering

`break` and `continue` travel as Go errors (`ctx.WrapError(errLoopBreak)`), are re-wrapped by
every enclosing node like any error, and are recognised by the innermost loop through
`Cause()`. Unlike a real failure they do not end the render, so the model carries them as a
`Status` next to the state instead of as a `Prog.fail`. -/

inductive Status where
  | done
  | brk (e : SErr)
  | cont (e : SErr)
  deriving Repr, DecidableEq, Inhabited

/-- `wrapRenderError(err, node)` applied to whatever a node's body returned -/
def Status.wrap (path : Bytes) (loc : Loc) : Status → Status
  | .done => .done
  | .brk e => .brk (wrapError path (.located e) loc)
  | .cont e => .cont (wrapError path (.located e) loc)

/-- a node wraps both the failures and the loop sentinels of what it runs -/
def wrapAt (path : Bytes) (loc : Loc) (m : M Status) : M Status :=
  fun s => ((m s).mapFail (fun e => .located (wrapError path e loc))).bind
    (fun (st, s') => .ret (st.wrap path loc, s'))

/-- wrap failures only (for actions that cannot yield a sentinel) -/
def wrapFailAt {α} (path : Bytes) (loc : Loc) (m : M α) : M α :=
  M.mapFail (fun e => .located (wrapError path e loc)) m

/-- `Not(e)` / `Constant(true)` / a parsed condition, then Go's `value != nil && value != false` -/
def evalCond (P : Prims) (path : Bytes) (t : CondT) : M Bool := do
  let env ← M.getEnv
  match t with
  | .always => pure true
  | .expr line e => wrapFailAt path ⟨line, true⟩ (do let v ← M.ofRes (evaluate P env e); pure v.test)
  | .notExpr line e => wrapFailAt path ⟨line, true⟩ (do let v ← M.ofRes (evaluate P env e); pure !v.test)

/-- file system as seen by `include`: `os.ReadFile` and the engine's template cache -/
inductive FileRes where
  | content (b : Bytes) | notExist | otherError
  deriving Repr

structure FS where
  read : Bytes → FileRes
  cache : Bytes → Option Bytes

/-- `filepath.Clean` for POSIX paths -/
def cleanPath (p : Bytes) : Bytes :=
  if p.isEmpty then [46] else
  let rooted := p.head? == some 47
  let parts := (p.splitOn 47).filter (fun c => !c.isEmpty && c != [46])
  let step (acc : List Bytes) (c : Bytes) : List Bytes :=     -- acc reversed
    if c == [46, 46] then
      match acc with
      | [] => if rooted then [] else [c]
      | top :: rest => if top == [46, 46] then c :: acc else rest
    else c :: acc
  let out := (parts.foldl step []).reverse
  let body := [47].intercalate out
  if rooted then 47 :: body else if body.isEmpty then [46] else body

/-- `filepath.Dir` -/
def dirPath (p : Bytes) : Bytes :=
  let rev := p.reverse.dropWhile (· != 47)       -- up to and including the last slash
  cleanPath rev.reverse

/-- `filepath.Join(a, b)` -/
def joinPath (a b : Bytes) : Bytes :=
  let parts := [a, b].filter (fun c => !c.isEmpty)
  if parts.isEmpty then [] else cleanPath ([47].intercalate parts)

structure RCtx where
  P : Prims
  O : OutPrims
  cfg : Cfg
  /-- `ctx.RenderFile(filename)` for the include tag at `line`, with the current variables -/
  inc : Nat → Bytes → Env → Prog (Status × Bytes)

/-- the `defer` of `loopRenderer.render`: restore `forloop` and the loop variable -/
def restoreLoopVars (var : Bytes) (prevLoop prevVar : GoVal) : M Unit := do
  M.setVar nmForloop prevLoop
  M.setVar var prevVar

/-- the iterations of one loop execution. `cyc` is the per-execution cycle map. -/
def iterateM (var : Bytes) (cols : Option Nat) (body : M Status) (n : Nat) :
    List GoVal → Nat → List (GoVal × GoVal) → M Status
  | [], _, _ => pure .done
  | x :: xs, i, cyc => do
    M.setVar var x
    M.setVar nmForloop (forloopRec i n cyc)
    (match cols with
     | some c => tablerowBefore c i
     | none => pure ())
    let st ← body
    (match cols with
     | some c => tablerowAfter c i n
     | none => pure ())
    -- the cycle tag updates `.cycles` of the record bound to `forloop`
    let cur ← M.getVar nmForloop
    let cyc' := match cyclesOf cur with
      | some (c, _) => c
      | none => cyc
    match st with
    | .brk _ => pure .done
    | _ => iterateM var cols body n xs (i + 1) cyc'

def intModifier (P : Prims) (e : Option Expr) (blockLoc : Loc) : M (Option Int) :=
  match e with
  | none => pure none
  | some ex => do
    let env ← M.getEnv
    let v ← M.ofRes (evaluate P env ex)
    match v with
    | .int .int n => pure (some n)
    | _ => M.fail (.located (errorfAt blockLoc .loopMod))        -- "loop offset/limit/cols must be an integer"

/-- `applyLoopModifiers`: reverse, then skip `offset` (when positive), then take `limit`
    (when not negative) -/
def selectItems (reversed : Bool) (off lim : Option Int) (xs : List GoVal) : List GoVal :=
  let a := if reversed then xs.reverse else xs
  let b := match off with
    | some o => if o > 0 then a.drop o.toNat else a
    | none => a
  match lim with
  | some l => if l ≥ 0 then b.take l.toNat else b
  | none => b

/-- `makeLoopDecorator`: the number of columns of a tablerow (`none` for a plain `for`) -/
def tablerowCols (P : Prims) (tablerow : Bool) (cols : Option Expr) (loc : Loc) : M (Option Nat) :=
  if tablerow then do
    let cv ← intModifier P cols loc
    match cv with
    | some n => pure (some (if n > 0 then n.toNat else 2147483647))
    | none => pure (some 2147483647)
  else pure none

/-- run the iterations of one loop execution, then the deferred restore -/
def loopIterate (P : Prims) (loc : Loc) (tablerow : Bool) (var : Bytes) (colsE : Option Expr) (bodyM : M Status)
    (items : List GoVal) : M Status := do
  let cols ← tablerowCols P tablerow colsE loc
  let prevLoop ← M.getVar nmForloop
  let prevVar ← M.getVar var
  let st ← iterateM var cols bodyM items.length items 0 []
  restoreLoopVars var prevLoop prevVar
  pure st

/-- the `else` clause renders exactly when nothing is selected (and there is an `else`) -/
def loopDispatch (P : Prims) (loc : Loc) (tablerow : Bool) (var : Bytes) (colsE : Option Expr) (bodyM : M Status)
    (elseM : Option (M Status)) (items : List GoVal) : M Status :=
  match items, elseM with
  | [], some els => els
  | _, _ => loopIterate P loc tablerow var colsE bodyM items

/-- the renderer built by `loopTagCompiler`, given the rendering of its body and of its `else`
    clause (`tooMany`: the block has more than one clause). Order as in the Go code: collection,
    iterator, modifiers, clause-count check, `else` when nothing is selected, iterations, restore. -/
def loopRun (budget : Int) (P : Prims) (path : Bytes) (loc : Loc) (tablerow : Bool) (var : Bytes) (e : Expr) (mods : LoopMods)
    (bodyM : M Status) (tooMany : Bool) (elseM : Option (M Status)) : M Status :=
  wrapAt path loc (do
    let env ← M.getEnv
    let v ← M.ofRes (evaluate P env e)
    let items0 ← M.ofRes (loopItems budget v)
    let off ← intModifier P mods.offset loc
    let lim ← intModifier P mods.limit loc
    if tooMany then M.fail (.plain (.other "forElse")) else
    loopDispatch P loc tablerow var mods.cols bodyM elseM (selectItems mods.reversed off lim items0))

mutual
def renderNode (c : RCtx) : Node → M Status
  | .text line src => wrapFailAt c.cfg.path ⟨line, true⟩ (do writeM src; pure .done)
  | .obj line e => wrapFailAt c.cfg.path ⟨line, true⟩ (do
      let env ← M.getEnv
      let v ← M.ofRes (evaluate c.P env e)
      if v.isNil && c.cfg.strict then M.fail (.plain (.other "undefinedVariable")) else do
      let chunks ← M.ofRes (c.O.chunks v)
      writeAllM chunks
      pure .done)
  | .raw slices => wrapFailAt c.cfg.path invalidLoc (do writeAllM slices; pure .done)
  | .trim true => wrapFailAt c.cfg.path invalidLoc (do trimLeftM; pure .done)
  | .trim false => do trimRightM; pure .done
  | .assign line x e => wrapFailAt c.cfg.path ⟨line, true⟩ (do
      let env ← M.getEnv
      let v ← M.ofRes (evaluate c.P env e)
      M.setVar x v
      pure .done)
  | .capture line x body => wrapAt c.cfg.path ⟨line, true⟩ (do
      let (st, out) ← captureM (renderList c body)
      match st with
      | .done => do M.setVar x (.str out); pure .done
      | st => pure st)
  | .ifB line branches => wrapAt c.cfg.path ⟨line, true⟩ (renderBranches c branches)
  | .caseB line subject cases => wrapAt c.cfg.path ⟨line, true⟩ (do
      let env ← M.getEnv
      let sel ← M.ofRes (evaluate c.P env subject)
      renderCases c sel cases)
  | .loop line tablerow var e mods body clauses =>
    let bodyM := renderBlockBody c body
    match clauses with
    | [] => loopRun c.cfg.budget c.P c.cfg.path ⟨line, true⟩ tablerow var e mods bodyM false none
    | [els] => loopRun c.cfg.budget c.P c.cfg.path ⟨line, true⟩ tablerow var e mods bodyM false (some (renderBlockBody c els))
    | _ :: _ :: _ => loopRun c.cfg.budget c.P c.cfg.path ⟨line, true⟩ tablerow var e mods bodyM true none
  | .cycle line group v0 rest =>
    let loc : Loc := ⟨line, true⟩
    wrapFailAt c.cfg.path loc (do
      let lv ← M.getVar nmForloop
      match cyclesOf lv with
      | none => M.fail (.located (errorfAt loc .cycleOutside))          -- "cycle must be within a forloop"
      | some (cyc, rebuild) =>
        let n := cycleGet cyc group
        M.setVar nmForloop (rebuild (cycleSet cyc group (n + 1)))
        -- `TagNode.render` hands the tag `verbatimWriter{w}`: what a tag writes is not literal text
        writeVerbatimM ((v0 :: rest).getD (n % (rest.length + 1)) v0)
        pure .done)
  | .brk line => pure (.brk (wrapError c.cfg.path (.located (wrapError c.cfg.path (.plain .brk) ⟨line, true⟩)) ⟨line, true⟩))
  | .cont line => pure (.cont (wrapError c.cfg.path (.located (wrapError c.cfg.path (.plain .cont) ⟨line, true⟩)) ⟨line, true⟩))
  | .incl line args =>
    let loc : Loc := ⟨line, true⟩
    wrapAt c.cfg.path loc (do
      let env ← M.getEnv
      let e ← M.ofRes ((parseExprSource args).mapErr (fun _ => Cause.syntax))
      let v ← M.ofRes (evaluate c.P env e)
      match v with
      | .str rel =>
        let filename := joinPath (dirPath c.cfg.path) rel
        let (st, out) ← (fun s => (c.inc line filename env).bind (fun r => .ret (r, s)) : M (Status × Bytes))
        (match st with
         | .done => do writeVerbatimM out; pure .done   -- the tag's writer is `verbatimWriter{w}`
         | st => pure st)
      | _ => M.fail (.located (errorfAt loc .includeArg)))             -- "include requires a string argument"
def renderList (c : RCtx) : List Node → M Status
  | [] => pure .done
  | n :: ns => do
    let st ← renderNode c n
    match st with
    | .done => renderList c ns
    | st => pure st
/-- `ctx.RenderBlock` / `RenderChildren` on the shared trim writer: the sequence, then a flush -/
def renderBlockBody (c : RCtx) (body : List Node) : M Status := do
  let st ← renderList c body
  match st with
  | .done => do wrapFailAt c.cfg.path invalidLoc flushM; pure .done
  | st => pure st
def renderBranches (c : RCtx) : List (CondT × List Node) → M Status
  | [] => pure .done
  | (t, body) :: rest => do
    let b ← evalCond c.P c.cfg.path t
    if b then renderBlockBody c body else renderBranches c rest
def renderCases (c : RCtx) (sel : GoVal) : List (Option (Nat × List Expr) × List Node) → M Status
  | [] => pure .done
  | (none, body) :: _ => renderBlockBody c body
  | (some (line, es), body) :: rest => do
    let hit ← wrapFailAt c.cfg.path ⟨line, true⟩ (whenMatches c sel es)
    if hit then renderBlockBody c body else renderCases c sel rest
def whenMatches (c : RCtx) (sel : GoVal) : List Expr → M Bool
  | [] => pure false
  | e :: es => do
    let env ← M.getEnv
    let v ← M.ofRes (evaluate c.P env e)
    let eq ← M.ofRes (c.P.equalFn sel v)
    if eq then pure true else whenMatches c sel es
end

/-- `render.Render(root, w, vars, cfg)`: the root sequence, then the final flush -/
def renderRoot (c : RCtx) (root : List Node) (env : Env) : Prog Status :=
  ((renderList c root) { env := env, tw := {} }).bind fun (st, s) =>
    match st with
    | .done => ((wrapFailAt c.cfg.path invalidLoc flushM) s).bind fun _ => .ret .done
    | st => .ret st

/-- `ctx.RenderFile`: read (disk first, cache only when the file does not exist), compile with
    the include tag's location, render with a copy of the variables into a private buffer -/
def renderFileWith (P : Prims) (O : OutPrims) (cfg : Cfg) (fs : FS)
    (inner : Nat → Bytes → Env → Prog (Status × Bytes)) (line : Nat) (filename : Bytes) (env : Env) :
    Prog (Status × Bytes) :=
  let src? : Except Cause Bytes := match fs.read filename with
    | .content b => .ok b
    | .notExist => (match fs.cache filename with
        | some b => .ok b
        | none => .error (.other "notExist"))
    | .otherError => .error .io
  match src? with
  | .error c => .fail (.plain c)
  | .ok src =>
    match compileSource cfg.delims src line with
    | .err e => .fail (.located e)
    | .panic w => .panic w
    | .unmodelled w => .unmodelled w
    | .ok root =>
      let c : RCtx := { P := P, O := O, cfg := cfg, inc := inner }
      match (renderRoot c root env).runPure with
      | (out, .ok .done) => .ret (.done, out)
      | (_, .ok st) => .ret (st, [])
      | (_, .err e) => .fail e
      | (_, .panic w) => .panic w
      | (_, .unmodelled w) => .unmodelled w

/-- `maxIncludeDepth` of `render/context.go`: the number of include tags a render may be nested in -/
def maxIncludeDepth : Nat := 100

/-- the plain error of `RenderFile` at `depth >= maxIncludeDepth`
    (`fmt.Errorf("include nesting too deep (more than %d levels) at %s", …)`) -/
def includeDepthErr : RawErr := .plain .includeDepth

/-- `ctx.RenderFile` of a render nested in `maxIncludeDepth - fuel` include tags: the fuel IS
    `maxIncludeDepth - ctx.depth`. At fuel 0 (`depth >= maxIncludeDepth`) the handler refuses with
    the depth error BEFORE the file is read; at fuel n+1 the file is rendered with `depth + 1`,
    i.e. with the fuel-n handler inside. -/
def incFuel (P : Prims) (O : OutPrims) (cfg : Cfg) (fs : FS) : Nat → Nat → Bytes → Env → Prog (Status × Bytes)
  | 0 => fun _ _ _ => .fail includeDepthErr
  | n+1 => renderFileWith P O cfg fs (incFuel P O cfg fs n)

def mkCtx (P : Prims) (O : OutPrims) (cfg : Cfg) (fs : FS) (fuel : Nat) : RCtx :=
  { P := P, O := O, cfg := cfg, inc := incFuel P O cfg fs fuel }

/-- a sentinel that reaches the top is an ordinary error -/
def statusToProg : Status → Prog Unit
  | .done => .ret ()
  | .brk e => .fail (.located e)
  | .cont e => .fail (.located e)

/-- `Template.FRender(w, vars)` for a template compiled from `src` -/
def frender (P : Prims) (O : OutPrims) (cfg : Cfg) (fs : FS) (fuel : Nat) (root : List Node) (env : Env) : Prog Unit :=
  (renderRoot (mkCtx P O cfg fs fuel) root env).bind statusToProg

inductive RunResult where
  | ok (out : Bytes)
  | err (e : SErr)
  | panic (w : String)
  | unmodelled (w : String)
  deriving Repr

/-- `Engine.ParseTemplateLocation` + `Template.Render`: output, or a located error and no output -/
def run (P : Prims) (O : OutPrims) (cfg : Cfg) (fs : FS) (fuel : Nat) (src : Bytes) (line : Nat) (env : Env) : RunResult :=
  match compileSource cfg.delims src line with
  | .err e => .err e
  | .panic w => .panic w
  | .unmodelled w => .unmodelled w
  | .ok root =>
    match (frender P O cfg fs fuel root env).runPure with
    | (out, .ok _) => .ok out
    | (_, .err (.located e)) => .err e
    | (_, .err (.plain c)) => .err ⟨0, false, c, .byCause⟩       -- cannot happen: every node wraps (`render_fails_at_firstFailure`, Proofs/C07First.lean)
    | (_, .panic w) => .panic w
    | (_, .unmodelled w) => .unmodelled w
