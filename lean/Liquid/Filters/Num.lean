import Liquid.Call
import Liquid.Utf8
/-!
# Numeric filters (DESIGN §4, C17) and the two value filters `default`, `size`

Each definition follows the Go body in `filters/standard_filters.go` (after the repairs D17:
`modulo` by zero is an error, D14: `divided_by` accepts `uint`/`uint64` divisors). Floats are exact
rationals. Go's `+ - * /` on `float64` are IEEE-754 operations: the exact result rounded to nearest,
ties to even — `f64Round (a ∘ b)`; in particular the result is *exact* whenever the exact result is
`Representable`. `math.Abs/Floor/Ceil` and `math.Mod` are exact. Outside the model (`unmodelled`):
results Go would sign negative zero (`0 * -1`, `-4 mod 2`, `0 / -2`), overflow to ±Inf, NaN, and
float→int conversions out of the `int64` range (implementation-defined).
-/

namespace Num

/-- the float64 result of an operation whose exact result is `q` -/
def fltResult (q : Rat) (negZero : Bool := false) : Res Cause (Except Cause GoVal) :=
  (f64Round q negZero).bind fun r => ret (.flt .f64 r)

/-- `int(f)` for a whole `f` (Go `int` is 64 bits) -/
def intResult (n : Int) : Res Cause (Except Cause GoVal) :=
  if inInt64 n then ret (.int .int n) else .unmodelled "float→int conversion out of range is implementation-defined"

def badArgs : Res Cause (Except Cause GoVal) := .panic "filter called with arguments of the wrong type"

def ratAbs (q : Rat) : Rat := if q < 0 then -q else q

/-- `math.Abs` -/
def abs : FilterImpl
  | [.val (.flt .f64 a)] => ret (.flt .f64 (ratAbs a))
  | _ => badArgs

/-- `int(math.Ceil(a))` -/
def ceil : FilterImpl
  | [.val (.flt .f64 a)] => intResult a.ceil
  | _ => badArgs

/-- `int(math.Floor(a))` -/
def floor : FilterImpl
  | [.val (.flt .f64 a)] => intResult a.floor
  | _ => badArgs

def plus : FilterImpl
  | [.val (.flt .f64 a), .val (.flt .f64 b)] => fltResult (a + b)
  | _ => badArgs

def minus : FilterImpl
  | [.val (.flt .f64 a), .val (.flt .f64 b)] => fltResult (a - b)
  | _ => badArgs

def times : FilterImpl
  | [.val (.flt .f64 a), .val (.flt .f64 b)] => fltResult (a * b) (decide (a < 0) != decide (b < 0))
  | _ => badArgs

/-- `math.Mod(a, b)` for `b ≠ 0`: `a - b * trunc(a / b)`, the sign of the dividend; always exact -/
def ratMod (a b : Rat) : Rat := a - b * (ratTrunc (a / b) : Rat)

def modulo : FilterImpl
  | [.val (.flt .f64 a), .val (.flt .f64 b)] =>
    if b == 0 then retErr .divZero else
    let m := ratMod a b
    if roundF64 m != some m then .unmodelled "math.Mod: remainder not representable (impossible for float operands)"
    else if m == 0 && a < 0 then .unmodelled "float64: negative zero"
    else ret (.flt .f64 m)
  | _ => badArgs

/-- the integer branch of `divided_by`: `int64(a) / int64(q)`, truncating both the receiver and the
quotient toward zero, two's-complement wrap for `MinInt64 / -1` -/
def divInt (a : Rat) (q : Int) : Res Cause (Except Cause GoVal) :=
  -- Go evaluates `int64(a)` first, but a zero divisor is an error whatever that value is
  if q == 0 then retErr .divZero else
  (floatToInt64 a).bind fun n => ret (.int .i64 (wrapInt64 (Int.tdiv n q)))

def divFloat (a q : Rat) : Res Cause (Except Cause GoVal) :=
  if q == 0 then retErr .divZero else fltResult (a / q) (decide (a < 0) != decide (q < 0))

/-- `divided_by` switches on the divisor's dynamic type -/
def dividedBy : FilterImpl
  | [.val (.flt .f64 a), .val b] =>
    match b with
    | .int _ q => divInt a q           -- every integer kind (uint/uint64 after D14); q fits its kind
    | .flt _ q => divFloat a q
    | _ => retErr (.other "invalid divisor")
  | _ => badArgs

/-- `math.Pow10(n)`, as `math/pow10.go` computes it from its tables of correctly rounded
constants: `pow10postab32[n/32] * pow10tab[n%32]` for `0 ≤ n ≤ 308`,
`pow10negtab32[-n/32] / pow10tab[-n%32]` for `-323 ≤ n ≤ 0`. For `0 ≤ n ≤ 22` the power of ten is
itself a float64 and the result is exact. `n > 308` is +Inf and `n < -323` is 0 (the filter then
produces NaN): `unmodelled`. -/
def pow10Go (n : Int) : Res Cause Rat :=
  let c (k : Nat) : Option Rat := roundF64 ((10 ^ k : Nat) : Rat)          -- the literal 1e<k>
  let cneg (k : Nat) : Option Rat := roundF64 (mkRat 1 (10 ^ k))          -- the literal 1e-<k>
  if 0 ≤ n && n ≤ 22 then .ok ((10 ^ n.toNat : Nat) : Rat)
  else if 0 ≤ n && n ≤ 308 then
    match c (32 * (n.toNat / 32)), c (n.toNat % 32) with
    | some a, some b => f64Round (a * b)
    | _, _ => .unmodelled "math.Pow10"
  else if -323 ≤ n && n < 0 then
    let m := (-n).toNat
    match cneg (32 * (m / 32)), c (m % 32) with
    | some a, some b => f64Round (a / b)
    | _, _ => .unmodelled "math.Pow10"
  else .unmodelled "math.Pow10: +Inf or 0 scale (the filter yields NaN)"

/-- `math.Floor(n*exp+0.5) / exp`, each operation rounded as Go rounds it -/
def roundTo (n : Rat) (p : Int) : Res Cause (Except Cause GoVal) :=
  (pow10Go p).bind fun e =>
  if e == 0 then .unmodelled "round: zero scale" else
  (f64Round (n * e) (n < 0)).bind fun x =>
  (f64Round (x + mkRat 1 2)).bind fun y =>
  fltResult (((y.floor : Int) : Rat) / e)

def round : FilterImpl
  | [.val (.flt .f64 n), pl] =>
    (pl.call (.int .int 0)).bind fun
      | .int .int p => roundTo n p
      | _ => badArgs
  | _ => badArgs

/-! ## `default`, `size` -/

/-- `values.IsEmpty` (its argument is already a Liquid value here) -/
def isEmpty : GoVal → Bool
  | .str s => s.isEmpty
  | .bytes s => s.isEmpty
  | .slice _ xs => xs.isEmpty
  | .array _ xs => xs.isEmpty
  | .map _ _ kvs => kvs.isEmpty
  | .mapSlice kvs => kvs.isEmpty
  | .keyedMap kvs => kvs.isEmpty
  | .bool b => !b
  | _ => false

def default : FilterImpl
  | [.val v, .val d] =>
    let empty := match v with
      | .nil => true
      | .bool false => true
      | w => isEmpty w.toLiquid
    ret (if empty then d else v)
  | _ => badArgs

/-- `Range.Len` (after the D6 repair): `e - b + 1`, 0 when `e < b`, saturating at the largest `int` -/
def rangeLen (a b : Int) : Int :=
  if b < a then 0 else if b - a ≥ maxInt64 then maxInt64 else b - a + 1

/-- `values.Length` (after `fixes/size-of-range`: a range has the length of its items) -/
def size : FilterImpl
  | [.val v] =>
    match v.toLiquid with
    | .range a b => ret (.int .int (rangeLen a b))
    | .slice _ xs => ret (.int .int xs.length)
    | .array _ xs => ret (.int .int xs.length)
    | .bytes s => ret (.int .int s.length)
    | .mapSlice kvs => ret (.int .int kvs.length)
    | .str s => ret (.int .int (decodeRunes s).length)
    | _ => ret (.int .int 0)
  | _ => badArgs

def bn (s : String) : Bytes := s.toUTF8.toList

/-- the implementations this file contributes to the filter table -/
def impls : List (Bytes × FilterImpl) := [
  (bn "abs", abs), (bn "ceil", ceil), (bn "floor", floor), (bn "plus", plus), (bn "minus", minus),
  (bn "times", times), (bn "modulo", modulo), (bn "divided_by", dividedBy), (bn "round", round),
  (bn "default", default), (bn "size", size)]

end Num
