import Proofs.DecEq
import Proofs.Oracles
import Proofs.SrcItems
import Proofs.C07LocatedLemmas
/-!
# C07, from source bytes — every error of `run` is located at a tag or object of the source

`run P O cfg fs fuel src line env` is the whole pipeline: tokenizer, block parser, compiler, renderer into a
buffer. The theorems below say where the error it returns points, for EVERY source text, delimiter set,
value layer, file system and environment — compile-time errors (nesting, syntax of objects, tags and
clauses, unknown tags) and render-time errors (evaluation, filters, strict variables, `break` outside a
loop, …) alike.
-/

/-- **C07 (every error is located at a tag or object of the source), from source bytes.** Whenever the
    pipeline returns an error `e` for a source none of whose tags is named `include`, there is a token `t`
    of the source — `scan cfg.delims src line = pre ++ t :: rest` — that is a TAG or an OBJECT (never a
    text, never 0 or an invented line), such that
    * `e.line = t.line`,
    * `t.line = line + countNL (srcs pre)`: the start line plus the number of newline bytes of the source
      text before `t`, where `src = srcs pre ++ t.source ++ srcs rest` (the token sources partition `src`),
    * `e.pathSet = true`: the error names the configured template path.
    (An error of `run` excludes output: `run_error_no_output`.) -/
theorem run_error_at_tag_or_object (P : Prims) (O : OutPrims) (cfg : Cfg) (fs : FS) (fuel : Nat) (src : Bytes) (line : Nat)
    (env : Env) (e : SErr) (hni : NoIncludeTag (scan cfg.delims src line))
    (h : run P O cfg fs fuel src line env = .err e) :
    ∃ pre t rest, scan cfg.delims src line = pre ++ t :: rest ∧ (t.ty = .tag ∨ t.ty = .obj) ∧
      e.line = t.line ∧ t.line = line + countNL (srcs pre) ∧ src = srcs pre ++ (t.source ++ srcs rest) ∧
      e.pathSet = true := by
  rcases run_err_cases h with hs | ⟨la, ⟨t, ht, _, _, hty, hn⟩, _⟩
  · obtain ⟨pre, t, rest, h1, h2, h3, h4, h5⟩ := tagObjLine_split cfg.delims src line _ hs.1
    exact ⟨pre, t, rest, h1, h2, h3.symm, h4, h5, hs.2⟩
  · -- the second alternative speaks of an include tag of the source, and there is none
    exact absurd ⟨hty, hn⟩ (hni t ht)

/-- **C07 on spelled templates.** For a template `items` (clean, any good delimiters) without an `include`
    tag: an error of `run` on its source text points at an item that is a tag or an object; its line is the
    start line plus the newlines of the text spelled before that item; it names the template's path. -/
theorem run_spell_error_at_item (P : Prims) (O : OutPrims) (cfg : Cfg) (fs : FS) (fuel : Nat) (items : List Item) (line : Nat)
    (env : Env) (e : SErr)
    (hg : GoodDelims (Delims.ofList cfg.delims)) (hc : Clean (Delims.ofList cfg.delims) items) (hni : NoIncludeItem items)
    (h : run P O cfg fs fuel (spell (Delims.ofList cfg.delims) items) line env = .err e) :
    ∃ pre it post, items = pre ++ it :: post ∧ it.isText = false ∧
      e.line = line + countNL (spell (Delims.ofList cfg.delims) pre) ∧ e.pathSet = true := by
  have hs := scan_spell cfg.delims items line hg hc
  have hni' : NoIncludeTag (scan cfg.delims (spell (Delims.ofList cfg.delims) items) line) :=
    hs ▸ noIncludeTag_tokensOf _ items line hni
  obtain ⟨pre, t, rest, h1, h2, h3, _, _, h6⟩ := run_error_at_tag_or_object P O cfg fs fuel _ line env e hni' h
  rw [hs] at h1
  obtain ⟨ipre, it, ipost, g1, g2, g3⟩ := mem_tokensOf_item _ items line t (by rw [h1]; simp) h2
  exact ⟨ipre, it, ipost, g1, g2, by rw [h3, g3, Item.mainTok_line], h6⟩

/-- `a⏎{{ y }}` (strict variables, `y` unbound, start line 1): the render fails at line 2 … -/
theorem c07_ex_render (P : Prims) (O : OutPrims) (fs : FS) :
    run P O strictCfg fs 1 [97, 10, 123, 123, 32, 121, 32, 125, 125] 1 [] =
      .err ⟨2, true, .other "undefinedVariable", .byCause⟩ :=
  run_of_runBot P O _ fs 1 _ _ _ (by decide +kernel) rfl

/-- … and the theorem finds the object token `{{ y }}`, whose line is 1 + the one newline before it -/
example (P : Prims) (O : OutPrims) (fs : FS) :
    ∃ pre t rest, scan strictCfg.delims [97, 10, 123, 123, 32, 121, 32, 125, 125] 1 = pre ++ t :: rest ∧
      (t.ty = .tag ∨ t.ty = .obj) ∧ (2 : Nat) = t.line ∧ t.line = 1 + countNL (srcs pre) ∧
      [97, 10, 123, 123, 32, 121, 32, 125, 125] = srcs pre ++ (t.source ++ srcs rest) ∧ true = true :=
  run_error_at_tag_or_object P O strictCfg fs 1 _ 1 [] _ (by decide +kernel) (c07_ex_render P O fs)

/-- `{% if x %}⏎{% assign %}{% endif %}`: a compile-time error (the `assign` has no arguments) at line 2, whatever the
    value layer and environment -/
theorem c07_ex_compile (P : Prims) (O : OutPrims) (fs : FS) (env : Env) :
    run P O {} fs 1 (spell Delims.default [tg nmIf [120], .text [10], tg nmAssign [], tg (endPrefix ++ nmIf) []]) 1 env =
      .err ⟨2, true, .none, .tagSyntax⟩ := by
  rw [run_eq_runCompiled, show compileSource ({} : Cfg).delims _ 1 = .err ⟨2, true, .none, .tagSyntax⟩ from by decide +kernel]
  rfl

example (P : Prims) (O : OutPrims) (fs : FS) (env : Env) :
    ∃ pre it post, [tg nmIf [120], .text [10], tg nmAssign [], tg (endPrefix ++ nmIf) []] = pre ++ it :: post ∧ it.isText = false ∧
      (2 : Nat) = 1 + countNL (spell Delims.default pre) ∧ true = true :=
  run_spell_error_at_item P O {} fs 1 _ 1 env _ (by decide +kernel) (by decide +kernel) (by decide +kernel) (c07_ex_compile P O fs env)

/-! ## The side condition "no `include` tag" is needed

`{% include "f" %}` where the file `f` is `⏎⏎{{ y }}` (strict variables, `y` unbound): the error comes from the
included file and carries ITS line — the include tag's line 1 plus the two newlines before the object — while
the only token of the including source stands at line 1. -/
def c07IncFs : FS := ⟨fun p => if p = [102] then .content [10, 10, 123, 123, 32, 121, 32, 125, 125] else .notExist, fun _ => none⟩

/-- **C07 (counterexample with an `include` tag).** The error's line is a line of the included file, not of a token of the source. -/
theorem include_error_line (P : Prims) (O : OutPrims) :
    run P O strictCfg c07IncFs 1 (spell Delims.default [tg nmInclude [34, 102, 34]]) 1 [] =
      .err ⟨3, true, .other "undefinedVariable", .byCause⟩ ∧
    ∀ t ∈ scan strictCfg.delims (spell Delims.default [tg nmInclude [34, 102, 34]]) 1, t.line ≠ 3 :=
  ⟨run_of_bot P O _ _ _ _ _ _ (by rw [run_eq_S]; decide +kernel) rfl, by decide +kernel⟩
