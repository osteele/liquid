import Proofs.DecEq
import Proofs.CompareLemmas
import Proofs.C10
/-!
# Property C09 — comparison, `contains` and boolean operators follow the documented value rules

The theorems are about the model `Liquid/Compare.lean` of `values.Equal`, `values.Less`, the
`Value` wrappers and the grammar actions (after the repairs `fixes/C09-1..3`, `fixes/map-contains-like-lookup`,
`fixes/nested-drops-resolved`); the `cmp`
correspondence stream ties that model to the real parser and evaluator on every run.

Vocabulary (`opEq` … `truthy`: `Liquid/Compare.lean`; `strip`, `kindOf`, `WF`, `numOK`, `numExact`:
`Proofs/CompareLemmas.lean`):
* `opEq a b`, `opNe`, `opLt`, `opGt`, `opLe`, `opGe`, `opContains`, `opAnd`, `opOr`, `truthy a`:
  the grammar actions applied to the variables bound to the Go values `a`, `b`; results are
  `Res.ok bool`, and `Res.panic` where the Go code would panic.
* `strip a`: what the operator sees of an operand (`ctx.Get`'s `ToLiquid`, `ValueOf`'s pointer
  dereference, the `dropWrapper`'s `Resolve`, `Interface()`).
* `kindOf`: nil / bool / number / string / array / map / other.
* `WF a`: the operand is inside the model (no pointer below the top level, no harness struct, no
  drop yielding a drop, `[]byte`/`IterationKeyedMap` rewritten by the driver) and every map in it
  has pairwise distinct scalar keys, as every Go map has. There are no NaNs in the model.
-/

open Cmp

/-- `a != b` is the negation of `a == b` -/
theorem ne_not_eq (a b : GoVal) : opNe a b = (opEq a b).bind fun r => .ok (!r) := rfl

example : opEq (.int .u8 1) (.int .int 1) = .ok true ∧ opNe (.int .u8 1) (.int .int 1) = .ok false := by
  decide +kernel

/-- `a > b` is `b < a` -/
theorem gt_swap (a b : GoVal) : opGt a b = opLt b a := rfl

example : opGt (.str [98]) (.str [97]) = .ok true := by decide +kernel

/-- `a <= b` is `a < b || a == b` (Go's short-circuit `||`) -/
theorem le_def (a b : GoVal) :
    opLe a b = (opLt a b).bind fun l => if l then .ok true else opEq a b := rfl

/-- `a >= b` is `a > b || a == b` -/
theorem ge_def (a b : GoVal) :
    opGe a b = (opGt a b).bind fun l => if l then .ok true else opEq a b := rfl

/-- the same two facts on Boolean results -/
theorem le_ge_bool (a b : GoVal) {l g e : Bool} (hl : opLt a b = .ok l) (hg : opGt a b = .ok g)
    (he : opEq a b = .ok e) : opLe a b = .ok (l || e) ∧ opGe a b = .ok (g || e) := by
  rw [le_def, ge_def, hl, hg, he]
  cases l <;> cases g <;> simp

example : opLe (.int .int 1) (.flt .f64 1) = .ok true ∧ opGe (.int .int 1) (.flt .f64 2) = .ok false := by
  decide +kernel

/-- equality is reflexive -/
theorem equal_refl (a : GoVal) (h : WF a) : opEq a a = .ok true := by
  rw [opEq_eq_equal]
  exact equal_refl_wf h

example : WF (.map .str .any [(.str [97], .slice .any [.int .int 1, .nil])]) := by decide +kernel
example : WF (.drop (.slice .any [.drop (.int .i8 1), .mapSlice [(.str [97], .flt .f64 2)]])) := by decide +kernel

/-- equality is symmetric -/
theorem equal_symm (a b : GoVal) (ha : WF a) (hb : WF b) : opEq a b = opEq b a := by
  rw [opEq_eq_equal, opEq_eq_equal]
  obtain ⟨r, h1, h2⟩ := equal_totSym ha hb
  rw [h1, h2]

example : opEq (.map .str .any [(.str [97], .int .int 1), (.str [98], .int .int 2)])
    (.drop (.map .str (.flt .f64) [(.str [97], .flt .f64 1), (.str [98], .flt .f64 2)])) = .ok true := by
  decide +kernel

/-- on well-formed operands `==` always yields a Boolean -/
theorem equal_total (a b : GoVal) (ha : WF a) (hb : WF b) : ∃ r, opEq a b = .ok r := by
  rw [opEq_eq_equal]
  obtain ⟨r, h1, _⟩ := equal_totSym ha hb
  exact ⟨r, h1⟩

/-- nil equals only nil -/
theorem equal_nil (a : GoVal) :
    opEq a .nil = .ok (strip a).isNil ∧ opEq .nil a = .ok (strip a).isNil := by
  rw [opEq_eq, opEq_eq]
  exact ⟨equalTL_nil_right _, equalTL_nil_left _⟩

example : opEq (.ptr .nil) .nil = .ok true ∧ opEq (.drop .nil) .nil = .ok true ∧ opEq .nilPtr .nil = .ok true ∧
    opEq (.bool false) .nil = .ok false ∧ opEq (.slice .any []) .nil = .ok false := by decide +kernel

/-- a value of one kind never equals a value of another kind -/
theorem equal_kind (a b : GoVal) (hk : kindOf (strip a) ≠ kindOf (strip b))
    (ha : kindOf (strip a) ≠ .other) (hb : kindOf (strip b) ≠ .other) : opEq a b = .ok false := by
  rw [opEq_eq]
  exact equalTL_unlike (by rwa [kindOf_eq ha, kindOf_eq hb] at hk)

example : opEq (.int .int 1) (.str [49]) = .ok false ∧ opEq (.bool true) (.int .int 1) = .ok false ∧
    opEq (.slice .any []) (.map .str .any []) = .ok false := by decide +kernel
example : opEq (.int .int 1) (.drop (.str [49])) = .ok false :=
  equal_kind _ _ (by decide +kernel) (by decide +kernel) (by decide +kernel)

/-- arrays are equal exactly when they have the same length and are element-wise equal -/
theorem equal_array (a b : GoVal) (xs ys : List GoVal) (ha : seqElems (strip a) = some xs)
    (hb : seqElems (strip b) = some ys) :
    opEq a b = .ok true ↔ xs.length = ys.length ∧
      ∀ i (h : i < xs.length) (h' : i < ys.length), equal xs[i] ys[i] = .ok true := by
  rw [opEq_eq, equalTL_seq ha hb]
  by_cases hl : xs.length = ys.length
  · simp [hl, equalList_true_iff xs ys]
  · simp [hl]

example : (seqElems (strip (.drop (.array (.int .int) [.int .int 1, .int .int 2])))).isSome = true ∧
    opEq (.drop (.array (.int .int) [.int .int 1, .int .int 2])) (.slice .any [.flt .f64 1, .int .u8 2]) = .ok true ∧
    opEq (.slice .any [.int .int 1]) (.slice .any [.int .int 1, .int .int 2]) = .ok false ∧
    opEq (.slice .any [.slice .any [.int .int 1]]) (.slice .any [.slice .any [.int .int 2]]) = .ok false := by
  decide +kernel
example : ([GoVal.int .int 1, .int .int 2].length = [GoVal.flt .f64 1, .int .u8 2].length) ∧
    ∀ i (h : i < 2) (h' : i < 2), equal [GoVal.int .int 1, .int .int 2][i] [GoVal.flt .f64 1, .int .u8 2][i] = .ok true :=
  (equal_array (.drop (.array (.int .int) [.int .int 1, .int .int 2])) (.slice .any [.flt .f64 1, .int .u8 2])
    _ _ (by rfl) (by rfl)).1 (by decide +kernel)

/-- the general form: each number is converted to the join type of the two (`float64` as soon as
one of them is a float) and the converted values are compared -/
theorem equal_num_join (a b : GoVal) (p q : Rat) (hp : joinVal (strip a) (strip b) = some p)
    (hq : joinVal (strip b) (strip a) = some q) (oa : numOK (strip a)) (ob : numOK (strip b)) :
    opEq a b = .ok (decide (p = q)) := by
  obtain ⟨sx, sy, h1, h2, he, _⟩ := joinVal_scalar hp hq oa ob
  rw [opEq_scalar h1 h2, he]

/-- numbers compare by numeric value: integers of all ten widths exactly, an integer with a float
when it is in the range `float64` represents exactly -/
theorem equal_num (a b : GoVal) (x y : Rat) (hx : numVal (strip a) = some x)
    (hy : numVal (strip b) = some y) (oa : numOK (strip a)) (ob : numOK (strip b))
    (ea : numExact (strip a) (strip b)) (eb : numExact (strip b) (strip a)) :
    opEq a b = .ok (decide (x = y)) := by
  exact equal_num_join a b x y (joinVal_exact hx (by simp [hy]) ea) (joinVal_exact hy (by simp [hx]) eb) oa ob

example : opEq (.int .u64 18446744073709551615) (.int .int (-1)) = .ok false ∧
    opEq (.int .u8 200) (.int .i64 200) = .ok true ∧ opEq (.int .u16 2) (.flt .f32 2) = .ok true ∧
    -- beyond 2^53 the join type decides: 2^53+1 converts to 2^53
    opEq (.int .i64 9007199254740993) (.flt .f64 9007199254740992) = .ok true := by decide +kernel
example : opEq (.int .u8 200) (.ptr (.flt .f64 200)) = .ok (decide ((200 : Rat) = 200)) :=
  equal_num _ _ 200 200 (by decide +kernel) (by decide +kernel) (by decide +kernel) (by decide +kernel)
    (by decide +kernel) (by decide +kernel)
example : opEq (.int .i64 9007199254740993) (.flt .f64 9007199254740992) =
    .ok (decide ((9007199254740992 : Rat) = 9007199254740992)) :=
  equal_num_join _ _ _ _ (by decide +kernel) (by decide +kernel) (by decide +kernel) (by decide +kernel)

theorem less_num_join (a b : GoVal) (p q : Rat) (hp : joinVal (strip a) (strip b) = some p)
    (hq : joinVal (strip b) (strip a) = some q) (oa : numOK (strip a)) (ob : numOK (strip b)) :
    opLt a b = .ok (decide (p < q)) := by
  obtain ⟨sx, sy, h1, h2, _, hl⟩ := joinVal_scalar hp hq oa ob
  rw [opLt_scalar, h1, h2]; exact congrArg Res.ok hl

/-- numbers are ordered by numeric value (same guard as `equal_num`) -/
theorem less_num (a b : GoVal) (x y : Rat) (hx : numVal (strip a) = some x)
    (hy : numVal (strip b) = some y) (oa : numOK (strip a)) (ob : numOK (strip b))
    (ea : numExact (strip a) (strip b)) (eb : numExact (strip b) (strip a)) :
    opLt a b = .ok (decide (x < y)) := by
  exact less_num_join a b x y (joinVal_exact hx (by simp [hy]) ea) (joinVal_exact hy (by simp [hx]) eb) oa ob

example : opLt (.int .int (-1)) (.int .u64 18446744073709551615) = .ok true ∧
    opLt (.int .u64 9223372036854775808) (.int .i64 9223372036854775807) = .ok false ∧
    opLt (.int .u8 1) (.flt .f64 (3/2)) = .ok true := by decide +kernel
example : opLt (.int .i64 (-5)) (.int .u64 18446744073709551615) =
    .ok (decide ((-5 : Rat) < 18446744073709551615)) :=
  less_num _ _ _ _ (by decide +kernel) (by decide +kernel) (by decide +kernel) (by decide +kernel)
    (by decide +kernel) (by decide +kernel)
example : opLt (.int .u64 18446744073709551615) (.flt .f64 18446744073709551616) =
    .ok (decide ((18446744073709551616 : Rat) < 18446744073709551616)) :=
  less_num_join _ _ _ _ (by decide +kernel) (by decide +kernel) (by decide +kernel) (by decide +kernel)

/-- strings are ordered lexicographically on their bytes (`List`'s `<`) -/
theorem less_str (a b : GoVal) (s t : Bytes) (ha : strip a = .str s) (hb : strip b = .str t) :
    opLt a b = .ok (decide (s < t)) := by
  rw [opLt_scalar, ha, hb]; rfl

example : opLt (.str [49, 48]) (.str [57]) = .ok true ∧ opLt (.str [97]) (.str [97, 98]) = .ok true ∧
    opLt (.str [98]) (.str [97, 98]) = .ok false := by decide +kernel
example : opLt (.drop (.str [49, 48])) (.str [57]) = .ok (decide (([49, 48] : Bytes) < [57])) :=
  less_str _ _ _ _ (by rfl) (by rfl)

/-- an ordering between unlike kinds is false -/
theorem less_unlike (a b : GoVal) (hk : kindOf (strip a) ≠ kindOf (strip b))
    (ha : kindOf (strip a) ≠ .other) (hb : kindOf (strip b) ≠ .other) : opLt a b = .ok false := by
  rw [opLt_eq]
  exact lessTL_unlike (by rwa [kindOf_eq ha, kindOf_eq hb] at hk)

example : opLt (.int .int 1) (.str [50]) = .ok false ∧ opGt (.int .int 1) (.str [50]) = .ok false := by
  decide +kernel
example : opLt (.slice .any []) (.drop (.int .u8 3)) = .ok false :=
  less_unlike _ _ (by decide +kernel) (by decide +kernel) (by decide +kernel)

/-- an ordering with nil is false -/
theorem less_nil (a b : GoVal) (h : (strip a).isNil = true ∨ (strip b).isNil = true) :
    opLt a b = .ok false := by
  rw [opLt_scalar]
  rcases h with h | h <;> rw [(GoVal.isNil_iff _).1 h]
  · rfl
  · cases scalar (strip a) <;> rfl

example : opLt .nil (.int .int 1) = .ok false ∧ opLt (.int .int 1) .nil = .ok false ∧
    opLe .nil .nil = .ok true := by decide +kernel
example : opLt (.ptr .nil) (.int .int 1) = .ok false := less_nil _ _ (Or.inl (by decide +kernel))

/-- string `contains` string is the substring test -/
theorem contains_str (a b : GoVal) (s t : Bytes) (ha : strip a = .str s) (hb : strip b = .str t) :
    opContains a b = .ok (containsB s t) ∧ (containsB s t = true ↔ t <:+: s) := by
  rw [opContains_eq, ha, hb]
  exact ⟨by simp [wrapOf, valueOf, containsW], containsB_iff s t⟩

example : opContains (.str [97, 98, 99]) (.str [98, 99]) = .ok true ∧
    opContains (.str [97, 98, 99]) (.str [99, 98]) = .ok false := by decide +kernel
example : opContains (.str [97, 98, 99]) (.drop (.str [98, 99])) = .ok (containsB [97, 98, 99] [98, 99]) :=
  (contains_str _ _ _ _ (by rfl) (by rfl)).1

/-- array `contains` is membership by `==` (`values.Equal`, the function behind `opEq`) -/
theorem contains_arr (a b : GoVal) (xs : List GoVal) (ha : seqElems (strip a) = some xs) :
    opContains a b = containsList xs (strip b) ∧
    ((∀ x ∈ xs, (equal x (strip b)).isOk = true) →
      (opContains a b = .ok true ↔ ∃ x ∈ xs, equal x (strip b) = .ok true)) := by
  have h : opContains a b = containsList xs (strip b) := by
    rw [opContains_eq]
    rcases seqElems_cases ha with ⟨t, e⟩ | ⟨t, e⟩ <;> rw [e] <;> rfl
  exact ⟨h, fun hok => by rw [h]; exact containsList_true_iff xs _ hok⟩

example : opContains (.slice .any [.int .int 1, .str [97]]) (.flt .f64 1) = .ok true ∧
    opContains (.slice .any [.int .int 1, .str [97]]) (.str [98]) = .ok false := by decide +kernel
example : opContains (.slice .any [.int .int 1, .str [97]]) (.flt .f64 1) =
    containsList [.int .int 1, .str [97]] (.flt .f64 1) :=
  (contains_arr _ _ _ (by rfl)).1

/-- map `contains` is key membership, by the same lookup as `m[k]` (`GoVal.indexValue`): the needle is
converted to the map's key type as far as Go allows (an integer never becomes a string key), and the map
contains it exactly when that key has an entry -/
theorem contains_map (a b : GoVal) (kt vt : Ty) (kvs : List (GoVal × GoVal))
    (ha : strip a = .map kt vt kvs) :
    opContains a b =
      (if (strip b).isNil then .ok false
       else match GoVal.convertKey kt (strip b) with
         | none => .unmodelled "map key conversion"
         | some none => .ok false
         | some (some k) => .ok (GoVal.mapFind kvs k).isSome) := by
  rw [opContains_eq, ha]
  simp only [wrapOf, valueOf, containsW, mapView, bind, Res.bind]
  by_cases hn : (strip b).isNil = true
  · simp [hn]
  · simp only [hn, if_false, Bool.false_eq_true]
    cases GoVal.convertKey kt (strip b) with
    | none => rfl
    | some o => cases o <;> rfl

/-- `contains` agrees with indexing: when the needle converts to a key, the map contains it iff
`m[k]` finds an entry (the value `indexValue` returns is that entry) -/
theorem contains_map_agrees_with_lookup (a b : GoVal) (kt vt : Ty) (kvs : List (GoVal × GoVal)) (k : GoVal)
    (ha : strip a = .map kt vt kvs) (hb : (strip b).isNil = false)
    (hk : GoVal.convertKey kt (strip b) = some (some k)) :
    opContains a b = .ok (GoVal.mapFind kvs k).isSome := by
  rw [contains_map a b kt vt kvs ha, hb, hk]; rfl

/-- for the usual string-keyed map and a string needle -/
theorem contains_map_str (a b : GoVal) (vt : Ty) (kvs : List (GoVal × GoVal)) (s : Bytes)
    (ha : strip a = .map .str vt kvs) (hb : strip b = .str s) :
    ∃ r, opContains a b = .ok r ∧ (r = true ↔ some (Key.str s) ∈ keyList kvs) := by
  rw [contains_map a b .str vt kvs ha, hb]
  exact ⟨(GoVal.mapFind kvs (.str s)).isSome, by simp [GoVal.isNil, GoVal.convertKey], mapFind_str_isSome_iff kvs s⟩

/-- an integer needle is never a key of a string-keyed map (no code-point conversion) -/
theorem contains_map_str_int (a b : GoVal) (vt : Ty) (kvs : List (GoVal × GoVal)) (k : IntKind) (n : Int)
    (ha : strip a = .map .str vt kvs) (hb : strip b = .int k n) : opContains a b = .ok false := by
  rw [contains_map a b .str vt kvs ha, hb]; simp [GoVal.isNil, GoVal.convertKey]

example : opContains (.map .str .any [(.str [97], .int .int 1)]) (.str [97]) = .ok true ∧
    opContains (.map .str .any [(.str [97], .int .int 1)]) (.str [98]) = .ok false ∧
    opContains (.map .str .any [(.str [97], .int .int 1)]) (.int .int 1) = .ok false := by decide +kernel
/-- a map with keys of type `any` (what a YAML document unmarshals to) contains its string key;
    an `int64`-keyed map contains the `int` 2 -/
example : opContains (.map .any .any [(.str [97], .int .int 1)]) (.str [97]) = .ok true ∧
    opContains (.map (.int .i64) .any [(.int .i64 2, .str [120])]) (.int .int 2) = .ok true ∧
    opContains (.map (.int .i64) .any [(.int .i64 2, .str [120])]) (.int .int 3) = .ok false := by decide +kernel
example : ∃ r, opContains (.map .str .any [(.str [97], .int .int 1)]) (.drop (.str [97])) = .ok r ∧
    (r = true ↔ some (Key.str [97]) ∈ keyList [(.str [97], .int .int 1)]) :=
  contains_map_str _ _ _ _ _ (by rfl) (by rfl)

/-- exactly nil and false are falsy -/
theorem truthy_iff (a : GoVal) :
    ∃ r, truthy a = .ok r ∧ (r = true ↔ strip a ≠ .nil ∧ strip a ≠ .bool false) := by
  refine ⟨_, truthy_eq_test a, ?_⟩
  rw [test_truthy_iff, strip_eq_unwrap]

/-- `and` / `or` are the Boolean connectives of the operands' truthiness -/
theorem and_or_truthy (a b : GoVal) {x y : Bool} (hx : truthy a = .ok x) (hy : truthy b = .ok y) :
    opAnd a b = .ok (x && y) ∧ opOr a b = .ok (x || y) := by
  have hx' : (operand a).test = .ok x := hx
  have hy' : (operand b).test = .ok y := hy
  simp only [opAnd, opOr, andW, orW, Res.bind_eq, hx', Res.bind_ok, hy']
  cases x <;> simp

example : truthy (.int .int 0) = .ok true ∧ truthy (.str []) = .ok true ∧ truthy (.slice .any []) = .ok true ∧
    truthy .nil = .ok false ∧ truthy (.bool false) = .ok false ∧ truthy (.drop (.bool false)) = .ok false ∧
    opAnd (.int .int 0) .nil = .ok false ∧ opOr .nil (.str []) = .ok true := by decide +kernel

/-- no relational operator or `contains` panics, whatever the two values are -/
theorem rel_no_panic (o : Op) (a b : GoVal) : (relW o (operand a) (operand b)).isPanic = false :=
  relW_noPanic o _ _ (operand_ok a) (operand_ok b)

/-- spelled out for the seven operators, truthiness, `and` and `or` -/
theorem ops_no_panic (a b : GoVal) :
    (opEq a b).isPanic = false ∧ (opNe a b).isPanic = false ∧ (opLt a b).isPanic = false ∧
    (opGt a b).isPanic = false ∧ (opLe a b).isPanic = false ∧ (opGe a b).isPanic = false ∧
    (opContains a b).isPanic = false ∧ (truthy a).isPanic = false ∧
    (opAnd a b).isPanic = false ∧ (opOr a b).isPanic = false := by
  exact ⟨rel_no_panic .eq a b, rel_no_panic .ne a b, rel_no_panic .lt a b, rel_no_panic .gt a b,
    rel_no_panic .le a b, rel_no_panic .ge a b, rel_no_panic .contains a b, (operand a).test_noPanic,
    andW_noPanic _ rfl, orW_noPanic _ rfl⟩

/-- a whole condition (relational operators, `and`, `or`, parentheses, variables and array
elements) never panics -/
theorem cond_no_panic (c : CE) (env : List GoVal) : (c.eval env).isPanic = false :=
  (CE.eval_noPanic env c).1

-- `==` on two maps and an uncomparable needle of an ordered map answer (the inputs of `fixes/C09-1`, `fixes/C09-3`)
example : opEq (.map .str .any [(.str [97], .int .int 1)]) (.map .str .any [(.str [97], .int .int 1)]) = .ok true ∧
    opContains (.mapSlice [(.slice .any [.int .int 1], .int .int 1)]) (.slice .any [.int .int 1]) = .ok false := by
  decide +kernel
