import Proofs.HyphenSourceRun
import Proofs.SrcRelRender
import Proofs.SrcCompileLines
import Proofs.C13Template
/-!
# A hyphen that faces a literal text, on source text (helpers for `Proofs/C13Source.lean`)

The site `… X -}}u …` (an object or tag `X` with a right hyphen, then the text `u`) at the top level of a
template, between two self-contained pieces, and its mirror image `… u{{- X …`: how the two sources compile
(`compile_faceR_site`, `compile_faceL_site`) and how two trees that differ in the lines of their tail render
(`runRoot_shift_tail`).
-/

def Item.clearR : Item → Item
  | .text s => .text s
  | .obj args hl _ wl wr => .obj args hl false wl wr
  | .tag name args hl _ wl wm wr => .tag name args hl false wl wm wr

def Item.clearL : Item → Item
  | .text s => .text s
  | .obj args _ hr wl wr => .obj args false hr wl wr
  | .tag name args _ hr wl wm wr => .tag name args false hr wl wm wr

/-- clearing one hyphen flag deletes no newline: with both flags cleared the two items are the same -/
theorem Item.spell_clearR_nl (d : Delims) (it : Item) : countNL (it.clearR.spell d) = countNL (it.spell d) := by
  rw [← Item.spell_dropHy_nl, ← Item.spell_dropHy_nl d it]
  cases it <;> rfl

theorem Item.spell_clearL_nl (d : Delims) (it : Item) : countNL (it.clearL.spell d) = countNL (it.spell d) := by
  rw [← Item.spell_dropHy_nl, ← Item.spell_dropHy_nl d it]
  cases it <;> rfl

theorem Item.tokens_clearR (d : Delims) (l : Nat) (it : Item) (h : it.hr = true) :
    (it.tokens d l).map unsrc = (it.clearR.tokens d l ++ [({ ty := .trimR } : Token)]).map unsrc := by
  cases it with
  | text s => cases h
  | obj args hl hr wl wr =>
    simp only [Item.hr] at h; subst h
    cases hl <;> simp [Item.tokens, Item.clearR, unsrc]
  | tag name args hl hr wl wm wr =>
    simp only [Item.hr] at h; subst h
    cases hl <;> simp [Item.tokens, Item.clearR, unsrc]

theorem Item.tokens_clearL (d : Delims) (l : Nat) (it : Item) (h : it.hl = true) :
    (it.tokens d l).map unsrc = (({ ty := .trimL } : Token) :: it.clearL.tokens d l).map unsrc := by
  cases it with
  | text s => cases h
  | obj args hl hr wl wr =>
    simp only [Item.hl] at h; subst h
    cases hr <;> simp [Item.tokens, Item.clearL, unsrc]
  | tag name args hl hr wl wm wr =>
    simp only [Item.hl] at h; subst h
    cases hr <;> simp [Item.tokens, Item.clearL, unsrc]

theorem append_cons_eq {α} (A : List α) (x : α) (r : List α) : A ++ x :: r = (A ++ [x]) ++ r := by simp

theorem Item.tokens_text (d : Delims) (l : Nat) (u : Bytes) :
    (Item.text u).tokens d l = [{ ty := .text, line := l, source := u }] := rfl
theorem Item.spell_text (d : Delims) (u : Bytes) : (Item.text u).spell d = u := rfl

theorem tokensOf_snoc (d : Delims) (A : List Item) (X : Item) (line : Nat) :
    tokensOf d (A ++ [X]) line = tokensOf d A line ++ X.tokens d (line + countNL (spell d A)) := by
  rw [tokensOf_append]
  simp only [tokensOf, List.append_nil]

theorem compiles_text_cons (d : Delims) (u : Bytes) (B : List Item) (l : Nat) {nB : List Node}
    (hB : compileTokens (tokensOf d B 0) = .ok nB) :
    compileTokens (tokensOf d (.text u :: B) l) = .ok (.text l u :: relNodes (· + (l + countNL u)) nB) :=
  compiles_append (compiles_text { ty := .text, line := l, source := u } rfl) (compiles_any_line d B (l + countNL u) hB)

/-- `A u B`: `A` compiles to `nA` on its own, `B` (placed at line 0) to `nB` -/
theorem compiles_text_between (d : Delims) (A : List Item) (u : Bytes) (B : List Item) (line : Nat) {nA nB : List Node}
    (hA : compileTokens (tokensOf d A line) = .ok nA) (hB : compileTokens (tokensOf d B 0) = .ok nB) :
    compileTokens (tokensOf d (A ++ .text u :: B) line) =
      .ok (nA ++ .text (line + countNL (spell d A)) u :: relNodes (· + (line + countNL (spell d A) + countNL u)) nB) := by
  rw [tokensOf_append]
  exact compiles_append hA (compiles_text_cons d u B _ hB)

theorem spell_snoc_clearR_nl (d : Delims) (A : List Item) (X : Item) :
    countNL (spell d (A ++ [X.clearR])) = countNL (spell d (A ++ [X])) := by
  simp only [spell_append, spell_single, countNL_append, Item.spell_clearR_nl]

/-- `A X -}}u B`: `A X }}` compiles to `nP` on its own, `B` (placed at line 0) to `nB` -/
theorem compile_faceR_site (d : Delims) (A : List Item) (X : Item) (u : Bytes) (B : List Item) (line : Nat)
    (hX : X.hr = true) (hrc : RawClosed (A ++ X :: .text u :: B)) (nP nB : List Node)
    (hP : compileTokens (tokensOf d (A ++ [X.clearR]) line) = .ok nP)
    (hB : compileTokens (tokensOf d B 0) = .ok nB) :
    compileTokens (tokensOf d (A ++ X :: .text u :: B) line) =
      .ok (nP ++ .trim false :: .text (line + countNL (spell d (A ++ [X]))) u ::
        relNodes (· + (line + countNL (spell d (A ++ [X])) + countNL u)) nB) := by
  -- up to the source of `X`, the tokens are those of `A X }}`, the trim marker, and those of `u B`
  refine (compileTokens_congr _ _ ?_ (rawSafe_tokensOf d _ line hrc)).trans
    (compiles_append hP (compiles_append (compiles_trimR { ty := .trimR } rfl) (compiles_text_cons d u B _ hB)))
  rw [tokensOf_append, tokensOf_snoc]
  simp only [tokensOf, List.map_append, Item.tokens_clearR d _ X hX, spell_append, spell_single, countNL_append,
    List.append_assoc, Nat.add_assoc]

/-- `A X }}u' B` -/
theorem compile_faceR_site0 (d : Delims) (A : List Item) (X : Item) (u' : Bytes) (B : List Item) (line : Nat)
    (nP nB : List Node)
    (hP : compileTokens (tokensOf d (A ++ [X.clearR]) line) = .ok nP)
    (hB : compileTokens (tokensOf d B 0) = .ok nB) :
    compileTokens (tokensOf d (A ++ X.clearR :: .text u' :: B) line) =
      .ok (nP ++ .text (line + countNL (spell d (A ++ [X]))) u' ::
        relNodes (· + (line + countNL (spell d (A ++ [X])) + countNL u')) nB) := by
  rw [append_cons_eq, ← spell_snoc_clearR_nl]
  exact compiles_text_between d _ u' B line hP hB

/-- `A u{{- X B`: `A` compiles to `nA` on its own, `{{ X B` (placed at line 0) to `nQ` -/
theorem compile_faceL_site (d : Delims) (A : List Item) (u : Bytes) (X : Item) (B : List Item) (line : Nat)
    (hX : X.hl = true) (hrc : RawClosed (A ++ .text u :: X :: B)) (nA nQ : List Node)
    (hA : compileTokens (tokensOf d A line) = .ok nA)
    (hQ : compileTokens (tokensOf d (X.clearL :: B) 0) = .ok nQ) :
    compileTokens (tokensOf d (A ++ .text u :: X :: B) line) =
      .ok (nA ++ .text (line + countNL (spell d A)) u :: .trim true ::
        relNodes (· + (line + countNL (spell d A) + countNL u)) nQ) := by
  -- up to the source of `X`, the tokens are those of `A`, the text, the trim marker, and those of `{{ X B`
  refine (compileTokens_congr _ _ ?_ (rawSafe_tokensOf d _ line hrc)).trans
    (compiles_append hA (compiles_append (compiles_text { ty := .text, line := _, source := u } rfl)
      (compiles_append (compiles_trimL { ty := .trimL } rfl) (compiles_any_line d (X.clearL :: B) _ hQ))))
  rw [tokensOf_append]
  simp only [tokensOf, Item.tokens_text, Item.spell_text, List.map_append, Item.tokens_clearL d _ X hX, Item.spell_clearL_nl,
    List.map_cons, List.cons_append, List.nil_append]

theorem lineRel_renderList_append (c : RCtx) {a b : List Node}
    (h : LineMRel StatusRel (renderList c a) (renderList c b)) :
    ∀ pre : List Node, LineMRel StatusRel (renderList c (pre ++ a)) (renderList c (pre ++ b))
  | [] => h
  | n :: pre => lineRel_renderList_cons c (relM_refl StatusRel.refl _) (lineRel_renderList_append c h pre)

/-- the same prefix, then the same self-contained piece placed at two different lines (no `include`
    in the piece): the results agree up to the line of the error. Both shifts are ≥ 1 because line 0 is not a line: `wrapError`
    tests for it (`e.line != 0`, `Loc.isZero`: an error or location with line 0 counts as unset), so the two trees must have
    their zeros at the same nodes (`lineRel_renderList` asks `g x = 0 ↔ g' x = 0`); this is the `1 ≤ line` of the theorems of
    `Proofs/C13Source.lean` -/
theorem runRoot_shift_tail (P : Prims) (O : OutPrims) (cfg : Cfg) (fs : FS) (fuel : Nat) (pre nB : List Node) (a b : Nat)
    (ha : 1 ≤ a) (hb : 1 ≤ b) (hn : noInclList nB = true) (env : Env) :
    (runRoot P O cfg fs fuel (pre ++ relNodes (· + a) nB) env).sameUpToLine
      (runRoot P O cfg fs fuel (pre ++ relNodes (· + b) nB) env) :=
  runRoot_rel P O cfg fs fuel env (lineRel_renderList_append _
    (lineRel_renderList _ (g := (· + a)) (g' := (· + b)) (fun x => by constructor <;> intro h <;> omega) nB hn) pre)

/-- the result reads the output only of a run that ends normally -/
theorem resOfRoot_congr_face (x y : Bytes × Prog.Outcome Status) (h2 : x.2 = y.2)
    (hd : ∀ out, x = (out, .ok .done) → y = (out, .ok .done)) : resOfRoot x = resOfRoot y := by
  obtain ⟨o, r⟩ := x
  obtain ⟨o', r'⟩ := y
  simp only at h2
  subst h2
  cases r with
  | ok st =>
    cases st with
    | done => rw [hd o rfl]
    | _ => rfl
  | err e => cases e <;> rfl
  | _ => rfl

theorem runRoot_faceR (P : Prims) (O : OutPrims) (cfg : Cfg) (fs : FS) (fuel : Nat) (pre post : List Node) (l : Nat) (u : Bytes)
    (env : Env) :
    runRoot P O cfg fs fuel (pre ++ .trim false :: .text l u :: post) env =
      runRoot P O cfg fs fuel (pre ++ .text l (trimLeftSpace u) :: post) env := by
  rw [runRoot_eq_resOfRoot, runRoot_eq_resOfRoot,
    renderRoot_congr (mkCtx P O cfg fs fuel) (hyphen_faces_text_right (mkCtx P O cfg fs fuel) pre post l u) env]

theorem runRoot_faceL (P : Prims) (O : OutPrims) (cfg : Cfg) (fs : FS) (fuel : Nat) (pre post : List Node) (l : Nat) (u : Bytes)
    (env : Env) :
    runRoot P O cfg fs fuel (pre ++ .text l u :: .trim true :: post) env =
      runRoot P O cfg fs fuel (pre ++ .text l (trimRightSpace u) :: post) env := by
  rw [runRoot_eq_resOfRoot, runRoot_eq_resOfRoot]
  have h := faceRel_root _ (gpair_faceL_site _ (incQuiet_mkCtx P O cfg fs fuel) pre post l u) env
  exact resOfRoot_congr_face _ _ h.1 h.2
