import Proofs.SrcCompileLines
/-!
# From the token list to the tree, for token lists that may contain `include` tags

The part of `elines_compileNode` … (Proofs/SrcCompileLines.lean) that asks nothing of the token list: the lines
of the compiled nodes other than texts, raw blocks and trim markers (`elinesList`, which counts an include node at
its tag's line) are lines of the tree's tag, object and block tokens, and a compile-time error carries such a line
and the template's path.
-/

def CLines (L : List Nat) (ns : List Node) : Prop := ∀ x, x ∈ elinesList ns → x ∈ L

theorem epostI_compileNode (L : List Nat) :
    ∀ a : AST, (∀ x, x ∈ a.etokLines → x ∈ L) → CPost (ELoc L) (CLines L) (compileNode a) :=
  fun a hL => (elines_compileNode L a hL).mono (fun _ h => h) (fun _ h => h.1)

theorem epostI_compileList (L : List Nat) :
    ∀ as : List AST, (∀ x, x ∈ etokLinesList as → x ∈ L) → CPost (ELoc L) (CLines L) (compileList as) :=
  fun as hL => (elines_compileList L as hL).mono (fun _ h => h) (fun _ h => h.1)

theorem epostI_compileClauses (L : List Nat) :
    ∀ cs : List (Token × List AST), (∀ x, x ∈ etokLinesClauses cs → x ∈ L) →
      CPost (ELoc L) (fun r => ∀ x, x ∈ elinesCClauses r → x ∈ L) (compileClauses cs) :=
  fun cs hL => (elines_compileClauses L cs hL).mono (fun _ h => h) (fun _ h => h.1)
