import Proofs.RepEq
/-!
# Relations for representation equivalence at the value layer (helper definitions and lemmas for C18)

The relations: `VRel` for values at the top of an expression, `ERel` for bindings, `LRel` for the answers
of lookups; `Unw u` says that `u` is its own `unwrap`. Then what a lookup does with an index that has parts
(`indexValue_container`: `rigidM i = false`, not only an `isContainer`) and with a sequence; these and `Unw` serve every relation
with views. That the operations of the value layer respect the relations is
proved from the views of related values (`Proofs/ValView.lean`, `RepEq.view` in `Proofs/RepEqRender.lean`).
-/

open GoVal

variable {d : Bool}

/-- values at the top of an expression are compared through `ValueOf(·).Interface()` -/
def VRel (d : Bool) (a b : GoVal) : Prop := RepEq d a.unwrap b.unwrap

/-- bindings: related as values; the renderer's `forloop` record is only related to itself -/
def ERel (d : Bool) (a b : GoVal) : Prop := VRel d a b ∧ (isRec a = true ∨ isRec b = true → a = b)

theorem VRel.refl (a : GoVal) : VRel d a a := RepEq.refl _
theorem VRel.trans {a b c : GoVal} (h : VRel d a b) (h' : VRel d b c) : VRel d a c := RepEq.trans h h'
theorem RepEq.vrel {a b : GoVal} (h : RepEq d a b) : VRel d a b := h.unwrap
theorem RepEq.erel {a b : GoVal} (h : RepEq d a b) : ERel d a b := ⟨h.unwrap, h.rec_eq⟩
theorem ERel.refl (a : GoVal) : ERel d a a := ⟨VRel.refl a, fun _ => rfl⟩

theorem VRel.toLiquid {a b : GoVal} (h : VRel d a b) : VRel d a.toLiquid b.toLiquid := by
  unfold VRel at *
  rwa [unwrap_toLiquid, unwrap_toLiquid]

def Unw (u : GoVal) : Prop := u.unwrap = u

theorem Unw.unwrap (v : GoVal) : Unw v.unwrap := unwrap_idem v
theorem Unw.noDrop {u : GoVal} (h : Unw u) : noDrop u = true := by rw [← h]; exact unwrap_noDrop u

def LRel (d : Bool) : LRes → LRes → Prop
  | .val a, .val b => RepEq d a b
  | .unmodelled w, .unmodelled w' => w = w'
  | _, _ => False

theorem LRel.refl (r : LRes) : LRel d r r := by cases r <;> simp [LRel, RepEq.refl]
theorem LRel.of_eq {r r' : LRes} (h : r = r') : LRel d r r' := h ▸ LRel.refl r

theorem normList_length {xs xs' : List GoVal} (h : normList d xs = normList d xs') : xs.length = xs'.length := by
  have := congrArg List.length h
  simpa [normList_eq_map] using this

theorem normKVs_length {kvs kvs' : List (GoVal × GoVal)} (h : normKVs d kvs = normKVs d kvs') : kvs.length = kvs'.length := by
  have := congrArg List.length h
  simpa [normKVs_eq_map] using this

theorem propertyValue_seq {u : GoVal} {xs : List GoVal} (h : Cmp.seqElems u = some xs) (name : Bytes) :
    propertyValue u name = propertyValue.propList name xs := by
  rcases Cmp.seqElems_cases h with ⟨t, rfl⟩ | ⟨t, rfl⟩ <;> rfl

theorem propertyValue_eq_unwrap (v : GoVal) (name : Bytes) : propertyValue v name = propertyValue v.unwrap name := by
  unfold propertyValue
  rw [unwrap_idem]

theorem indexValue_eq_unwrap (r i : GoVal) : indexValue r i = indexValue r.unwrap i.unwrap := by
  unfold indexValue
  rw [unwrap_idem, unwrap_idem]

theorem and_of_beq_and {α β : Type} [BEq α] [LawfulBEq α] [BEq β] [LawfulBEq β] {a a' : α} {b b' : β}
    (h : some (a == a' && b == b') = some true) : a = a' ∧ b = b' := by
  simpa using h

theorem ifaceEq_true {a b : GoVal} : ifaceEq a b = some true → a = b ∧ rigidM a = true := by
  fun_cases ifaceEq a b
  -- two booleans, two strings, two times
  case case2 | case5 | case16 => intro h; exact ⟨congrArg _ (eq_of_beq (Option.some.inj h)), rfl⟩
  -- two integers, two floats, two ranges
  case case3 | case4 | case15 => intro h; obtain ⟨rfl, rfl⟩ := and_of_beq_and h; exact ⟨rfl, rfl⟩
  -- nil and nil, a nil pointer and a nil pointer
  case case1 | case17 => exact fun _ => ⟨rfl, rfl⟩
  -- two containers of one kind (no answer), two values of different kinds (false)
  all_goals exact nofun

theorem mapSliceFind_container {i : GoVal} (hi : rigidM i = false) :
    ∀ kvs : List (GoVal × GoVal), mapSliceFind kvs i = .val .nil
  | [] => rfl
  | (k, v) :: r => by
    unfold mapSliceFind
    split
    · next h => rw [(ifaceEq_true h).2] at hi; cases hi
    · exact mapSliceFind_container hi r
    · exact mapSliceFind_container hi r

theorem convertKey_container {i : GoVal} (hi : rigidM i = false) (kt : Ty) : convertKey kt i = some none := by
  fun_cases convertKey kt i <;> first | rfl | cases hi

theorem indexList_container {i : GoVal} (hi : rigidM i = false) (xs : List GoVal) : indexValue.indexList xs i = .val .nil := by
  cases i <;> first | rfl | cases hi

theorem methodOnly_container {i : GoVal} (hi : rigidM i = false) : methodOnly i = .val .nil := by
  cases i <;> first | rfl | cases hi

theorem strIndex_container {i : GoVal} (hi : rigidM i = false) {α : Type} (f : Bytes → α) (d : α) :
    (match (generalizing := false) i with | .str s => f s | _ => d) = d := by
  cases i <;> first | rfl | cases hi

theorem indexValue_container {u i : GoVal} (hi : rigidM i = false) (hd : Unw i) : indexValue u i = .val .nil := by
  unfold indexValue
  rw [hd]
  split
  -- a list: the index is no number
  case h_1 | h_2 | h_3 => exact indexList_container hi _
  -- a map: the index does not convert to a key
  case h_4 => dsimp only; rw [convertKey_container hi]; split <;> rfl
  -- fields go by a string
  case h_5 | h_7 | h_8 => exact strIndex_container hi _ _
  -- an ordered map: `==` with a container is never true
  case h_6 => exact mapSliceFind_container hi _
  -- so do methods
  case h_9 | h_10 | h_11 | h_12 => exact methodOnly_container hi
  case h_13 => rfl

theorem mkPair_norm (k v : GoVal) : (mkPair k v).norm d = .slice .any [k.norm d, v.norm d] := by
  simp [mkPair, norm, normList]

theorem loopItems_seq {budget : Int} {u : GoVal} {xs : List GoVal} (h : Cmp.seqElems u = some xs) : loopItems budget u = .ok xs := by
  rcases Cmp.seqElems_cases h with ⟨t, rfl⟩ | ⟨t, rfl⟩ <;> rfl

theorem cyclesOf_erel {a b : GoVal} (h : ERel d a b) :
    a = b ∨ (cyclesOf a = none ∧ cyclesOf b = none) := by
  cases ha : isRec a with
  | true => exact .inl (h.2 (.inl ha))
  | false =>
    cases hb : isRec b with
    | true => exact .inl (h.2 (.inr hb))
    | false =>
      refine .inr ⟨?_, ?_⟩
      · unfold isRec at ha; cases hc : cyclesOf a <;> simp_all
      · unfold isRec at hb; cases hc : cyclesOf b <;> simp_all
