import Proofs.ScanLemmas
/-!
# The backtracking matcher on the pieces of the token pattern

Success lemmas ("if the continuation succeeds at the intended position, and the choices the
matcher prefers are the intended ones or fail, the expression succeeds with the same result") for literals,
`-?`, `\s*`, `\w+` and the lazy `.+?` (the lazy exclusion loop: Proofs/E2EUnits.lean). Where a failure has to be
shown, the shape of what matched is read off the words of the expression (`Re.m_sound`, Liquid/Regex.lean; the
`lang_*` lemmas say what the words of a piece are).
-/

def AllP (pr : Pred) (ws : Bytes) : Prop := ∀ x ∈ ws, pr.test x = true

def HeadNot (pr : Pred) (t : Bytes) : Prop := ∀ x t', t = x :: t' → pr.test x = false

theorem headNot_nil (pr : Pred) : HeadNot pr [] := by intro x t' h; cases h

theorem headNot_cons {pr : Pred} {x : UInt8} {t : Bytes} (h : pr.test x = false) : HeadNot pr (x :: t) := by
  intro y t' e; cases e; exact h

theorem headNot_append_of_ne {pr : Pred} {a b : Bytes} (ha : a ≠ []) (h : HeadNot pr a) : HeadNot pr (a ++ b) := by
  intro x t' e
  cases a with
  | nil => exact absurd rfl ha
  | cons y ys => simp only [List.cons_append, List.cons.injEq] at e; exact h x ys (by rw [e.1])

theorem allP_nil (pr : Pred) : AllP pr [] := fun x hx => by cases hx

/-- behind bytes of a class disjoint from `pr` (when there are any) -/
theorem headNot_of_all {pr qr : Pred} {ws t : Bytes} (hall : AllP qr ws) (hq : ∀ x, qr.test x = true → pr.test x = false)
    (ht : ws = [] → HeadNot pr t) : HeadNot pr (ws ++ t) := by
  cases ws with
  | nil => exact ht rfl
  | cons w ws' => exact headNot_cons (hq w (hall w (List.mem_cons_self ..)))

theorem word_not_space {x : UInt8} (h : Pred.test .word x = true) : Pred.test .space x = false := by
  simp only [Pred.test, Bool.or_eq_false_iff, beq_eq_false_iff_ne]
  refine ⟨⟨⟨⟨?_, ?_⟩, ?_⟩, ?_⟩, ?_⟩ <;> (rintro rfl; revert h; decide)

theorem word_not_hyphen {x : UInt8} (h : Pred.test .word x = true) : Pred.test (.eq 45) x = false := by
  simp only [Pred.test, beq_eq_false_iff_ne]
  rintro rfl; revert h; decide

theorem space_not_word {x : UInt8} (h : Pred.test .space x = true) : Pred.test .word x = false := by
  cases hw : Pred.test .word x with
  | false => rfl
  | true => rw [word_not_space hw] at h; cases h

theorem space_not_hyphen {x : UInt8} (h : Pred.test .space x = true) : Pred.test (.eq 45) x = false := by
  simp only [Pred.test, beq_eq_false_iff_ne]
  rintro rfl; revert h; decide

theorem chr_m_nil {R} (mf : Nat) (pr : Pred) (p : Nat) (c : Caps) (k : K R) : (Re.chr pr).m mf [] p c k = none := rfl
theorem chr_m_cons {R} (mf : Nat) (pr : Pred) (x : UInt8) (xs : Bytes) (p : Nat) (c : Caps) (k : K R) :
    (Re.chr pr).m mf (x :: xs) p c k = if pr.test x then k xs (p + 1) c else none := rfl
theorem seq_m {R} (mf : Nat) (a b : Re) (s : Bytes) (p : Nat) (c : Caps) (k : K R) :
    (Re.seq a b).m mf s p c k = a.m mf s p c (fun s' p' c' => b.m mf s' p' c' k) := rfl
theorem alt_m {R} (mf : Nat) (a b : Re) (s : Bytes) (p : Nat) (c : Caps) (k : K R) :
    (Re.alt a b).m mf s p c k = (match a.m mf s p c k with | some r => some r | none => b.m mf s p c k) := rfl
theorem group_m {R} (mf : Nat) (i : Nat) (a : Re) (s : Bytes) (p : Nat) (c : Caps) (k : K R) :
    (Re.group i a).m mf s p c k = a.m mf s p c (fun s' p' c' => k s' p' (⟨i, p, p'⟩ :: c')) := rfl
theorem star_m {R} (mf : Nat) (g : Bool) (a : Re) (s : Bytes) (p : Nat) (c : Caps) (k : K R) :
    (Re.star g a).m mf s p c k = starLoop (fun s p c k => a.m mf s p c k) g mf s p c k := rfl
theorem eps_m {R} (mf : Nat) (s : Bytes) (p : Nat) (c : Caps) (k : K R) : Re.eps.m mf s p c k = k s p c := rfl

theorem starLoop_zero {R} (ma : Bytes → Nat → Caps → K R → Option R) (g : Bool) (s : Bytes) (p : Nat) (c : Caps) (k : K R) :
    starLoop ma g 0 s p c k = k s p c := rfl
theorem starLoop_succ_true {R} (ma : Bytes → Nat → Caps → K R → Option R) (n : Nat) (s : Bytes) (p : Nat) (c : Caps) (k : K R) :
    starLoop ma true (n + 1) s p c k =
      (match ma s p c (fun s' p' c' => if p < p' then starLoop ma true n s' p' c' k else none) with
       | some r => some r
       | none => k s p c) := rfl
theorem starLoop_succ_false {R} (ma : Bytes → Nat → Caps → K R → Option R) (n : Nat) (s : Bytes) (p : Nat) (c : Caps) (k : K R) :
    starLoop ma false (n + 1) s p c k =
      (match k s p c with
       | some r => some r
       | none => ma s p c (fun s' p' c' => if p < p' then starLoop ma false n s' p' c' k else none)) := rfl

theorem chr_m_stuck {R} (mf : Nat) (pr : Pred) (s : Bytes) (p : Nat) (c : Caps) (k : K R) (h : HeadNot pr s) :
    (Re.chr pr).m mf s p c k = none := by
  cases s with
  | nil => rfl
  | cons x xs => rw [chr_m_cons, h x xs rfl]; rfl

theorem star_chr_stuck {R} (mf : Nat) (pr : Pred) (g : Bool) (n : Nat) (s : Bytes) (p : Nat) (c : Caps) (k : K R)
    (h : HeadNot pr s) : starLoop (fun s p c k => (Re.chr pr).m mf s p c k) g n s p c k = k s p c := by
  cases n with
  | zero => rfl
  | succ n =>
    cases g with
    | true => rw [starLoop_succ_true, chr_m_stuck mf pr s p c _ h]
    | false =>
      rw [starLoop_succ_false, chr_m_stuck mf pr s p c _ h]
      cases k s p c <;> rfl

theorem lit_m_ok {R} (fuel : Nat) : ∀ (l t : Bytes) (p : Nat) (c : Caps) (k : K R),
    (Re.lit l).m fuel (l ++ t) p c k = k t (p + l.length) c := by
  intro l
  induction l with
  | nil => intro t p c k; rfl
  | cons x xs ih =>
    intro t p c k
    rw [show Re.lit (x :: xs) = Re.seq (.chr (.eq x)) (Re.lit xs) from rfl, seq_m, List.cons_append, chr_m_cons,
      if_pos (show Pred.test (.eq x) x = true from beq_self_eq_true x), ih, List.length_cons, Nat.add_assoc, Nat.add_comm 1]

theorem hy_m_take {R} (fuel : Nat) (t : Bytes) (p : Nat) (c : Caps) (k : K R) (r : R)
    (h : k t (p + 1) c = some r) : hy.m fuel (45 :: t) p c k = some r := by
  simp [hy, Re.opt, Re.m, Pred.test, h]

theorem hy_m_skip {R} (fuel : Nat) (s : Bytes) (p : Nat) (c : Caps) (k : K R)
    (h : HeadNot (.eq 45) s) : hy.m fuel s p c k = k s p c := by
  cases s with
  | nil => simp [hy, Re.opt, Re.m]
  | cons x xs =>
    have := h x xs rfl
    simp [hy, Re.opt, Re.m, this]

theorem starGreedy_all {R} (mf : Nat) (pr : Pred) (t : Bytes) (c : Caps) (k : K R) (r : R) (ht : HeadNot pr t) :
    ∀ (ws : Bytes) (n p : Nat), AllP pr ws → ws.length ≤ n → k t (p + ws.length) c = some r →
      starLoop (fun s p c k => (Re.chr pr).m mf s p c k) true n (ws ++ t) p c k = some r := by
  intro ws
  induction ws with
  | nil =>
    intro n p _ _ hk
    rw [List.nil_append, star_chr_stuck mf pr true n t p c k ht]
    exact hk
  | cons w ws ih =>
    intro n p hall hn hk
    cases n with
    | zero => simp at hn
    | succ n =>
      have hw : pr.test w = true := hall w (List.mem_cons_self ..)
      rw [starLoop_succ_true]
      rw [List.cons_append, chr_m_cons, if_pos hw, if_pos (Nat.lt_succ_self p)]
      have := ih n (p + 1) (fun x hx => hall x (List.mem_cons_of_mem _ hx)) (by simpa using hn)
        (by simpa [Nat.add_assoc, Nat.add_comm 1] using hk)
      rw [this]

theorem sp_m_all {R} (fuel : Nat) (ws t : Bytes) (p : Nat) (c : Caps) (k : K R) (r : R)
    (hall : AllP .space ws) (ht : HeadNot .space t) (hf : ws.length ≤ fuel) (hk : k t (p + ws.length) c = some r) :
    sp.m fuel (ws ++ t) p c k = some r := by
  rw [sp, star_m]
  exact starGreedy_all fuel .space t c k r ht ws fuel p hall hf hk

theorem plusGreedy_all {R} (fuel : Nat) (pr : Pred) (w : UInt8) (ws t : Bytes) (p : Nat) (c : Caps) (k : K R) (r : R)
    (hw : pr.test w = true) (hall : AllP pr ws) (ht : HeadNot pr t) (hf : ws.length ≤ fuel)
    (hk : k t (p + (ws.length + 1)) c = some r) :
    (Re.plus (.chr pr)).m fuel (w :: (ws ++ t)) p c k = some r := by
  rw [Re.plus, seq_m, chr_m_cons, if_pos hw, star_m]
  exact starGreedy_all fuel pr t c k r ht ws fuel (p + 1) hall hf (by simpa [Nat.add_assoc, Nat.add_comm 1] using hk)

/-! ## The closing part `\s*-?CLOSE` -/

def closer (l : Bytes) : Re := .seq sp (.seq hy (Re.lit l))

def hyB (b : Bool) : Bytes := if b then [45] else []

theorem hyB_length (b : Bool) : (hyB b).length = if b then 1 else 0 := by cases b <;> rfl

theorem headNot_hyB {pr : Pred} (h45 : pr.test 45 = false) (b : Bool) {t : Bytes} (ht : HeadNot pr t) : HeadNot pr (hyB b ++ t) := by
  cases b with
  | true => exact headNot_cons h45
  | false => exact ht

theorem lang_hy {w : Bytes} (h : hy.Lang w) : ∃ b, w = hyB b := by
  cases h with
  | altL h =>
    cases h with
    | chr hx =>
      rw [show _ = (45 : UInt8) from beq_iff_eq.mp hx]
      exact ⟨true, rfl⟩
  | altR h =>
    cases h
    exact ⟨false, rfl⟩

theorem lang_starClass {g : Bool} {pr : Pred} {w : Bytes} (h : (Re.star g (.chr pr)).Lang w) : AllP pr w := by
  generalize he : Re.star g (.chr pr) = re at h
  induction h with
  | starNil => exact allP_nil pr
  | starCons hu _ _ ih =>
    cases he
    cases hu with
    | chr hx =>
      intro y hy
      rcases List.mem_cons.mp hy with rfl | hy
      · exact hx
      · exact ih rfl y hy
  | _ => cases he

theorem lang_closer {l w : Bytes} (h : (closer l).Lang w) : ∃ ws b, w = ws ++ (hyB b ++ l) ∧ AllP .space ws := by
  obtain ⟨ws, _, rfl, h1, h⟩ := lang_seq h
  obtain ⟨_, _, rfl, h2, h3⟩ := lang_seq h
  obtain ⟨b, rfl⟩ := lang_hy h2
  exact ⟨ws, b, by rw [lang_lit h3], lang_starClass h1⟩

theorem closer_shape {R} (fuel : Nat) (l s : Bytes) (p : Nat) (c : Caps) (k : K R) (r : R)
    (h : (closer l).m fuel s p c k = some r) :
    ∃ ws b t, s = ws ++ (hyB b ++ (l ++ t)) ∧ AllP .space ws := by
  obtain ⟨w, t, _, rfl, hw, _⟩ := Re.m_sound fuel _ _ _ _ _ _ h
  obtain ⟨ws, b, rfl, hws⟩ := lang_closer hw
  exact ⟨ws, b, t, by simp only [List.append_assoc], hws⟩

/-- what `\s*-?` stops in front of: non-empty, beginning with neither white space nor a hyphen -/
def GoodHead (l : Bytes) : Prop := l ≠ [] ∧ HeadNot .space l ∧ HeadNot (.eq 45) l

theorem closer_ok {R} (fuel : Nat) (l ws rest : Bytes) (b : Bool) (p : Nat) (c : Caps) (k : K R) (r : R)
    (hall : AllP .space ws) (hf : ws.length ≤ fuel)
    (hl : GoodHead l)
    (hk : k rest (p + (ws.length + ((hyB b).length + l.length))) c = some r) :
    (closer l).m fuel (ws ++ (hyB b ++ (l ++ rest))) p c k = some r := by
  rw [closer, seq_m]
  refine sp_m_all fuel ws _ p c _ r hall (headNot_hyB (by decide) b (headNot_append_of_ne hl.1 hl.2.1)) hf ?_
  rw [seq_m]
  cases b with
  | true =>
    simp only [hyB, if_true, List.singleton_append]
    refine hy_m_take fuel _ _ c _ r ?_
    rw [lit_m_ok]
    simpa [hyB, Nat.add_assoc] using hk
  | false =>
    rw [show hyB false = [] from rfl, List.nil_append, hy_m_skip fuel _ _ c _ (headNot_append_of_ne hl.1 hl.2.2), lit_m_ok]
    simpa [hyB, Nat.add_assoc] using hk

/-! ## The opening part `OPEN-?\s*` -/

theorem opener_ok {R} (fuel : Nat) (l ws t : Bytes) (b : Bool) (x : Re) (p : Nat) (c : Caps) (k : K R) (r : R)
    (hall : AllP .space ws) (hf : ws.length ≤ fuel) (ht1 : HeadNot .space t)
    (ht2 : b = false → ws = [] → HeadNot (.eq 45) t)
    (hk : x.m fuel t (p + (l.length + ((hyB b).length + ws.length))) c k = some r) :
    (Re.seq (Re.lit l) (.seq hy (.seq sp x))).m fuel (l ++ (hyB b ++ (ws ++ t))) p c k = some r := by
  rw [seq_m, lit_m_ok, seq_m]
  cases b with
  | true =>
    refine hy_m_take fuel _ _ c _ r ?_
    rw [seq_m]
    refine sp_m_all fuel ws t _ c _ r hall ht1 hf ?_
    rw [← hk]
    simp only [hyB, if_true, List.length_singleton, Nat.add_assoc]
  | false =>
    rw [show hyB false = [] from rfl, List.nil_append, hy_m_skip, seq_m]
    · refine sp_m_all fuel ws t _ c _ r hall ht1 hf ?_
      rw [← hk]
      simp only [hyB, Bool.false_eq_true, if_false, List.length_nil, Nat.zero_add, Nat.add_assoc]
    · exact headNot_of_all hall (fun _ => space_not_hyphen) (ht2 rfl)

/-! ## The lazy `(?s:.)+?` -/

theorem starLazy_any {R} (mf : Nat) (t : Bytes) (c : Caps) (k : K R) (r : R) :
    ∀ (u : Bytes) (n p : Nat), u.length ≤ n →
      (∀ i, i < u.length → k ((u ++ t).drop i) (p + i) c = none) → k t (p + u.length) c = some r →
      starLoop (fun s p c k => (Re.chr .any).m mf s p c k) false n (u ++ t) p c k = some r := by
  intro u
  induction u with
  | nil =>
    intro n p _ _ hk
    simp only [List.nil_append, List.length_nil, Nat.add_zero] at hk ⊢
    cases n with
    | zero => rw [starLoop_zero]; exact hk
    | succ n => rw [starLoop_succ_false, hk]
  | cons x u ih =>
    intro n p hn hnone hk
    cases n with
    | zero => simp at hn
    | succ n =>
      have h0 := hnone 0 (by simp)
      simp only [List.drop_zero, Nat.add_zero] at h0
      rw [starLoop_succ_false, h0]
      rw [List.cons_append, chr_m_cons]
      simp only [Pred.test, if_true, Nat.lt_succ_self]
      refine ih n (p + 1) (by simpa using hn) ?_ (by simpa [Nat.add_assoc, Nat.add_comm 1] using hk)
      intro i hi
      have := hnone (i + 1) (by simpa using hi)
      simpa [Nat.add_assoc, Nat.add_comm 1] using this

theorem plusLazy_any_group {R} (fuel : Nat) (gi : Nat) (x : UInt8) (u t : Bytes) (p : Nat) (c : Caps) (k : K R) (r : R)
    (hf : u.length ≤ fuel)
    (hnone : ∀ i, i < u.length → ∀ c', k ((u ++ t).drop i) (p + 1 + i) c' = none)
    (hk : k t (p + (u.length + 1)) (⟨gi, p, p + (u.length + 1)⟩ :: c) = some r) :
    (Re.group gi (Re.plusLazy (.chr .any))).m fuel (x :: (u ++ t)) p c k = some r := by
  rw [group_m, Re.plusLazy, seq_m, chr_m_cons, star_m]
  simp only [Pred.test, if_true]
  refine starLazy_any fuel t c _ r u fuel (p + 1) hf ?_ ?_
  · intro i hi; exact hnone i hi _
  · simpa [Nat.add_assoc, Nat.add_comm 1] using hk
