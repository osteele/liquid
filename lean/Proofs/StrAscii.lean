import Liquid.Filters.Str
import Proofs.CaseLemmas
/-!
# Case filters: `mapRunesM` of a total rune function is `map`; on ASCII strings they are the byte loops `asciiUpper` / `asciiLower`
-/

def asciiUpper (b : UInt8) : UInt8 := if 97 ≤ b ∧ b ≤ 122 then b - 32 else b
def asciiLower (b : UInt8) : UInt8 := if 65 ≤ b ∧ b ≤ 90 then b + 32 else b

theorem forall_u8_of_nat {P : UInt8 → Prop} (h : ∀ n : Nat, n < 256 → P (UInt8.ofNat n)) (c : UInt8) : P c := by
  have := h c.toNat (UInt8.toNat_lt c)
  rwa [UInt8.ofNat_toNat] at this

theorem asciiUpper_toNat (b : UInt8) :
    (asciiUpper b).toNat = if 0x61 ≤ b.toNat ∧ b.toNat ≤ 0x7A then b.toNat - 32 else b.toNat := by
  unfold asciiUpper
  simp only [UInt8.le_iff_toNat_le, UInt8.reduceToNat, apply_ite UInt8.toNat]
  split
  · next h => exact UInt8.toNat_sub_of_le b 32 (UInt8.le_iff_toNat_le.2 (Nat.le_trans (by decide) h.1))
  · rfl

theorem asciiLower_toNat (b : UInt8) :
    (asciiLower b).toNat = if 0x41 ≤ b.toNat ∧ b.toNat ≤ 0x5A then b.toNat + 32 else b.toNat := by
  unfold asciiLower
  simp only [UInt8.le_iff_toNat_le, UInt8.reduceToNat, apply_ite UInt8.toNat]
  split
  · next h => rw [UInt8.toNat_add]; exact Nat.mod_eq_of_lt (Nat.lt_of_le_of_lt (Nat.add_le_add_right h.2 32) (by decide))
  · rfl

theorem toUpperRune_byte (b : UInt8) (hb : b < 0x80) : toUpperRune b.toNat = (asciiUpper b).toNat ∧ asciiUpper b < 0x80 := by
  have hb' : b.toNat < 0x80 := UInt8.lt_iff_toNat_lt.mp hb
  rw [UInt8.lt_iff_toNat_lt, toUpperRune_ascii hb', asciiUpper_toNat]
  refine ⟨rfl, ?_⟩
  show _ < 128
  split <;> omega

theorem toLowerRune_byte (b : UInt8) (hb : b < 0x80) : toLowerRune b.toNat = (asciiLower b).toNat ∧ asciiLower b < 0x80 := by
  have hb' : b.toNat < 0x80 := UInt8.lt_iff_toNat_lt.mp hb
  rw [UInt8.lt_iff_toNat_lt, toLowerRune_ascii hb', asciiLower_toNat]
  refine ⟨rfl, ?_⟩
  show _ < 128
  split <;> omega

theorem mapRunesM_total (g : Rune → Rune) : ∀ rs : List Rune, StrF.mapRunesM (fun r => some (g r)) rs = some (rs.map g)
  | [] => rfl
  | r :: rs => by simp only [StrF.mapRunesM, mapRunesM_total g rs, List.map_cons]

theorem runeMap_ascii {g : Rune → Rune} (f : UInt8 → UInt8) (s : Bytes) (h : ∀ b ∈ s, b < 0x80)
    (hg : ∀ b, b < 0x80 → g b.toNat = (f b).toNat ∧ f b < 0x80) :
    encodeRunes ((decodeRunes s).map g) = s.map f := by
  rw [decodeRunes_ascii s h, List.map_map, ← encodeRunes_ascii_map f s fun b hb => (hg b (h b hb)).2]
  exact congrArg encodeRunes (List.map_congr_left fun b hb => (hg b (h b hb)).1)
