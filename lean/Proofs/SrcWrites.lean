import Proofs.SrcTags
import Proofs.C14
/-!
# Source-level helpers: what `run` answers, read off the trace of the root sequence (`runRoot_of_traced`); an `include` tag
whose file renders normally is one verbatim write (`tracedAt_include`)
-/

theorem runRoot_of_traced (P : Prims) (O : OutPrims) (cfg : Cfg) (fs : FS) (fuel : Nat) (root : List Node) (env env' : Env)
    (ops : List WOp) (h : TracedAt (renderList (mkCtx P O cfg fs fuel) root) env ops (.ok .done env')) :
    runRoot P O cfg fs fuel root env = .ok (runOps ops) :=
  (runRoot_ok_iff P O cfg fs fuel root env _).mpr (renderRoot_of_traced _ root env ops _ h)

/-- an `include` tag whose argument is a string literal naming a file that renders normally (as a template
    of its own, with the includer's variables, at fuel one less) is one verbatim write of that output -/
theorem tracedAt_include (P : Prims) (O : OutPrims) (cfg : Cfg) (fs : FS) (fuel : Nat) (line : Nat) (args name : Bytes) (env : Env)
    (body out : Bytes) (he : parseExprSource args = .ok (.lit (.str name)))
    (hfile : fileSource fs (joinPath (dirPath cfg.path) name) = some body)
    (hbody : run P O cfg fs fuel body line env = .ok out) :
    TracedAt (renderNode (mkCtx P O cfg fs (fuel + 1)) (.incl line args)) env (verbatimOps out) (.ok .done env) := by
  obtain ⟨root, hc, hr⟩ := (run_ok_iff P O cfg fs fuel body line env out).mp hbody
  intro tw
  rw [include_denotation_mk P O cfg fs fuel line args ⟨env, tw⟩ (.lit (.str name)) name body root out he rfl hfile hc hr]
  exact tracedAt_mapFail _ (tracedAt_bind_ok (f := fun _ => pure Status.done) (tracedAt_verbatim out env) (tracedAt_done env)) tw
