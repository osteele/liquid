import Proofs.ExprLexemes
/-!
# The scanner's decision, specified

`Cut r l rest`: `l` is a lexeme of rule `r` that `fits` what follows, or a run of white space, or a quote that is
never closed. The scanner cuts a cut off (`lexStep_of_cut`), and every non-empty text starts with one (`cut_total`);
a function has one value, so what the scanner returns IS that cut (`cut_of_lexStep`). Hence `fits` is necessary
(`fits_of_lexStep`) and the scanner's tokens are well formed (`scanOK_of_cut`, `Proofs/ExprScanImage.lean`).
-/

inductive Cut : Rule → Bytes → Bytes → Prop where
  | lexeme {r : Rule} {l rest : Bytes} : Lexeme r l → fits r l rest = true → Cut r l rest
  | space (c : UInt8) (w rest : Bytes) : isLexSpace c = true → w.all isLexSpace = true →
      headOK (fun b => !isLexSpace b) rest = true → Cut .rSpace (c :: w) rest
  /-- an opening quote without a closing one is a token of its own -/
  | quote (q : UInt8) (rest : Bytes) : (q == 34 || q == 39) = true → rest.all (fun b => b != q) = true →
      Cut .rAny [q] rest

theorem lexStep_of_cut {r : Rule} {l rest : Bytes} (h : Cut r l rest) : lexStep (l ++ rest) = some (r, l.length) := by
  cases h with
  | lexeme hl hf => exact lexStep_lexeme _ _ _ hl hf
  | space c w rest hc hw hr =>
    rw [List.cons_append, lexStep_space c _ hc, spanLen_append _ _ _ hw, spanLen_headOK _ _ hr]; rfl
  | quote q rest hq hr =>
    have : stringLen (q :: rest) = none := by
      simp only [stringLen, hq, if_true, spanLen_all _ _ hr, List.drop_length]
    rw [List.singleton_append, lexStep_quote q _ hq, this]; rfl

theorem Cut.nil {r : Rule} {l rest : Bytes} (h : Cut r l rest) : Cut r l [] := by
  cases h with
  | lexeme hl _ => exact .lexeme hl (fits_nil _ _ hl)
  | space c w _ hc hw _ => exact .space c w [] hc hw rfl
  | quote q _ hq _ => exact .quote q [] hq rfl

theorem Cut.rule_unique {r r' : Rule} {l rest rest' : Bytes} (h : Cut r l rest) (h' : Cut r' l rest') : r = r' := by
  have := (lexStep_of_cut h.nil).symm.trans (lexStep_of_cut h'.nil)
  simp only [Option.some.injEq, Prod.mk.injEq, and_true] at this
  exact this

/-- `-?digit+` then, if `.digit` follows, the fraction -/
theorem cut_number (sg : Bytes) (hs : isSign sg) (d : UInt8) (hd : isDigit d = true) (t : Bytes) :
    ∃ r l rest, sg ++ d :: t = l ++ rest ∧ Cut r l rest := by
  obtain ⟨ds, r1, rfl, hds, hr1⟩ := spanLen_split isDigit t
  have hD : (d :: ds).all isDigit = true := by simp [hd, hds]
  have int : fitsInt r1 = true → ∃ r l rest, sg ++ d :: (ds ++ r1) = l ++ rest ∧ Cut r l rest := fun hf =>
    ⟨_, sg ++ d :: ds, r1, by simp, .lexeme (.int sg (d :: ds) hs (List.cons_ne_nil _ _) hD) hf⟩
  cases r1 with
  | nil => exact int rfl
  | cons b r2 =>
    by_cases hb : b = 46
    · subst hb
      obtain ⟨fs, r3, rfl, hfs, hr3⟩ := spanLen_split isDigit r2
      cases fs with
      | nil =>
        refine int ?_
        cases r3 with
        | nil => rfl
        | cons x _ => exact hr3
      | cons f fs =>
        exact ⟨_, sg ++ d :: ds ++ 46 :: (f :: fs), r3, by simp,
          .lexeme (.float sg (d :: ds) (f :: fs) hs (List.cons_ne_nil _ _) hD (List.cons_ne_nil _ _) hfs) hr3⟩
    · refine int ?_
      unfold fitsInt
      simp only [hr1, Bool.true_and]
      split
      · rename_i heq; cases heq; exact absurd rfl hb
      · rfl

/-- an identifier: the longest one, so that `fitsWord` holds -/
theorem cut_word (c : UInt8) (t : Bytes) :
    ∃ body qm rest, c :: t = c :: body ++ qm ++ rest ∧ body.all isIdCont = true ∧ (qm = [] ∨ qm = [63]) ∧
      fitsWord (c :: body ++ qm) rest = true := by
  obtain ⟨body, r1, rfl, hb, hr1⟩ := spanLen_split isIdCont t
  cases r1 with
  | nil => exact ⟨body, [], [], by simp, hb, Or.inl rfl, by simp [fitsWord, headOK]⟩
  | cons b r2 =>
    by_cases h63 : b = 63
    · subst h63
      exact ⟨body, [63], r2, by simp, hb, Or.inr rfl, by
        rw [fitsWord, show c :: body ++ [63] = (c :: body) ++ [63] from rfl, List.getLast?_append]; rfl⟩
    · refine ⟨body, [], b :: r2, by simp, hb, Or.inl rfl, ?_⟩
      have : (b != 63) = true := by simpa using h63
      rw [fitsWord, show headOK _ (b :: r2) = (!isIdCont b && b != 63) from rfl, show (!isIdCont b) = true from hr1, this]
      simp

theorem headOK_ne {k : UInt8} {s : Bytes} (h : ¬ ∃ r, s = k :: r) : headOK (fun b => b != k) s = true := by
  cases s with
  | nil => rfl
  | cons b r =>
    show (b != k) = true
    rw [bne_iff_ne]
    rintro rfl
    exact h ⟨r, rfl⟩

theorem cut_total (c : UInt8) (t : Bytes) : ∃ r l rest, c :: t = l ++ rest ∧ Cut r l rest := by
  have punct : isPunct c = true → fitsPunct c t = true → ∃ r l rest, c :: t = l ++ rest ∧ Cut r l rest :=
    fun hp hf => ⟨_, [c], t, rfl, .lexeme (.punct c hp) hf⟩
  by_cases hsp : isLexSpace c = true
  · obtain ⟨w, rest, rfl, hw, hr⟩ := spanLen_split isLexSpace t
    exact ⟨_, c :: w, rest, rfl, .space c w rest hsp hw hr⟩
  by_cases hd : isDigit c = true
  · exact cut_number [] (Or.inl rfl) c hd t
  by_cases h45 : c = 45
  · subst h45
    cases t with
    | nil => exact punct rfl rfl
    | cons d t' =>
      by_cases hd' : isDigit d = true
      · exact cut_number [45] (Or.inr rfl) d hd' t'
      · exact punct rfl (by simpa [fitsPunct, headOK] using hd')
  by_cases hw : isIdStart c = true
  · obtain ⟨body, qm, rest, e, hb, hqm, hf⟩ := cut_word c t
    by_cases h58 : ∃ r2, rest = 58 :: r2
    · obtain ⟨r2, rfl⟩ := h58
      exact ⟨_, c :: body ++ qm ++ [58], r2, by rw [e]; simp, .lexeme (.keyword c body qm hw hb hqm) rfl⟩
    · refine ⟨_, c :: body ++ qm, rest, e, .lexeme (.word c body qm hw hb hqm) ?_⟩
      rw [fits_word, fitsIdent, hf, Bool.true_and]
      exact headOK_ne h58
  by_cases hq : (c == 34 || c == 39) = true
  · by_cases hall : t.all (fun b => b != c) = true
    · exact ⟨_, [c], t, rfl, .quote c t hq hall⟩
    · obtain ⟨body, r1, rfl, hb, hr1⟩ := spanLen_split (fun b => b != c) t
      cases r1 with
      | nil => rw [List.append_nil] at hall; exact absurd hb hall
      | cons b r2 =>
        have : b = c := by simpa [headOK] using hr1
        subst this
        exact ⟨_, b :: body ++ [b], r2, by simp, .lexeme (.string b body hq hb) rfl⟩
  by_cases h46 : c = 46
  · subst h46
    cases t with
    | nil => exact punct rfl rfl
    | cons b t' =>
      by_cases hb46 : b = 46
      · subst hb46; exact ⟨_, [46, 46], t', rfl, .lexeme .dotdot rfl⟩
      by_cases hbw : isIdStart b = true
      · obtain ⟨body, qm, rest, e, hb, hqm, hf⟩ := cut_word b t'
        refine ⟨_, 46 :: (b :: body ++ qm), rest, by rw [e]; simp, .lexeme (.property b body qm hbw hb hqm) ?_⟩
        rw [List.cons_append, fits_property]
        exact hf
      · exact punct rfl (by simpa [fitsPunct, headOK, hb46] using hbw)
  by_cases hop : isOpStart c = true
  · have hp : isPunct c = true ∧ (c == 45) = false ∧ (c == 46) = false := by
      simp only [isOpStart, Bool.or_eq_true, beq_iff_eq] at hop
      rcases hop with ((rfl | rfl) | rfl) | rfl <;> exact ⟨rfl, rfl, rfl⟩
    by_cases h61 : ∃ r2, t = 61 :: r2
    · obtain ⟨r2, rfl⟩ := h61
      exact ⟨_, [c, 61], r2, rfl, .lexeme (.op2 c hop) (fits_opRule c _ _)⟩
    · refine punct hp.1 ?_
      rw [fitsPunct, hp.2.1, hp.2.2, hop]
      exact headOK_ne h61
  have sel : ∀ w : Bytes, ∀ n, litLen w (c :: t) = some n → ∃ rest, c :: t = w ++ rest := fun w n h =>
    let ⟨rest, e⟩ := (isPrefixOfB_iff _ _).1 (litLen_some _ _ _ h).2; ⟨rest, e.symm⟩
  by_cases h37 : c = 37
  · subst h37
    cases h1 : litLen kwAssign (37 :: t) with
    | some n => obtain ⟨rest, e⟩ := sel _ _ h1; exact ⟨_, kwAssign, rest, e, .lexeme .selAssign rfl⟩
    | none =>
      cases h2 : litLen kwLoop (37 :: t) with
      | some n => obtain ⟨rest, e⟩ := sel _ _ h2; exact ⟨_, kwLoop, rest, e, .lexeme .selLoop rfl⟩
      | none => exact punct rfl (by simp [fitsPunct, isOpStart, h1, h2])
  by_cases h123 : c = 123
  · subst h123
    cases h1 : litLen kwCycle (123 :: t) with
    | some n => obtain ⟨rest, e⟩ := sel _ _ h1; exact ⟨_, kwCycle, rest, e, .lexeme .selCycle rfl⟩
    | none =>
      cases h2 : litLen kwWhen (123 :: t) with
      | some n => obtain ⟨rest, e⟩ := sel _ _ h2; exact ⟨_, kwWhen, rest, e, .lexeme .selWhen rfl⟩
      | none => exact punct rfl (by simp [fitsPunct, isOpStart, h1, h2])
  · refine punct (by simp [isPunct, hd, hw, hsp, Bool.or_eq_true] at hq ⊢; exact hq) ?_
    simp [fitsPunct, h45, h46, hop, h37, h123]

/-- **what the scanner returns is the cut** -/
theorem cut_of_lexStep {s : Bytes} {r : Rule} {n : Nat} (hs : s ≠ []) (h : lexStep s = some (r, n)) :
    ∃ l rest, s = l ++ rest ∧ l.length = n ∧ Cut r l rest := by
  cases s with
  | nil => exact absurd rfl hs
  | cons c t =>
    obtain ⟨r', l, rest, e, hc⟩ := cut_total c t
    rw [e, lexStep_of_cut hc] at h
    cases h
    exact ⟨l, rest, e, rfl, hc⟩

/-- the merge conditions are necessary: a lexeme that the scanner cuts off fits what follows -/
theorem fits_of_lexStep (r : Rule) (l rest : Bytes) (hl : Lexeme r l) (r' : Rule)
    (h : lexStep (l ++ rest) = some (r', l.length)) : fits r l rest = true := by
  obtain ⟨l', rest', e, hlen, hc⟩ := cut_of_lexStep (by simp [hl.ne_nil]) h
  obtain ⟨rfl, rfl⟩ := List.append_inj e hlen.symm
  cases Cut.rule_unique (.lexeme hl (fits_nil _ _ hl)) hc
  cases hc with
  | lexeme _ hf => exact hf
  | space => rfl
  | quote q _ hq _ =>
    simp only [Bool.or_eq_true, beq_iff_eq] at hq
    rcases hq with rfl | rfl <;> rfl
