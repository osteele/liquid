import Liquid.Std
import Proofs.RepEqRender
import Proofs.WriteObjectLemmas
/-!
# The standard configuration and representation equivalence (helper lemmas for C18)

The standard printing (`sprintR`, `writeChunksL`, `stdChunks`) does not see the representation, for
every `d`: `stdOut_respects t d`. (The standard comparisons: `Proofs/RepEqCmp.lean`.) That a function takes a value for its
normal form is one induction over `norm` (`norm_invariant`), whose hypotheses say how the function sees a drop, a slice, an array
and a map; `fmt.Sprint`, the writes of an object node and the two functions `uniq` compares elements by (`Proofs/RepEqFilters.lean`)
are instances, and `RepEq.congr` turns each into "does not tell equivalent values apart".
-/

open GoVal

/-- A function that does not see the representation: it takes a slice and a fixed array, of whatever element type, for the list of
    their elements, a map for its key type and its entries, and (`d`) a drop for its value, and on a list of elements or entries
    (`fl`, `fk`: its siblings there) it is determined by its values on the members. It takes a value for its normal form. -/
theorem norm_invariant {α β γ : Type} (d : Bool) {f : GoVal → α} {fl : List GoVal → β} {fk : List (GoVal × GoVal) → γ}
    (hdrop : d = true → ∀ v, f (.drop v) = f v)
    (hseq : ∀ t xs xs', fl xs = fl xs' → f (.slice t xs) = f (.slice .any xs') ∧ f (.array t xs) = f (.slice .any xs'))
    (hmap : ∀ kt vt kvs kvs', fk kvs = fk kvs' → f (.map kt vt kvs) = f (.map kt .any kvs'))
    (hl : ∀ x x' xs xs', f x = f x' → fl xs = fl xs' → fl (x :: xs) = fl (x' :: xs'))
    (hk : ∀ k v v' r r', f v = f v' → fk r = fk r' → fk ((k, v) :: r) = fk ((k, v') :: r')) :
    (∀ v, f (v.norm d) = f v) ∧ (∀ kvs, fk (normKVs d kvs) = fk kvs) ∧ (∀ xs, fl (normList d xs) = fl xs) := by
  apply GoVal.norm.mutual_induct d (fun v => f (v.norm d) = f v) (fun kvs => fk (normKVs d kvs) = fk kvs)
    (fun xs => fl (normList d xs) = fl xs)
  · intro v h; rw [norm, if_pos h]
  · intro v h ih
    rw [norm, if_neg h, ih]
    cases d with
    | false => exact absurd rfl h
    | true => exact (hdrop rfl v).symm
  · intro t xs ih; rw [norm]; exact (hseq t xs _ ih.symm).1.symm
  · intro t xs ih; rw [norm]; exact (hseq t xs _ ih.symm).2.symm
  · intro kt vt kvs h; rw [norm_of_isRec h]
  · intro kt vt kvs h ih; rw [norm_map_nonrec (Bool.eq_false_iff.mpr h)]; exact (hmap kt vt kvs _ ih.symm).symm
  · intro v h1 h2 h3 h4
    cases v <;> first | rfl | exact (h1 _ rfl).elim | exact (h2 _ _ rfl).elim | exact (h3 _ _ rfl).elim | exact (h4 _ _ _ rfl).elim
  · rfl
  · intro x xs ih ihs; exact hl _ _ _ _ ih ihs
  · rfl
  · intro k v r ih ihs; exact hk _ _ _ _ _ ih ihs

/-- a function that takes a value for its normal form does not tell representation-equivalent values apart -/
theorem RepEq.congr {α : Type} {d : Bool} {f : GoVal → α} (hf : ∀ v, f (v.norm d) = f v) {x x' : GoVal} (h : RepEq d x x') :
    f x = f x' := by
  rw [← hf x, ← hf x', h]

theorem sprint_norm_all : (∀ v, sprint (v.norm false) = sprint v) ∧ (∀ kvs, sprintKVs (normKVs false kvs) = sprintKVs kvs) ∧
    ∀ xs, sprintAll (normList false xs) = sprintAll xs :=
  norm_invariant false nofun (fun _ _ _ h => by simp only [sprint, h, and_self]) (fun _ _ _ _ h => by simp only [sprint, h])
    (fun _ _ _ _ h hs => by simp only [sprintAll, h, hs]) (fun _ _ _ _ _ h hs => by simp only [sprintKVs, h, hs])

theorem sprint_norm : ∀ v : GoVal, sprint (v.norm false) = sprint v := sprint_norm_all.1
theorem sprintAll_norm : ∀ xs : List GoVal, sprintAll (normList false xs) = sprintAll xs := sprint_norm_all.2.2
theorem sprintKVs_norm : ∀ kvs : List (GoVal × GoVal), sprintKVs (normKVs false kvs) = sprintKVs kvs := sprint_norm_all.2.1

/-- the writes of an object node and the text `fmt.Sprint(ResolveDrops(·))` prints, together (an object node prints a map that way) —
    for `d = true` too: a drop nested in an array or in a printed map is written as its value (`fixes/nested-drops-resolved`) -/
theorem write_norm_all (d : Bool) :
    (∀ v, (writeChunksL (v.norm d), sprint (v.norm d).resolveDrops) = (writeChunksL v, sprint v.resolveDrops)) ∧
    (∀ kvs, sprintKVs (resolveDropsVals (normKVs d kvs)) = sprintKVs (resolveDropsVals kvs)) ∧
    ∀ xs, (writeChunksList (normList d xs), sprintAll (resolveDropsList (normList d xs))) =
      (writeChunksList xs, sprintAll (resolveDropsList xs)) :=
  norm_invariant d (f := fun v => (writeChunksL v, sprint v.resolveDrops))
    (fl := fun xs => (writeChunksList xs, sprintAll (resolveDropsList xs))) (fk := fun kvs => sprintKVs (resolveDropsVals kvs))
    (fun _ v => by simp only [writeChunksL_drop, resolveDrops_drop])
    (fun _ _ _ h => by
      simp only [Prod.mk.injEq] at h
      simp only [writeChunksL, resolveDrops_slice, resolveDrops_array, sprint, h, and_self])
    (fun _ _ _ _ h => by simp only [writeChunksL, writeObjectL, sprintR, resolveDrops_map, sprint, h])
    (fun _ _ _ _ h hs => by
      simp only [Prod.mk.injEq] at h hs
      simp only [writeChunksList_cons, resolveDropsList, sprintAll, h, hs])
    (fun _ _ _ _ _ h hs => by
      simp only [Prod.mk.injEq] at h
      simp only [resolveDropsVals, sprintKVs, h, hs])

theorem sprintR_norm (d : Bool) : ∀ v : GoVal, sprint (v.norm d).resolveDrops = sprint v.resolveDrops :=
  fun v => congrArg Prod.snd ((write_norm_all d).1 v)
theorem sprintAllR_norm (d : Bool) : ∀ xs : List GoVal,
    sprintAll (resolveDropsList (normList d xs)) = sprintAll (resolveDropsList xs) :=
  fun xs => congrArg Prod.snd ((write_norm_all d).2.2 xs)
theorem sprintKVsR_norm (d : Bool) : ∀ kvs : List (GoVal × GoVal),
    sprintKVs (resolveDropsVals (normKVs d kvs)) = sprintKVs (resolveDropsVals kvs) :=
  (write_norm_all d).2.1
theorem writeChunksL_norm (d : Bool) : ∀ v : GoVal, writeChunksL (v.norm d) = writeChunksL v :=
  fun v => congrArg Prod.fst ((write_norm_all d).1 v)
theorem writeChunksList_norm (d : Bool) : ∀ xs : List GoVal, writeChunksList (normList d xs) = writeChunksList xs :=
  fun xs => congrArg Prod.fst ((write_norm_all d).2.2 xs)

theorem writeObjectL_map_normD (d : Bool) (kt vt : Ty) (kvs : List (GoVal × GoVal)) :
    writeObjectL ((GoVal.map kt vt kvs).norm d) = writeObjectL (.map kt vt kvs) := by
  have h := sprintR_norm d (.map kt vt kvs)
  cases hr : isRec (.map kt vt kvs) with
  | true => rw [norm_of_isRec hr]
  | false =>
    rw [norm_map_nonrec hr] at h ⊢
    simpa [writeObjectL, sprintR] using h

theorem writeObjectL_map_norm (kt vt : Ty) (kvs : List (GoVal × GoVal)) :
    writeObjectL ((GoVal.map kt vt kvs).norm false) = writeObjectL (.map kt vt kvs) :=
  writeObjectL_map_normD false kt vt kvs

theorem stdChunks_norm (d : Bool) (v : GoVal) : stdChunks (v.norm d) = stdChunks v := by
  rw [stdChunks_eq_writeChunksL, stdChunks_eq_writeChunksL]; exact writeChunksL_norm d v

/-- the standard output layer prints representation-equivalent values alike — with drops nested in
    containers too (`d = true`): `fixes/nested-drops-resolved` -/
theorem stdOut_respects (t d : Bool) : OutRespect t d stdOut :=
  { chunks := fun _ _ h => RRel.of_eq (fun _ => rfl) (RepEq.congr (stdChunks_norm d) h.2.2) }
