import Proofs.E2EToken
/-!
# The end-tag expression of raw and comment blocks: `TL -? \s* NAME \s* -? TR`

`EndTagAt d n s` (the declarative shape) is what the expression `endTagRe d n` matches at the head of `s`,
independently of the matcher's fuel (when there is enough of it) and of the absolute offset; so the
search for the first end tag is the search for the first position of that shape. Last, what the tokenizer
skips behind an item of a clean template (`lexSkip_clean`).
-/

theorem endTagRe_eq (d : Delims) (n : Bytes) :
    endTagRe d n = Re.seq (Re.lit d.tl) (.seq hy (.seq sp (.seq (Re.lit n) (closer d.tr)))) := rfl

theorem endTagRe_sound {R} (d : Delims) (n : Bytes) (fuel : Nat) (s : Bytes) (p : Nat) (c : Caps) (k : K R) (r : R)
    (h : (endTagRe d n).m fuel s p c k = some r) : EndTagAt d n s := by
  obtain ⟨w, t, _, rfl, hw, _⟩ := Re.m_sound fuel _ _ _ _ _ _ h
  rw [endTagRe_eq] at hw
  obtain ⟨u1, _, rfl, h1, hw⟩ := lang_seq hw
  obtain ⟨u2, _, rfl, h2, hw⟩ := lang_seq hw
  obtain ⟨ws1, _, rfl, h3, hw⟩ := lang_seq hw
  obtain ⟨u4, _, rfl, h4, h5⟩ := lang_seq hw
  obtain ⟨b1, rfl⟩ := lang_hy h2
  obtain ⟨ws2, b2, rfl, hws2⟩ := lang_closer h5
  rw [lang_lit h1, lang_lit h4]
  exact ⟨b1, b2, ws1, ws2, t, by simp only [List.append_assoc], lang_starClass h3, hws2⟩

theorem goodHead_end (n : Bytes) : GoodHead (nameEnd ++ n) :=
  ⟨by simp [nameEnd], headNot_cons (by decide), headNot_cons (by decide)⟩

theorem endTagRe_complete (d : Delims) (hg : GoodDelims d) (n : Bytes) (hn : GoodHead n) (fuel : Nat) (s : Bytes) (p : Nat)
    (h : EndTagAt d n s) (hf : s.length ≤ fuel) : ∃ r, (endTagRe d n).matchAt fuel s p = some r := by
  obtain ⟨b1, b2, ws1, ws2, t, rfl, hw1, hw2⟩ := h
  obtain ⟨_, _, _, htrne, _, _, _, htr, _, _⟩ := hg
  obtain ⟨hnne, hn1, hn2⟩ := hn
  simp only [List.length_append] at hf
  have hf12 : ws1.length ≤ fuel ∧ ws2.length ≤ fuel := by omega
  rw [matchAt_eq, endTagRe_eq]
  refine ⟨(p + (d.tl.length + ((hyB b1).length + ws1.length)) + n.length + (ws2.length + ((hyB b2).length + d.tr.length)), []),
    opener_ok fuel d.tl ws1 _ b1 _ p [] kfin _ hw1 hf12.1 (headNot_append_of_ne hnne hn1)
    (fun _ _ => headNot_append_of_ne hnne hn2) ?_⟩
  rw [seq_m, lit_m_ok]
  exact closer_ok fuel d.tr ws2 t b2 _ [] kfin _ hw2 hf12.2 (delim_head htrne htr).1 rfl

theorem endTagAtB_iff (d : Delims) (hg : GoodDelims d) (n : Bytes) (hn : GoodHead n) (s : Bytes) :
    endTagAtB d n s = true ↔ EndTagAt d n s := by
  unfold endTagAtB
  constructor
  · intro h
    cases hm : (endTagRe d n).matchAt s.length s 0 with
    | none => rw [hm] at h; cases h
    | some r => exact endTagRe_sound d n _ s 0 [] kfin r hm
  · intro h
    obtain ⟨r, hr⟩ := endTagRe_complete d hg n hn s.length s 0 h (Nat.le_refl _)
    rw [hr]; rfl

theorem endTagRe_matchAt (d : Delims) (hg : GoodDelims d) (n : Bytes) (hn : GoodHead n) (fuel : Nat) (s : Bytes) (p : Nat)
    (hf : s.length ≤ fuel) :
    (endTagAtB d n s = true → ∃ r, (endTagRe d n).matchAt fuel s p = some r) ∧
    (endTagAtB d n s = false → (endTagRe d n).matchAt fuel s p = none) := by
  constructor
  · intro h
    exact endTagRe_complete d hg n hn fuel s p ((endTagAtB_iff d hg n hn s).mp h) hf
  · intro h
    cases hm : (endTagRe d n).matchAt fuel s p with
    | none => rfl
    | some r =>
      have := (endTagAtB_iff d hg n hn s).mpr (endTagRe_sound d n fuel s p [] kfin r hm)
      rw [h] at this; cases this

theorem search_noEnd (d : Delims) (hg : GoodDelims d) (n : Bytes) (hn : GoodHead n) (fuel : Nat) (s : Bytes) (p : Nat)
    (hf : s.length ≤ fuel) (h : NoEnd d n s) : (endTagRe d n).search fuel s p 0 = none := by
  refine search_none_of fuel _ s p 0 ?_
  intro i hi
  exact (endTagRe_matchAt d hg n hn fuel _ _ (by simp; omega)).2 (h i hi)

theorem endTagAt_ne_nil (d : Delims) (hg : GoodDelims d) (n s : Bytes) (h : EndTagAt d n s) : s ≠ [] := by
  obtain ⟨b1, b2, ws1, ws2, t, rfl, _, _⟩ := h
  exact List.append_ne_nil_of_left_ne_nil hg.2.2.1 _

theorem search_firstEnd (d : Delims) (hg : GoodDelims d) (n : Bytes) (hn : GoodHead n) (fuel : Nat) (s : Bytes) (p a : Nat)
    (hf : s.length ≤ fuel) (h : FirstEnd d n s a) : ∃ e c, (endTagRe d n).search fuel s p 0 = some (a, e, c) := by
  obtain ⟨h1, h2⟩ := h
  have hne := endTagAt_ne_nil d hg n _ ((endTagAtB_iff d hg n hn _).mp h2)
  have ha : a < s.length := by
    cases Nat.lt_or_ge a s.length with
    | inl h => exact h
    | inr h => exact absurd (List.drop_eq_nil_of_le h) hne
  obtain ⟨⟨e, c⟩, hr⟩ := (endTagRe_matchAt d hg n hn fuel (s.drop a) (p + a) (by simp; omega)).1 h2
  refine ⟨e, c, ?_⟩
  have := search_at fuel (endTagRe d n) e c a s p 0 ha
    (fun i hi => (endTagRe_matchAt d hg n hn fuel _ _ (by simp; omega)).2 (h1 i hi)) hr
  simpa using this

theorem lexSkip_none (mf : Nat) (d : Delims) (name : Option Bytes) (rest : Bytes) (p : Nat) (h : lexEndOf name = none) :
    lexSkip mf d name rest p = 0 := by
  cases name with
  | none => rfl
  | some n =>
    simp only [lexEndOf] at h
    split at h
    · cases h
    · next hc => simp only [lexSkip, hc]; rfl

theorem lexEndOf_some {name : Option Bytes} {e : Bytes} (h : lexEndOf name = some e) :
    ∃ n, name = some n ∧ (n == nameRaw || n == nameComment) = true ∧ e = nameEnd ++ n := by
  cases name with
  | none => cases h
  | some n =>
    simp only [lexEndOf] at h
    split at h
    · next hc => cases h; exact ⟨n, rfl, hc, rfl⟩
    · cases h

theorem lexSkip_noEnd (mf : Nat) (d : Delims) (hg : GoodDelims d) (name : Option Bytes) (e rest : Bytes) (p : Nat)
    (h : lexEndOf name = some e) (hf : rest.length ≤ mf) (hno : NoEnd d e rest) : lexSkip mf d name rest p = 0 := by
  obtain ⟨n, rfl, hc, rfl⟩ := lexEndOf_some h
  simp only [lexSkip, hc, if_true, search_noEnd d hg _ (goodHead_end n) mf rest p hf hno]

theorem lexSkip_first (mf : Nat) (d : Delims) (hg : GoodDelims d) (name : Option Bytes) (e rest : Bytes) (p a : Nat)
    (h : lexEndOf name = some e) (hf : rest.length ≤ mf) (hfe : FirstEnd d e rest a) : lexSkip mf d name rest p = a := by
  obtain ⟨n, rfl, hc, rfl⟩ := lexEndOf_some h
  obtain ⟨e', c, hs⟩ := search_firstEnd d hg _ (goodHead_end n) mf rest p a hf hfe
  simp only [lexSkip, hc, if_true, hs]

/-- behind an object or tag named `name`, on a clean continuation `r`: the tokenizer skips nothing and `r` is clean on its own,
    or `name` opens a raw/comment block and it skips exactly the text item that is the block's body -/
theorem lexSkip_clean (d : Delims) (hg : GoodDelims d) (mf : Nat) (name : Option Bytes) (r : List Item)
    (hcl : CleanFrom d (lexEndOf name) r) (q : Nat) (hmf : (spell d r).length ≤ mf) :
    (lexSkip mf d name (spell d r) q = 0 ∧ Clean d r) ∨
    ∃ s r', r = .text s :: r' ∧ s ≠ [] ∧ lexSkip mf d name (spell d r) q = s.length ∧ Clean d r' := by
  cases hle : lexEndOf name with
  | none =>
    rw [hle] at hcl
    exact .inl ⟨lexSkip_none mf d name _ q hle, hcl⟩
  | some e =>
    rw [hle] at hcl
    cases r with
    | nil => exact .inl ⟨lexSkip_noEnd mf d hg name e _ q hle hmf (fun i hi => absurd hi (Nat.not_lt_zero i)), trivial⟩
    | cons x r' =>
      obtain ⟨hci, hcc, hctx, htail⟩ := hcl
      have skip0 : endTagAtB d e (spell d (x :: r')) = true ∨ NoEnd d e (spell d (x :: r')) →
          lexSkip mf d name (spell d (x :: r')) q = 0 := by
        rintro (hat | hno)
        · exact lexSkip_first mf d hg name e _ q 0 hle hmf ⟨fun i hi => absurd hi (Nat.not_lt_zero i), hat⟩
        · exact lexSkip_noEnd mf d hg name e _ q hle hmf hno
      cases x with
      | obj args hl hr wl wr => exact .inl ⟨skip0 hctx, hci, hcc, trivial, htail⟩
      | tag nm args hl hr wl wm wr => exact .inl ⟨skip0 hctx, hci, hcc, trivial, htail⟩
      | text s =>
        rcases hctx with hfe | ⟨hno, htxt⟩
        · exact .inr ⟨s, r', rfl, hci, lexSkip_first mf d hg name e _ q s.length hle hmf hfe, htail⟩
        · exact .inl ⟨skip0 (.inr hno), hci, hcc, htxt, htail⟩
