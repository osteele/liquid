import Proofs.RenderTrace
import Proofs.C07Lines
import Proofs.SrcLines
/-!
# The sites of a trace are the lines of the tree, relocated (helper lemmas for C07 whole-template form, C20 located)

Every entry of `(traceNode c n s).calls` and the end `(traceNode c n s).fin` arises from the location `⟨x, true⟩` of a node of
`n`, or from a site that no node has located yet (a missing one, the invalid location of a raw block, a trim marker or a flush,
what the include handler reports), by the `relocate` of the enclosing blocks: `Reloc`. One walk over the trace shows it
(`reloc_traceNode` …); what is said of sites — none is missing (`Tr.Located`), a line of the tree or the invalid location
(`SiteIn`), a line of the tree (`SiteAt`), a tag or object of the tree or a site of the handler (`LocOK`) — holds of every
relocated line, by the cases of `Reloc`.

The walk is stated at three levels, because the invalid location is taken over by the first block that wraps it: inside a
sequence a call may still carry it (`Tr.Seq`); below a block, before the block's own `relocate`, a call or the end may also
be not located at all, or located by the include handler (`Tr.Bare`); what a node with a location of its own leaves are
relocated lines only (`Tr.Loc`).
-/

/-- a site before the enclosing node has wrapped it: not located yet, invalid, or a location of the tree -/
def SiteIn (L : List Nat) (l : Site) : Prop := l = none ∨ l = some invalidLoc ∨ ∃ x ∈ L, l = some ⟨x, true⟩

def SiteAt (L : List Nat) (l : Site) : Prop := ∃ x ∈ L, l = some ⟨x, true⟩

def Tr.CallsIn (L : List Nat) (t : Tr) : Prop := ∀ l ∈ t.calls, SiteIn L l
def Tr.CallsAt (L : List Nat) (t : Tr) : Prop := ∀ l ∈ t.calls, SiteAt L l

theorem Tr.CallsIn.mono {L L' : List Nat} {t : Tr} (h : t.CallsIn L) (hs : ∀ x, x ∈ L → x ∈ L') : t.CallsIn L' := by
  intro l hl
  rcases h l hl with h | h | ⟨x, hx, h⟩
  · exact Or.inl h
  · exact Or.inr (Or.inl h)
  · exact Or.inr (Or.inr ⟨x, hs x hx, h⟩)

theorem Tr.CallsAt.mono {L L' : List Nat} {t : Tr} (h : t.CallsAt L) (hs : ∀ x, x ∈ L → x ∈ L') : t.CallsAt L' := by
  intro l hl
  obtain ⟨x, hx, h⟩ := h l hl
  exact ⟨x, hs x hx, h⟩

theorem evalCond_calls (P : Prims) (path : Bytes) (t : CondT) (s : RS) : (evalCond P path t s).calls = [] := by
  rw [evalCond_eq]
  cases condRes P s.env t <;> rfl

/-- `n` has a location of its own (it is not a raw block or a trim marker) -/
def Node.hasLoc : Node → Bool
  | .raw _ => false
  | .trim _ => false
  | _ => true

def Tr.Located (t : Tr) : Prop := (∀ l ∈ t.calls, l ≠ none) ∧ t.fin ≠ some none

/-- what the handler's fault-free run ends with is located at `l`: a located error, or a sentinel -/
def HandlerEnds (p : Prog (Status × Bytes)) (l : Loc) : Prop :=
  (∃ e, p.pureFail = some e ∧ e.site = some l) ∨ (∃ st out, p.pureRet = some (st, out) ∧ st.site = some l)

theorem HandlerEnds.fail_iff (e : RawErr) (l : Loc) : HandlerEnds (.fail e) l ↔ e.site = some l := by
  constructor
  · rintro (⟨e', h1, h2⟩ | ⟨st, out, h1, _⟩)
    · cases h1; exact h2
    · cases h1
  · exact fun h => Or.inl ⟨e, rfl, h⟩

theorem HandlerEnds.ret_iff (st : Status) (out : Bytes) (l : Loc) : HandlerEnds (.ret (st, out)) l ↔ st.site = some l := by
  constructor
  · rintro (⟨e', h1, _⟩ | ⟨st', out', h1, h2⟩)
    · cases h1
    · cases h1; exact h2
  · exact fun h => Or.inr ⟨st, out, rfl, h⟩

theorem HandlerEnds.not_panic (w : String) (l : Loc) : ¬ HandlerEnds (.panic w) l := by
  rintro (⟨e', h1, _⟩ | ⟨st', out', h1, _⟩) <;> cases h1

theorem HandlerEnds.not_unmodelled (w : String) (l : Loc) : ¬ HandlerEnds (.unmodelled w) l := by
  rintro (⟨e', h1, _⟩ | ⟨st', out', h1, _⟩) <;> cases h1

/-- `l` is reported by the include handler of `c` for one of the include tags `I` (line, argument text): the
    argument parses, evaluates in some state to a string `rel`, and the handler — called for that line with the file
    name `dir(path)/rel` and the variables of that state — ends with a located error or a sentinel at `l` -/
def IncSite (c : RCtx) (I : List (Nat × Bytes)) (l : Loc) : Prop :=
  ∃ la ∈ I, ∃ (s : RS) (e : Expr) (rel : Bytes), parseExprSource la.2 = .ok e ∧ evaluate c.P s.env e = .ok (.str rel) ∧
    HandlerEnds (c.inc la.1 (joinPath (dirPath c.cfg.path) rel) s.env) l

def LocOK (c : RCtx) (L : List Nat) (I : List (Nat × Bytes)) (l : Loc) : Prop := (l.line ∈ L ∧ l.pathSet = true) ∨ IncSite c I l

def Tr.FinAt (c : RCtx) (L : List Nat) (I : List (Nat × Bytes)) (t : Tr) : Prop := ∀ s, t.fin = some s → ∃ l, s = some l ∧ LocOK c L I l

theorem LocOK.mono {c : RCtx} {L L' : List Nat} {I : List (Nat × Bytes)} {l : Loc} (h : LocOK c L I l) (hs : ∀ x, x ∈ L → x ∈ L') : LocOK c L' I l := by
  rcases h with ⟨h1, h2⟩ | h
  · exact Or.inl ⟨hs _ h1, h2⟩
  · exact Or.inr h

def NoFailM {α} (m : M α) : Prop := ∀ s, (m s).pureFail = none

theorem noFailM_pure {α} (a : α) : NoFailM (pure a : M α) := fun _ => rfl

theorem noFailM_bind {α β} {m : M α} {f : α → M β} (hm : NoFailM m) (hf : ∀ a, NoFailM (f a)) : NoFailM (m >>= f) := by
  intro s
  rw [M.bind_apply, Prog.pureFail_bind]
  cases (m s).pureRet with
  | none => exact hm s
  | some x => exact hf x.1 x.2

theorem noFailM_wrapFailAt {α} (path : Bytes) (loc : Loc) {m : M α} (hm : NoFailM m) : NoFailM (wrapFailAt path loc m) := by
  intro s
  rw [wrapFailAt_apply, Prog.pureFail_mapFail, hm s]
  rfl

theorem noFailM_writer : WriterClosed NoFailM where
  pure := noFailM_pure _
  bind := noFailM_bind
  op o s := by
    unfold opM
    split <;> rfl

theorem noFailM_text (c : RCtx) (line : Nat) (src : Bytes) : NoFailM (renderNode c (.text line src)) := by
  unfold renderNode
  exact noFailM_wrapFailAt _ _ (noFailM_bind noFailM_writer.write (fun _ => noFailM_pure _))

theorem noFailM_raw (c : RCtx) (slices : List Bytes) : NoFailM (renderNode c (.raw slices)) := by
  unfold renderNode
  exact noFailM_wrapFailAt _ _ (noFailM_bind (noFailM_writer.writeAll slices) (fun _ => noFailM_pure _))

theorem noFailM_trim (c : RCtx) : ∀ l : Bool, NoFailM (renderNode c (.trim l))
  | true => by
    unfold renderNode
    exact noFailM_wrapFailAt _ _ (noFailM_bind noFailM_writer.trimLeft (fun _ => noFailM_pure _))
  | false => by
    unfold renderNode
    exact noFailM_bind noFailM_writer.trimRight (fun _ => noFailM_pure _)

theorem relocate_cases (path : Bytes) (l : Site) (outer : Loc) :
    relocate path l outer = outer ∨ l = some (relocate path l outer) := by
  cases l with
  | none => exact .inl rfl
  | some l0 =>
    simp only [relocate]
    split
    · exact .inr rfl
    · exact .inl rfl

/-- the sites reachable from the lines `A` by the wrapping of enclosing blocks (`relocate` at a line of `A`), which may pick up
    one of the bare sites `B` on the way -/
inductive Reloc (path : Bytes) (A : Nat → Prop) (B : Site → Prop) : Site → Prop where
  | leaf {x : Nat} : A x → Reloc path A B (some ⟨x, true⟩)
  | wrap {x : Nat} {l : Site} : A x → Reloc path A B l → Reloc path A B (some (relocate path l ⟨x, true⟩))
  -- one rule with `wrap` (`Reloc.wrapOr`); a premise `Reloc path A B l ∨ B l` is not accepted in an inductive type
  | bare {x : Nat} {l : Site} : A x → B l → Reloc path A B (some (relocate path l ⟨x, true⟩))

theorem Reloc.wrapOr {path : Bytes} {A : Nat → Prop} {B : Site → Prop} {x : Nat} {l : Site} (ha : A x)
    (h : Reloc path A B l ∨ B l) : Reloc path A B (some (relocate path l ⟨x, true⟩)) :=
  h.elim (.wrap ha) (.bare ha)

/-- a write that no node has located yet: the cell tags of a tablerow, the insertion of an include (`none`); a raw block, a
    trim marker, a flush (the invalid location) -/
def BareCall (l : Site) : Prop := l = none ∨ l = some invalidLoc

/-- an error that no node of this tree has located: a plain one, or what the include handler reports -/
def BareFin (c : RCtx) (I : List (Nat × Bytes)) (l : Site) : Prop := l = none ∨ ∃ l', l = some l' ∧ IncSite c I l'

def Tr.All (C F : Site → Prop) (t : Tr) : Prop := (∀ l ∈ t.calls, C l) ∧ (∀ l, t.fin = some l → F l)

theorem Tr.All.mono {C F C' F' : Site → Prop} {t : Tr} (h : t.All C F) (hc : ∀ l, C l → C' l) (hf : ∀ l, F l → F' l) :
    t.All C' F' :=
  ⟨fun l hl => hc l (h.1 l hl), fun l hl => hf l (h.2 l hl)⟩

theorem all_fin {C F : Site → Prop} (f : Option Site) (hf : ∀ l, f = some l → F l) : (⟨[], f⟩ : Tr).All C F :=
  ⟨fun _ h => (nomatch h), hf⟩

theorem all_empty {C F : Site → Prop} : ({} : Tr).All C F := all_fin none (fun _ h => nomatch h)

theorem all_bind {α} {C F : Site → Prop} {t1 : Tr} (r : Option α) {t2 : α → Tr} (h1 : t1.All C F)
    (h2 : ∀ a, r = some a → (t2 a).All C F) : (t1.bind r t2).All C F := by
  cases r with
  | none => exact h1
  | some a => exact ⟨fun l hl => (List.mem_append.mp hl).elim (h1.1 l) ((h2 a rfl).1 l), (h2 a rfl).2⟩

theorem all_wrap {C F C' F' : Site → Prop} {t : Tr} (path : Bytes) (loc : Loc) (h : t.All C F)
    (hc : ∀ l, C l → C' (some (relocate path l loc))) (hf : ∀ l, F l → F' (some (relocate path l loc))) :
    (t.wrap path loc).All C' F' := by
  refine ⟨fun l hl => ?_, fun l hl => ?_⟩
  · obtain ⟨a, ha, rfl⟩ := List.mem_map.mp hl
    exact hc a (h.1 a ha)
  · simp only [Tr.wrap, Option.map_eq_some_iff] at hl
    obtain ⟨a, ha, rfl⟩ := hl
    exact hf a (h.2 a ha)

theorem all_ownTr {α} {C F : Site → Prop} (loc : Loc) (p : Prog α) (hc : p.calls = [] ∨ C (some loc))
    (hf : p.pureFail = none ∨ F (some loc)) : (ownTr loc p).All C F := by
  refine ⟨fun l hl => ?_, fun l hl => ?_⟩
  · simp only [ownTr, List.mem_replicate] at hl
    rcases hc with hc | hc
    · simp [hc] at hl
    · exact hl.2 ▸ hc
  · simp only [ownTr, Option.map_eq_some_iff] at hl
    obtain ⟨e, he, rfl⟩ := hl
    exact hf.elim (fun h => by rw [h] at he; cases he) id

theorem all_pieceTr {α} {C F : Site → Prop} (p : Prog α) (hc : C none) (hf : p.pureFail = none) : (pieceTr p).All C F := by
  refine ⟨fun l hl => ?_, fun l hl => ?_⟩
  · simp only [pieceTr, List.mem_replicate] at hl
    exact hl.2 ▸ hc
  · simp [pieceTr, hf] at hl

section walk
variable (c : RCtx) (A E : Nat → Prop) (I : List (Nat × Bytes))

/-- inside a sequence: every call is located by a node of the tree, or is a raw block's, a trim marker's or a flush -/
def Tr.Seq (t : Tr) : Prop :=
  t.All (fun l => Reloc c.cfg.path A BareCall l ∨ l = some invalidLoc) (Reloc c.cfg.path E (BareFin c I))

/-- below a block, before the block has wrapped it -/
def Tr.Bare (t : Tr) : Prop :=
  t.All (fun l => Reloc c.cfg.path A BareCall l ∨ BareCall l) (fun l => Reloc c.cfg.path E (BareFin c I) l ∨ BareFin c I l)

/-- what a node that has a location leaves -/
def Tr.Loc (t : Tr) : Prop := t.All (Reloc c.cfg.path A BareCall) (Reloc c.cfg.path E (BareFin c I))

variable {c A E I}

theorem Tr.Loc.seq {t : Tr} (h : t.Loc c A E I) : t.Seq c A E I := h.mono (fun _ => .inl) (fun _ h => h)

/-- the shape of the conclusion of `reloc_traceNode`, for a node that has a location -/
theorem Tr.Loc.node {t : Tr} {p : Prop} (h : t.Loc c A E I) : t.Seq c A E I ∧ (p → t.Loc c A E I) := ⟨h.seq, fun _ => h⟩

theorem Tr.Seq.bare {t : Tr} (h : t.Seq c A E I) : t.Bare c A E I :=
  h.mono (fun _ h => h.imp_right .inr) (fun _ => .inl)

theorem Tr.Bare.wrap {t : Tr} {x : Nat} (h : t.Bare c A E I) (ha : A x) (he : E x) : (t.wrap c.cfg.path ⟨x, true⟩).Loc c A E I :=
  all_wrap _ _ h (fun _ hl => .wrapOr ha hl) (fun _ hl => .wrapOr he hl)

theorem loc_ownTr {α} {x : Nat} (p : Prog α) (ha : p.calls = [] ∨ A x) (he : p.pureFail = none ∨ E x) :
    (ownTr ⟨x, true⟩ p).Loc c A E I :=
  all_ownTr _ p (ha.imp_right .leaf) (he.imp_right .leaf)

theorem seq_ownTr_invalid {α} (p : Prog α) (hf : p.pureFail = none) : (ownTr invalidLoc p).Seq c A E I :=
  all_ownTr _ p (.inr (.inr rfl)) (.inl hf)

theorem seq_handOn {t : Tr} (h : t.Seq c A E I) : (⟨[], t.fin⟩ : Tr).Seq c A E I := all_fin _ h.2

theorem bare_iterTrace (var : Bytes) (cols : Option Nat) (bodyM : M Status) (bodyT : RS → Tr)
    (hb : ∀ s, (bodyT s).Bare c A E I) (n : Nat) :
    ∀ xs i cyc s, (iterTrace var cols bodyM bodyT n xs i cyc s).Bare c A E I := by
  intro xs
  induction xs with
  | nil => intro i cyc s; unfold iterTrace; exact all_empty
  | cons x xs ih =>
    intro i cyc s
    unfold iterTrace
    refine all_bind _ (all_pieceTr _ (.inr (.inl rfl)) (noFailM_writer.iterPre (fun _ _ => rfl) (fun _ _ => rfl) _ _ _ _ _ _)) (fun a _ => all_bind _ (hb _) (fun b _ =>
      all_bind _ (all_pieceTr _ (.inr (.inl rfl)) (noFailM_writer.iterPost (fun _ => rfl) _ _ _ _)) (fun d _ => ?_)))
    split
    · exact all_empty
    · exact ih _ _ _

theorem loc_loopTrace {budget : Int} (P : Prims) {line : Nat} (ha : A line) (he : E line)
    (tablerow : Bool) (var : Bytes) (e : Expr) (mods : LoopMods) (bodyM : M Status) (bodyT : RS → Tr)
    (hb : ∀ s, (bodyT s).Bare c A E I) (tooMany : Bool) (elseT : Option (RS → Tr))
    (hel : ∀ t, elseT = some t → ∀ s, (t s).Bare c A E I) (s : RS) :
    (loopTrace budget P c.cfg.path ⟨line, true⟩ tablerow var e mods bodyM bodyT tooMany elseT s).Loc c A E I := by
  unfold loopTrace
  refine all_bind _ (loc_ownTr _ (.inr ha) (.inr he)) (fun a _ => ?_)
  split
  · next t _ => exact (hel t rfl _).wrap ha he
  · exact all_bind _ (loc_ownTr _ (.inr ha) (.inr he)) (fun b _ =>
      (bare_iterTrace var _ bodyM bodyT hb _ _ _ _ _).wrap ha he)

theorem bare_inclInner {line : Nat} (he : E line) (args : Bytes) (hI : (line, args) ∈ I) (s : RS) :
    (inclInner c line args s).Bare c A E I := by
  unfold inclInner
  split
  · next e hp =>
    split
    · next rel hv =>
      have hinc : ∀ l', HandlerEnds (c.inc line (joinPath (dirPath c.cfg.path) rel) s.env) l' → BareFin c I (some l') :=
        fun l' hh => .inr ⟨l', rfl, (line, args), hI, s, e, rel, hp, hv, hh⟩
      refine all_bind _ (all_fin _ fun l hl => ?_) (fun r hr => ?_)
      · obtain ⟨e', hpf, rfl⟩ := Option.map_eq_some_iff.mp hl
        cases hs : e'.site with
        | none => exact .inr (.inl rfl)
        | some l' => exact .inr (hinc l' (.inl ⟨e', hpf, hs⟩))
      · split
        · exact all_pieceTr _ (.inr (.inl rfl)) (noFailM_writer.writeVerbatim _)
        · next st hst =>
          refine all_fin _ fun l hl => ?_
          cases Option.some.inj hl
          cases hs : r.1.site with
          | none => exact .inr (.inl rfl)
          | some l' => exact .inr (hinc l' (.inr ⟨r.1, r.2, hr, hs⟩))
    · exact all_fin _ fun l hl => by cases Option.some.inj hl; exact .inl (.leaf he)
    · exact all_fin _ fun l hl => by cases Option.some.inj hl; exact .inr (.inl rfl)
    · exact all_empty
  · exact all_fin _ fun l hl => by cases Option.some.inj hl; exact .inr (.inl rfl)
  · exact all_empty

theorem seq_blockBody {body : List Node} {s : RS} (hl : (traceList c body s).Seq c A E I) :
    (traceBlockBody c body s).Seq c A E I := by
  unfold traceBlockBody
  refine all_bind _ hl (fun a _ => ?_)
  split
  · exact seq_ownTr_invalid _ (pureFail_flush _)
  · exact seq_handOn hl

/-- what the walk asks of a subtree: its lines are in `A`, those of its tags and objects in `E`, its include tags in `I` -/
structure LinesIn (A E : Nat → Prop) (I : List (Nat × Bytes)) (l e : List Nat) (i : List (Nat × Bytes)) : Prop where
  a : ∀ x ∈ l, A x
  e : ∀ x ∈ e, E x
  i : ∀ x ∈ i, x ∈ I

theorem LinesIn.cons {l e i} {x : Nat} (h : LinesIn A E I (x :: l) (x :: e) i) : A x ∧ E x ∧ LinesIn A E I l e i :=
  ⟨h.a x List.mem_cons_self, h.e x List.mem_cons_self,
   fun y hy => h.a y (List.mem_cons_of_mem _ hy), fun y hy => h.e y (List.mem_cons_of_mem _ hy), h.i⟩

theorem LinesIn.append {l1 e1 i1 l2 e2 i2} (h : LinesIn A E I (l1 ++ l2) (e1 ++ e2) (i1 ++ i2)) :
    LinesIn A E I l1 e1 i1 ∧ LinesIn A E I l2 e2 i2 :=
  ⟨⟨fun y hy => h.a y (List.mem_append_left _ hy), fun y hy => h.e y (List.mem_append_left _ hy),
    fun y hy => h.i y (List.mem_append_left _ hy)⟩,
   ⟨fun y hy => h.a y (List.mem_append_right _ hy), fun y hy => h.e y (List.mem_append_right _ hy),
    fun y hy => h.i y (List.mem_append_right _ hy)⟩⟩

variable (c A E I)

mutual
theorem reloc_traceNode : ∀ (n : Node) (s : RS), LinesIn A E I n.lines n.elines n.ilines →
    (traceNode c n s).Seq c A E I ∧ (n.hasLoc = true → (traceNode c n s).Loc c A E I)
  | .text line src, s, h => by
    unfold traceNode
    exact (loc_ownTr _ (.inr (h.a line List.mem_cons_self)) (.inl (noFailM_text c line src s))).node
  | .obj line e, s, h => by
    unfold traceNode
    exact (loc_ownTr _ (.inr (h.a line List.mem_cons_self)) (.inr (h.e line List.mem_cons_self))).node
  | .raw slices, s, _ => by unfold traceNode; exact ⟨seq_ownTr_invalid _ (noFailM_raw c slices s), nofun⟩
  | .trim l, s, _ => by unfold traceNode; exact ⟨seq_ownTr_invalid _ (noFailM_trim c l s), nofun⟩
  | .assign line x e, s, h => by
    unfold traceNode
    exact (loc_ownTr _ (.inr (h.a line List.mem_cons_self)) (.inr (h.e line List.mem_cons_self))).node
  | .cycle line g v0 rest, s, h => by
    unfold traceNode
    exact (loc_ownTr _ (.inr (h.a line List.mem_cons_self)) (.inr (h.e line List.mem_cons_self))).node
  | .brk line, s, h => by
    unfold traceNode
    exact Tr.Loc.node (all_fin _ fun l hl => by cases Option.some.inj hl; exact .leaf (h.e line List.mem_cons_self))
  | .cont line, s, h => by
    unfold traceNode
    exact Tr.Loc.node (all_fin _ fun l hl => by cases Option.some.inj hl; exact .leaf (h.e line List.mem_cons_self))
  | .capture line x body, s, h => by
    unfold traceNode
    obtain ⟨ha, he, hb⟩ := h.cons
    have ih := reloc_traceList body { env := s.env, tw := {} } hb
    refine (Tr.Bare.wrap (all_bind _ (seq_handOn ih).bare (fun a _ => ?_)) ha he).node
    split
    · exact all_empty
    · exact (seq_handOn ih).bare
  | .ifB line bs, s, h => by
    unfold traceNode
    obtain ⟨ha, he, hb⟩ := h.cons
    exact ((reloc_traceBranches bs s hb).bare.wrap ha he).node
  | .caseB line subject cases, s, h => by
    unfold traceNode
    obtain ⟨ha, he, hb⟩ := h.cons
    refine (Tr.Bare.wrap ?_ ha he).node
    split
    · exact (reloc_traceCases _ cases s hb).bare
    · exact all_fin _ fun l hl => by cases Option.some.inj hl; exact .inr (.inl rfl)
    · exact all_empty
  | .loop line tablerow var e mods body [], s, h => by
    unfold traceNode
    obtain ⟨ha, he, hbc⟩ := h.cons
    refine (loc_loopTrace c.P ha he tablerow var e mods (renderBlockBody c body) (traceBlockBody c body)
      (fun s => (seq_blockBody (reloc_traceList body s hbc.append.1)).bare) false none (fun _ h => nomatch h) s).node
  | .loop line tablerow var e mods body [els], s, h => by
    unfold traceNode
    obtain ⟨ha, he, hbc⟩ := h.cons
    refine (loc_loopTrace c.P ha he tablerow var e mods (renderBlockBody c body) (traceBlockBody c body)
      (fun s => (seq_blockBody (reloc_traceList body s hbc.append.1)).bare) false (some (traceBlockBody c els))
      (fun t ht s => by cases ht; exact (seq_blockBody (reloc_traceList els s hbc.append.2.append.1)).bare) s).node
  | .loop line tablerow var e mods body (_ :: _ :: _), s, h => by
    unfold traceNode
    obtain ⟨ha, he, hbc⟩ := h.cons
    refine (loc_loopTrace c.P ha he tablerow var e mods (renderBlockBody c body) (traceBlockBody c body)
      (fun s => (seq_blockBody (reloc_traceList body s hbc.append.1)).bare) true none (fun _ h => nomatch h) s).node
  | .incl line args, s, h => by
    unfold traceNode
    exact ((bare_inclInner (h.e line List.mem_cons_self) args (h.i _ List.mem_cons_self) s).wrap
      (h.a line List.mem_cons_self) (h.e line List.mem_cons_self)).node
theorem reloc_traceList : ∀ (ns : List Node) (s : RS), LinesIn A E I (linesList ns) (elinesList ns) (ilinesList ns) →
    (traceList c ns s).Seq c A E I
  | [], s, _ => by unfold traceList; exact all_empty
  | n :: ns, s, h => by
    unfold traceList
    have hn := (reloc_traceNode n s h.append.1).1
    refine all_bind _ hn (fun a _ => ?_)
    split
    · exact reloc_traceList ns a.2 h.append.2
    · exact seq_handOn hn
theorem reloc_traceBranches : ∀ (bs : List (CondT × List Node)) (s : RS),
    LinesIn A E I (linesBranches bs) (elinesBranches bs) (ilinesBranches bs) → (traceBranches c bs s).Seq c A E I
  | [], s, _ => by unfold traceBranches; exact all_empty
  | (t, body) :: rest, s, h => by
    unfold traceBranches
    have h' : LinesIn A E I (t.lines ++ (linesList body ++ linesBranches rest)) (t.lines ++ (elinesList body ++ elinesBranches rest))
        ([] ++ (ilinesList body ++ ilinesBranches rest)) := by
      simpa only [linesBranches, elinesBranches, ilinesBranches, List.append_assoc, List.nil_append] using h
    have h0 : (ownTr ⟨t.tagLine, true⟩ (evalCond c.P c.cfg.path t s)).Loc c A E I := by
      refine loc_ownTr _ (.inl (evalCond_calls _ _ _ _)) ?_
      cases t with
      | always => exact .inl rfl
      | expr line e => exact .inr (h'.append.1.e line List.mem_cons_self)
      | notExpr line e => exact .inr (h'.append.1.e line List.mem_cons_self)
    refine all_bind _ h0.seq (fun a _ => ?_)
    split
    · exact seq_blockBody (reloc_traceList body a.2 h'.append.2.append.1)
    · exact reloc_traceBranches rest a.2 h'.append.2.append.2
theorem reloc_traceCases (sel : GoVal) : ∀ (cs : List (Option (Nat × List Expr) × List Node)) (s : RS),
    LinesIn A E I (linesCases cs) (elinesCases cs) (ilinesCases cs) → (traceCases c sel cs s).Seq c A E I
  | [], s, _ => by unfold traceCases; exact all_empty
  | (none, body) :: _, s, h => by
    unfold traceCases
    exact seq_blockBody (reloc_traceList body s h.append.1)
  | (some (line, es), body) :: rest, s, h => by
    unfold traceCases
    obtain ⟨ha, he, hbr⟩ := h.cons
    refine all_bind _ (loc_ownTr (c := c) (A := A) (E := E) (I := I) _ (.inr ha) (.inr he)).seq (fun a _ => ?_)
    split
    · exact seq_blockBody (reloc_traceList body a.2 hbr.append.1)
    · exact reloc_traceCases sel rest a.2 hbr.append.2
end

end walk

theorem Reloc.ne_none {path : Bytes} {A : Nat → Prop} {B : Site → Prop} {l : Site} (h : Reloc path A B l) : l ≠ none := by
  cases h <;> nofun

theorem Reloc.siteIn {path : Bytes} {L : List Nat} {l : Site} (h : Reloc path (· ∈ L) BareCall l) : SiteIn L l := by
  induction h with
  | leaf hx => exact .inr (.inr ⟨_, hx, rfl⟩)
  | wrap hx _ ih => exact (relocate_cases path _ _).elim (fun h => .inr (.inr ⟨_, hx, congrArg some h⟩)) (fun h => h ▸ ih)
  | bare hx hb =>
    refine (relocate_cases path _ _).elim (fun h => .inr (.inr ⟨_, hx, congrArg some h⟩)) (fun h => ?_)
    rw [← h]
    exact hb.elim .inl (fun h => .inr (.inl h))

theorem Reloc.siteAt {path : Bytes} {L : List Nat} (hpos : path ≠ [] ∨ ∀ x ∈ L, x ≠ 0) {l : Site}
    (h : Reloc path (· ∈ L) BareCall l) : SiteAt L l := by
  induction h with
  | leaf hx => exact ⟨_, hx, rfl⟩
  | wrap hx _ ih => exact (relocate_cases path _ _).elim (fun h => ⟨_, hx, congrArg some h⟩) (fun h => h ▸ ih)
  | bare hx hb =>
    rcases hb with rfl | rfl
    · exact ⟨_, hx, rfl⟩
    · exact ⟨_, hx, by rw [relocate_invalidLoc path _ (hpos.elim Or.inr (fun h => Or.inl (h _ hx)))]⟩

theorem Reloc.locOK {c : RCtx} {path : Bytes} {L : List Nat} {I : List (Nat × Bytes)} {s : Site}
    (h : Reloc path (· ∈ L) (BareFin c I) s) : ∃ l, s = some l ∧ LocOK c L I l := by
  induction h with
  | leaf hx => exact ⟨_, rfl, .inl ⟨hx, rfl⟩⟩
  | wrap hx _ ih =>
    refine ⟨_, rfl, (relocate_cases path _ _).elim (fun h => h ▸ .inl ⟨hx, rfl⟩) (fun h => ?_)⟩
    obtain ⟨l, hl, hok⟩ := ih
    exact Option.some.inj (hl.symm.trans h) ▸ hok
  | bare hx hb =>
    refine ⟨_, rfl, (relocate_cases path _ _).elim (fun h => h ▸ .inl ⟨hx, rfl⟩) (fun h => ?_)⟩
    rcases hb with rfl | ⟨l', rfl, hinc⟩
    · cases h
    · exact Option.some.inj h ▸ .inr hinc

theorem Tr.Seq.located {c : RCtx} {A E : Nat → Prop} {I : List (Nat × Bytes)} {t : Tr} (h : t.Seq c A E I) : t.Located :=
  ⟨fun l hl => (h.1 l hl).elim Reloc.ne_none (fun h => by rw [h]; nofun), fun hf => (h.2 _ hf).ne_none rfl⟩

theorem Tr.Seq.callsIn {c : RCtx} {L : List Nat} {E : Nat → Prop} {I : List (Nat × Bytes)} {t : Tr}
    (h : t.Seq c (· ∈ L) E I) : t.CallsIn L :=
  fun l hl => (h.1 l hl).elim Reloc.siteIn (fun h => .inr (.inl h))

theorem Tr.Loc.callsAt {c : RCtx} {L : List Nat} {E : Nat → Prop} {I : List (Nat × Bytes)} {t : Tr}
    (hpos : c.cfg.path ≠ [] ∨ ∀ x ∈ L, x ≠ 0) (h : t.Loc c (· ∈ L) E I) : t.CallsAt L :=
  fun l hl => (h.1 l hl).siteAt hpos

theorem Tr.Seq.finAt {c : RCtx} {A : Nat → Prop} {L : List Nat} {I : List (Nat × Bytes)} {t : Tr}
    (h : t.Seq c A (· ∈ L) I) : t.FinAt c L I :=
  fun _ hf => (h.2 _ hf).locOK

theorem reloc_traceBlockBody (c : RCtx) (A E : Nat → Prop) (I : List (Nat × Bytes)) (body : List Node) (s : RS)
    (h : LinesIn A E I (linesList body) (elinesList body) (ilinesList body)) : (traceBlockBody c body s).Seq c A E I :=
  seq_blockBody (reloc_traceList c A E I body s h)

theorem located_traceRoot (c : RCtx) (root : List Node) (env : Env) : (traceRoot c root env).Located :=
  (reloc_traceBlockBody c (fun _ => True) (fun _ => True) (ilinesList root) root _
    ⟨fun _ _ => trivial, fun _ _ => trivial, fun _ h => h⟩).located

/-- every node wraps: the error `FRender` into a buffer ends with is a located one, and the trace of the root ends at its location -/
theorem frenderOf_fail_located (c : RCtx) (hc : IncQuiet c) (root : List Node) (env : Env) (e : RawErr)
    (h : ((renderRoot c root env).bind statusToProg).pureFail = some e) :
    ∃ se, e = .located se ∧ (traceRoot c root env).fin = some (some ⟨se.line, se.pathSet⟩) := by
  have hf := (sp_frenderOf c hc root env).fin e h
  cases e with
  | plain cause => exact absurd hf (located_traceRoot c root env).2
  | located se => exact ⟨se, rfl, hf⟩

theorem sites_traceList (c : RCtx) (L : List Nat) (hpos : c.cfg.path ≠ [] ∨ ∀ x ∈ L, x ≠ 0) :
    ∀ (ns : List Node) (s : RS), (∀ x, x ∈ linesList ns → x ∈ L) → (traceList c ns s).CallsIn L :=
  fun ns s hL => (reloc_traceList c (· ∈ L) (fun _ => True) (ilinesList ns) ns s ⟨hL, fun _ _ => trivial, fun _ h => h⟩).callsIn

theorem sites_traceCases (c : RCtx) (L : List Nat) (hpos : c.cfg.path ≠ [] ∨ ∀ x ∈ L, x ≠ 0) (sel : GoVal) :
    ∀ (cs : List (Option (Nat × List Expr) × List Node)) (s : RS), (∀ x, x ∈ linesCases cs → x ∈ L) → (traceCases c sel cs s).CallsIn L :=
  fun cs s hL => (reloc_traceCases c (· ∈ L) (fun _ => True) (ilinesCases cs) sel cs s ⟨hL, fun _ _ => trivial, fun _ h => h⟩).callsIn
