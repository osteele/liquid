import Proofs.DecEq
import Proofs.Oracles
import Proofs.RenderSteps
import Liquid.Std
/-!
# C07 — every failure is a SourceError that locates the offending tag or object
-/

/-- a property of every failure a program can end with, whatever the writer answers -/
inductive AllFail {α : Type} (Q : RawErr → Prop) : Prog α → Prop where
  | ret (a) : AllFail Q (.ret a)
  | fail (e) : Q e → AllFail Q (.fail e)
  | panic (w) : AllFail Q (.panic w)
  | unmodelled (w) : AllFail Q (.unmodelled w)
  | call (b k) : (∀ r, AllFail Q (k r)) → AllFail Q (.call b k)

theorem AllFail.mapFail {α} {Q : RawErr → Prop} (g : RawErr → RawErr) (p : Prog α) (h : ∀ e, Q (g e)) :
    AllFail Q (p.mapFail g) := by
  induction p with
  | ret a => exact .ret a
  | fail e => exact .fail _ (h e)
  | panic w => exact .panic w
  | unmodelled w => exact .unmodelled w
  | call b k ih => exact .call _ _ ih

theorem AllFail.bind {α β} {Q : RawErr → Prop} {p : Prog α} {f : α → Prog β}
    (hp : AllFail Q p) (hf : ∀ a, AllFail Q (f a)) : AllFail Q (p.bind f) := by
  induction hp with
  | ret a => exact hf a
  | fail e he => exact .fail e he
  | panic w => exact .panic w
  | unmodelled w => exact .unmodelled w
  | call b k _ ih => exact .call _ _ ih

def IsLocated : RawErr → Prop
  | .located _ => True
  | .plain _ => False

/-- **C07 (innermost location wins).** An error that already carries a line number — or a path —
    is returned unchanged by every enclosing node: the reported line is the line of the tag or
    object whose own evaluation failed, however deeply it is nested, with or without a path. -/
theorem wrap_keeps_located (path : Bytes) (e : SErr) (loc : Loc)
    (h : e.line ≠ 0 ∨ (e.pathSet = true ∧ path ≠ [])) : wrapError path (.located e) loc = e :=
  wrapError_keeps path e loc h

/-- an error that is not yet a SourceError is located at the node that wraps it first, and is
    kept as the cause -/
theorem wrap_locates (path : Bytes) (c : Cause) (loc : Loc) :
    wrapError path (.plain c) loc = ⟨loc.line, loc.pathSet, c, .byCause⟩ := rfl

/-- re-wrapping never loses the cause (a filter's own error, a conversion error, the writer's error) -/
theorem cause_preserved_by_wrap (path : Bytes) (e : SErr) (loc : Loc) (h : e.cause ≠ .none) :
    (wrapError path (.located e) loc).cause = e.cause := by
  simp only [wrapError]
  split
  · rfl
  · simp [h]

/-- when an error without any location information is re-wrapped (only possible on line 0 of a
    template parsed without a path) the new location is the enclosing node's: still line 0 -/
theorem wrap_zero_line (path : Bytes) (e : SErr) (loc : Loc) (h : e.line = 0) (hl : loc.line = 0) :
    (wrapError path (.located e) loc).line = 0 := by
  simp only [wrapError]
  split <;> simp [h, hl]

/-- a failing object is reported at the object's line with the evaluation error as cause -/
theorem obj_error_located (c : RCtx) (line : Nat) (e : Expr) (s : RS) (cause : Cause)
    (h : evaluate c.P s.env e = .err cause) :
    renderNode c (.obj line e) s = .fail (.located ⟨line, true, cause, .byCause⟩) := by
  unfold renderNode
  simp only [wrapFailAt, M.mapFail, bind, M.bind, M.getEnv, M.ofRes, h, M.fail, Prog.bind, Prog.mapFail, wrapError]

/-- strict variables: an object whose final value is nil is an error at that object -/
theorem strict_undefined (c : RCtx) (line : Nat) (e : Expr) (s : RS)
    (h : evaluate c.P s.env e = .ok .nil) (hs : c.cfg.strict = true) :
    renderNode c (.obj line e) s = .fail (.located ⟨line, true, .other "undefinedVariable", .byCause⟩) := by
  unfold renderNode
  simp [wrapFailAt, M.mapFail, bind, M.bind, M.getEnv, M.ofRes, h, pure, M.pure, Prog.bind, GoVal.isNil, hs,
    M.fail, Prog.mapFail, wrapError]

/-- every failure that leaves a node through `wrapAt`/`wrapFailAt` is a located error (a
    SourceError), never a bare `error` -/
theorem wrapFailAt_located {α} (path : Bytes) (loc : Loc) (m : M α) (s : RS) :
    AllFail IsLocated (wrapFailAt path loc m s) :=
  AllFail.mapFail _ _ (fun _ => trivial)

theorem wrapAt_located (path : Bytes) (loc : Loc) (m : M Status) (s : RS) :
    AllFail IsLocated (wrapAt path loc m s) := by
  unfold wrapAt
  exact AllFail.bind (AllFail.mapFail _ _ (fun _ => trivial)) (fun _ => .ret _)

/-- an enclosing block leaves the located error of its body unchanged when that error has a line -/
theorem wrapAt_keeps (path : Bytes) (loc : Loc) (m : M Status) (s : RS) (e : SErr)
    (hm : m s = .fail (.located e)) (h : e.line ≠ 0 ∨ (e.pathSet = true ∧ path ≠ [])) :
    wrapAt path loc m s = .fail (.located e) := by
  unfold wrapAt
  simp only [hm, Prog.mapFail, Prog.bind, wrap_keeps_located path e loc h]

/-- a syntax error in an object is reported at that object's token line (which by `scan_line_at`
    is the start line plus the newlines before the object) -/
theorem parse_obj_error_line (g : Grammar) (chk : Bytes → Option Cause) (s : PState) (tok : Token) (c : Cause)
    (hm : s.mode = .normal) (ht : tok.ty = .obj) (hc : chk tok.args = some c) :
    parseStep g chk s tok = .err ⟨.objSyntax c, tok.line⟩ := by
  unfold parseStep
  simp [hm, ht, hc]

/-! ## Output or an error, never both — the entry points that RETURN a value

`Template.Render` and `Template.RenderString` render into a buffer of their own and return `(nil / "", err)` when
the render fails; the model's `run` (and `runStd`, the same with the standard value and output layers) is that
entry point: `RunResult` is output, or an error, or one of the model outcomes. `Template.FRender(w, vars)` is
`frender`, run against the caller's writer: what that writer accepted before the error (`written` below) stays
written. `run_error_discards_written` and `run_ok_iff_frender_ok` say how the two are related: when `FRender` into a
buffer ends with an error,
`Render` returns that error and drops everything that had been written; `Render` returns output only when
`FRender` ended without an error, and then all of it. -/

/-- the case split over `RunResult`: output, an error, or one of the model outcomes (that an error excludes output is
    `run_error_no_output`) -/
theorem run_output_xor_error (P : Prims) (O : OutPrims) (cfg : Cfg) (fs : FS) (fuel : Nat) (src : Bytes) (line : Nat) (env : Env) :
    (∃ out, run P O cfg fs fuel src line env = .ok out) ∨ (∃ e, run P O cfg fs fuel src line env = .err e) ∨
    (∃ w, run P O cfg fs fuel src line env = .panic w) ∨ (∃ w, run P O cfg fs fuel src line env = .unmodelled w) := by
  cases h : run P O cfg fs fuel src line env with
  | ok out => exact Or.inl ⟨out, rfl⟩
  | err e => exact Or.inr (Or.inl ⟨e, rfl⟩)
  | panic w => exact Or.inr (Or.inr (Or.inl ⟨w, rfl⟩))
  | unmodelled w => exact Or.inr (Or.inr (Or.inr ⟨w, rfl⟩))

/-- **C07 (no output together with an error).** When `run` — `Render` / `RenderString` — returns an error it returns
    no output: the two results exclude each other (in the model by the type of the result; on the real code it is
    the `errloc` oracle that checks `out == nil` resp. `out == ""` next to every error). -/
theorem run_error_no_output (P : Prims) (O : OutPrims) (cfg : Cfg) (fs : FS) (fuel : Nat) (src : Bytes) (line : Nat) (env : Env)
    (e : SErr) (h : run P O cfg fs fuel src line env = .err e) : ∀ out, run P O cfg fs fuel src line env ≠ .ok out := by
  intro out ho
  rw [h] at ho
  cases ho

/-- **C07 (what was written before the error is not returned).** For a source that compiles to `root`: when
    `FRender` into a buffer ends with the error `e` after the buffer has received `written` — any bytes, a prefix
    of the output may have gone out already — `run` returns the error `e` and nothing of `written`. -/
theorem run_error_discards_written (P : Prims) (O : OutPrims) (cfg : Cfg) (fs : FS) (fuel : Nat) (src : Bytes) (line : Nat) (env : Env)
    (root : List Node) (written : Bytes) (e : SErr) (hc : compileSource cfg.delims src line = .ok root)
    (h : (frender P O cfg fs fuel root env).runPure = (written, .err (.located e))) :
    run P O cfg fs fuel src line env = .err e := by
  unfold run
  rw [hc]
  simp only [h]

/-- **C07 (output means the whole render succeeded).** For a source that compiles to `root`: `run` returns the
    output `out` if and only if `FRender` into a buffer wrote exactly `out` and ended without an error. -/
theorem run_ok_iff_frender_ok (P : Prims) (O : OutPrims) (cfg : Cfg) (fs : FS) (fuel : Nat) (src : Bytes) (line : Nat) (env : Env)
    (root : List Node) (out : Bytes) (hc : compileSource cfg.delims src line = .ok root) :
    run P O cfg fs fuel src line env = .ok out ↔ (frender P O cfg fs fuel root env).runPure = (out, .ok ()) := by
  unfold run
  rw [hc]
  simp only
  constructor
  · intro h
    split at h
    · next out' u hr => cases h; exact hr
    · cases h
    · cases h
    · cases h
    · cases h
  · intro h
    rw [h]

theorem runStd_error_no_output (cfg : Cfg) (fs : FS) (src : Bytes) (line : Nat) (env : Env) (e : SErr)
    (h : runStd cfg fs src line env = .err e) : ∀ out, runStd cfg fs src line env ≠ .ok out :=
  run_error_no_output stdPrims stdOut cfg fs maxIncludeDepth src line env e h

/-! `a⏎{% if true %}⏎{{ y }}{% endif %}` with strict variables, `y` unbound: `FRender` has written `a⏎` when the
    object fails at line 3; `Render` returns the error alone. -/
def c07WrittenSrc : Bytes := [97, 10, 123, 37, 32, 105, 102, 32, 116, 114, 117, 101, 32, 37, 125, 10, 123, 123, 32, 121, 32, 125, 125,
  123, 37, 32, 101, 110, 100, 105, 102, 32, 37, 125]

theorem c07Written_compiles : compileSource [] c07WrittenSrc 1 =
    .ok [.text 1 [97, 10], .ifB 2 [(.expr 2 (.lit (.bool true)), [.text 2 [10], .obj 3 (.var [121])])]] := by decide +kernel

theorem c07Written_frender (P : Prims) (O : OutPrims) (fs : FS) :
    (frender P O { strict := true } fs 1 [.text 1 [97, 10], .ifB 2 [(.expr 2 (.lit (.bool true)), [.text 2 [10], .obj 3 (.var [121])])]] []).runPure =
      ([97, 10], .err (.located ⟨3, true, .other "undefinedVariable", .byCause⟩)) :=
  frender_of_bot P O _ fs 1 _ _ (by rw [renderRoot_eq_S]; decide +kernel) rfl

theorem c07Written_run (P : Prims) (O : OutPrims) (fs : FS) :
    run P O { strict := true } fs 1 c07WrittenSrc 1 [] = .err ⟨3, true, .other "undefinedVariable", .byCause⟩ :=
  run_error_discards_written P O { strict := true } fs 1 c07WrittenSrc 1 [] _ [97, 10] _ c07Written_compiles (c07Written_frender P O fs)

example (P : Prims) (O : OutPrims) (fs : FS) : ∀ out, run P O { strict := true } fs 1 c07WrittenSrc 1 [] ≠ .ok out :=
  run_error_no_output P O { strict := true } fs 1 c07WrittenSrc 1 [] _ (c07Written_run P O fs)

/-- `run_ok_iff_frender_ok`: the text `a⏎` alone renders to itself -/
example (P : Prims) (O : OutPrims) (fs : FS) : run P O {} fs 1 [97, 10] 1 [] = .ok [97, 10] :=
  (run_ok_iff_frender_ok P O {} fs 1 [97, 10] 1 [] [.text 1 [97, 10]] [97, 10] rfl).mpr (by
    simp only [frender, mkCtx, renderRoot, renderList, renderNode]
    rfl)

example : wrapError [] (.located ⟨2, true, .undefinedFilter [102], .byCause⟩) ⟨1, true⟩
    = ⟨2, true, .undefinedFilter [102], .byCause⟩ := by decide
example : wrapError [] (.plain .typeErr) ⟨3, true⟩ = ⟨3, true, .typeErr, .byCause⟩ := by decide
