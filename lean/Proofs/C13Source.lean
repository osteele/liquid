import Proofs.Oracles
import Proofs.DecEq
import Proofs.HyphenSourceFace
/-!
# C13, from source bytes — the hyphens of the SOURCE and the `.trim` nodes of the compiled tree

`Proofs/C13Template.lean` states the laws of whitespace control for compiled trees: a hyphen is a `.trim` node and
`stripTrims` removes the hyphens. This file ties that to the template SOURCE. A template is a list of items
(`Item`, `Proofs/E2ESpell.lean`: texts, objects, tags, each object and tag with a left and a right hyphen flag and
its inner white space); `spell d items` is its source text under the delimiters `d`; `dropHyphens items` clears
every flag, so that `spell d (dropHyphens items)` is the same source with the hyphen bytes next to the delimiters
deleted and nothing else changed (`hyphen_source_bytes`).

* `compile_dropHyphens`: compiling the hyphen-free source gives `stripTrims` of the tree the source compiles to —
  or the same compile-time error. Hypotheses (`HyphenClean`, decidable): good delimiters; BOTH item lists are
  `Clean` (what the tokenizer reads back from the spelling is the items; deleting a hyphen can change how the rest
  is read: `{{--1}}`, `{{ x}-}}` below); raw blocks are closed (`RawClosed`) and have no hyphen on the inner side
  of their tags (`RawPlain`).
* `hyphen_source_ops`, `hyphen_source_same_outcome`, `hyphen_source_erasure`, `hyphen_source_free_identity`:
  `hyphen_ops_root`, `hyphen_same_outcome`, `hyphen_erasure`, `hyphen_free_identity` of `Proofs/C13Template.lean`
  read on `run … (spell d items)` and `run … (spell d (dropHyphens items))`.
* `hyphen_faces_text_right_source(_eq)`, `hyphen_faces_text_left_source(_eq)`: the two faces-text rules for one
  top-level site, up to the line of the error (equal when no newline is deleted).
* examples: each hypothesis of `compile_dropHyphens` is needed.

Helper lemmas: `Proofs/HyphenSource.lean` (items, tokens, block parser), `Proofs/HyphenSourceCompile.lean` (compiler,
side conditions), `Proofs/HyphenSourceRun.lean` (`run`), `Proofs/HyphenSourceFace.lean` (the faces-text sites: how the
two sources compile, `runRoot_shift_tail`).
-/

open Gen

/-- **the bytes.** Mark in `spell d items` the hyphens that stand next to a delimiter (`spellMarked`): the source
    is the marked list's bytes, every marked byte is a hyphen, and the source of `dropHyphens items` is exactly the
    unmarked bytes in order — the source with its whitespace-control hyphens deleted, nothing else changed. No
    hypothesis on the items or the delimiters. -/
theorem hyphen_source_bytes (d : Delims) (items : List Item) :
    (spellMarked d items).map (·.1) = spell d items ∧
    ((spellMarked d items).filter (fun p => !p.2)).map (·.1) = spell d (dropHyphens items) ∧
    (∀ p ∈ spellMarked d items, p.2 = true → p.1 = 45) := by
  induction items with
  | nil => exact ⟨rfl, rfl, fun _ h => by cases h⟩
  | cons it r ih =>
    obtain ⟨h1, h2, h3⟩ := ih
    refine ⟨?_, ?_, ?_⟩
    · simp only [spellMarked, spell, List.map_append, Item.spellMarked_fst, h1]
    · simp only [spellMarked, dropHyphens_cons, spell, List.filter_append, List.map_append, Item.spellMarked_unmarked, h2]
    · intro p hp hm
      simp only [spellMarked, List.mem_append] at hp
      rcases hp with hp | hp
      · exact Item.spellMarked_hyphen d it p hp hm
      · exact h3 p hp hm

/-- **compile_dropHyphens.** For every good delimiter set and every template that is clean with and without its
    hyphens, whose raw blocks are closed and plain (`HyphenClean`): compiling the source with the hyphens deleted
    gives the tree of the source with every `.trim` node removed, at every depth (`stripTrims`) — or the same
    located compile-time error (the line included: deleting hyphens moves no token to another line). -/
theorem compile_dropHyphens (delims : List Bytes) (items : List Item) (line : Nat)
    (h : HyphenClean (Delims.ofList delims) items) :
    compileSource delims (spell (Delims.ofList delims) (dropHyphens items)) line =
      (compileSource delims (spell (Delims.ofList delims) items) line).mapOk stripTrims :=
  compileSource_dropHyphens delims items line h

theorem hyphen_free_source_no_trim (delims : List Bytes) (items : List Item) (line : Nat)
    (h : HyphenClean (Delims.ofList delims) items) (nodes0 : List Node)
    (hc : compileSource delims (spell (Delims.ofList delims) (dropHyphens items)) line = .ok nodes0) :
    hasTrim nodes0 = false := by
  rw [compile_dropHyphens delims items line h] at hc
  cases hcs : compileSource delims (spell (Delims.ofList delims) items) line <;> rw [hcs] at hc <;> cases hc
  exact hasTrim_stripTrims _

/-- **hyphen_ops, from source bytes.** Let the template be `HyphenClean` and let no hyphen stand inside a `capture`
    body (`SrcCapTrimFree`: `capTrimFree` of the compiled tree). For every value layer, output layer, configuration,
    file system, include fuel and environment: EITHER there is one list `ops` of trim-writer operations such that
    the source renders to `runOps ops`, making the calls `writeCalls ops` on its writer, and the source with its
    hyphens deleted renders to `runOps (eraseTrims ops)` — the same writes and flushes in the same order, the
    `TrimLeft`/`TrimRight` operations left out — with the calls `writeCalls (eraseTrims ops)`: the two sides of the
    operation-list theorems of `Proofs/C13.lean`; OR neither render succeeds and the two results are EQUAL (the
    same located error at compile time or at render time, the same panic). -/
theorem hyphen_source_ops (P : Prims) (O : OutPrims) (cfg : Cfg) (fs : FS) (fuel : Nat) (items : List Item) (line : Nat) (env : Env)
    (h : HyphenClean (Delims.ofList cfg.delims) items)
    (hcap : SrcCapTrimFree cfg.delims (spell (Delims.ofList cfg.delims) items) line) :
    (∃ ops,
      run P O cfg fs fuel (spell (Delims.ofList cfg.delims) items) line env = .ok (runOps ops) ∧
      run P O cfg fs fuel (spell (Delims.ofList cfg.delims) (dropHyphens items)) line env = .ok (runOps (eraseTrims ops)) ∧
      runCalls P O cfg fs fuel (spell (Delims.ofList cfg.delims) items) line env = writeCalls ops ∧
      runCalls P O cfg fs fuel (spell (Delims.ofList cfg.delims) (dropHyphens items)) line env = writeCalls (eraseTrims ops)) ∨
    ((∀ out, run P O cfg fs fuel (spell (Delims.ofList cfg.delims) items) line env ≠ .ok out) ∧
      run P O cfg fs fuel (spell (Delims.ofList cfg.delims) items) line env =
        run P O cfg fs fuel (spell (Delims.ofList cfg.delims) (dropHyphens items)) line env) := by
  rcases run_pair_dropHyphens P O cfg fs fuel items line env h with ⟨nodes, hc, hc0, hA, hB⟩ | hfail
  · obtain ⟨ops, o, h1, h2, h3, h4⟩ :=
      hyphen_ops_root (mkCtx P O cfg fs fuel) (incQuiet_mkCtx P O cfg fs fuel) nodes (hcap nodes hc) env
    simp only [hA, hB, h1, h2, runCalls, hc, hc0, h3, h4]
    rcases o with ⟨_ | e | e, env'⟩ | (e | c) | w | w
    · exact .inl ⟨ops, rfl, rfl, rfl, rfl⟩
    all_goals exact .inr ⟨nofun, rfl⟩
  · exact .inr hfail

/-- **hyphen_same_outcome, from source bytes.** Under the same hypotheses the hyphens do not change how the run
    ends: the source renders normally iff the source without hyphens does, and when it does not the two results
    are equal — the same located error (compile time or render time, a stray `break`/`continue` included), or the
    same panic. -/
theorem hyphen_source_same_outcome (P : Prims) (O : OutPrims) (cfg : Cfg) (fs : FS) (fuel : Nat) (items : List Item) (line : Nat)
    (env : Env) (h : HyphenClean (Delims.ofList cfg.delims) items)
    (hcap : SrcCapTrimFree cfg.delims (spell (Delims.ofList cfg.delims) items) line) :
    ((∃ out, run P O cfg fs fuel (spell (Delims.ofList cfg.delims) items) line env = .ok out) ↔
      (∃ out0, run P O cfg fs fuel (spell (Delims.ofList cfg.delims) (dropHyphens items)) line env = .ok out0)) ∧
    ((∀ out, run P O cfg fs fuel (spell (Delims.ofList cfg.delims) items) line env ≠ .ok out) →
      run P O cfg fs fuel (spell (Delims.ofList cfg.delims) items) line env =
        run P O cfg fs fuel (spell (Delims.ofList cfg.delims) (dropHyphens items)) line env) := by
  rcases hyphen_source_ops P O cfg fs fuel items line env h hcap with ⟨ops, hA, hB, -, -⟩ | ⟨hno, heq⟩
  · exact ⟨⟨fun _ => ⟨_, hB⟩, fun _ => ⟨_, hA⟩⟩, fun hno => absurd hA (hno _)⟩
  · refine ⟨⟨fun ⟨out, ho⟩ => absurd ho (hno out), fun ⟨out0, ho⟩ => ?_⟩, fun _ => heq⟩
    rw [← heq] at ho
    exact absurd ho (hno out0)

/-- **hyphen_erasure, from source bytes** (the last sentence of C13 on template source text). Let the template be
    `HyphenClean` with no hyphen inside a `capture` body, let the source render to `out` and the source with its
    hyphens deleted to `out0` (one does iff the other does: `hyphen_source_same_outcome`), and let every `Write` call
    of the hyphen-free render be valid UTF-8 (`runCalls`; on invalid UTF-8 the law is false already for operation
    lists: `tw_erasure_fails_on_invalid_utf8`). Then deleting every `unicode.IsSpace` rune from `out` and from `out0`
    gives the same bytes; `out` is obtained from `out0` by deleting whitespace runes only; `out` is a subsequence of
    `out0`; and `out` is valid UTF-8. -/
theorem hyphen_source_erasure (P : Prims) (O : OutPrims) (cfg : Cfg) (fs : FS) (fuel : Nat) (items : List Item) (line : Nat)
    (env : Env) (h : HyphenClean (Delims.ofList cfg.delims) items)
    (hcap : SrcCapTrimFree cfg.delims (spell (Delims.ofList cfg.delims) items) line) (out out0 : Bytes)
    (hA : run P O cfg fs fuel (spell (Delims.ofList cfg.delims) items) line env = .ok out)
    (hB : run P O cfg fs fuel (spell (Delims.ofList cfg.delims) (dropHyphens items)) line env = .ok out0)
    (hv : ∀ b ∈ runCalls P O cfg fs fuel (spell (Delims.ofList cfg.delims) (dropHyphens items)) line env, ValidUtf8 b) :
    stripSpaceBytes out = stripSpaceBytes out0 ∧
    WsDeletion isSpaceRune (decodeRunes out0) (decodeRunes out) ∧
    out.Sublist out0 ∧ ValidUtf8 out := by
  rcases run_pair_dropHyphens P O cfg fs fuel items line env h with ⟨nodes, hc, hc0, hrA, hrB⟩ | ⟨hno, _⟩
  · rw [hrA, resOfRoot_ok_iff] at hA
    rw [hrB, resOfRoot_ok_iff] at hB
    refine hyphen_erasure_engine P O cfg fs fuel nodes (hcap nodes hc) env out out0 hA hB ?_
    simpa only [runCalls, hc0] using hv
  · exact absurd hA (hno out)

/-- **hyphen_free_identity, from source bytes.** A source without whitespace-control hyphens loses nothing: when
    `spell d (dropHyphens items)` renders, its output is the concatenation of the chunks written, and every
    non-empty chunk reaches the writer as one unchanged `Write` call, in order (all bytes, valid UTF-8 or not). -/
theorem hyphen_source_free_identity (P : Prims) (O : OutPrims) (cfg : Cfg) (fs : FS) (fuel : Nat) (items : List Item) (line : Nat)
    (env : Env) (h : HyphenClean (Delims.ofList cfg.delims) items) (out0 : Bytes)
    (hB : run P O cfg fs fuel (spell (Delims.ofList cfg.delims) (dropHyphens items)) line env = .ok out0) :
    ∃ ops : List WOp, _root_.eraseTrims ops = ops ∧ out0 = wopWrites ops ∧
      runCalls P O cfg fs fuel (spell (Delims.ofList cfg.delims) (dropHyphens items)) line env =
        (wopChunks ops).filter (fun b => !b.isEmpty) := by
  rcases run_pair_dropHyphens P O cfg fs fuel items line env h with ⟨nodes, hc, hc0, _, hrB⟩ | ⟨hno, heq⟩
  · rw [hrB, resOfRoot_ok_iff] at hB
    obtain ⟨ops, o, _, he, hall⟩ := hyphen_free_identity (mkCtx P O cfg fs fuel) (incQuiet_mkCtx P O cfg fs fuel)
      (stripTrims nodes) (hasTrim_stripTrims nodes) env
    obtain ⟨h1, h2⟩ := hall out0 hB
    exact ⟨ops, he, h1, by simp only [runCalls, hc0, h2]⟩
  · exact absurd (heq.trans hB) (hno out0)

/-! ## A hyphen that faces a literal text

The two rules of `Proofs/C13Template.lean` (`hyphen_faces_text_right`, `hyphen_faces_text_left_block`) read on source
text, for a site at the top level of a template between two self-contained pieces: `A X -}}u B` against
`A X }}u' B` with `u'` the left-stripped text, and `A u{{- X B` against `A u'{{ X B` with `u'` the right-stripped
text. Deleting white space from the source moves the rest of the template up when a newline is deleted, so the two
results are compared up to the line of the error (`RunResult.sameUpToLine`: the same output; or errors with the same
cause, message and path flag; or the same panic); when no newline is deleted they are equal. -/

/-- **hyphen_faces_text_right, from source bytes.** `A` is any item list and `X` an object or tag with a right
    hyphen such that `A X` without that hyphen is a self-contained piece (`Compiles`: `X` may close a block opened in
    `A`); `u` is a text whose left-stripped form `trimLeftSpace u` (`bytes.TrimLeftFunc(u, unicode.IsSpace)`) is not
    empty (part of `Clean` of the second template); `B` is a self-contained piece without an `include` tag. For every
    value layer, output layer, configuration with good delimiters, file system and environment, from any start line
    ≥ 1: the source `A X -}}u B` and the source `A X }}u' B` — the hyphen deleted and the adjacent white space of the
    text deleted with it — give results that agree up to the line of the error. -/
theorem hyphen_faces_text_right_source (P : Prims) (O : OutPrims) (cfg : Cfg) (fs : FS) (fuel : Nat) (line : Nat) (env : Env)
    (hline : 1 ≤ line) (A : List Item) (X : Item) (u : Bytes) (B : List Item) (hX : X.hr = true)
    (hg : GoodDelims (Delims.ofList cfg.delims))
    (hc1 : Clean (Delims.ofList cfg.delims) (A ++ X :: .text u :: B))
    (hc2 : Clean (Delims.ofList cfg.delims) (A ++ X.clearR :: .text (trimLeftSpace u) :: B))
    (hrc : RawClosed (A ++ X :: .text u :: B))
    (hP : Compiles (Delims.ofList cfg.delims) (A ++ [X.clearR]) line) (hB : Compiles (Delims.ofList cfg.delims) B 0)
    (hiB : NoIncludeItem B) :
    (run P O cfg fs fuel (spell (Delims.ofList cfg.delims) (A ++ X :: .text u :: B)) line env).sameUpToLine
      (run P O cfg fs fuel (spell (Delims.ofList cfg.delims) (A ++ X.clearR :: .text (trimLeftSpace u) :: B)) line env) := by
  obtain ⟨nP, hnP⟩ := hP.nodes
  obtain ⟨nB, hnB⟩ := hB.nodes
  have hni := compiles_noIncl _ B 0 nB hnB hiB
  rw [run_spell P O cfg fs fuel _ line env hg hc1, run_spell P O cfg fs fuel _ line env hg hc2,
    compile_faceR_site _ A X u B line hX hrc nP nB hnP hnB, compile_faceR_site0 _ A X _ B line nP nB hnP hnB]
  show (runRoot P O cfg fs fuel _ env).sameUpToLine (runRoot P O cfg fs fuel _ env)
  rw [runRoot_faceR]
  have key := runRoot_shift_tail P O cfg fs fuel
    (nP ++ [.text (line + countNL (spell (Delims.ofList cfg.delims) (A ++ [X]))) (trimLeftSpace u)]) nB
    (line + countNL (spell (Delims.ofList cfg.delims) (A ++ [X])) + countNL u)
    (line + countNL (spell (Delims.ofList cfg.delims) (A ++ [X])) + countNL (trimLeftSpace u)) (by omega) (by omega) hni env
  simp only [List.append_assoc, List.singleton_append] at key
  exact key

/-- the same when the white space deleted holds no newline: the two results are EQUAL (every line included), for
    every `B` (an `include` tag allowed) and every start line -/
theorem hyphen_faces_text_right_source_eq (P : Prims) (O : OutPrims) (cfg : Cfg) (fs : FS) (fuel : Nat) (line : Nat) (env : Env)
    (A : List Item) (X : Item) (u : Bytes) (B : List Item) (hX : X.hr = true)
    (hnl : countNL (trimLeftSpace u) = countNL u)
    (hg : GoodDelims (Delims.ofList cfg.delims))
    (hc1 : Clean (Delims.ofList cfg.delims) (A ++ X :: .text u :: B))
    (hc2 : Clean (Delims.ofList cfg.delims) (A ++ X.clearR :: .text (trimLeftSpace u) :: B))
    (hrc : RawClosed (A ++ X :: .text u :: B))
    (hP : Compiles (Delims.ofList cfg.delims) (A ++ [X.clearR]) line) (hB : Compiles (Delims.ofList cfg.delims) B 0) :
    run P O cfg fs fuel (spell (Delims.ofList cfg.delims) (A ++ X :: .text u :: B)) line env =
      run P O cfg fs fuel (spell (Delims.ofList cfg.delims) (A ++ X.clearR :: .text (trimLeftSpace u) :: B)) line env := by
  obtain ⟨nP, hnP⟩ := hP.nodes
  obtain ⟨nB, hnB⟩ := hB.nodes
  rw [run_spell P O cfg fs fuel _ line env hg hc1, run_spell P O cfg fs fuel _ line env hg hc2,
    compile_faceR_site _ A X u B line hX hrc nP nB hnP hnB, compile_faceR_site0 _ A X _ B line nP nB hnP hnB, hnl]
  show runRoot P O cfg fs fuel _ env = runRoot P O cfg fs fuel _ env
  rw [runRoot_faceR]

/-- **hyphen_faces_text_left, from source bytes.** `A` is a self-contained piece, `u` a text on which stripping the
    two sides commutes (`TrimComm`, decidable; true of every text: `trimComm_all`) and whose right-stripped form
    `trimRightSpace u` is not empty, `X` an object or tag with a left hyphen such that `X B` without that hyphen is a
    self-contained piece without an `include` tag (`X` may open a block closed in `B`). From any start line ≥ 1 the
    source `A u{{- X B` and the source `A u'{{ X B` — the hyphen deleted and the adjacent white space of the text
    deleted with it — give results that agree up to the line of the error. (On a writer that fails the two renders
    differ in what has been written: `hyphen_left_partial_output_differs`; `run` is the fault-free result.) -/
theorem hyphen_faces_text_left_source (P : Prims) (O : OutPrims) (cfg : Cfg) (fs : FS) (fuel : Nat) (line : Nat) (env : Env)
    (hline : 1 ≤ line) (A : List Item) (u : Bytes) (X : Item) (B : List Item) (hX : X.hl = true) (hu : TrimComm u)
    (hg : GoodDelims (Delims.ofList cfg.delims))
    (hc1 : Clean (Delims.ofList cfg.delims) (A ++ .text u :: X :: B))
    (hc2 : Clean (Delims.ofList cfg.delims) (A ++ .text (trimRightSpace u) :: X.clearL :: B))
    (hrc : RawClosed (A ++ .text u :: X :: B))
    (hA : Compiles (Delims.ofList cfg.delims) A line) (hQ : Compiles (Delims.ofList cfg.delims) (X.clearL :: B) 0)
    (hiQ : NoIncludeItem (X.clearL :: B)) :
    (run P O cfg fs fuel (spell (Delims.ofList cfg.delims) (A ++ .text u :: X :: B)) line env).sameUpToLine
      (run P O cfg fs fuel (spell (Delims.ofList cfg.delims) (A ++ .text (trimRightSpace u) :: X.clearL :: B)) line env) := by
  obtain ⟨nA, hnA⟩ := hA.nodes
  obtain ⟨nQ, hnQ⟩ := hQ.nodes
  have hni := compiles_noIncl _ _ 0 nQ hnQ hiQ
  rw [run_spell P O cfg fs fuel _ line env hg hc1, run_spell P O cfg fs fuel _ line env hg hc2,
    compile_faceL_site _ A u X B line hX hrc nA nQ hnA hnQ, compiles_text_between _ A _ (X.clearL :: B) line hnA hnQ]
  show (runRoot P O cfg fs fuel _ env).sameUpToLine (runRoot P O cfg fs fuel _ env)
  rw [runRoot_faceL P O cfg fs fuel nA _ _ u]
  have key := runRoot_shift_tail P O cfg fs fuel
    (nA ++ [.text (line + countNL (spell (Delims.ofList cfg.delims) A)) (trimRightSpace u)]) nQ
    (line + countNL (spell (Delims.ofList cfg.delims) A) + countNL u)
    (line + countNL (spell (Delims.ofList cfg.delims) A) + countNL (trimRightSpace u)) (by omega) (by omega) hni env
  simp only [List.append_assoc, List.singleton_append] at key
  exact key

/-- the same when the white space deleted holds no newline: the two results are EQUAL -/
theorem hyphen_faces_text_left_source_eq (P : Prims) (O : OutPrims) (cfg : Cfg) (fs : FS) (fuel : Nat) (line : Nat) (env : Env)
    (A : List Item) (u : Bytes) (X : Item) (B : List Item) (hX : X.hl = true) (hu : TrimComm u)
    (hnl : countNL (trimRightSpace u) = countNL u)
    (hg : GoodDelims (Delims.ofList cfg.delims))
    (hc1 : Clean (Delims.ofList cfg.delims) (A ++ .text u :: X :: B))
    (hc2 : Clean (Delims.ofList cfg.delims) (A ++ .text (trimRightSpace u) :: X.clearL :: B))
    (hrc : RawClosed (A ++ .text u :: X :: B))
    (hA : Compiles (Delims.ofList cfg.delims) A line) (hQ : Compiles (Delims.ofList cfg.delims) (X.clearL :: B) 0) :
    run P O cfg fs fuel (spell (Delims.ofList cfg.delims) (A ++ .text u :: X :: B)) line env =
      run P O cfg fs fuel (spell (Delims.ofList cfg.delims) (A ++ .text (trimRightSpace u) :: X.clearL :: B)) line env := by
  obtain ⟨nA, hnA⟩ := hA.nodes
  obtain ⟨nQ, hnQ⟩ := hQ.nodes
  rw [run_spell P O cfg fs fuel _ line env hg hc1, run_spell P O cfg fs fuel _ line env hg hc2,
    compile_faceL_site _ A u X B line hX hrc nA nQ hnA hnQ, compiles_text_between _ A _ (X.clearL :: B) line hnA hnQ, hnl]
  show runRoot P O cfg fs fuel _ env = runRoot P O cfg fs fuel _ env
  rw [runRoot_faceL P O cfg fs fuel nA _ _ u]

/-! ## Non-vacuity, on concrete bytes (default delimiters)

`a {{- v -}} b{% if v -%} c {% endif %}`: a hyphen on every side of the object, one inside a block. -/

def c13Items : List Item :=
  [.text [97, 32], .obj [118] true true [32] [32], .text [32, 98], .tag nmIf [118] false true [32] [32] [32],
   .text [32, 99, 32], .tag (endPrefix ++ nmIf) [] false false [32] [] [32]]

/-- the source, and the source with its three hyphens deleted -/
example : spell Delims.default c13Items =
    [97, 32, 123, 123, 45, 32, 118, 32, 45, 125, 125, 32, 98, 123, 37, 32, 105, 102, 32, 118, 32, 45, 37, 125, 32, 99, 32,
     123, 37, 32, 101, 110, 100, 105, 102, 32, 37, 125] ∧
    spell Delims.default (dropHyphens c13Items) =
    [97, 32, 123, 123, 32, 118, 32, 125, 125, 32, 98, 123, 37, 32, 105, 102, 32, 118, 32, 37, 125, 32, 99, 32,
     123, 37, 32, 101, 110, 100, 105, 102, 32, 37, 125] := by decide

theorem c13_clean : HyphenClean Delims.default c13Items := by decide +kernel

theorem c13_compiles : compileSource [] (spell Delims.default c13Items) 1 =
    .ok [.text 1 [97, 32], .trim true, .obj 1 (.var [118]), .trim false, .text 1 [32, 98],
      .ifB 1 [(.expr 1 (.var [118]), [.trim false, .text 1 [32, 99, 32]])]] :=
  by decide +kernel

theorem c13_capFree : SrcCapTrimFree [] (spell Delims.default c13Items) 1 := srcCapTrimFree_of_compiled c13_compiles rfl

/-- the hypotheses of the four `hyphen_source_*` theorems hold of it -/
example : HyphenClean Delims.default c13Items ∧ SrcCapTrimFree [] (spell Delims.default c13Items) 1 := ⟨c13_clean, c13_capFree⟩

theorem c13_compiles0 : compileSource [] (spell Delims.default (dropHyphens c13Items)) 1 =
    .ok [.text 1 [97, 32], .obj 1 (.var [118]), .text 1 [32, 98], .ifB 1 [(.expr 1 (.var [118]), [.text 1 [32, 99, 32]])]] :=
  (compile_dropHyphens [] c13Items 1 c13_clean).trans (congrArg (Res.mapOk stripTrims) c13_compiles)

/-- `compile_dropHyphens` on it: the hyphen-free source compiles to the tree without the three `.trim` nodes -/
example : compileSource [] (spell Delims.default (dropHyphens c13Items)) 1 =
    .ok [.text 1 [97, 32], .obj 1 (.var [118]), .text 1 [32, 98], .ifB 1 [(.expr 1 (.var [118]), [.text 1 [32, 99, 32]])]] :=
  c13_compiles0

/-- `hyphen_source_same_outcome` on it, for every value layer, output layer, file system and
    environment -/
example (P : Prims) (O : OutPrims) (fs : FS) (env : Env) :
    (∃ out, run P O {} fs 1 (spell Delims.default c13Items) 1 env = .ok out) ↔
      (∃ out0, run P O {} fs 1 (spell Delims.default (dropHyphens c13Items)) 1 env = .ok out0) :=
  (hyphen_source_same_outcome P O {} fs 1 c13Items 1 env c13_clean c13_capFree).1

def c13Env : Env := [([118], .str [120])]

/-- a run in the demo layers, for every file system: the tree has no `include` to look at it. What remains is closed. -/
theorem hyRun_of_compiled (fs : FS) {src : Bytes} {root : List Node} (env : Env) (hc : compileSource [] src 1 = .ok root)
    (hd : (renderRootS hyCtx root env).runPure.2.definite = true) :
    run hyPrims hyOut {} fs 1 src 1 env = resOfRoot (renderRootS hyCtx root env).runPure := by
  rw [run_of_compiled _ _ {} fs 1 _ 1 _ hc]
  cases hx : (renderRootS hyCtx root env).runPure with
  | mk out o =>
    rw [hx] at hd
    exact congrArg resOfRoot (renderRoot_of_quiet hyCtx (fun _ _ _ => ⟨_, rfl⟩) fs 1 root env (by rw [renderRoot_eq_S, hx]) hd)

theorem hyCalls_of_compiled (fs : FS) {src : Bytes} {root : List Node} (env : Env) (hc : compileSource [] src 1 = .ok root)
    (hd : (renderRootS hyCtx root env).runPure.2.definite = true) :
    runCalls hyPrims hyOut {} fs 1 src 1 env = (renderRootS hyCtx root env).calls := by
  rw [runCalls_of_compiled _ _ {} fs 1 _ 1 _ hc, ← renderRoot_eq_S] at *
  exact renderRoot_calls_of_quiet hyCtx (fun _ _ _ => ⟨_, rfl⟩) fs 1 root env hd

/-- with `v` = `"x"` the source renders `axbc␠` -/
theorem c13_out (fs : FS) : run hyPrims hyOut {} fs 1 (spell Delims.default c13Items) 1 c13Env = .ok [97, 120, 98, 99, 32] :=
  (hyRun_of_compiled fs _ c13_compiles (by decide +kernel)).trans (by decide +kernel)

/-- the source without hyphens renders `a␠x␠b␠c␠` -/
theorem c13_out0 (fs : FS) :
    run hyPrims hyOut {} fs 1 (spell Delims.default (dropHyphens c13Items)) 1 c13Env = .ok [97, 32, 120, 32, 98, 32, 99, 32] :=
  (hyRun_of_compiled fs _ c13_compiles0 (by decide +kernel)).trans (by decide +kernel)

/-- … in four `Write` calls -/
theorem c13_calls0 (fs : FS) :
    runCalls hyPrims hyOut {} fs 1 (spell Delims.default (dropHyphens c13Items)) 1 c13Env = [[97, 32], [120], [32, 98], [32, 99, 32]] :=
  (hyCalls_of_compiled fs _ c13_compiles0 (by decide +kernel)).trans (by decide +kernel)

/-- Non-vacuity of `hyphen_source_erasure`: every hypothesis holds of `c13Items` with `v` = `"x"`; the outputs
    `axbc␠` and `a␠x␠b␠c␠` are both `axbc` without whitespace -/
example (fs : FS) : stripSpaceBytes [97, 120, 98, 99, 32] = stripSpaceBytes [97, 32, 120, 32, 98, 32, 99, 32] ∧
    WsDeletion isSpaceRune (decodeRunes [97, 32, 120, 32, 98, 32, 99, 32]) (decodeRunes [97, 120, 98, 99, 32]) ∧
    ([97, 120, 98, 99, 32] : Bytes).Sublist [97, 32, 120, 32, 98, 32, 99, 32] ∧ ValidUtf8 [97, 120, 98, 99, 32] :=
  hyphen_source_erasure hyPrims hyOut {} fs 1 c13Items 1 c13Env c13_clean c13_capFree _ _ (c13_out fs) (c13_out0 fs) (by
    show ∀ b ∈ runCalls hyPrims hyOut {} fs 1 (spell Delims.default (dropHyphens c13Items)) 1 c13Env, _
    rw [c13_calls0]
    decide)

/-- Non-vacuity of `hyphen_source_free_identity`: the four chunks of the hyphen-free render -/
example (fs : FS) : ∃ ops : List WOp, _root_.eraseTrims ops = ops ∧ [97, 32, 120, 32, 98, 32, 99, 32] = wopWrites ops ∧
    runCalls hyPrims hyOut {} fs 1 (spell Delims.default (dropHyphens c13Items)) 1 c13Env =
      (wopChunks ops).filter (fun b => !b.isEmpty) :=
  hyphen_source_free_identity hyPrims hyOut {} fs 1 c13Items 1 c13Env c13_clean _ (c13_out0 fs)

/-- `a {{- v }}{% cycle "b" %}` -/
def c13Fail : List Item := [.text [97, 32], .obj [118] true false [32] [32], .tag nmCycle [34, 98, 34] false false [32] [32] [32]]

/-- Non-vacuity of `hyphen_source_same_outcome` on a render that FAILS: `c13Fail` fails at the cycle tag (no enclosing
    loop), and so does the source without the hyphen, with the same error -/
example (fs : FS) :
    run hyPrims hyOut {} fs 1 (spell Delims.default c13Fail) 1 [] = .err ⟨1, true, .none, .cycleOutside⟩ ∧
    run hyPrims hyOut {} fs 1 (spell Delims.default (dropHyphens c13Fail)) 1 [] = .err ⟨1, true, .none, .cycleOutside⟩ := by
  have hcl : HyphenClean Delims.default c13Fail := by decide +kernel
  have hc : compileSource [] (spell Delims.default c13Fail) 1 =
      .ok [.text 1 [97, 32], .trim true, .obj 1 (.var [118]), .cycle 1 [] [98] []] :=
    (compileSource_spell [] c13Fail 1 hcl.1 hcl.2.1).trans (by decide +kernel)
  refine (fun h => ⟨h, ((hyphen_source_same_outcome hyPrims hyOut {} fs 1 c13Fail 1 [] hcl (srcCapTrimFree_of_compiled hc (by decide +kernel))).2
    (fun out ho => by cases h.symm.trans ho)).symm.trans h⟩) ?_
  exact (hyRun_of_compiled fs _ hc (by decide +kernel)).trans (by decide +kernel)

/-- … and on a source that does not COMPILE: `a {{- v }}{% endif %}`, with or without the hyphen, is rejected with
    the same located error -/
example : compileSource [] (spell Delims.default (dropHyphens [.text [97, 32], .obj [118] true false [32] [32],
      .tag (endPrefix ++ nmIf) [] false false [32] [] [32]])) 1 = .err ⟨1, true, .none, .notInside⟩ := by
  have hcl : HyphenClean Delims.default [.text [97, 32], .obj [118] true false [32] [32],
      .tag (endPrefix ++ nmIf) [] false false [32] [] [32]] := by decide +kernel
  exact (compile_dropHyphens [] _ 1 hcl).trans (by rw [compileSource_spell [] _ 1 hcl.1 hcl.2.1]; decide +kernel)

/-! ## The hypotheses are needed

Each example below is a template on which ONE hypothesis of `compile_dropHyphens` fails and its conclusion is false. -/

/-- **`Clean` of the hyphen-free items does not follow from `Clean` of the items (1).** `{{--1}}` is the object `-1`
    after a left hyphen; with the hyphen deleted, `{{-1}}` is the object `1` after a left hyphen: deleting the hyphen
    character changes the EXPRESSION. (Go: `a {{--1}}` renders `a-1`, `a {{-1}}` renders `a1`.) -/
example : Clean Delims.default [.obj [45, 49] true false [] []] ∧
    ¬ Clean Delims.default (dropHyphens [.obj [45, 49] true false [] []]) ∧
    compileSource [] (spell Delims.default [.obj [45, 49] true false [] []]) 1 =
      .ok [.trim true, .obj 1 (.lit (.int .int (-1)))] ∧
    compileSource [] (spell Delims.default (dropHyphens [.obj [45, 49] true false [] []])) 1 =
      .ok [.trim true, .obj 1 (.lit (.int .int 1))] := by decide +kernel

/-- **(2).** `{{ x}-}}` is an object with the arguments `x}` (a syntax error) and a right hyphen; with the hyphen
    deleted, `{{ x}}}` is the object `x` followed by the text `}`. (Go: `{{ x}-}}` is rejected with a syntax error in
    `x}`, `{{ x}}}` renders the value of `x` and `}`.) -/
example : Clean Delims.default [.obj [120, 125] false true [32] []] ∧
    ¬ Clean Delims.default (dropHyphens [.obj [120, 125] false true [32] []]) ∧
    compileSource [] (spell Delims.default [.obj [120, 125] false true [32] []]) 1 = .err ⟨1, true, .syntax, .byCause⟩ ∧
    compileSource [] (spell Delims.default (dropHyphens [.obj [120, 125] false true [32] []])) 1 =
      .ok [.obj 1 (.var [120]), .text 1 [125]] := by decide +kernel

/-- `{% raw -%}x{% endraw %}` -/
def c13RawHy : List Item := [.tag rawName [] false true [32] [] [], .text [120], .tag endrawName [] false false [32] [] [32]]

/-- **`RawPlain` is needed.** Inside a raw block the parser keeps every token as a slice of the body, a trim marker as
    an EMPTY slice: `{% raw -%}x{% endraw %}` compiles to `raw ["", "x"]`, `{% raw %}x{% endraw %}` to `raw ["x"]`, and
    `stripTrims` does not touch raw nodes: the two TREES differ, and so do the operation lists (the empty slice is one
    more verbatim write), which is what `compile_dropHyphens` and `hyphen_source_ops` speak about. The OUTPUT does not
    differ: the hyphen does not trim the body (Go renders `{% raw -%}  y{% endraw %}` as `␠␠y`), and no neighbour's
    hyphen does either (`fixes/verbatim-output-not-trimmed`) — `{{ x -}}{% raw -%}  y{% endraw %}` and
    `{{ x -}}{% raw %}  y{% endraw %}` both render `X␠␠y` (the second is
    `raw_after_right_hyphen_source` in `Proofs/C05Verbatim.lean`, the `hyphens` stream compares both). -/
example : GoodDelims Delims.default ∧ Clean Delims.default c13RawHy ∧ Clean Delims.default (dropHyphens c13RawHy) ∧
    RawClosed c13RawHy ∧ ¬ RawPlain c13RawHy ∧
    compileSource [] (spell Delims.default c13RawHy) 1 = .ok [.raw [[], [120]]] ∧
    compileSource [] (spell Delims.default (dropHyphens c13RawHy)) 1 = .ok [.raw [[120]]] :=
  have hg : GoodDelims Delims.default := by decide
  have h : Clean Delims.default c13RawHy := by decide +kernel
  have h0 : Clean Delims.default (dropHyphens c13RawHy) := by decide +kernel
  ⟨hg, h, h0, by decide, by decide, (compileSource_spell [] _ 1 hg h).trans (by decide +kernel), (compileSource_spell [] _ 1 hg h0).trans (by decide +kernel)⟩

/-- `{% raw %}{{- x }}{% endraw y %}` -/
def c13RawOpen : List Item := [.tag rawName [] false false [32] [] [32], .obj [120] true false [32] [32],
  .tag endrawName [121] false false [32] [32] [32]]

/-- **`RawClosed` is needed.** A raw block that the tokenizer does not close (its `endraw` tag carries arguments) is
    closed by the block parser, and its body is the token sources AS SPELLED, hyphens included. (Go renders
    `{% raw %}{{- x }}{% endraw y %}` as `{{- x }}` and `{% raw %}{{ x }}{% endraw y %}` as `{{ x }}`.) -/
example : GoodDelims Delims.default ∧ Clean Delims.default c13RawOpen ∧ Clean Delims.default (dropHyphens c13RawOpen) ∧
    ¬ RawClosed c13RawOpen ∧ RawPlain c13RawOpen ∧
    compileSource [] (spell Delims.default c13RawOpen) 1 = .ok [.raw [[], [123, 123, 45, 32, 120, 32, 125, 125]]] ∧
    compileSource [] (spell Delims.default (dropHyphens c13RawOpen)) 1 = .ok [.raw [[123, 123, 32, 120, 32, 125, 125]]] :=
  have hg : GoodDelims Delims.default := by decide
  have h : Clean Delims.default c13RawOpen := by decide +kernel
  have h0 : Clean Delims.default (dropHyphens c13RawOpen) := by decide +kernel
  ⟨hg, h, h0, by decide, by decide, (compileSource_spell [] _ 1 hg h).trans (by decide +kernel), (compileSource_spell [] _ 1 hg h0).trans (by decide +kernel)⟩

/-- `{% capture x %} {{- v }}{% endcapture %}{% if x == " " %}yes{% endif %}` -/
def c13Cap : List Item := [.tag nmCapture [120] false false [32] [32] [32], .text [32], .obj [118] true false [32] [32],
  .tag (endPrefix ++ nmCapture) [] false false [32] [] [32], .tag nmIf [120, 32, 61, 61, 32, 34, 32, 34] false false [32] [32] [32],
  .text [121, 101, 115], .tag (endPrefix ++ nmIf) [] false false [32] [] [32]]

/-- **`SrcCapTrimFree` is needed** (`hyphen_in_capture_changes_control_flow`, from source bytes). The template is
    `HyphenClean`; the hyphen stands inside a capture body. With it the captured text is empty and nothing is printed;
    without it the captured text is one blank and `yes` is printed: the two outputs differ by more than whitespace. -/
example (fs : FS) : HyphenClean Delims.default c13Cap ∧ ¬ SrcCapTrimFree [] (spell Delims.default c13Cap) 1 ∧
    run hyPrims hyOut {} fs 1 (spell Delims.default c13Cap) 1 [] = .ok [] ∧
    run hyPrims hyOut {} fs 1 (spell Delims.default (dropHyphens c13Cap)) 1 [] = .ok [121, 101, 115] ∧
    stripSpaceBytes [] ≠ stripSpaceBytes [121, 101, 115] := by
  have hcl : HyphenClean Delims.default c13Cap := by decide +kernel
  have hc : compileSource [] (spell Delims.default c13Cap) 1 =
      .ok [.capture 1 [120] [.text 1 [32], .trim true, .obj 1 (.var [118])],
        .ifB 1 [(.expr 1 (.rel .eq (.var [120]) (.lit (.str [32]))), [.text 1 [121, 101, 115]])]] :=
    (compileSource_spell [] c13Cap 1 hcl.1 hcl.2.1).trans (by decide +kernel)
  have hc0 := (compile_dropHyphens [] c13Cap 1 hcl).trans (congrArg (Res.mapOk stripTrims) hc)
  refine ⟨hcl, (fun hall => by have := hall _ hc; cases this), ?_, ?_, by decide⟩
  · exact (hyRun_of_compiled fs _ hc (by decide +kernel)).trans (by decide +kernel)
  · exact (hyRun_of_compiled fs _ hc0 (by decide +kernel)).trans (by decide +kernel)

-- Elaborating an application puts its result type into weak head normal form; for `sameUpToLine` of two runs on
-- concrete bytes that would run the compiler on both sources.
attribute [local irreducible] RunResult.sameUpToLine

/-- `{% if v %}c{% endif %}` -/
def c13B : List Item := [tg nmIf [118], .text [99], tg (endPrefix ++ nmIf) []]

/-- `a{{ v -}}␠⏎␠b{% if v %}c{% endif %}` and `a{{ v }}b{% if v %}c{% endif %}` (an object with a right hyphen before a
    text that begins with white space holding a newline): the same result up to the line of the error, for every
    value layer, output layer, file system and environment -/
example (P : Prims) (O : OutPrims) (fs : FS) (env : Env) :
    (run P O {} fs 1 (spell Delims.default ([.text [97]] ++ .obj [118] false true [32] [32] :: .text [32, 10, 32, 98] :: c13B)) 1 env).sameUpToLine
      (run P O {} fs 1 (spell Delims.default
        ([.text [97]] ++ (Item.obj [118] false true [32] [32]).clearR :: .text (trimLeftSpace [32, 10, 32, 98]) :: c13B)) 1 env) :=
  hyphen_faces_text_right_source P O {} fs 1 1 env (by decide) [.text [97]] (.obj [118] false true [32] [32]) [32, 10, 32, 98] c13B
    rfl (by decide) (by decide +kernel) (by decide +kernel) (by decide) (by decide +kernel) (by decide +kernel) (by decide)

example : spell Delims.default ([.text [97]] ++ .obj [118] false true [32] [32] :: .text [32, 10, 32, 98] :: c13B) =
    [97, 123, 123, 32, 118, 32, 45, 125, 125, 32, 10, 32, 98, 123, 37, 32, 105, 102, 32, 118, 32, 37, 125, 99,
     123, 37, 32, 101, 110, 100, 105, 102, 32, 37, 125] ∧
    spell Delims.default ([.text [97]] ++ (Item.obj [118] false true [32] [32]).clearR :: .text (trimLeftSpace [32, 10, 32, 98]) :: c13B) =
    [97, 123, 123, 32, 118, 32, 125, 125, 98, 123, 37, 32, 105, 102, 32, 118, 32, 37, 125, 99,
     123, 37, 32, 101, 110, 100, 105, 102, 32, 37, 125] := by decide

/-- `{% if v %}a{% endif -%}⏎␠b` and `{% if v %}a{% endif %}b`: the hyphen stands on a tag that closes a block -/
example (P : Prims) (O : OutPrims) (fs : FS) (env : Env) :
    (run P O {} fs 1 (spell Delims.default ([tg nmIf [118], .text [97]] ++
        .tag (endPrefix ++ nmIf) [] false true [32] [] [] :: .text [10, 32, 98] :: [])) 1 env).sameUpToLine
      (run P O {} fs 1 (spell Delims.default ([tg nmIf [118], .text [97]] ++
        (Item.tag (endPrefix ++ nmIf) [] false true [32] [] []).clearR :: .text (trimLeftSpace [10, 32, 98]) :: [])) 1 env) :=
  hyphen_faces_text_right_source P O {} fs 1 1 env (by decide) _ _ _ _ rfl (by decide) (by decide +kernel) (by decide +kernel) (by decide)
    (by decide +kernel) (by decide +kernel) (by decide)

/-- `a{{ v -}}␠b{% include "f" %}` and `a{{ v }}b{% include "f" %}`: no newline is deleted, the results are equal, an
    `include` tag may follow -/
example (P : Prims) (O : OutPrims) (fs : FS) (env : Env) :
    run P O {} fs 1 (spell Delims.default ([.text [97]] ++ .obj [118] false true [32] [32] :: .text [32, 98] ::
        [tg nmInclude [34, 102, 34]])) 1 env =
      run P O {} fs 1 (spell Delims.default ([.text [97]] ++ (Item.obj [118] false true [32] [32]).clearR ::
        .text (trimLeftSpace [32, 98]) :: [tg nmInclude [34, 102, 34]])) 1 env :=
  hyphen_faces_text_right_source_eq P O {} fs 1 1 env _ _ _ _ rfl (by decide) (by decide) (by decide +kernel) (by decide +kernel)
    (by decide) (by decide +kernel) (by decide +kernel)

/-- `{{ v }}a␠⏎␠{{- v }}{% if v %}c{% endif %}` and `{{ v }}a{{ v }}{% if v %}c{% endif %}` -/
example (P : Prims) (O : OutPrims) (fs : FS) (env : Env) :
    (run P O {} fs 1 (spell Delims.default ([ob [118]] ++ .text [97, 32, 10, 32] :: .obj [118] true false [32] [32] :: c13B)) 1 env).sameUpToLine
      (run P O {} fs 1 (spell Delims.default
        ([ob [118]] ++ .text (trimRightSpace [97, 32, 10, 32]) :: (Item.obj [118] true false [32] [32]).clearL :: c13B)) 1 env) :=
  hyphen_faces_text_left_source P O {} fs 1 1 env (by decide) [ob [118]] [97, 32, 10, 32] (.obj [118] true false [32] [32]) c13B
    rfl (by decide) (by decide) (by decide +kernel) (by decide +kernel) (by decide) (by decide +kernel) (by decide +kernel) (by decide)

/-- `a⏎{%- if v %}c{% endif %}d` and `a{% if v %}c{% endif %}d`: the hyphen stands on a tag that opens a block -/
example (P : Prims) (O : OutPrims) (fs : FS) (env : Env) :
    (run P O {} fs 1 (spell Delims.default ([] ++ .text [97, 10] :: .tag nmIf [118] true false [32] [32] [32] ::
        [.text [99], tg (endPrefix ++ nmIf) [], .text [100]])) 1 env).sameUpToLine
      (run P O {} fs 1 (spell Delims.default ([] ++ .text (trimRightSpace [97, 10]) ::
        (Item.tag nmIf [118] true false [32] [32] [32]).clearL :: [.text [99], tg (endPrefix ++ nmIf) [], .text [100]])) 1 env) :=
  hyphen_faces_text_left_source P O {} fs 1 1 env (by decide) _ _ _ _ rfl (by decide) (by decide) (by decide +kernel) (by decide +kernel)
    (by decide) (by decide +kernel) (by decide +kernel) (by decide)

/-- **Why "up to the line".** `a{{ v -}}⏎b{% cycle "b" %}` fails at the cycle tag on line 2; with the hyphen and the
    newline deleted, `a{{ v }}b{% cycle "b" %}` fails with the same message at the same tag, now on line 1. (The Go
    engine reports the line of the tag in the source it was given, like the model.) -/
example (fs : FS) :
    run hyPrims hyOut {} fs 1 (spell Delims.default ([.text [97]] ++ .obj [118] false true [32] [32] :: .text [10, 98] ::
      [tg nmCycle [34, 98, 34]])) 1 [] = .err ⟨2, true, .none, .cycleOutside⟩ ∧
    run hyPrims hyOut {} fs 1 (spell Delims.default ([.text [97]] ++ (Item.obj [118] false true [32] [32]).clearR ::
      .text (trimLeftSpace [10, 98]) :: [tg nmCycle [34, 98, 34]])) 1 [] = .err ⟨1, true, .none, .cycleOutside⟩ := by
  constructor
  · exact (hyRun_of_compiled fs [] (by decide +kernel :
      _ = Res.ok [.text 1 [97], .obj 1 (.var [118]), .trim false, .text 1 [10, 98], .cycle 2 [] [98] []]) (by decide +kernel)).trans (by decide +kernel)
  · exact (hyRun_of_compiled fs [] (by decide +kernel :
      _ = Res.ok [.text 1 [97], .obj 1 (.var [118]), .text 1 [98], .cycle 1 [] [98] []]) (by decide +kernel)).trans (by decide +kernel)
