import Proofs.JsonLemmas
import Proofs.InsertionSort
/-!
# The value filters `json`, `inspect`, `type` (`Liquid/Filters/Json.lean`)

Property-level statements about the model of `encoding/json` marshalling that the filters `json` and
`inspect` print (the no-panic part is `JsonF.json_noPanic`, `inspect_noPanic`, `typeF_noPanic` in `Proofs/JsonLemmas.lean`: entries of
`stdFilterImpls_noPanic`, an input of
C01's `run_std_noPanic`):

* **map order** (C02): the JSON text of a Go map does not depend on the order in which the runtime
  hands the entries out — `jsonObject_perm` on the (key text, value text) entries,
  `json_map_order_independent` / `json_keyedMap_order_independent` on `json.Marshal` itself;
* **string escaping**: what stands between the quotes is valid UTF-8 (whatever the input bytes), has
  no control character and no raw `<`, `>`, `&`, and the string scanner of RFC 8259 — a backslash
  takes the next byte with it — reaches its first free quote exactly at the closing quote;
* **`inspect` = `json`** through `ApplyFilter`/`Call`, whenever either prints a (non-empty) text.
-/

open JsonF

/-- **json of a map is independent of the order of the entry list.** Any two permutations of the
    same entries (key text, value JSON) with distinct keys give the same object text. -/
theorem jsonObject_perm (es es' : List (Bytes × Bytes)) (hperm : es.Perm es')
    (hdistinct : ∀ a b, a ∈ es → b ∈ es → a.1 = b.1 → a = b) :
    jsonObject es = jsonObject es' :=
  congrArg objectOf (mergeSort_key_perm (fun _ _ => rfl) hperm hdistinct)

/-- entries whose key texts tell them apart marshal to the same object in every order: the members are sorted by key text -/
theorem jsonObject_of_perm {α} {g : α → R (Bytes × Bytes)} {kvs : List α} {es es' : List (Bytes × Bytes)}
    (h : travM g kvs = .ok es) (hp : es.Perm es')
    (hinj : ∀ a ∈ kvs, ∀ b ∈ kvs, ∀ ea eb, g a = .ok ea → g b = .ok eb → ea.1 = eb.1 → a = b) :
    jsonObject es = jsonObject es' := by
  refine jsonObject_perm es es' hp fun a b ha hb hab => ?_
  obtain ⟨kva, hka, ea⟩ := (travM_ok_iff.mp h).mem_right a ha
  obtain ⟨kvb, hkb, eb⟩ := (travM_ok_iff.mp h).mem_right b hb
  cases hinj kva hka kvb hkb a b ea eb hab
  exact Res.ok.inj (ea.symm.trans eb)

theorem travM_object_perm {α} {g : α → R (Bytes × Bytes)} {kvs kvs' : List α} (hperm : kvs.Perm kvs')
    (hinj : ∀ a ∈ kvs, ∀ b ∈ kvs, ∀ ea eb, g a = .ok ea → g b = .ok eb → ea.1 = eb.1 → a = b)
    {out : Bytes} (h : ((travM g kvs).bind fun es => .ok (jsonObject es)) = .ok out) :
    ((travM g kvs').bind fun es => .ok (jsonObject es)) = .ok out := by
  obtain ⟨es, hes, h⟩ := Res.bind_eq_ok h
  rcases travM_perm (f := g) hperm with ⟨bs, bs', h1, h2, hp⟩ | ⟨h1, _⟩
  · cases hes.symm.trans h1
    rw [h2, Res.bind_ok, ← jsonObject_of_perm h1 hp hinj]
    exact h
  · exact absurd hes (h1 es)

/-- **`json.Marshal` of a Go map does not depend on the map's iteration order.** `kvs'` is any
    permutation of the entries `kvs` (keys with distinct texts, as in every Go map with string or
    integer keys): whenever the one marshals to a text, the other marshals to the same text. -/
theorem json_map_order_independent (k v : Ty) (kvs kvs' : List (GoVal × GoVal)) (hperm : kvs.Perm kvs')
    (hkeys : ∀ a b, a ∈ kvs → b ∈ kvs → keyText a.1 = keyText b.1 → a = b)
    (out : Bytes) (h : marshal (.map k v kvs) = .ok out) : marshal (.map k v kvs') = .ok out := by
  rw [marshal, marshalKVs_eq_travM] at h ⊢
  split at h
  · next hk =>
    rw [if_pos hk]
    exact travM_object_perm hperm
      (fun a ha b hb ea eb hea heb hab => hkeys a b ha hb (by rw [entryOf_key hea, entryOf_key heb, hab])) h
  · cases h

/-- the same for a `tags.IterationKeyedMap` (a `map[string]any`) -/
theorem json_keyedMap_order_independent (kvs kvs' : List (Bytes × GoVal)) (hperm : kvs.Perm kvs')
    (hkeys : ∀ a b, a ∈ kvs → b ∈ kvs → a.1 = b.1 → a = b)
    (out : Bytes) (h : marshal (.keyedMap kvs) = .ok out) : marshal (.keyedMap kvs') = .ok out := by
  rw [marshal, marshalNamed_eq_travM] at h ⊢
  exact travM_object_perm hperm
    (fun a ha b hb ea eb hea heb hab => hkeys a b ha hb (by rw [namedOf_key hea, namedOf_key heb, hab])) h

/-! Non-vacuity: `{"b":null,"a":true}` built in two orders -/
example : jsonObject [([98], nullB), ([97], [116, 114, 117, 101])] = jsonObject [([97], [116, 114, 117, 101]), ([98], nullB)] :=
  jsonObject_perm _ _ (List.Perm.swap _ _ _) (by
    intro a b ha hb h
    simp only [List.mem_cons, List.mem_nil_iff, or_false] at ha hb
    rcases ha with rfl | rfl <;> rcases hb with rfl | rfl <;> simp_all)

example : (marshal (.map .str .any [(.str [98], .nil)])).isOk = true := by decide +kernel

theorem jsonString_eq (s : Bytes) : jsonString s = 34 :: (escBody s ++ [34]) := rfl

/-- **No control character and no raw `<`, `>`, `&` inside a string body**, for every byte string. -/
theorem jsonString_body_bytes (s : Bytes) : ∀ b ∈ escBody s, 32 ≤ b ∧ b ≠ 60 ∧ b ≠ 62 ∧ b ≠ 38 := by
  unfold escBody
  refine escAux_ind (fun out => ∀ b ∈ out, 32 ≤ b ∧ b ≠ 60 ∧ b ≠ 62 ∧ b ≠ 38) ?_ ?_ ?_ _ s
  · intro b hb; cases hb
  · intro c t hc ht y hy
    rcases List.mem_append.mp hy with hy | hy
    · have := okChunk_bytes hc y hy
      exact ⟨this.1, this.2.2.1, this.2.2.2.1, this.2.2.2.2⟩
    · exact ht y hy
  · intro c t _ hc ht y hy
    rcases List.mem_append.mp hy with hy | hy
    · have h128 := hc y hy
      refine ⟨?_, ?_, ?_, ?_⟩
      · rw [UInt8.le_iff_toNat_le]; exact Nat.le_trans (by decide) h128
      · intro h; subst h; exact absurd h128 (by decide)
      · intro h; subst h; exact absurd h128 (by decide)
      · intro h; subst h; exact absurd h128 (by decide)
    · exact ht y hy

/-- **The output is valid UTF-8 whatever the input bytes are** (an invalid byte is written as the
    ASCII escape `\ufffd`). -/
theorem jsonString_valid_utf8 (s : Bytes) : ValidUtf8 (jsonString s) := by
  rw [jsonString_eq]
  refine (validUtf8_cons_ascii 34 _ (by decide)).mpr (validUtf8_append ?_ ((validUtf8_cons_ascii 34 [] (by decide)).mpr validUtf8_nil))
  unfold escBody
  refine escAux_ind ValidUtf8 validUtf8_nil ?_ ?_ _ s
  · intro c t hc ht
    exact validUtf8_append (validUtf8_of_all_ascii _ (fun y hy => (okChunk_bytes hc y hy).2.1)) ht
  · intro c t hv _ ht
    exact validUtf8_append hv ht

/-- **No unescaped quote inside the string body.** Scanning from just after the opening quote, the
    first quote that is not taken by a backslash is the closing one: the scanner returns exactly what
    follows the literal, whatever that is. -/
theorem jsonString_closes (s t : Bytes) : strEnd ((jsonString s).tail ++ t) = some t := by
  rw [jsonString_eq, List.tail_cons, List.append_assoc]
  show strEnd (escBody s ++ 34 :: t) = some t
  unfold escBody
  refine escAux_ind (fun out => ∀ t, strEnd (out ++ 34 :: t) = some t) ?_ ?_ ?_ _ s t
  · intro t; rw [List.nil_append, strEnd_cons]; rfl
  · intro c out hc ih t
    rw [List.append_assoc, strEnd_okChunk hc]
    exact ih t
  · intro c out _ hc ih t
    rw [List.append_assoc, strEnd_plain c _ (fun y hy => ?_)]
    · exact ih t
    · have h128 := hc y hy
      constructor <;> (intro h; subst h; exact absurd h128 (by decide))

/-! Non-vacuity: `a"<\n` followed by an invalid byte prints as `"a\"\u003c\n\ufffd"` -/
example : jsonString [97, 34, 60, 10, 255] =
    [34, 97, 92, 34, 92, 117, 48, 48, 51, 99, 92, 110, 92, 117, 102, 102, 102, 100, 34] := by decide +kernel

theorem applyFilter_json_inspect (recv : GoVal) :
    applyFilter (lookupImpl stdFilterImpls) (bn "json") recv [] =
      (convertArgs [.val .any] [recv]).bind (fun cargs => applyFilter.finish (bn "json") (JsonF.json cargs)) ∧
    applyFilter (lookupImpl stdFilterImpls) (bn "inspect") recv [] =
      (convertArgs [.val .any] [recv]).bind (fun cargs => applyFilter.finish (bn "inspect") (JsonF.inspect cargs)) :=
  ⟨applyFilter_at (i := 44) rfl rfl rfl recv [] (Nat.lt_irrefl 1), applyFilter_at (i := 45) rfl rfl rfl recv [] (Nat.lt_irrefl 1)⟩

/-- **`inspect` prints what `json` prints.** Whenever `x | inspect` yields a text, `x | json` yields the
    same text; and whenever `x | json` yields a non-empty text (the empty text is what `json` returns
    when `json.Marshal` fails; `inspect` then prints Go syntax instead), so does `x | inspect`. -/
theorem inspect_eq_json (recv : GoVal) (b : Bytes) :
    (applyFilter (lookupImpl stdFilterImpls) (bn "inspect") recv [] = .ok (.str b) →
      applyFilter (lookupImpl stdFilterImpls) (bn "json") recv [] = .ok (.str b)) ∧
    (b ≠ [] → applyFilter (lookupImpl stdFilterImpls) (bn "json") recv [] = .ok (.str b) →
      applyFilter (lookupImpl stdFilterImpls) (bn "inspect") recv [] = .ok (.str b)) := by
  obtain ⟨hj, hi⟩ := applyFilter_json_inspect recv
  rw [hj, hi]
  cases hc : convertArgs [.val .any] [recv] with
  | ok cargs =>
    obtain ⟨v, rfl, _⟩ := (convertArgs_ok _ _ _ hc).val₁
    simp only [Res.bind, applyFilter.finish, JsonF.json, JsonF.inspect]
    cases hm : marshalTop v with
    | ok out =>
      simp only [ret, bytesToString]
      constructor
      · intro h; cases h; rfl
      · intro _ h; cases h; rfl
    | err e =>
      simp only [ret, bytesToString]
      constructor
      · intro h; cases h
      · intro hne h; cases h; exact absurd rfl hne
    | _ => simp
  | _ => simp [Res.bind]

/-! Non-vacuity: `[1,"<"] | inspect` prints `[1,"<"]` (and so does `[1,"<"] | json`: `inspect_eq_json`) -/
example : (match applyFilter (lookupImpl stdFilterImpls) (bn "inspect") (.slice .any [.int .int 1, .str [60]]) [] with
    | .ok (.str s) => s == [91, 49, 44, 34, 92, 117, 48, 48, 51, 99, 34, 93]
    | _ => false) = true := by
  rw [applyFilter_pos 45 (name := bn "inspect") (by decide +kernel)]
  decide +kernel
