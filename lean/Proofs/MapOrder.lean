import Proofs.MapOrderLemmas
import Proofs.CallLemmas
import Liquid.Std
/-!
# `values.SortedMapKeys` orders the keys of a map totally: the sorted entry list does not depend on
the order in which the Go runtime (or the line protocol) hands the entries out (property C02)

`MapOrder.keyLess` (`Liquid/MapOrder.lean`) is the comparator of `values/sort.go`, clause by clause.
This file proves that on keys of classes 1–3 — booleans, numbers, strings (`GoodKey`) — that are
distinct *as Go map keys* it is a strict total order:

* `keyLess_irrefl`, `keyLess_trans`, `keyLess_total`;
* `sortedEntries_perm`: the stable sort by it gives the same list for every permutation of the entries;
* the sites: the items a `for`/`tablerow` loop visits (`loopItems_map_perm`), the array an array filter
  receives (`convert_map_perm`), and `first`, `last`, `join`, `size` of a map (`first_map_perm`, …).

Two keys of one Go map are the same key iff they have the same dynamic type and the same value. On
`GoodKey`s that is equality of the model's values (`.int k n = .int k' m ↔ k = k' ∧ n = m`, rationals
are kept normalised), so "pairwise distinct as Go map keys" is `List.Pairwise (·.1 ≠ ·.1)`.

`keyLess_total` is the statement that was FALSE before the repair `6d9b1b2` of /repo: `keyLess` ended
with `return valueLess(ca, a, b)`, and `1`, `1.0`, `int64(1)` — three keys of a `map[any]any` — were
incomparable, so `sort.SliceStable` left them in Go's random map order.
-/

namespace MapOrder

/-- a key of class 1–3 (boolean, number, string); an integer lies in the range of its Go type (a value
    of kind `uint8` is never negative: `numberLess` relies on it when it compares `int` with `uint`) -/
def goodKey : GoVal → Bool
  | .bool _ | .str _ | .flt _ _ => true
  | .int k n => k.inRange n
  | _ => false

abbrev GoodKey (k : GoVal) : Prop := goodKey k = true

theorem goodKey_class {k : GoVal} (h : GoodKey k) : keyClass k ≠ 4 := by
  cases k <;> simp_all [GoodKey, goodKey, keyClass]

/-- a strict linear order; lexicographic products have it again (`SLO.lex`), which is how `rankLt` gets it -/
structure SLO {α : Type} (lt : α → α → Prop) : Prop where
  irrefl : ∀ a, ¬ lt a a
  trans : ∀ a b c, lt a b → lt b c → lt a c
  tri : ∀ a b, lt a b ∨ a = b ∨ lt b a

def lexLt {α β : Type} (r : α → α → Prop) (s : β → β → Prop) (x y : α × β) : Prop :=
  r x.1 y.1 ∨ (x.1 = y.1 ∧ s x.2 y.2)

theorem SLO.lex {α β : Type} {r : α → α → Prop} {s : β → β → Prop} (hr : SLO r) (hs : SLO s) :
    SLO (lexLt r s) where
  irrefl := by
    rintro ⟨a, b⟩ (h | ⟨_, h⟩)
    · exact hr.irrefl a h
    · exact hs.irrefl b h
  trans := by
    rintro ⟨a1, b1⟩ ⟨a2, b2⟩ ⟨a3, b3⟩ h12 h23
    simp only [lexLt] at *
    rcases h12 with h12 | ⟨e12, h12⟩ <;> rcases h23 with h23 | ⟨e23, h23⟩
    · exact .inl (hr.trans _ _ _ h12 h23)
    · subst e23; exact .inl h12
    · subst e12; exact .inl h23
    · subst e12 e23; exact .inr ⟨rfl, hs.trans _ _ _ h12 h23⟩
  tri := by
    rintro ⟨a1, b1⟩ ⟨a2, b2⟩
    simp only [lexLt]
    rcases hr.tri a1 a2 with h | rfl | h
    · exact .inl (.inl h)
    · rcases hs.tri b1 b2 with h | rfl | h
      · exact .inl (.inr ⟨rfl, h⟩)
      · exact .inr (.inl rfl)
      · exact .inr (.inr (.inr ⟨rfl, h⟩))
    · exact .inr (.inr (.inl h))

theorem slo_nat : SLO (fun a b : Nat => a < b) where
  irrefl := fun a => Nat.lt_irrefl a
  trans := fun _ _ _ => Nat.lt_trans
  tri := fun a b => by omega

theorem slo_rat : SLO (fun a b : Rat => a < b) where
  irrefl := fun _ => Rat.lt_irrefl
  trans := by
    intro a b c hab hbc
    refine Rat.lt_of_le_of_ne (Rat.le_trans (Rat.le_of_lt hab) (Rat.le_of_lt hbc)) ?_
    rintro rfl
    exact Rat.not_lt.mpr (Rat.le_of_lt hab) hbc
  tri := by
    intro a b
    rcases Rat.le_total (a := a) (b := b) with h | h
    · exact (Rat.le_iff_lt_or_eq.mp h).imp_right .inl
    · exact (Rat.le_iff_lt_or_eq.mp h).elim (fun hl => .inr (.inr hl)) fun e => .inr (.inl e.symm)

theorem slo_bytes : SLO (fun a b : Bytes => a < b) where
  irrefl := fun a => List.lt_irrefl a
  trans := fun _ _ _ => List.lt_trans
  tri := by
    intro a b
    by_cases h1 : a < b
    · exact .inl h1
    · by_cases h2 : b < a
      · exact .inr (.inr h2)
      · exact .inr (.inl (List.le_antisymm (List.not_lt.mp h2) (List.not_lt.mp h1)))

def num : GoVal → Rat
  | .int _ n => (n : Rat)
  | .flt _ q => q
  | _ => 0

def boolRank : GoVal → Nat
  | .bool true => 1
  | _ => 0

/-- what `valueLess` compares: only one of the three components is used in each class -/
def val (k : GoVal) : Nat × Rat × Bytes := (boolRank k, num k, Heap.strOf k)

def valLt : (Nat × Rat × Bytes) → (Nat × Rat × Bytes) → Prop := lexLt (· < ·) (lexLt (· < ·) (· < ·))

def rank (k : GoVal) : Nat × (Nat × Rat × Bytes) × Bytes := (keyClass k, val k, keyTypeName k)

def rankLt : (Nat × (Nat × Rat × Bytes) × Bytes) → (Nat × (Nat × Rat × Bytes) × Bytes) → Prop :=
  lexLt (· < ·) (lexLt valLt (· < ·))

theorem slo_val : SLO valLt := slo_nat.lex (slo_rat.lex slo_bytes)

theorem slo_rank : SLO rankLt := slo_nat.lex (slo_val.lex slo_bytes)

/-- "less; if not, greater is not less; if neither, by `r`" is the lexicographic order -/
theorem SLO.ite_iff {α : Type} {lt : α → α → Prop} (h : SLO lt) {a b : α} {p q r : Bool} (hp : p = true ↔ lt a b) (hq : q = true ↔ lt b a) :
    (if p then true else if q then false else r) = true ↔ lt a b ∨ (a = b ∧ r = true) := by
  have no {c : Bool} {x y : α} (hc : c = true ↔ lt x y) (n : ¬ lt x y) : c = false := Bool.eq_false_iff.mpr (mt hc.mp n)
  rcases h.tri a b with hl | rfl | hl
  · rw [hp.mpr hl]
    exact ⟨fun _ => .inl hl, fun _ => rfl⟩
  · rw [no hp (h.irrefl a), no hq (h.irrefl a)]
    exact ⟨fun hr => .inr ⟨rfl, hr⟩, fun hr => (hr.resolve_left (h.irrefl a)).2⟩
  · have nab : ¬ lt a b := fun hab => h.irrefl a (h.trans _ _ _ hab hl)
    rw [no hp nab, hq.mpr hl]
    exact ⟨nofun, fun hr => hr.elim (absurd · nab) fun e => absurd (e.1 ▸ hl) (h.irrefl a)⟩

theorem intName_inj (k k' : IntKind) (n m : Int) (h : keyTypeName (.int k n) = keyTypeName (.int k' m)) : k = k' := by
  have e : ∀ (k : IntKind) (n : Int), keyTypeName (.int k n) = keyTypeName (.int k 0) := fun k _ => by cases k <;> rfl
  rw [e k n, e k' m] at h
  revert h
  cases k <;> cases k' <;> decide

theorem fltName_inj (k k' : FltKind) (q r : Rat) (h : keyTypeName (.flt k q) = keyTypeName (.flt k' r)) : k = k' := by
  have e : ∀ (k : FltKind) (q : Rat), keyTypeName (.flt k q) = keyTypeName (.flt k 0) := fun k _ => by cases k <;> rfl
  rw [e k q, e k' r] at h
  revert h
  cases k <;> cases k' <;> decide

theorem intName_ne_fltName (k : IntKind) (k' : FltKind) (n : Int) (q : Rat) : keyTypeName (.int k n) ≠ keyTypeName (.flt k' q) := by
  have e : ∀ (k : IntKind) (n : Int), keyTypeName (.int k n) = keyTypeName (.int k 0) := fun k _ => by cases k <;> rfl
  have e' : ∀ (k : FltKind) (q : Rat), keyTypeName (.flt k q) = keyTypeName (.flt k 0) := fun k _ => by cases k <;> rfl
  rw [e k n, e' k' q]
  cases k <;> cases k' <;> decide

theorem rank_inj {a b : GoVal} (ha : GoodKey a) (hb : GoodKey b) (h : rank a = rank b) : a = b := by
  simp only [rank, val, Prod.mk.injEq] at h
  obtain ⟨hc, ⟨hbk, hn, hs⟩, ht⟩ := h
  cases a <;> simp [GoodKey, goodKey] at ha <;> cases b <;> simp [GoodKey, goodKey] at hb <;> simp [keyClass] at hc
  · next x y => cases x <;> cases y <;> simp_all [boolRank]
  · next k n k' m =>
    have := intName_inj k k' n m ht
    subst this
    simp only [num] at hn
    rw [Rat.intCast_inj.mp hn]
  · next k n k' q => exact absurd ht (intName_ne_fltName k k' n q)
  · next k q k' m => exact absurd ht.symm (intName_ne_fltName k' k m q)
  · next k q k' r =>
    have := fltName_inj k k' q r ht
    subst this
    simp only [num] at hn
    rw [hn]
  · next s t => simp only [Heap.strOf] at hs; rw [hs]

theorem unsigned_nonneg {k : IntKind} {n : Int} (h : k.inRange n = true) (hs : k.isSigned = false) : 0 ≤ n := by
  unfold IntKind.inRange IntKind.minVal at h
  rw [hs] at h
  exact of_decide_eq_true (Bool.and_eq_true_iff.mp h).1

/-- Every clause of `numberLess` answers `num a < num b`:
    * `CanInt`/`CanInt` and `CanUint`/`CanUint`: `n < m` on the integers;
    * `CanInt`/`CanUint`: `n < 0 || uint64(n) < m` — `m ≥ 0` because `b` is unsigned, so this is `n < m`;
    * `CanUint`/`CanInt`: `m >= 0 && n < uint64(m)` — `n ≥ 0` because `a` is unsigned, so this is `n < m`;
    * `CanFloat`/`CanFloat`: `<` on the `float64`s, exact rationals here;
    * an integer and a float: `big.Float` holds both exactly. -/
theorem numberLess_eq {a b : GoVal} (ha : GoodKey a) (hb : GoodKey b) (ca : keyClass a = 2) (cb : keyClass b = 2) :
    numberLess a b = decide (num a < num b) := by
  cases a <;> simp [keyClass] at ca <;> cases b <;> simp [keyClass] at cb
  · next k n k' m =>
    simp only [GoodKey, goodKey] at ha hb
    simp only [numberLess, num, Rat.intCast_lt_intCast]
    cases hk : k.isSigned <;> cases hk' : k'.isSigned <;> simp only
    · have := unsigned_nonneg ha hk
      by_cases h : n < m <;> simp [h] <;> omega
    · have := unsigned_nonneg hb hk'
      by_cases h : n < m <;> simp [h] <;> omega
  · rfl
  · rfl
  · rfl

theorem keyLess_eq_valueLess {a b : GoVal} (hc : keyClass a = keyClass b) (hn : keyTypeName a = keyTypeName b) :
    keyLess a b = valueLess (keyClass a) a b := by
  unfold keyLess
  simp only [hc, hn, bne_self_eq_false, Bool.false_eq_true, if_false, List.lt_irrefl, decide_false]
  cases valueLess (keyClass b) a b <;> cases valueLess (keyClass b) b a <;> rfl

theorem valueLess_two (a b : GoVal) : valueLess 2 a b = numberLess a b := by
  unfold valueLess
  split <;> first | rfl | (next h => cases h) | simp_all

theorem goodKey_cases {a : GoVal} (ha : GoodKey a) :
    (keyClass a = 1 ∧ ∃ x, a = .bool x) ∨ (keyClass a = 2 ∧ boolRank a = 0 ∧ Heap.strOf a = []) ∨ (keyClass a = 3 ∧ ∃ s, a = .str s) := by
  cases a <;> simp [GoodKey, goodKey] at ha
  · exact .inl ⟨rfl, _, rfl⟩
  · exact .inr (.inl ⟨rfl, rfl, rfl⟩)
  · exact .inr (.inl ⟨rfl, rfl, rfl⟩)
  · exact .inr (.inr ⟨rfl, _, rfl⟩)

/-- within a class `valueLess` is the order of the values: `!a.Bool() && b.Bool()`; `numberLess`, exact; `a.String() < b.String()` -/
theorem valueLess_iff {a b : GoVal} (ha : GoodKey a) (hb : GoodKey b) (hc : keyClass a = keyClass b) :
    valueLess (keyClass a) a b = true ↔ valLt (val a) (val b) := by
  rcases goodKey_cases ha with ⟨c, x, rfl⟩ | ⟨c, br, so⟩ | ⟨c, s, rfl⟩ <;>
    rcases goodKey_cases hb with ⟨c', y, rfl⟩ | ⟨c', br', so'⟩ | ⟨c', t, rfl⟩ <;> first | omega | skip
  · cases x <;> cases y <;> simp [valueLess, keyClass, val, valLt, lexLt, boolRank, num, Heap.strOf]
  · rw [c, valueLess_two, numberLess_eq ha hb c c']
    simp only [val, valLt, lexLt, br, br', so, so', Nat.lt_irrefl, List.lt_irrefl, false_or, true_and, and_false, or_false, decide_eq_true_eq]
  · simp only [valueLess, keyClass, val, valLt, lexLt, boolRank, num, Heap.strOf, Rat.lt_irrefl, Nat.lt_irrefl, false_or, true_and, decide_eq_true_eq]

/-- `keyLess a b` says exactly that the rank of `a` is below the rank of `b`: different classes — `return ca < cb`; the
    same class — `valueLess(ca, a, b)` true, `valueLess(ca, b, a)` true (so not less), or neither, and then
    `keyTypeName(a) < keyTypeName(b)`. -/
theorem keyLess_iff_rank {a b : GoVal} (ha : GoodKey a) (hb : GoodKey b) :
    keyLess a b = true ↔ rankLt (rank a) (rank b) := by
  unfold keyLess
  simp only
  by_cases hc : keyClass a = keyClass b
  · have hne : (keyClass a != keyClass b) = false := by simp [hc]
    simp only [hne, Bool.false_eq_true, if_false]
    rw [slo_val.ite_iff (valueLess_iff ha hb hc) (hc ▸ valueLess_iff hb ha hc.symm)]
    simp only [rankLt, rank, lexLt, hc, Nat.lt_irrefl, false_or, true_and, decide_eq_true_eq]
  · have hne : (keyClass a != keyClass b) = true := by simp [hc]
    simp only [hne, if_true, decide_eq_true_eq, rankLt, lexLt, rank]
    constructor
    · exact fun h => .inl h
    · rintro (h | ⟨h, _⟩)
      · exact h
      · exact absurd h hc

theorem keyLess_irrefl {a : GoVal} (ha : GoodKey a) : keyLess a a = false := by
  cases h : keyLess a a
  · rfl
  · exact absurd ((keyLess_iff_rank ha ha).mp h) (slo_rank.irrefl _)

theorem keyLess_trans {a b c : GoVal} (ha : GoodKey a) (hb : GoodKey b) (hc : GoodKey c)
    (hab : keyLess a b = true) (hbc : keyLess b c = true) : keyLess a c = true :=
  (keyLess_iff_rank ha hc).mpr
    (slo_rank.trans _ _ _ ((keyLess_iff_rank ha hb).mp hab) ((keyLess_iff_rank hb hc).mp hbc))

/-- two distinct keys of one map are ordered, one way or the other. (Before the repair `6d9b1b2` this
    failed for `1`, `1.0`, `int64(1)`: equal by value, so neither `valueLess` held, and the function
    returned false both ways.) -/
theorem keyLess_total {a b : GoVal} (ha : GoodKey a) (hb : GoodKey b) (hne : a ≠ b) :
    keyLess a b = true ∨ keyLess b a = true := by
  rcases slo_rank.tri (rank a) (rank b) with h | h | h
  · exact .inl ((keyLess_iff_rank ha hb).mpr h)
  · exact absurd (rank_inj ha hb h) hne
  · exact .inr ((keyLess_iff_rank hb ha).mpr h)

theorem keyLess_asymm {a b : GoVal} (ha : GoodKey a) (hb : GoodKey b) (hab : keyLess a b = true) : keyLess b a = false := by
  cases h : keyLess b a
  · rfl
  · have := keyLess_trans ha hb ha hab h
    rw [keyLess_irrefl ha] at this
    cases this

theorem SLO.ntrans {α : Type} {lt : α → α → Prop} (h : SLO lt) {a b c : α} (hab : ¬ lt a b) (hbc : ¬ lt b c) : ¬ lt a c := by
  intro hac
  rcases h.tri a b with h1 | rfl | h1
  · exact hab h1
  · exact hbc hac
  · exact hbc (h.trans _ _ _ h1 hac)

/-- the keys are booleans, numbers or strings and pairwise distinct as Go map keys — as the keys of
    one Go map with keys of these kinds always are -/
def KeysOK (kvs : List (GoVal × GoVal)) : Prop :=
  (∀ kv ∈ kvs, GoodKey kv.1) ∧ kvs.Pairwise (fun a b => a.1 ≠ b.1)

theorem KeysOK.perm {kvs kvs' : List (GoVal × GoVal)} (h : kvs'.Perm kvs) (hk : KeysOK kvs) : KeysOK kvs' :=
  ⟨fun kv hkv => hk.1 kv (h.subset hkv), (h.pairwise_iff (fun hab => Ne.symm hab)).mpr hk.2⟩

theorem KeysOK.entry_unique {kvs : List (GoVal × GoVal)} (hk : KeysOK kvs) {a b : GoVal × GoVal}
    (ha : a ∈ kvs) (hb : b ∈ kvs) (h : a.1 = b.1) : a = b := by
  have hp := hk.2
  clear hk
  induction kvs with
  | nil => cases ha
  | cons x r ih =>
    rw [List.pairwise_cons] at hp
    rcases List.mem_cons.mp ha with rfl | ha' <;> rcases List.mem_cons.mp hb with rfl | hb'
    · rfl
    · exact absurd h (hp.1 b hb')
    · exact absurd h.symm (hp.1 a ha')
    · exact ih ha' hb' hp.2

theorem keyLess_false_iff {a b : GoVal} (ha : GoodKey a) (hb : GoodKey b) :
    keyLess a b = false ↔ ¬ rankLt (rank a) (rank b) := by
  rw [← keyLess_iff_rank ha hb]
  cases keyLess a b <;> simp

/-- on the entries of one map `keyLess` on the key is a strict total order -/
theorem KeysOK.totalOn {kvs : List (GoVal × GoVal)} (hk : KeysOK kvs) : TotalOn entryLess kvs where
  asym a ha b hb := keyLess_asymm (hk.1 a ha) (hk.1 b hb)
  ntrans a ha b hb c hc hab hbc := by
    simp only [entryLess] at *
    rw [keyLess_false_iff (hk.1 a ha) (hk.1 c hc)]
    exact slo_rank.ntrans ((keyLess_false_iff (hk.1 a ha) (hk.1 b hb)).mp hab) ((keyLess_false_iff (hk.1 b hb) (hk.1 c hc)).mp hbc)
  tri a ha b hb hab hba := by
    apply hk.entry_unique ha hb
    apply Classical.byContradiction
    intro hne
    rcases keyLess_total (hk.1 a ha) (hk.1 b hb) hne with h1 | h1
    · exact absurd (hab.symm.trans h1) nofun
    · exact absurd (hba.symm.trans h1) nofun

/-- **Whatever order the entries of a map arrive in, `SortedMapKeys` puts them in the same order.**
    `kvs'` is any permutation of `kvs`; the keys are booleans, numbers or strings, pairwise distinct
    as Go map keys. -/
theorem sortedEntries_perm {kvs kvs' : List (GoVal × GoVal)} (h : kvs'.Perm kvs) (hk : KeysOK kvs) :
    sortedEntries kvs' = sortedEntries kvs := hk.totalOn.insertionSort_perm h

theorem KeysOK.noClass4 {kvs : List (GoVal × GoVal)} (hk : KeysOK kvs) : ∀ kv ∈ kvs, keyClass kv.1 ≠ 4 :=
  fun kv h => goodKey_class (hk.1 kv h)

theorem sortedMapEntries_perm {ε : Type} {kvs kvs' : List (GoVal × GoVal)} (h : kvs'.Perm kvs) (hk : KeysOK kvs) :
    (sortedMapEntries kvs' : Res ε _) = sortedMapEntries kvs := by
  rw [sortedMapEntries_of_noClass4 hk.noClass4, sortedMapEntries_of_noClass4 (hk.perm h).noClass4, sortedEntries_perm h hk]

/-- `{% for p in m %}` / `{% tablerow p in m %}`: the items the loop visits -/
theorem loopItems_map_perm {budget : Int} (kt vt : Ty) {kvs kvs' : List (GoVal × GoVal)} (h : kvs'.Perm kvs) (hk : KeysOK kvs) :
    loopItems budget (.map kt vt kvs') = loopItems budget (.map kt vt kvs) := by
  simp only [loopItems, sortedMapEntries_perm h hk]

/-- `values.Convert(m, []any)`: the array an array filter receives -/
theorem convert_map_perm (kt vt : Ty) {kvs kvs' : List (GoVal × GoVal)} (h : kvs'.Perm kvs) (hk : KeysOK kvs) :
    convert (.map kt vt kvs') .anys = convert (.map kt vt kvs) .anys := by
  simp only [convert, GoVal.toLiquid, sortedMapEntries_perm h hk]

theorem convert_map_sorted (kt vt : Ty) {kvs : List (GoVal × GoVal)} (hk : KeysOK kvs) :
    convert (.map kt vt kvs) .anys = .ok (.slice .any (((sortedEntries kvs).map (·.2)).map GoVal.toLiquid)) := by
  simp [convert, GoVal.toLiquid, sortedMapEntries_of_noClass4 hk.noClass4, convElems]

/-- every filter whose receiver is a `[]any` — `first`, `last`, `join`, `map`, `sort`, `reverse`, … —
    applied to a map, with any arguments -/
theorem applyFilter_map_perm (impls : Bytes → Option FilterImpl) (name : Bytes) (sg : FilterSig) (ps : List Param)
    (hsig : lookupSig name = some sg) (hp : sg.params = .val .anys :: ps) (args : List GoVal)
    (kt vt : Ty) {kvs kvs' : List (GoVal × GoVal)} (h : kvs'.Perm kvs) (hk : KeysOK kvs) :
    applyFilter impls name (.map kt vt kvs') args = applyFilter impls name (.map kt vt kvs) args := by
  simp only [applyFilter, hsig, hp, convertArgs, convert_map_perm kt vt h hk, List.length_cons]

theorem first_map_perm (kt vt : Ty) {kvs kvs' : List (GoVal × GoVal)} (h : kvs'.Perm kvs) (hk : KeysOK kvs) :
    stdPrims.applyFilter (ArrF.bn "first") (.map kt vt kvs') [] = stdPrims.applyFilter (ArrF.bn "first") (.map kt vt kvs) [] :=
  applyFilter_map_perm _ _ ⟨ArrF.bn "first", [.val .anys], false⟩ [] (lookupSig_of_mem (List.mem_of_getElem? (i := 8) rfl)) rfl [] kt vt h hk

theorem last_map_perm (kt vt : Ty) {kvs kvs' : List (GoVal × GoVal)} (h : kvs'.Perm kvs) (hk : KeysOK kvs) :
    stdPrims.applyFilter (ArrF.bn "last") (.map kt vt kvs') [] = stdPrims.applyFilter (ArrF.bn "last") (.map kt vt kvs) [] :=
  applyFilter_map_perm _ _ ⟨ArrF.bn "last", [.val .anys], false⟩ [] (lookupSig_of_mem (List.mem_of_getElem? (i := 9) rfl)) rfl [] kt vt h hk

/-- `{{ m | join }}` and `{{ m | join: sep }}` -/
theorem join_map_perm (args : List GoVal) (kt vt : Ty) {kvs kvs' : List (GoVal × GoVal)} (h : kvs'.Perm kvs) (hk : KeysOK kvs) :
    stdPrims.applyFilter (ArrF.bn "join") (.map kt vt kvs') args = stdPrims.applyFilter (ArrF.bn "join") (.map kt vt kvs) args :=
  applyFilter_map_perm _ _ ⟨ArrF.bn "join", [.val .anys, .fn .str], false⟩ [.fn .str] (lookupSig_of_mem (List.mem_of_getElem? (i := 4) rfl)) rfl args kt vt h hk

/-- `{{ m | size }}`: `values.Length` of a map is 0 (only strings, arrays, slices and ordered maps have
    a length there) — no function of the entries at all -/
theorem size_map (kt vt : Ty) (kvs : List (GoVal × GoVal)) :
    stdPrims.applyFilter (ArrF.bn "size") (.map kt vt kvs) [] = .ok (.int .int 0) := by
  exact (applyFilter_at (i := 10) (e := (ArrF.bn "size", Num.size)) rfl rfl rfl _ [] (Nat.lt_irrefl 1)).trans rfl

theorem size_map_perm (kt vt : Ty) {kvs kvs' : List (GoVal × GoVal)} :
    stdPrims.applyFilter (ArrF.bn "size") (.map kt vt kvs') [] = stdPrims.applyFilter (ArrF.bn "size") (.map kt vt kvs) [] := by
  rw [size_map, size_map]

/-! ## Non-vacuity: the keys `1`, `1.0`, `int64(1)`, `"1"`, `true` of a `map[any]any`, in two orders -/

def exA : List (GoVal × GoVal) :=
  [(.int .int 1, .str [97]), (.flt .f64 1, .str [98]), (.int .i64 1, .str [99]), (.str [49], .str [100]), (.bool true, .str [101])]
def exB : List (GoVal × GoVal) :=
  [(.bool true, .str [101]), (.str [49], .str [100]), (.int .i64 1, .str [99]), (.flt .f64 1, .str [98]), (.int .int 1, .str [97])]

theorem exA_keysOK : KeysOK exA := by
  constructor
  · intro kv h
    simp only [exA, List.mem_cons, List.mem_nil_iff, or_false] at h
    rcases h with rfl | rfl | rfl | rfl | rfl <;> first | rfl | decide
  · simp [exA]

theorem exB_perm_exA : exB.Perm exA := List.reverse_perm exA

theorem intCast_one_rat : ((1 : Int) : Rat) = 1 := rfl

/-- `1`, `1.0`, `int64(1)` are equal by value: the clause added by the repair orders them by type name
    (`float64` < `int` < `int64`) -/
example : keyLess (.flt .f64 1) (.int .int 1) = true ∧ keyLess (.int .int 1) (.int .i64 1) = true := by
  constructor
  · rw [keyLess_iff_rank rfl (by decide)]
    simp only [rankLt, lexLt, rank, val, keyClass, boolRank, num, Heap.strOf, keyTypeName, intCast_one_rat]
    exact .inr ⟨trivial, .inr ⟨trivial, by decide⟩⟩
  · rw [keyLess_iff_rank (by decide) (by decide)]
    simp only [rankLt, lexLt, rank, val, keyClass, boolRank, num, Heap.strOf, keyTypeName]
    exact .inr ⟨trivial, .inr ⟨trivial, by decide⟩⟩

example : keyLess (.flt .f64 1) (.flt .f64 1) = false := keyLess_irrefl rfl
example : keyLess (.int .int 1) (.flt .f64 1) = true ∨ keyLess (.flt .f64 1) (.int .int 1) = true :=
  keyLess_total (by decide) rfl (by simp)
example (h1 : keyLess (.flt .f64 1) (.int .int 1) = true) (h2 : keyLess (.int .int 1) (.int .i64 1) = true) :
    keyLess (.flt .f64 1) (.int .i64 1) = true :=
  keyLess_trans rfl (by decide) (by decide) h1 h2

example : sortedEntries exB = sortedEntries exA := sortedEntries_perm exB_perm_exA exA_keysOK
example (budget : Int) : loopItems budget (.map .any .any exB) = loopItems budget (.map .any .any exA) := loopItems_map_perm _ _ exB_perm_exA exA_keysOK
example : convert (.map .any .any exB) .anys = convert (.map .any .any exA) .anys := convert_map_perm _ _ exB_perm_exA exA_keysOK
example : stdPrims.applyFilter (ArrF.bn "first") (.map .any .any exB) [] = stdPrims.applyFilter (ArrF.bn "first") (.map .any .any exA) [] :=
  first_map_perm _ _ exB_perm_exA exA_keysOK
example : stdPrims.applyFilter (ArrF.bn "last") (.map .any .any exB) [] = stdPrims.applyFilter (ArrF.bn "last") (.map .any .any exA) [] :=
  last_map_perm _ _ exB_perm_exA exA_keysOK
example : stdPrims.applyFilter (ArrF.bn "join") (.map .any .any exB) [.str [44]] = stdPrims.applyFilter (ArrF.bn "join") (.map .any .any exA) [.str [44]] :=
  join_map_perm _ _ _ exB_perm_exA exA_keysOK
example : stdPrims.applyFilter (ArrF.bn "size") (.map .any .any exB) [] = stdPrims.applyFilter (ArrF.bn "size") (.map .any .any exA) [] :=
  size_map_perm _ _

end MapOrder
