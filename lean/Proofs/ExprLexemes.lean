import Proofs.ExprLexLemmas
/-!
# The lexemes of the expression language and when they stay apart

`Lexeme r l`: the byte string `l` is one complete lexeme of rule `r` (a grammar of the lexemes, mirroring
the ragel definitions). `fits r l rest`: the exact condition on what follows for the scanner to cut `l` off
as a token of rule `r` (the longest-match rule makes `ab` one identifier, `a:` a keyword, `1.5` a float, …).
`lexStep_lexeme`: then the scanner's decision at `l ++ rest` is rule `r` on exactly `l`; that `fits` is also necessary is
`fits_of_lexStep` (`Proofs/ExprCut.lean`). The file opens with what `Proofs/ExprLexLemmas.lean` leaves to say about `spanLen` and
the fold `bestStep` (`foldl_pick`, `foldl_bestStep_find`: the candidate that wins).
-/

theorem spanLen_le (p : UInt8 → Bool) (s : Bytes) : spanLen p s ≤ s.length := by
  induction s with
  | nil => simp [spanLen]
  | cons c t ih => simp only [spanLen]; split <;> simp <;> omega

theorem spanLen_append (p : UInt8 → Bool) (a b : Bytes) (h : a.all p = true) :
    spanLen p (a ++ b) = a.length + spanLen p b := by
  induction a with
  | nil => simp
  | cons c t ih =>
    simp only [List.all_cons, Bool.and_eq_true] at h
    simp only [List.cons_append, spanLen, h.1, if_true, ih h.2, List.length_cons]
    omega

theorem spanLen_all (p : UInt8 → Bool) (a : Bytes) (h : a.all p = true) : spanLen p a = a.length := by
  have := spanLen_append p a [] h
  rwa [List.append_nil] at this

def headOK (p : UInt8 → Bool) : Bytes → Bool
  | [] => true
  | b :: _ => p b

theorem spanLen_headOK (p : UInt8 → Bool) (s : Bytes) (h : headOK (fun b => !p b) s = true) : spanLen p s = 0 := by
  cases s with
  | nil => rfl
  | cons c t =>
    simp only [headOK, Bool.not_eq_true'] at h
    simp [spanLen, h]

theorem spanLen_take_all (p : UInt8 → Bool) (s : Bytes) : (s.take (spanLen p s)).all p = true := by
  induction s with
  | nil => rfl
  | cons b t ih =>
    simp only [spanLen]
    split
    · rename_i hb; simp [List.take_succ_cons, hb, ih]
    · rfl

/-- the span and what follows it (`spanLen_append`, `spanLen_headOK` then give `spanLen p s = body.length`) -/
theorem spanLen_split (p : UInt8 → Bool) :
    ∀ s : Bytes, ∃ body rest, s = body ++ rest ∧ body.all p = true ∧ headOK (fun x => !p x) rest = true
  | [] => ⟨[], [], rfl, rfl, rfl⟩
  | c :: t => by
    cases h : p c with
    | false => exact ⟨[], c :: t, rfl, rfl, by show (!p c) = true; rw [h]; rfl⟩
    | true =>
      obtain ⟨a, b, e, ha, hb⟩ := spanLen_split p t
      exact ⟨c :: a, b, by rw [e]; rfl, by rw [List.all_cons, h, ha]; rfl, hb⟩

theorem bestStep_pick (best : Option (Rule × Nat)) (r : Rule) (n : Nat) (h : ∀ p, best = some p → p.2 < n) :
    bestStep best (r, some n) = some (r, n) := by
  cases best with
  | none => rfl
  | some p =>
    obtain ⟨r', bn⟩ := p
    have := h _ rfl
    simp only [bestStep_some]
    simp only at this
    simp [this]

theorem foldl_bestStep_bound (n : Nat) (ms : List (Rule × Option Nat)) (init : Option (Rule × Nat))
    (hi : ∀ p, init = some p → p.2 < n) (h : ∀ x ∈ ms, ∀ m, x.2 = some m → m < n) (p : Rule × Nat)
    (hp : ms.foldl bestStep init = some p) : p.2 < n := by
  induction ms generalizing init with
  | nil => exact hi p hp
  | cons x xs ih =>
    refine ih _ (fun q hq => ?_) (fun y hy => h y (List.mem_cons_of_mem _ hy)) hp
    obtain ⟨r, m⟩ := x
    cases m with
    | none => rw [bestStep_none] at hq; exact hi q hq
    | some m =>
      have hm := h (r, some m) (List.mem_cons_self ..) m rfl
      cases init with
      | none => cases hq; exact hm
      | some q0 =>
        rw [bestStep_some] at hq
        split at hq <;> cases hq
        · exact hm
        · exact hi _ rfl

theorem foldl_bestStep_keep (r : Rule) (n : Nat) (ms : List (Rule × Option Nat))
    (h : ∀ x ∈ ms, ∀ m, x.2 = some m → m ≤ n) : ms.foldl bestStep (some (r, n)) = some (r, n) := by
  induction ms with
  | nil => rfl
  | cons x xs ih =>
    obtain ⟨r', m⟩ := x
    simp only [List.foldl_cons]
    cases m with
    | none => rw [bestStep_none]; exact ih (fun y hy => h y (List.mem_cons_of_mem _ hy))
    | some m =>
      have hm := h (r', some m) (List.mem_cons_self ..) m rfl
      have : ¬ m > n := by omega
      simp only [bestStep_some, this, if_false]
      exact ih (fun y hy => h y (List.mem_cons_of_mem _ hy))

theorem foldl_pick (pre post : List (Rule × Option Nat)) (r : Rule) (n : Nat)
    (hpre : ∀ x ∈ pre, ∀ m, x.2 = some m → m < n) (hpost : ∀ x ∈ post, ∀ m, x.2 = some m → m ≤ n) :
    (pre ++ (r, some n) :: post).foldl bestStep none = some (r, n) := by
  rw [List.foldl_append, List.foldl_cons,
    bestStep_pick _ r n (foldl_bestStep_bound n pre none (fun _ h => by cases h) hpre)]
  exact foldl_bestStep_keep r n post hpost

theorem foldl_bestStep_find (ms : List (Rule × Option Nat)) (n : Nat) (hle : ∀ x ∈ ms, ∀ m, x.2 = some m → m ≤ n)
    (r : Rule) (hr : (ms.find? (fun y => y.2 == some n)).map (·.1) = some r) :
    ms.foldl bestStep none = some (r, n) := by
  obtain ⟨x, hx, rfl⟩ := Option.map_eq_some_iff.1 hr
  obtain ⟨hp, pre, post, rfl, hpre⟩ := List.find?_eq_some_iff_append.1 hx
  obtain ⟨r', m⟩ := x
  cases (beq_iff_eq.1 hp : m = some n)
  refine foldl_pick pre post r' n (fun y hy k hk => ?_) (fun y hy => hle y (by simp [hy]))
  have h1 := hle y (by simp [hy]) k hk
  have h2 : k ≠ n := fun e => by simpa [hk, e] using hpre y hy
  omega

/-- an optional `-` -/
def isSign (sg : Bytes) : Prop := sg = [] ∨ sg = [45]

theorem digit_ne_minus : ∀ c : UInt8, isDigit c = true → (c == 45) = false :=
  fun c h => class_ne (p := isDigit) (by rw [h]; decide)

theorem intLen_minus (r : Bytes) :
    intLen (45 :: r) = if spanLen isDigit r == 0 then none else some (1 + spanLen isDigit r) := by
  simp [intLen]

theorem intLen_digit (c : UInt8) (r : Bytes) (h : isDigit c = true) :
    intLen (c :: r) = some (spanLen isDigit r + 1) := by
  have hne : c ≠ 45 := beq_eq_false_iff_ne.1 (digit_ne_minus c h)
  unfold intLen
  split
  · rename_i heq
    split at heq
    · rename_i h2; cases h2; exact absurd rfl hne
    · cases heq; simp [spanLen, h]

theorem intLen_lexeme (sg ds rest : Bytes) (hs : isSign sg) (hne : ds ≠ []) (hd : ds.all isDigit = true) :
    intLen (sg ++ ds ++ rest) = some ((sg ++ ds).length + spanLen isDigit rest) := by
  cases ds with
  | nil => exact absurd rfl hne
  | cons d ds' =>
    have hd' := hd
    simp only [List.all_cons, Bool.and_eq_true] at hd'
    have hspan : spanLen isDigit (d :: ds' ++ rest) = (d :: ds').length + spanLen isDigit rest :=
      spanLen_append _ _ _ hd
    rcases hs with rfl | rfl
    · simp only [List.nil_append, List.cons_append]
      rw [intLen_digit d _ hd'.1, spanLen_append _ _ _ hd'.2]
      simp only [List.length_cons]; congr 1; omega
    · simp only [List.cons_append, List.nil_append] at hspan ⊢
      rw [intLen_minus, hspan]
      have hpos : ds'.length + 1 + spanLen isDigit rest ≠ 0 := by omega
      simp only [beq_iff_eq, List.length_cons, hpos, if_false]
      congr 1; omega

/-- what must not follow an integer: a digit, or `.` and a digit (that would be a longer integer, or a float) -/
def fitsInt (rest : Bytes) : Bool :=
  headOK (fun b => !isDigit b) rest &&
  (match rest with
   | 46 :: d :: _ => !isDigit d
   | _ => true)

theorem floatLen_int_lexeme (sg ds rest : Bytes) (hs : isSign sg) (hne : ds ≠ []) (hd : ds.all isDigit = true)
    (hf : fitsInt rest = true) : floatLen (sg ++ ds ++ rest) = some (sg ++ ds).length := by
  simp only [fitsInt, Bool.and_eq_true] at hf
  have h0 := spanLen_headOK isDigit rest hf.1
  have hi := intLen_lexeme sg ds rest hs hne hd
  rw [h0, Nat.add_zero] at hi
  unfold floatLen
  rw [hi]
  have hdrop : List.drop (sg ++ ds).length (sg ++ ds ++ rest) = rest := List.drop_left' rfl
  dsimp only
  rw [hdrop]
  have h2 := hf.2
  split
  · rename_i r
    cases r with
    | nil => simp [spanLen]
    | cons d r' =>
      simp only [Bool.not_eq_true'] at h2
      simp [spanLen, h2]
  · rfl

theorem lexStep_number (sg ds rest : Bytes) (hs : isSign sg) (hne : ds ≠ []) (hd : ds.all isDigit = true) :
    lexStep (sg ++ ds ++ rest) = ([(.rInt, intLen (sg ++ ds ++ rest)), (.rFloat, floatLen (sg ++ ds ++ rest)), (.rAny, some 1)] :
      List (Rule × Option Nat)).foldl bestStep none := by
  cases ds with
  | nil => exact absurd rfl hne
  | cons d t =>
    rcases hs with rfl | rfl
    · exact lexStep_num d _ (Or.inl (Bool.and_eq_true_iff.1 hd).1)
    · exact lexStep_num 45 _ (Or.inr rfl)

theorem number_length_pos (sg ds : Bytes) (hne : ds ≠ []) : 1 ≤ (sg ++ ds).length := by
  have := List.length_pos_iff.2 hne
  rw [List.length_append]; omega

theorem lexStep_int (sg ds rest : Bytes) (hs : isSign sg) (hne : ds ≠ []) (hd : ds.all isDigit = true)
    (hf : fitsInt rest = true) : lexStep (sg ++ ds ++ rest) = some (.rInt, (sg ++ ds).length) := by
  have hi := intLen_lexeme sg ds rest hs hne hd
  rw [spanLen_headOK isDigit rest (Bool.and_eq_true_iff.1 hf).1, Nat.add_zero] at hi
  rw [lexStep_number sg ds rest hs hne hd, hi, floatLen_int_lexeme sg ds rest hs hne hd hf]
  simp only [List.foldl_cons, List.foldl_nil, bestStep_first, bestStep_some, Nat.lt_irrefl, if_false,
    Nat.not_lt.2 (number_length_pos sg ds hne)]

theorem floatLen_lexeme (sg ds fs rest : Bytes) (hs : isSign sg) (hne : ds ≠ []) (hd : ds.all isDigit = true)
    (hfne : fs ≠ []) (hfd : fs.all isDigit = true) (hf : headOK (fun b => !isDigit b) rest = true) :
    intLen (sg ++ ds ++ 46 :: fs ++ rest) = some (sg ++ ds).length ∧
    floatLen (sg ++ ds ++ 46 :: fs ++ rest) = some (sg ++ ds ++ 46 :: fs).length := by
  rw [show sg ++ ds ++ 46 :: fs ++ rest = sg ++ ds ++ 46 :: (fs ++ rest) by simp only [List.append_assoc, List.cons_append]]
  have hi := intLen_lexeme sg ds (46 :: (fs ++ rest)) hs hne hd
  rw [spanLen_cons_false _ _ _ (by decide), Nat.add_zero] at hi
  refine ⟨hi, ?_⟩
  have hl : fs.length ≠ 0 := fun h => hfne (List.eq_nil_of_length_eq_zero h)
  unfold floatLen
  rw [hi]
  dsimp only
  rw [List.drop_left' rfl]
  simp only [spanLen_append _ _ _ hfd, spanLen_headOK isDigit rest hf, Nat.add_zero]
  rw [if_neg (by simpa using hl)]
  simp only [List.length_append, List.length_cons, Option.some.injEq]
  omega

theorem lexStep_float (sg ds fs rest : Bytes) (hs : isSign sg) (hne : ds ≠ []) (hd : ds.all isDigit = true)
    (hfne : fs ≠ []) (hfd : fs.all isDigit = true) (hf : headOK (fun b => !isDigit b) rest = true) :
    lexStep (sg ++ ds ++ 46 :: fs ++ rest) = some (.rFloat, (sg ++ ds ++ 46 :: fs).length) := by
  obtain ⟨hi, hfl⟩ := floatLen_lexeme sg ds fs rest hs hne hd hfne hfd hf
  rw [List.append_assoc (sg ++ ds)] at hi hfl ⊢
  rw [lexStep_number sg ds _ hs hne hd, hi, hfl]
  have hlt : (sg ++ ds ++ 46 :: fs).length > (sg ++ ds).length := by
    rw [List.length_append (bs := 46 :: fs), List.length_cons]; omega
  have := number_length_pos sg ds hne
  simp only [List.foldl_cons, List.foldl_nil, bestStep_first, bestStep_some, hlt, if_true]
  rw [if_neg (by omega)]

theorem stringLen_lexeme (q : UInt8) (body rest : Bytes) (hq : (q == 34 || q == 39) = true)
    (hb : body.all (fun b => b != q) = true) :
    stringLen (q :: body ++ [q] ++ rest) = some (q :: body ++ [q]).length := by
  have hspan : spanLen (fun b => b != q) (body ++ q :: rest) = body.length := by
    rw [spanLen_append _ _ _ hb]
    simp [spanLen]
  have hdrop : List.drop body.length (body ++ q :: rest) = q :: rest := List.drop_left' rfl
  simp only [List.cons_append, List.append_assoc, List.nil_append, stringLen, hq, if_true, hspan, hdrop,
    List.length_cons, List.length_append, List.length_nil]

theorem lexStep_string (q : UInt8) (body rest : Bytes) (hq : (q == 34 || q == 39) = true)
    (hb : body.all (fun b => b != q) = true) :
    lexStep (q :: body ++ [q] ++ rest) = some (.rString, (q :: body ++ [q]).length) := by
  have hs := stringLen_lexeme q body rest hq hb
  simp only [List.cons_append, List.append_assoc] at hs ⊢
  rw [lexStep_quote q _ hq, hs]
  simp only [List.foldl_cons, List.foldl_nil, bestStep_first, bestStep_some, List.length_cons]
  rw [if_neg (by omega)]

/-- what must not follow a word `w` for the identifier match to end with it: a byte that continues the
    identifier, or the `?` that may end one (a word that already ends in `?` is closed) -/
def fitsWord (w rest : Bytes) : Bool :=
  w.getLast? == some 63 || headOK (fun b => !isIdCont b && b != 63) rest

theorem idCont_ne_q (c : UInt8) (h : isIdCont c = true) : (c == 63) = false := class_ne (p := isIdCont) (by rw [h]; decide)
theorem idStart_ne_q : ∀ c : UInt8, isIdStart c = true → (c == 63) = false :=
  fun c h => class_ne (p := isIdStart) (by rw [h]; decide)
theorem idStart_idCont (c : UInt8) (h : isIdStart c = true) : isIdCont c = true := by
  simp only [isIdStart, Bool.or_eq_true] at h
  simp only [isIdCont, isAlnum, Bool.or_eq_true]
  rcases h with h | h
  · exact Or.inl (Or.inl (Or.inl h))
  · exact Or.inl (Or.inr h)

/-- identifier bytes do not end in `?` -/
theorem idCont_last_ne_q (l : Bytes) (h : l.all isIdCont = true) : (l.getLast? == some 63) = false := by
  cases hl : l.getLast? with
  | none => rfl
  | some x =>
    have := idCont_ne_q x (List.all_eq_true.1 h x (List.mem_of_getLast? hl))
    simp only [beq_eq_false_iff_ne, ne_eq] at this
    simp [this]

theorem identLen_lexeme (c : UInt8) (body qm rest : Bytes) (hc : isIdStart c = true)
    (hb : body.all isIdCont = true) (hqm : qm = [] ∨ qm = [63])
    (hf : fitsWord (c :: body ++ qm) rest = true) :
    identLen (c :: body ++ qm ++ rest) = some (c :: body ++ qm).length := by
  rcases hqm with rfl | rfl
  · -- no `?`: the follower must stop the identifier
    have hlast : ((c :: body ++ []).getLast? == some 63) = false := by
      rw [List.append_nil]
      exact idCont_last_ne_q _ (by rw [List.all_cons, idStart_idCont c hc, hb]; rfl)
    simp only [fitsWord, hlast, Bool.false_or] at hf
    have hspan : spanLen isIdCont (body ++ rest) = body.length := by
      rw [spanLen_append _ _ _ hb]
      have : headOK (fun b => !isIdCont b) rest = true := by
        cases rest with
        | nil => rfl
        | cons b t => simp only [headOK, Bool.and_eq_true] at hf ⊢; exact hf.1
      rw [spanLen_headOK _ _ this]; rfl
    have hdrop : List.drop body.length (body ++ rest) = rest := List.drop_left' rfl
    simp only [List.append_nil, List.cons_append, identLen, hc, if_true, hspan, hdrop, List.length_cons]
    split
    · simp [headOK] at hf
    · congr 1; omega
  · have hspan : spanLen isIdCont (body ++ 63 :: rest) = body.length := by
      rw [spanLen_append _ _ _ hb]
      simp [spanLen, isIdCont, isAlnum, isAlpha, isDigit]
    have hdrop : List.drop body.length (body ++ 63 :: rest) = 63 :: rest := List.drop_left' rfl
    simp only [List.cons_append, List.append_assoc, List.nil_append, identLen, hc, if_true, hspan, hdrop,
      List.length_cons, List.length_append, List.length_nil]
    congr 1; omega

theorem litLen_some (w s : Bytes) (m : Nat) (h : litLen w s = some m) : m = w.length ∧ isPrefixOfB w s = true := by
  unfold litLen at h
  split at h
  · rename_i hp; simp only [Option.some.injEq] at h; exact ⟨h.symm, hp⟩
  · cases h

theorem litLen_self_append (w rest : Bytes) : litLen w (w ++ rest) = some w.length := by
  have : isPrefixOfB w (w ++ rest) = true := (isPrefixOfB_iff _ _).2 (List.prefix_append _ _)
  simp [litLen, this]

theorem spanLen_ge_prefix (p : UInt8 → Bool) (w t : Bytes) (hw : w.all p = true) (hp : isPrefixOfB w t = true) :
    w.length ≤ spanLen p t := by
  obtain ⟨r, rfl⟩ := (isPrefixOfB_iff _ _).1 hp
  rw [spanLen_append _ _ _ hw]; omega

theorem litLen_le_identLen (w s : Bytes) (m n : Nat) (hne : w ≠ []) (hw : w.all isIdCont = true)
    (hm : litLen w s = some m) (hn : identLen s = some n) : m ≤ n := by
  obtain ⟨rfl, hp⟩ := litLen_some _ _ _ hm
  cases w with
  | nil => exact absurd rfl hne
  | cons a w' =>
    cases s with
    | nil => simp [isPrefixOfB] at hp
    | cons c t =>
      simp only [isPrefixOfB, Bool.and_eq_true] at hp
      simp only [List.all_cons, Bool.and_eq_true] at hw
      have := spanLen_ge_prefix isIdCont w' t hw.2 hp.2
      simp only [identLen] at hn
      split at hn
      · simp only [Option.some.injEq] at hn
        simp only [List.length_cons]; omega
      · cases hn

/-- the rule that wins on a complete word -/
def wordRule (l : Bytes) : Rule :=
  if l == kwTrue || l == kwFalse then .rBool
  else if l == kwNil then .rNil
  else if l == kwAnd then .rAnd
  else if l == kwOr then .rOr
  else if l == kwContains then .rContains
  else if l == kwIn then .rIn
  else .rIdent

/-- what must not follow a word: identifier bytes (unless the word ends in `?`), and `:` (that would be a keyword) -/
def fitsIdent (w rest : Bytes) : Bool := fitsWord w rest && headOK (fun b => b != 58) rest

/-- a literal matches the whole of `l` only if it is `l`: a prefix of `l ++ rest` as long as `l` is `l` -/
theorem litLen_full_iff (w l rest : Bytes) : (litLen w (l ++ rest) == some l.length) = (l == w) := by
  by_cases h : w = l
  · subst h; rw [litLen_self_append]; simp
  · rw [show (l == w) = false by simpa using Ne.symm h]
    cases hm : litLen w (l ++ rest) with
    | none => rfl
    | some m =>
      obtain ⟨rfl, hp⟩ := litLen_some _ _ _ hm
      have h1 := List.prefix_iff_eq_take.1 ((isPrefixOfB_iff _ _).1 hp)
      refine beq_eq_false_iff_ne.2 fun he => h ?_
      rw [Option.some.inj he, List.take_left' rfl] at h1
      exact h1

theorem boolLen_some (s : Bytes) (m : Nat) (h : boolLen s = some m) : litLen kwTrue s = some m ∨ litLen kwFalse s = some m := by
  unfold boolLen at h
  cases hT : litLen kwTrue s with
  | none => rw [hT] at h; exact Or.inr h
  | some n => rw [hT] at h; exact Or.inl h

theorem boolLen_full_iff (l rest : Bytes) :
    (boolLen (l ++ rest) == some l.length) = (l == kwTrue || l == kwFalse) := by
  have hT := litLen_full_iff kwTrue l rest
  have hF := litLen_full_iff kwFalse l rest
  unfold boolLen
  cases h : litLen kwTrue (l ++ rest) with
  | none => rw [h] at hT; rw [← hT, hF]; rfl
  | some n =>
    rw [h] at hT
    cases h2 : l == kwFalse with
    | false => rw [hT, Bool.or_false]
    | true =>
      rw [beq_iff_eq.1 h2] at h
      simp [kwTrue, kwFalse, litLen_cons] at h

theorem reserved_le_ident (s : Bytes) (n : Nat) (hid : identLen s = some n) :
    ∀ x ∈ reservedCands s, ∀ m, x.2 = some m → m ≤ n := by
  have hle : ∀ w : Bytes, w ≠ [] → w.all isIdCont = true → ∀ m, litLen w s = some m → m ≤ n :=
    fun w h1 h2 m hm => litLen_le_identLen w _ m _ h1 h2 hm hid
  intro x hx m hm
  simp only [reservedCands, List.mem_cons, List.mem_nil_iff, or_false] at hx
  rcases hx with rfl | rfl | rfl | rfl | rfl | rfl
  · rcases boolLen_some _ m hm with h | h
    · exact hle _ (by decide) (by decide) m h
    · exact hle _ (by decide) (by decide) m h
  · exact hle _ (by decide) (by decide) m hm
  · exact hle _ (by decide) (by decide) m hm
  · exact hle _ (by decide) (by decide) m hm
  · exact hle _ (by decide) (by decide) m hm
  · exact hle _ (by decide) (by decide) m hm

theorem lexStep_word_lexeme (c : UInt8) (body qm rest : Bytes) (hc : isIdStart c = true)
    (hb : body.all isIdCont = true) (hqm : qm = [] ∨ qm = [63])
    (hf : fitsIdent (c :: body ++ qm) rest = true) :
    lexStep (c :: body ++ qm ++ rest) = some (wordRule (c :: body ++ qm), (c :: body ++ qm).length) := by
  simp only [fitsIdent, Bool.and_eq_true] at hf
  have hid := identLen_lexeme c body qm rest hc hb hqm hf.1
  generalize hl : c :: body ++ qm = l at hid hf ⊢
  have hlpos : 1 ≤ l.length := by rw [← hl]; simp
  have hs : l ++ rest = c :: (body ++ qm ++ rest) := by rw [← hl]; simp
  rw [hs, lexStep_word c _ hc, ← hs]
  have hkey : keywordLen (l ++ rest) = none := by
    rw [keywordLen_of_ident _ _ hid, List.drop_left' rfl]
    cases rest with
    | nil => rfl
    | cons b t =>
      have := hf.2
      simp only [headOK, bne_iff_ne, ne_eq] at this
      split
      · rename_i heq; cases heq; exact absurd rfl this
      · rfl
  refine foldl_bestStep_find _ _ ?_ _ ?_
  · intro x hx m hm
    rcases List.mem_append.1 hx with hx | hx
    · exact reserved_le_ident _ _ hid x hx m hm
    · rw [hid, hkey] at hx
      simp only [List.mem_cons, List.mem_nil_iff, or_false] at hx
      rcases hx with rfl | rfl | rfl
      · cases hm
      · cases hm; exact Nat.le_refl _
      · cases hm; exact hlpos
  · simp only [wordCands, reservedCands, List.cons_append, List.nil_append, hid, hkey, List.find?_cons,
      boolLen_full_iff, litLen_full_iff]
    unfold wordRule
    cases (l == kwTrue || l == kwFalse)
    case true => rfl
    cases l == kwNil
    case true => rfl
    cases l == kwAnd
    case true => rfl
    cases l == kwOr
    case true => rfl
    cases l == kwContains
    case true => rfl
    cases l == kwIn
    case true => rfl
    simp

theorem lexStep_keyword (c : UInt8) (body qm rest : Bytes) (hc : isIdStart c = true)
    (hb : body.all isIdCont = true) (hqm : qm = [] ∨ qm = [63]) :
    lexStep (c :: body ++ qm ++ [58] ++ rest) = some (.rKeyword, (c :: body ++ qm ++ [58]).length) := by
  have hfw : fitsWord (c :: body ++ qm) (58 :: rest) = true := by simp [fitsWord, headOK, isIdCont, isAlnum, isAlpha, isDigit]
  have hid := identLen_lexeme c body qm (58 :: rest) hc hb hqm hfw
  generalize hl : c :: body ++ qm = w at hid ⊢
  have hs : w ++ [58] ++ rest = c :: (body ++ qm ++ 58 :: rest) := by rw [← hl]; simp
  have hs' : w ++ 58 :: rest = c :: (body ++ qm ++ 58 :: rest) := by rw [← hl]; simp
  rw [hs, lexStep_word c _ hc, ← hs']
  have hkey : keywordLen (w ++ 58 :: rest) = some (w.length + 1) := by
    rw [keywordLen_of_ident _ _ hid, List.drop_left' rfl]
    rfl
  rw [wordCands, hid, hkey, List.length_append, List.length_singleton]
  refine foldl_pick _ _ _ _ (fun x hx m hm => Nat.lt_succ_of_le (reserved_le_ident _ _ hid x hx m hm)) ?_
  intro x hx m hm
  simp only [List.mem_cons, List.mem_nil_iff, or_false] at hx
  rcases hx with rfl | rfl
  · cases hm; exact Nat.le_succ _
  · cases hm; exact Nat.succ_le_succ (Nat.zero_le _)

theorem propertyLen_cons (r : Bytes) : propertyLen (46 :: r) = (identLen r).map (· + 1) := rfl

theorem lexStep_property (c : UInt8) (body qm rest : Bytes) (hc : isIdStart c = true)
    (hb : body.all isIdCont = true) (hqm : qm = [] ∨ qm = [63])
    (hf : fitsWord (c :: body ++ qm) rest = true) :
    lexStep (46 :: (c :: body ++ qm) ++ rest) = some (.rProperty, (46 :: (c :: body ++ qm)).length) := by
  have hid := identLen_lexeme c body qm rest hc hb hqm hf
  have hne : ((46 : UInt8) == c) = false := by
    cases h : (46 : UInt8) == c with
    | false => rfl
    | true => have := (beq_iff_eq.1 h); subst this; simp [isIdStart, isAlpha] at hc
  simp only [List.cons_append] at hid ⊢
  rw [lexStep_dot, propertyLen_cons, hid]
  simp only [litLen_cons, BEq.rfl, if_true, hne, Bool.false_eq_true, if_false, Option.map_none, Option.map_some,
    List.foldl_cons, List.foldl_nil, bestStep_none, bestStep_first, bestStep_some, List.length_cons, List.length_append]
  have : ¬ (1 > body.length + qm.length + 1 + 1) := by omega
  simp only [this, if_false]

theorem lexStep_dot_alone (rest : Bytes) (hf : headOK (fun b => b != 46 && !isIdStart b) rest = true) :
    lexStep (46 :: rest) = some (.rAny, 1) := by
  rw [lexStep_dot, propertyLen_cons]
  cases rest with
  | nil => simp [litLen_cons, litLen_nil_right, identLen, bestStep_first]
  | cons b t =>
    simp only [headOK, Bool.and_eq_true, bne_iff_ne, ne_eq, Bool.not_eq_true'] at hf
    have hb : ((46 : UInt8) == b) = false := by
      cases h : (46 : UInt8) == b with
      | false => rfl
      | true => exact absurd (beq_iff_eq.1 h).symm hf.1
    simp only [litLen_cons, BEq.rfl, if_true, hb, Bool.false_eq_true, if_false, Option.map_none,
      identLen_cons_other b t hf.2, List.foldl_cons, List.foldl_nil, bestStep_none, bestStep_first]

theorem litLen_second_ne (w0 w1 : UInt8) (w : Bytes) (c : UInt8) (rest : Bytes)
    (h : headOK (fun b => b != w1) rest = true) : litLen (w0 :: w1 :: w) (c :: rest) = none := by
  cases rest with
  | nil => simp only [litLen_cons, litLen_nil_right, Option.map_none, ite_self]
  | cons b t =>
    have hb : (w1 == b) = false := by
      simp only [headOK, bne_iff_ne, ne_eq] at h
      exact beq_eq_false_iff_ne.2 (Ne.symm h)
    simp only [litLen_cons, hb, Bool.false_eq_true, if_false, Option.map_none, ite_self]

theorem lexStep_op2 (c : UInt8) (rest : Bytes) (h : isOpStart c = true) : lexStep (c :: 61 :: rest) = some (opRule c, 2) := by
  rw [lexStep_op c _ h, show litLen [c, 61] (c :: 61 :: rest) = some 2 from litLen_self_append [c, 61] rest]; rfl

theorem lexStep_op1 (c : UInt8) (rest : Bytes) (h : isOpStart c = true) (hf : headOK (fun b => b != 61) rest = true) :
    lexStep (c :: rest) = some (.rAny, 1) := by
  rw [lexStep_op c _ h, litLen_second_ne _ _ _ _ _ hf]; rfl

theorem lexStep_minus_alone (rest : Bytes) (hf : headOK (fun b => !isDigit b) rest = true) :
    lexStep (45 :: rest) = some (.rAny, 1) := by
  rw [lexStep_num 45 rest (Or.inr rfl)]
  have hi : intLen (45 :: rest) = none := by
    rw [intLen_minus, spanLen_headOK _ _ hf]; rfl
  simp only [hi, floatLen, List.foldl_cons, List.foldl_nil, bestStep_none, bestStep_first]

/-- punctuation: a byte that is not a letter, digit, `_`, quote or whitespace is a token of its own -/
def isPunct (c : UInt8) : Bool := !(isDigit c || isIdStart c || c == 34 || c == 39 || isLexSpace c)

/-- `Lexeme r l`: the bytes `l` are one complete lexeme, and the scanner's rule for it is `r` -/
inductive Lexeme : Rule → Bytes → Prop where
  /-- `-?digit+` -/
  | int (sg ds : Bytes) : isSign sg → ds ≠ [] → ds.all isDigit = true → Lexeme .rInt (sg ++ ds)
  /-- `-?digit+ . digit+` -/
  | float (sg ds fs : Bytes) : isSign sg → ds ≠ [] → ds.all isDigit = true → fs ≠ [] → fs.all isDigit = true →
      Lexeme .rFloat (sg ++ ds ++ 46 :: fs)
  /-- `"…"` or `'…'` without the quote inside -/
  | string (q : UInt8) (body : Bytes) : (q == 34 || q == 39) = true → body.all (fun b => b != q) = true →
      Lexeme .rString (q :: body ++ [q])
  /-- `(alpha|_)(alnum|_|-)*\??`: an identifier, or one of `true false nil and or contains in` -/
  | word (c : UInt8) (body qm : Bytes) : isIdStart c = true → body.all isIdCont = true → (qm = [] ∨ qm = [63]) →
      Lexeme (wordRule (c :: body ++ qm)) (c :: body ++ qm)
  /-- `identifier:` -/
  | keyword (c : UInt8) (body qm : Bytes) : isIdStart c = true → body.all isIdCont = true → (qm = [] ∨ qm = [63]) →
      Lexeme .rKeyword (c :: body ++ qm ++ [58])
  /-- `.identifier` -/
  | property (c : UInt8) (body qm : Bytes) : isIdStart c = true → body.all isIdCont = true → (qm = [] ∨ qm = [63]) →
      Lexeme .rProperty (46 :: (c :: body ++ qm))
  /-- `==`, `!=`, `>=`, `<=` -/
  | op2 (c : UInt8) : isOpStart c = true → Lexeme (opRule c) [c, 61]
  /-- `..` -/
  | dotdot : Lexeme .rDotdot [46, 46]
  /-- any other single byte -/
  | punct (c : UInt8) : isPunct c = true → Lexeme .rAny [c]
  /-- the statement selectors that the tags put in front of their arguments -/
  | selAssign : Lexeme .rAssign kwAssign
  | selCycle : Lexeme .rCycle kwCycle
  | selLoop : Lexeme .rLoop kwLoop
  | selWhen : Lexeme .rWhen kwWhen

/-- what must not follow a single punctuation byte -/
def fitsPunct (c : UInt8) (rest : Bytes) : Bool :=
  if c == 45 then headOK (fun b => !isDigit b) rest                      -- `-1` is a number
  else if c == 46 then headOK (fun b => b != 46 && !isIdStart b) rest    -- `..`, `.name`
  else if isOpStart c then headOK (fun b => b != 61) rest                -- `==`, `!=`, `>=`, `<=`
  else if c == 37 then (litLen kwAssign (c :: rest)).isNone && (litLen kwLoop (c :: rest)).isNone
  else if c == 123 then (litLen kwCycle (c :: rest)).isNone && (litLen kwWhen (c :: rest)).isNone
  else true

/-- **the merge conditions**: `fits r l rest` says that the lexeme `l` of rule `r`, directly followed by the
    bytes `rest`, is still cut off as that lexeme by the longest-match scanner -/
def fits (r : Rule) (l rest : Bytes) : Bool :=
  match r with
  | .rInt => fitsInt rest
  | .rFloat => headOK (fun b => !isDigit b) rest
  | .rBool | .rNil | .rAnd | .rOr | .rContains | .rIn | .rIdent => fitsIdent l rest
  | .rProperty => fitsWord l rest
  | .rAny => (match l with
      | [c] => fitsPunct c rest
      | _ => true)
  | _ => true

theorem fits_word (l rest : Bytes) : fits (wordRule l) l rest = fitsIdent l rest := by
  unfold wordRule
  simp only [apply_ite (fun r => fits r l rest)]
  simp only [fits, ite_self]

theorem fits_property (c : UInt8) (w rest : Bytes) : fits .rProperty (46 :: c :: w) rest = fitsWord (c :: w) rest := by
  rw [fits, fitsWord, fitsWord, List.getLast?_cons_cons]

theorem fits_opRule (c : UInt8) (l rest : Bytes) : fits (opRule c) l rest = true := by
  unfold opRule
  simp only [apply_ite (fun r => fits r l rest)]
  simp only [fits, ite_self]

/-- a punctuation byte is cut off before a byte that starts none of the longer tokens it could begin
    (`=`: second byte of `== != >= <=`; `a`, `l`: second bytes of `%assign `, `%loop `; `%`: second byte of
    `{%cycle `, `{%when `) -/
theorem fitsPunct_of (c : UInt8) (rest : Bytes) (hd : headOK (fun b => !isDigit b) rest = true)
    (hdot : c = 46 → headOK (fun b => b != 46 && !isIdStart b) rest = true)
    (heq : headOK (fun b => b != 61) rest = true) (ha : headOK (fun b => b != 97) rest = true)
    (hl : headOK (fun b => b != 108) rest = true) (hp : headOK (fun b => b != 37) rest = true) :
    fitsPunct c rest = true := by
  unfold fitsPunct
  cases h1 : c == 45
  case true => exact hd
  cases h2 : c == 46
  case true => exact hdot (beq_iff_eq.1 h2)
  cases isOpStart c
  case true => exact heq
  cases c == 37
  case true => rw [kwAssign, kwLoop, litLen_second_ne _ _ _ _ _ ha, litLen_second_ne _ _ _ _ _ hl]; rfl
  cases c == 123
  case true => rw [kwCycle, kwWhen, litLen_second_ne _ _ _ _ _ hp, litLen_second_ne _ _ _ _ _ hp]; rfl
  rfl

theorem fits_of {r : Rule} {l : Bytes} (hl : Lexeme r l) (rest : Bytes) (hint : fitsInt rest = true)
    (hid : ∀ w, fitsIdent w rest = true) (hp : ∀ c, l = [c] → fitsPunct c rest = true) : fits r l rest = true := by
  cases hl with
  | int => exact hint
  | float => exact (Bool.and_eq_true _ _ ▸ hint).1
  | word => rw [fits_word]; exact hid _
  | property => exact (Bool.and_eq_true _ _ ▸ hid _).1
  | op2 c => exact fits_opRule c _ _
  | punct c => exact hp c rfl
  | _ => rfl

theorem lexStep_punct (c : UInt8) (rest : Bytes) (hc : isPunct c = true) :
    fitsPunct c rest = true → lexStep (c :: rest) = some (.rAny, 1) := by
  unfold fitsPunct
  cases h1 : c == 45
  case true => cases beq_iff_eq.1 h1; exact lexStep_minus_alone rest
  cases h2 : c == 46
  case true => cases beq_iff_eq.1 h2; exact lexStep_dot_alone rest
  cases h3 : isOpStart c
  case true => exact lexStep_op1 c rest h3
  cases h4 : c == 37
  case true =>
    cases beq_iff_eq.1 h4
    intro hf
    have hf := Bool.and_eq_true_iff.1 (show ((litLen kwAssign (37 :: rest)).isNone && (litLen kwLoop (37 :: rest)).isNone) = true from hf)
    rw [lexStep_percent, Option.isNone_iff_eq_none.1 hf.1, Option.isNone_iff_eq_none.1 hf.2]; rfl
  cases h5 : c == 123
  case true =>
    cases beq_iff_eq.1 h5
    intro hf
    have hf := Bool.and_eq_true_iff.1 (show ((litLen kwCycle (123 :: rest)).isNone && (litLen kwWhen (123 :: rest)).isNone) = true from hf)
    rw [lexStep_brace, Option.isNone_iff_eq_none.1 hf.1, Option.isNone_iff_eq_none.1 hf.2]; rfl
  simp only [isPunct, Bool.not_eq_true', Bool.or_eq_false_iff] at hc
  obtain ⟨⟨⟨⟨hd, hw⟩, h34⟩, h39⟩, hsp⟩ := hc
  simp only [isOpStart, Bool.or_eq_false_iff] at h3
  refine fun _ => lexStep_other c rest ?_
  simp only [startOf, hd, h1, hw, hsp, h34, h39, h2, h3, h4, h5, Bool.or_self, Bool.false_eq_true, if_false]

theorem lexStep_lexeme (r : Rule) (l rest : Bytes) (hl : Lexeme r l) (hf : fits r l rest = true) :
    lexStep (l ++ rest) = some (r, l.length) := by
  cases hl with
  | int sg ds hs hne hd => exact lexStep_int sg ds rest hs hne hd hf
  | float sg ds fs hs hne hd hfne hfd => exact lexStep_float sg ds fs rest hs hne hd hfne hfd hf
  | string q body hq hb => exact lexStep_string q body rest hq hb
  | word c body qm hc hb hqm =>
    rw [fits_word] at hf
    exact lexStep_word_lexeme c body qm rest hc hb hqm hf
  | keyword c body qm hc hb hqm => exact lexStep_keyword c body qm rest hc hb hqm
  | property c body qm hc hb hqm =>
    rw [List.cons_append, fits_property] at hf
    exact lexStep_property c body qm rest hc hb hqm hf
  | op2 c hc => exact lexStep_op2 c rest hc
  | punct c hc => exact lexStep_punct c rest hc hf
  | dotdot => exact (lexStep_cons 46 _).trans rfl
  | selAssign | selLoop => exact (lexStep_cons 37 _).trans rfl
  | selCycle | selWhen => exact (lexStep_cons 123 _).trans rfl

theorem Lexeme.ne_nil {r : Rule} {l : Bytes} (h : Lexeme r l) : l ≠ [] := by
  cases h with
  | int sg ds hs hne hd => cases ds with
    | nil => exact absurd rfl hne
    | cons d t => simp
  | float | string | word | keyword | property | op2 | dotdot | punct => simp
  | selAssign | selCycle | selLoop | selWhen => decide

/-- a byte that cannot extend any lexeme: everything except identifier bytes (letters, digits, `_`, `-`),
    `?`, `:`, `=`, `.` and `%` -/
def isBreak (b : UInt8) : Bool := !(isIdCont b || b == 63 || b == 58 || b == 61 || b == 46 || b == 37)

theorem space_isBreak : ∀ b : UInt8, isLexSpace b = true → isBreak b = true := by decide +kernel

theorem fits_break (r : Rule) (l : Bytes) (b : UInt8) (t : Bytes) (hl : Lexeme r l) (hb : isBreak b = true) :
    fits r l (b :: t) = true := by
  simp only [isBreak, isIdCont, isAlnum, Bool.not_eq_true', Bool.or_eq_false_iff] at hb
  obtain ⟨⟨⟨⟨⟨⟨⟨⟨ha, hd⟩, h95⟩, h45⟩, h63⟩, h58⟩, h61⟩, h46⟩, h37⟩ := hb
  have hc : isIdCont b = false := by simp only [isIdCont, isAlnum, ha, hd, h95, h45, Bool.or_self]
  have hs : isIdStart b = false := by simp only [isIdStart, ha, h95, Bool.or_self]
  have letter : ∀ k : UInt8, isAlpha k = true → headOK (fun x => x != k) (b :: t) = true := fun k hk => by
    show (!(b == k)) = true
    rw [class_ne (p := isAlpha) (by rw [ha, hk]; decide)]; rfl
  refine fits_of hl _ ?_ (fun w => ?_) (fun c _ => fitsPunct_of c _ ?_ (fun _ => ?_) ?_ ?_ ?_ ?_)
  · have : b ≠ 46 := by rintro rfl; cases h46
    simp only [fitsInt, headOK, hd, Bool.not_false, Bool.true_and]
    split
    · rename_i heq; cases heq; exact absurd rfl this
    · rfl
  · simp only [fitsIdent, fitsWord, headOK, hc, bne, h63, h58, Bool.not_false, Bool.and_self, Bool.or_true]
  · simp only [headOK, hd, Bool.not_false]
  · simp only [headOK, bne, h46, hs, Bool.not_false, Bool.and_self]
  · simp only [headOK, bne, h61, Bool.not_false]
  · exact letter 97 rfl
  · exact letter 108 rfl
  · simp only [headOK, bne, h37, Bool.not_false]

theorem fits_nil (r : Rule) (l : Bytes) (hl : Lexeme r l) : fits r l [] = true :=
  fits_of hl [] rfl (fun w => by simp only [fitsIdent, fitsWord, headOK, Bool.or_true, Bool.and_self])
    (fun c _ => fitsPunct_of c [] rfl (fun _ => rfl) rfl rfl rfl rfl)
