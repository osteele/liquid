import Proofs.TraceSites
import Proofs.SrcCompileLinesInc
import Proofs.IncLines
import Proofs.E2EParse
/-!
# When `run` returns an error, and where in the source it stands

`run` compiles the source and reads its result off `FRender` into a buffer: it returns the error `e` exactly when the
compiler does, or the source compiles and `FRender` fails with `.located e` (`run_err_iff`; a plain failure cannot
arise, every node wraps). Either way the line is found among the tokens of the source: a compile error stands at the
line of a tag or object token (`compileSource_err_line`), and so do the tags, objects and include tags of the compiled
tree (`compileSource_elines`, `compileSource_ilines`), which is where the theorems on trees put a render error.
-/

/-- `FRender` into a buffer never ends with a plain error: every node wraps -/
theorem frender_pureFail_located (P : Prims) (O : OutPrims) (cfg : Cfg) (fs : FS) (fuel : Nat) (root : List Node) (env : Env) (x : RawErr)
    (h : (frender P O cfg fs fuel root env).pureFail = some x) : ∃ se, x = .located se :=
  (frenderOf_fail_located _ (incQuiet_mkCtx P O cfg fs fuel) root env x h).imp fun _ h => h.1

theorem frender_pureFail_of_renderRoot (P : Prims) (O : OutPrims) (cfg : Cfg) (fs : FS) (fuel : Nat) (root : List Node) (env : Env)
    (out : Bytes) (x : RawErr) (h : (renderRoot (mkCtx P O cfg fs fuel) root env).runPure = (out, .err x)) :
    (frender P O cfg fs fuel root env).pureFail = some x := by
  refine Prog.pureFail_of_runPure _ out x ?_
  unfold frender
  rw [Prog.runPure_bind, h]

theorem runRoot_err_iff (P : Prims) (O : OutPrims) (cfg : Cfg) (fs : FS) (fuel : Nat) (root : List Node) (env : Env) (e : SErr) :
    runRoot P O cfg fs fuel root env = .err e ↔ (frender P O cfg fs fuel root env).pureFail = some (.located e) := by
  unfold runRoot
  have hl := frender_pureFail_located P O cfg fs fuel root env
  simp only [Prog.pureFail_eq_runPure] at hl ⊢
  generalize (frender P O cfg fs fuel root env).runPure = r at hl ⊢
  rcases r with ⟨out, o⟩
  cases o with
  | err x =>
    obtain ⟨se, rfl⟩ := hl x rfl
    simp
  | _ => simp

theorem run_err_iff (P : Prims) (O : OutPrims) (cfg : Cfg) (fs : FS) (fuel : Nat) (src : Bytes) (line : Nat) (env : Env) (e : SErr) :
    run P O cfg fs fuel src line env = .err e ↔
      compileSource cfg.delims src line = .err e ∨
      ∃ root, compileSource cfg.delims src line = .ok root ∧ (frender P O cfg fs fuel root env).pureFail = some (.located e) := by
  rw [run_eq_runCompiled]
  cases compileSource cfg.delims src line <;> simp [runCompiled, runRoot_err_iff]

theorem compileSource_elines (delims : List Bytes) (src : Bytes) (line : Nat) (root : List Node)
    (hc : compileSource delims src line = .ok root) : ∀ x, x ∈ elinesList root → TagObjLine (scan delims src line) x := by
  rw [compileSource_eq_compileTokens] at hc
  obtain ⟨_, ast, hd, hcl⟩ := compileTokens_ok hc
  have := epostI_compileList (etokLinesList ast) ast (fun _ hx => hx)
  rw [hcl] at this
  exact fun x hx => hd.etokLines x (this x hx)

theorem compileSource_ilines (delims : List Bytes) (src : Bytes) (line : Nat) (root : List Node)
    (hc : compileSource delims src line = .ok root) : ∀ x, x ∈ ilinesList root → IncTokLine (scan delims src line) x := by
  rw [compileSource_eq_compileTokens] at hc
  obtain ⟨_, ast, hd, hcl⟩ := compileTokens_ok hc
  have := ipost_compileList (itokLinesList ast) ast (fun _ hx => hx)
  rw [hcl] at this
  exact fun x hx => hd.itokLines x (this x hx)

theorem compileSource_err_line (delims : List Bytes) (src : Bytes) (line : Nat) (e : SErr)
    (hc : compileSource delims src line = .err e) : TagObjLine (scan delims src line) e.line ∧ e.pathSet = true := by
  rw [compileSource_eq_compileTokens] at hc
  unfold compileTokens at hc
  split at hc
  · cases hc
  · cases hp : parseTokens stdGrammar objChk (scan delims src line) with
    | err pe =>
      rw [hp] at hc
      simp only [liftPErr, bind, Res.bind] at hc
      obtain ⟨pre, t, rest, h1, h2, h3⟩ := parse_error_token stdGrammar objChk _ pe hp
      have hm : t ∈ scan delims src line := by rw [h1]; simp
      cases hk : pe.kind <;> rw [hk] at hc <;> cases hc <;> exact ⟨⟨t, hm, h2.symm, h3⟩, rfl⟩
    | ok ast =>
      rw [hp] at hc
      simp only [liftPErr, bind, Res.bind] at hc
      have hd := derives_of_parse hp
      have := epostI_compileList (etokLinesList ast) ast (fun _ hx => hx)
      rw [hc] at this
      exact ⟨hd.etokLines _ this.1, this.2⟩
    | panic w => rw [hp] at hc; simp [liftPErr, bind, Res.bind] at hc
    | unmodelled w => rw [hp] at hc; simp [liftPErr, bind, Res.bind] at hc

theorem tagObjLine_split (delims : List Bytes) (src : Bytes) (line : Nat) (x : Nat) (h : TagObjLine (scan delims src line) x) :
    ∃ pre t rest, scan delims src line = pre ++ t :: rest ∧ (t.ty = .tag ∨ t.ty = .obj) ∧ t.line = x ∧
      t.line = line + countNL (srcs pre) ∧ src = srcs pre ++ (t.source ++ srcs rest) := by
  obtain ⟨t, ht, hl, hty⟩ := h
  obtain ⟨pre, rest, hs⟩ := List.append_of_mem ht
  have htr : t.isTrim = false := by rcases hty with h | h <;> simp [Token.isTrim, h]
  obtain ⟨h5, h6⟩ := scan_split_located delims src line pre rest t hs htr
  exact ⟨pre, t, rest, hs, hty, hl, h5, h6⟩

theorem incTokLine_split (delims : List Bytes) (src : Bytes) (line : Nat) (x : Nat × Bytes) (h : IncTokLine (scan delims src line) x) :
    ∃ pre t rest, scan delims src line = pre ++ t :: rest ∧ t.ty = .tag ∧ t.name = nmInclude ∧ t.line = x.1 ∧ t.args = x.2 ∧
      t.line = line + countNL (srcs pre) ∧ src = srcs pre ++ (t.source ++ srcs rest) := by
  obtain ⟨t, ht, hl, ha, hty, hn⟩ := h
  obtain ⟨pre, rest, hs⟩ := List.append_of_mem ht
  have htr : t.isTrim = false := by simp [Token.isTrim, hty]
  obtain ⟨h5, h6⟩ := scan_split_located delims src line pre rest t hs htr
  exact ⟨pre, t, rest, hs, hty, hn, hl, ha, h5, h6⟩
