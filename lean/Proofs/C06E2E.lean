import Proofs.DecEq
import Proofs.E2EParse
/-!
# C06, end to end — "otherwise parsing returns an error and nothing is rendered", on source bytes

`toks = scan cfg.delims src line` is the token list of the source. The theorems lift
`parse_ok_iff_derives` / `parse_result_cases` / `error_at_first_bad_token` (Proofs/C06.lean) through
`compileSource` and `run`, for every value layer, file system, fuel and environment.

Model boundary: `compileSource` answers `unmodelled` when some object token has arguments outside
the expression-lexer model (a negative-zero literal), before the block parser is consulted; the
statements assume `firstUnmodelledObj toks = none` where the parser's answer matters.
-/

/-- **C06, end to end (a parse error is the result of the whole pipeline, and nothing is rendered).**
    If the block parser rejects the tokens of the source, `run` returns that error — for every value
    layer, file system, fuel and environment — and, being an error, no output. -/
theorem run_parse_error (P : Prims) (O : OutPrims) (cfg : Cfg) (fs : FS) (fuel : Nat) (src : Bytes) (line : Nat) (env : Env)
    (pe : PErr) (hU : firstUnmodelledObj (scan cfg.delims src line) = none)
    (h : parseTokens stdGrammar objChk (scan cfg.delims src line) = .err pe) :
    run P O cfg fs fuel src line env = .err (parseErrOf pe) := by
  rw [run_eq_runTokens]
  unfold runTokens
  rw [compileTokens_of_parse_err hU h]
  rfl

/-- **C06, end to end (accepted sources).** If the nesting grammar derives a tree from the tokens of
    the source, the result of the pipeline is the result of compiling and rendering that tree. -/
theorem run_of_derives (P : Prims) (O : OutPrims) (cfg : Cfg) (fs : FS) (fuel : Nat) (src : Bytes) (line : Nat) (env : Env)
    (ast : List AST) (hU : firstUnmodelledObj (scan cfg.delims src line) = none)
    (h : Derives stdGrammar objChk (scan cfg.delims src line) ast) :
    run P O cfg fs fuel src line env = runCompiled P O cfg fs fuel (compileList ast) env := by
  rw [run_eq_runTokens]
  unfold runTokens
  rw [compileTokens_of_parse hU ((parse_ok_iff_derives_std objChk _ ast).mpr h)]

/-- **C06, end to end, main statement.** The token list of a source is NOT derivable in the nesting
    grammar (no tree: badly nested or unclosed block tags, or an object that is not an expression)
    exactly when parsing returns an error; that error is one of `notInside` / `unterminated` /
    `syntax` (object), it is the result of the whole pipeline whatever the value layer, file system
    and environment — nothing is rendered —, and it is located at a tag or object token `t` of the
    source: its line is the start line plus the number of newlines in the source text before `t`. -/
theorem run_rejects_iff_not_derivable (cfg : Cfg) (src : Bytes) (line : Nat)
    (hU : firstUnmodelledObj (scan cfg.delims src line) = none) :
    (¬ ∃ ast, Derives stdGrammar objChk (scan cfg.delims src line) ast) ↔
    ∃ pe, parseTokens stdGrammar objChk (scan cfg.delims src line) = .err pe ∧
      (pe.kind = .notInside ∨ pe.kind = .unterminated ∨ ∃ c, pe.kind = .objSyntax c) ∧
      compileSource cfg.delims src line = .err (parseErrOf pe) ∧
      (∀ P O fs fuel env, run P O cfg fs fuel src line env = .err (parseErrOf pe)) ∧
      ∃ pre t rest, scan cfg.delims src line = pre ++ t :: rest ∧ (t.ty = .tag ∨ t.ty = .obj) ∧
        pe.line = line + countNL (srcs pre) ∧ src = srcs pre ++ (t.source ++ srcs rest) := by
  constructor
  · intro hnd
    have hcases := parse_result_cases stdGrammar objChk (scan cfg.delims src line)
    have hpe : ∃ pe, parseTokens stdGrammar objChk (scan cfg.delims src line) = .err pe ∧
        (pe.kind = .notInside ∨ pe.kind = .unterminated ∨ ∃ c, pe.kind = .objSyntax c) := by
      rcases hcases with ⟨ast, h⟩ | ⟨c, l, h⟩ | ⟨l, h⟩ | ⟨l, h⟩
      · exact absurd ⟨ast, derives_of_parse h⟩ hnd
      · exact ⟨_, h, .inr (.inr ⟨c, rfl⟩)⟩
      · exact ⟨_, h, .inl rfl⟩
      · exact ⟨_, h, .inr (.inl rfl)⟩
    obtain ⟨pe, hp, hk⟩ := hpe
    refine ⟨pe, hp, hk, ?_, fun P O fs fuel env => run_parse_error P O cfg fs fuel src line env pe hU hp, ?_⟩
    · rw [compileSource_eq_compileTokens, compileTokens_of_parse_err hU hp]
    · obtain ⟨pre, t, rest, h1, h2, h3⟩ := parse_error_token stdGrammar objChk _ pe hp
      have ht : t.isTrim = false := by rcases h3 with h3 | h3 <;> simp [Token.isTrim, h3]
      obtain ⟨h4, h5⟩ := scan_split_located cfg.delims src line pre rest t h1 ht
      exact ⟨pre, t, rest, h1, h3, by rw [h2, h4], h5⟩
  · rintro ⟨pe, hp, _⟩ ⟨ast, hd⟩
    rw [(parse_ok_iff_derives_std objChk _ ast).mpr hd] at hp
    cases hp

/-- **C06, end to end (a nesting error means the tags are not well nested).** If compiling a source
    fails with `notInside` or `unterminated`, its token list is not well nested — these two messages
    are never produced by the compile phase. No side condition. -/
theorem nesting_error_implies_not_well_nested (delims : List Bytes) (src : Bytes) (line : Nat) (e : SErr)
    (h : compileSource delims src line = .err e) (hm : e.msg = .notInside ∨ e.msg = .unterminated) :
    ¬ WellNested stdGrammar (scan delims src line) := by
  intro hw
  have hall := (wellNested_iff_acceptAll stdGrammar_OK _).mp hw
  rw [compileSource_eq_compileTokens] at h
  unfold compileTokens at h
  split at h
  · cases h
  · rcases parseTokens_sim (g := stdGrammar) (chk := objChk) (scan delims src line) with hs | ⟨c, l, hs⟩
    · rw [hs] at h
      cases hp : parseTokens stdGrammar acceptAll (scan delims src line) with
      | ok ast =>
        rw [hp] at h
        have := compileList_err_not_nest (ast := ast) (e := e) (by simpa [liftPErr, bind, Res.bind] using h)
        rcases hm with hm | hm
        · exact this.1 hm
        · exact this.2 hm
      | err pe => rw [hp] at hall; cases hall
      | panic w => rw [hp] at hall; cases hall
      | unmodelled w => rw [hp] at hall; cases hall
    · rw [hs] at h
      simp only [liftPErr, bind, Res.bind, Res.err.injEq] at h
      subst h
      rcases hm with hm | hm <;> cases hm

/-- **C06, end to end (nesting alone).** For a source all of whose object tokens hold expressions:
    the token list is NOT well nested exactly when compilation fails with `notInside` or
    `unterminated`; then `run` returns that error whatever the value layer, file system and
    environment, and nothing is rendered. -/
theorem not_well_nested_iff_nesting_error (cfg : Cfg) (src : Bytes) (line : Nat)
    (hobj : ∀ t ∈ scan cfg.delims src line, t.ty = .obj → objChk t.args = none) :
    ¬ WellNested stdGrammar (scan cfg.delims src line) ↔
    ∃ l, (compileSource cfg.delims src line = .err ⟨l, true, .none, .notInside⟩ ∧
            ∀ P O fs fuel env, run P O cfg fs fuel src line env = .err ⟨l, true, .none, .notInside⟩) ∨
         (compileSource cfg.delims src line = .err ⟨l, true, .none, .unterminated⟩ ∧
            ∀ P O fs fuel env, run P O cfg fs fuel src line env = .err ⟨l, true, .none, .unterminated⟩) := by
  have hU := firstUnmodelledObj_none_of_objChk _ hobj
  constructor
  · intro hw
    have hall : (parseTokens stdGrammar acceptAll (scan cfg.delims src line)).isOk ≠ true :=
      fun h => hw ((wellNested_iff_acceptAll stdGrammar_OK _).mpr h)
    have heq := parseTokens_all_ok (g := stdGrammar) (chk := objChk) _ hobj
    rcases parse_result_cases stdGrammar acceptAll (scan cfg.delims src line) with ⟨ast, h⟩ | ⟨c, l, h⟩ | ⟨l, h⟩ | ⟨l, h⟩
    · rw [h] at hall; exact absurd rfl hall
    · exfalso
      rcases error_at_first_bad_token stdGrammar acceptAll _ _ h with hk | ⟨_, t, _, _, _, _, h3⟩
      · cases hk
      · rcases h3 with ⟨_, c', hc', _⟩ | ⟨_, hk⟩
        · cases hc'
        · cases hk
    · rw [← heq] at h
      refine ⟨l, .inl ⟨?_, fun P O fs fuel env => run_parse_error P O cfg fs fuel src line env _ hU h⟩⟩
      rw [compileSource_eq_compileTokens, compileTokens_of_parse_err hU h]; rfl
    · rw [← heq] at h
      refine ⟨l, .inr ⟨?_, fun P O fs fuel env => run_parse_error P O cfg fs fuel src line env _ hU h⟩⟩
      rw [compileSource_eq_compileTokens, compileTokens_of_parse_err hU h]; rfl
  · rintro ⟨l, ⟨h, _⟩ | ⟨h, _⟩⟩
    · exact nesting_error_implies_not_well_nested cfg.delims src line _ h (.inl rfl)
    · exact nesting_error_implies_not_well_nested cfg.delims src line _ h (.inr rfl)

/-! Non-vacuity on concrete bytes.
    `a\n{% if x %}\n{% endfor %}` — `endfor` (line 3) directly inside `if`: notInside at line 3;
    `{% if x %}\nb` — unterminated at line 1 (start line 1). -/
example : ∀ P O fs fuel env, run P O {} fs fuel exSrcBad 1 env = .err ⟨3, true, .none, .notInside⟩ :=
  fun P O fs fuel env => run_parse_error P O {} fs fuel exSrcBad 1 env ⟨.notInside, 3⟩ (by decide +kernel) exSrcBad_parse
example : ∃ pe, parseTokens stdGrammar objChk (scan ({} : Cfg).delims exSrcBad 1) = .err pe ∧
      (pe.kind = .notInside ∨ pe.kind = .unterminated ∨ ∃ c, pe.kind = .objSyntax c) ∧
      compileSource ({} : Cfg).delims exSrcBad 1 = .err (parseErrOf pe) ∧
      (∀ P O fs fuel env, run P O {} fs fuel exSrcBad 1 env = .err (parseErrOf pe)) ∧
      ∃ pre t rest, scan ({} : Cfg).delims exSrcBad 1 = pre ++ t :: rest ∧ (t.ty = .tag ∨ t.ty = .obj) ∧
        pe.line = 1 + countNL (srcs pre) ∧ exSrcBad = srcs pre ++ (t.source ++ srcs rest) :=
  (run_rejects_iff_not_derivable {} exSrcBad 1 (by decide +kernel)).mp (by
    rintro ⟨ast, hd⟩
    have := (parse_ok_iff_derives_std objChk _ ast).mpr hd
    rw [exSrcBad_parse] at this
    cases this)
example : ¬ WellNested stdGrammar (scan ({} : Cfg).delims exSrcOpen 1) :=
  (not_well_nested_iff_nesting_error {} exSrcOpen 1 (by decide +kernel)).mpr
    ⟨1, .inr ⟨by decide +kernel, fun P O fs fuel env => run_parse_error P O {} fs fuel exSrcOpen 1 env ⟨.unterminated, 1⟩ (by decide +kernel) exSrcOpen_parse⟩⟩
