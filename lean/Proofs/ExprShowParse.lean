import Liquid.ExprShow
/-!
# The parser on the canonical tokens of a tree

`parseCond_toks`: on `e.toks 0` followed by a token that cannot continue a condition, the recursive-descent
parser returns `e`, for every fuel from `e.cneed + 2` on, and `e.cneed ≤ 8 * (e.toks 0).length`
(`bound`), so the fuel `parseTokensE` gives itself is enough (`parseTokensE_toks`).

The parser is iterative where the grammar is left recursive (`parsePostfix`, `parseFilters`, `parseCondTail`
carry the tree built so far), so the induction proves "continuing" statements: parsing `e.toks ++ r` from the
start equals continuing the loop on `r` with `e` as the tree built so far (`SE`, `SRF`, `SC`).
-/

/-- the next token is not `..`: after `(` and a first `expr`, `..` makes a range and anything else a `( cond )` -/
def noDD : List ETok → Bool
  | .dotdot :: _ => false
  | _ => true

/-- the next token does not continue an `expr`: not `.name`, not `[` -/
def stopE : List ETok → Bool
  | .property _ :: _ => false
  | .ch b :: _ => b != 91
  | _ => true

/-- … nor a parameter list: not `,` -/
def stopA : List ETok → Bool
  | .property _ :: _ => false
  | .ch b :: _ => b != 91 && b != 44
  | _ => true

/-- … nor a `rel`: not `|`, not a comparison operator -/
def stopR : List ETok → Bool
  | [] => true
  | t :: _ => (match t with
      | .property _ => false
      | .ch b => b != 91 && b != 44 && b != 124
      | _ => true) && (relOpOf t).isNone

/-- … nor a `cond`: not `and`, not `or` -/
def stopC : List ETok → Bool
  | .and_ :: _ => false
  | .or_ :: _ => false
  | r => stopR r

theorem stopA_stopE {r : List ETok} (h : stopA r = true) : stopE r = true := by
  cases r with
  | nil => rfl
  | cons t r => cases t <;> first | rfl | exact h | exact (Bool.and_eq_true_iff.1 h).1
theorem stopR_stopA {r : List ETok} (h : stopR r = true) : stopA r = true := by
  cases r with
  | nil => rfl
  | cons t r => cases t <;> first | rfl | exact h | exact (Bool.and_eq_true_iff.1 (Bool.and_eq_true_iff.1 h).1).1
theorem stopR_stopE {r : List ETok} (h : stopR r = true) : stopE r = true := stopA_stopE (stopR_stopA h)
theorem stopC_stopR {r : List ETok} (h : stopC r = true) : stopR r = true := by
  cases r with
  | nil => rfl
  | cons t r => cases t <;> first | exact h | cases h

theorem parseExpr_of_primary {f : Nat} {t r : List ETok} {e : Expr} (h : parsePrimary f t = some (e, r)) :
    parseExpr (f+1) t = parsePostfix f e r := by
  rw [parseExpr, h]
theorem parsePrimary_lit (f : Nat) (v : GoVal) (r : List ETok) : parsePrimary (f+1) (.lit v :: r) = some (.lit v, r) := by
  rw [parsePrimary]
theorem parsePrimary_ident (f : Nat) (x : Bytes) (r : List ETok) : parsePrimary (f+1) (.ident x :: r) = some (.var x, r) := by
  rw [parsePrimary]
theorem parsePrimary_range {f : Nat} {r r1 r2 : List ETok} {a b : Expr} (h1 : parseExpr f r = some (a, .dotdot :: r1))
    (h2 : parseExpr f r1 = some (b, .ch 41 :: r2)) : parsePrimary (f+1) (.ch 40 :: r) = some (.range a b, r2) := by
  rw [parsePrimary, h1]; simp only [h2]
theorem parsePrimary_paren {f : Nat} {r r1 r2 : List ETok} {a c : Expr} (h1 : parseExpr f r = some (a, r1))
    (hd : noDD r1 = true) (h2 : parseCondFrom f a r1 = some (c, .ch 41 :: r2)) :
    parsePrimary (f+1) (.ch 40 :: r) = some (c, r2) := by
  rw [parsePrimary, h1]
  split
  · rename_i heq; cases heq; simp [noDD] at hd
  · rename_i heq; cases heq; simp only [h2]
  · rename_i heq; cases heq
theorem parsePostfix_prop (f : Nat) (e : Expr) (p : Bytes) (r : List ETok) :
    parsePostfix (f+1) e (.property p :: r) = parsePostfix f (.prop e p) r := by
  rw [parsePostfix]
theorem parsePostfix_idx {f : Nat} {e i : Expr} {r r1 : List ETok} (h : parseExpr f r = some (i, .ch 93 :: r1)) :
    parsePostfix (f+1) e (.ch 91 :: r) = parsePostfix f (.index e i) r1 := by
  rw [parsePostfix, h]; rfl
theorem parsePostfix_stop {f : Nat} (hf : 0 < f) (e : Expr) {r : List ETok} (h : stopE r = true) :
    parsePostfix f e r = some (e, r) := by
  obtain ⟨f, rfl⟩ := Nat.exists_eq_add_one.2 hf
  rw [parsePostfix] <;> (intros; subst_vars; simp [stopE] at h)

theorem parseFilters_ident (f : Nat) (e : Expr) (n : Bytes) (r : List ETok) :
    parseFilters (f+1) e (.ch 124 :: .ident n :: r) = parseFilters f (.filter e n []) r := by
  rw [parseFilters]
theorem parseFilters_kw {f : Nat} {e : Expr} {n : Bytes} {r r1 : List ETok} {args : List Expr}
    (h : parseParams f r = some (args, r1)) :
    parseFilters (f+1) e (.ch 124 :: .keyword n :: r) = parseFilters f (.filter e n args) r1 := by
  rw [parseFilters, h]
/-- not `|` -/
def noBar : List ETok → Bool
  | .ch b :: _ => b != 124
  | _ => true
theorem parseFilters_stop {f : Nat} (hf : 0 < f) (e : Expr) {r : List ETok} (h : noBar r = true) :
    parseFilters f e r = some (e, r) := by
  obtain ⟨f, rfl⟩ := Nat.exists_eq_add_one.2 hf
  rw [parseFilters] <;> (intros; subst_vars; simp [noBar] at h)
theorem stopR_noBar {r : List ETok} (h : stopR r = true) : noBar r = true := by
  cases r with
  | nil => rfl
  | cons t r => cases t <;> first | rfl | exact (Bool.and_eq_true_iff.1 (Bool.and_eq_true_iff.1 h).1).2
def noComma : List ETok → Bool
  | .ch b :: _ => b != 44
  | _ => true
theorem stopA_noComma {r : List ETok} (h : stopA r = true) : noComma r = true := by
  cases r with
  | nil => rfl
  | cons t r => cases t <;> first | rfl | exact (Bool.and_eq_true_iff.1 h).2
theorem parseParams_last {f : Nat} {t r : List ETok} {a : Expr} (h : parseExpr f t = some (a, r)) (hc : noComma r = true) :
    parseParams (f+1) t = some ([a], r) := by
  rw [parseParams, h]
  split
  · rename_i heq; cases heq; simp [noComma] at hc
  · rename_i heq; cases heq; rfl
  · rename_i heq; cases heq
theorem parseParams_more {f : Nat} {t r r1 : List ETok} {a : Expr} {as : List Expr}
    (h : parseExpr f t = some (a, .ch 44 :: r)) (h2 : parseParams f r = some (as, r1)) :
    parseParams (f+1) t = some (a :: as, r1) := by
  rw [parseParams, h]; simp only [h2]

theorem parseRelFrom_op {f : Nat} {a b : Expr} {t : ETok} {op : RelOp} {r r1 : List ETok} (ho : relOpOf t = some op)
    (h : parseExpr f r = some (b, r1)) : parseRelFrom (f+1) a (t :: r) = some (.rel op a b, r1) := by
  rw [parseRelFrom]; simp only [ho, h]
theorem parseRelFrom_filt {f : Nat} {a : Expr} {t : ETok} {r : List ETok} (ho : relOpOf t = none) :
    parseRelFrom (f+1) a (t :: r) = parseFilters f a (t :: r) := by
  rw [parseRelFrom]; simp only [ho]
theorem parseRelFrom_nil (f : Nat) (a : Expr) : parseRelFrom (f+1) a [] = some (a, []) := by
  rw [parseRelFrom]
theorem parseCondFrom_of {f : Nat} {a c : Expr} {t r : List ETok} (h : parseRelFrom f a t = some (c, r)) :
    parseCondFrom (f+1) a t = parseCondTail f c r := by
  rw [parseCondFrom, h]
theorem parseCondTail_and {f : Nat} {c d : Expr} {r r1 : List ETok} (h : parseRel f r = some (d, r1)) :
    parseCondTail (f+1) c (.and_ :: r) = parseCondTail f (.and_ c d) r1 := by
  rw [parseCondTail, h]
theorem parseCondTail_or {f : Nat} {c d : Expr} {r r1 : List ETok} (h : parseRel f r = some (d, r1)) :
    parseCondTail (f+1) c (.or_ :: r) = parseCondTail f (.or_ c d) r1 := by
  rw [parseCondTail, h]
theorem parseCondTail_stop {f : Nat} (hf : 0 < f) (c : Expr) {r : List ETok} (h : stopC r = true) :
    parseCondTail f c r = some (c, r) := by
  obtain ⟨f, rfl⟩ := Nat.exists_eq_add_one.2 hf
  rw [parseCondTail] <;> (intros; subst_vars; simp [stopC] at h)

/-- `parseRel (f+1)` is `relOf f f` (`parseRel_eq`). Two fuels, because the induction spends them at different rates:
    the first operand uses up `F`, the loops that follow only `G` (`condOf_of_relOf` moves `G` alone) -/
def relOf (F G : Nat) (t : List ETok) : PR Expr :=
  match parseExpr F t with
  | some (a, r) => parseRelFrom G a r
  | none => none
/-- likewise `parseCond f = condOf f f` (`parseCond_eq`) -/
def condOf (F G : Nat) (t : List ETok) : PR Expr :=
  match parseExpr F t with
  | some (a, r) => parseCondFrom G a r
  | none => none

theorem parseRel_eq (f : Nat) (t : List ETok) : parseRel (f+1) t = relOf f f t := by
  rw [parseRel]; unfold relOf
  cases parseExpr f t with
  | none => rfl
  | some p => cases p; rfl
theorem parseCond_eq (f : Nat) (t : List ETok) : parseCond f t = condOf f f t := rfl
theorem condOf_of_relOf {F g : Nat} {t r : List ETok} {e : Expr} (h : relOf F g t = some (e, r)) :
    condOf F (g+1) t = parseCondTail g e r := by
  unfold relOf at h; unfold condOf
  split at h
  · rename_i a r1 heq
    exact parseCondFrom_of h
  · cases h

/-- the tree is written without parentheses at level `lvl` -/
def openAt : Expr → Nat → Bool
  | .rel .., lvl => lvl ≤ 1
  | .and_ .., lvl => lvl == 0
  | .or_ .., lvl => lvl == 0
  | .filter .., lvl => lvl ≤ 2
  | _, _ => true

mutual
/-- fuel for `parseExpr` on `e.toks 3`: one unit per parser function entered on the way down; sufficient, not
    tight (`bound` only needs ≤ 8 per token) -/
def Expr.need : Expr → Nat
  | .lit _ => 1
  | .var _ => 1
  | .prop e _ => e.need + 1
  | .index e i => e.need + i.need + 2
  | .range a b => a.need + b.need + 4
  | .rel _ a b => a.need + b.need + 7
  | .and_ a b => a.cneed + (if openAt b 1 then b.cneed else b.need) + 7
  | .or_ a b => a.cneed + (if openAt b 1 then b.cneed else b.need) + 7
  | .filter e _ args => (if openAt e 2 then e.cneed else e.need) + Expr.needArgs args + 7
/-- fuel for the level at which `e` is written without parentheses -/
def Expr.cneed : Expr → Nat
  | .lit _ => 3
  | .var _ => 3
  | .prop e _ => e.need + 3
  | .index e i => e.need + i.need + 4
  | .range a b => a.need + b.need + 6
  | .rel _ a b => a.need + b.need + 4
  | .and_ a b => a.cneed + (if openAt b 1 then b.cneed else b.need) + 4
  | .or_ a b => a.cneed + (if openAt b 1 then b.cneed else b.need) + 4
  | .filter e _ args => (if openAt e 2 then e.cneed else e.need) + Expr.needArgs args + 4
def Expr.needArgs : List Expr → Nat
  | [] => 0
  | a :: as => a.need + Expr.needArgs as + 2
end

/-- fuel for `e.toks lvl`: `cneed` where `e` stands open at `lvl`, `need` where it is in parentheses -/
def cost (e : Expr) (lvl : Nat) : Nat := if openAt e lvl then e.cneed else e.need

def Expr.isFilter : Expr → Bool
  | .filter .. => true
  | _ => false

/-- a tree that is one `expr` of the grammar without parentheses -/
def Expr.isELevel : Expr → Bool
  | .lit _ | .var _ | .prop .. | .index .. | .range .. => true
  | _ => false

/-- `expr` level: `parseExpr` on `e.toks 3 ++ r` = the postfix loop continued on `r` with `e` built -/
def SE (e : Expr) : Prop :=
  ∀ F r, e.need + 1 ≤ F → ∃ f', F ≤ f' + e.need ∧ parseExpr F (e.toks 3 ++ r) = parsePostfix f' e r
/-- head: `parseExpr` on `e.toks lvl ++ r` returns some first operand and the rest does not start with `..` -/
def SH (e : Expr) (lvl : Nat) : Prop :=
  ∀ F r, cost e lvl + 1 ≤ F → stopE r = true → noDD r = true →
    ∃ a r1, parseExpr F (e.toks lvl ++ r) = some (a, r1) ∧ noDD r1 = true
/-- filtered level, for a filter `e`: = the filter loop continued on `r` -/
def SRF (e : Expr) : Prop :=
  ∀ F G r, stopA r = true → e.cneed + 1 ≤ F → e.cneed + 1 ≤ G →
    ∃ g', G ≤ g' + e.cneed ∧ relOf F G (e.toks 2 ++ r) = parseFilters g' e r
/-- `rel` level, closed form: `e.toks 1 ++ r` gives `(e, r)` when `r` cannot continue a rel -/
def SRl (e : Expr) : Prop :=
  ∀ F G r, stopR r = true → cost e 1 + 1 ≤ F → cost e 1 + 1 ≤ G → relOf F G (e.toks 1 ++ r) = some (e, r)
/-- `cond` level: = the and/or loop continued on `r` -/
def SC (e : Expr) : Prop :=
  ∀ F G r, stopR r = true → e.cneed + 2 ≤ F → e.cneed + 2 ≤ G →
    ∃ g', G ≤ g' + e.cneed ∧ condOf F G (e.toks 0 ++ r) = parseCondTail g' e r
/-- `parseParams` reads a non-empty argument list back -/
def SA (as : List Expr) : Prop :=
  ∀ F r, stopA r = true → as ≠ [] → Expr.needArgs as + 1 ≤ F →
    parseParams F ((Expr.argsToks as).drop 1 ++ r) = some (as, r)

/-- all of these for one tree -/
structure Compl (e : Expr) : Prop where
  E : SE e
  H : ∀ lvl, SH e lvl
  RF : e.isFilter = true → SRF e
  R : SRl e
  C : SC e

theorem Expr.cneed_pos (e : Expr) : 1 ≤ e.cneed := by
  cases e <;> rw [Expr.cneed] <;> exact Nat.succ_le_succ (Nat.zero_le _)
theorem Expr.need_pos (e : Expr) : 1 ≤ e.need := by
  cases e <;> rw [Expr.need] <;> exact Nat.succ_le_succ (Nat.zero_le _)

theorem SE.final {e : Expr} (h : SE e) {F : Nat} {r : List ETok} (hF : e.need + 1 ≤ F) (hs : stopE r = true) :
    parseExpr F (e.toks 3 ++ r) = some (e, r) := by
  obtain ⟨f', hf, heq⟩ := h F r hF
  rw [heq, parsePostfix_stop (by omega) e hs]

theorem toks_rel (op : RelOp) (a b : Expr) (lvl : Nat) :
    (Expr.rel op a b).toks lvl = parenIf (decide (1 < lvl)) (a.toks 3 ++ relOpTok op :: b.toks 3) := by rw [Expr.toks]
theorem toks_and (a b : Expr) (lvl : Nat) :
    (Expr.and_ a b).toks lvl = parenIf (decide (0 < lvl)) (a.toks 0 ++ .and_ :: b.toks 1) := by rw [Expr.toks]
theorem toks_or (a b : Expr) (lvl : Nat) :
    (Expr.or_ a b).toks lvl = parenIf (decide (0 < lvl)) (a.toks 0 ++ .or_ :: b.toks 1) := by rw [Expr.toks]
theorem toks_filter (e : Expr) (n : Bytes) (args : List Expr) (lvl : Nat) :
    (Expr.filter e n args).toks lvl = parenIf (decide (2 < lvl))
      (e.toks 2 ++ .ch 124 :: (if args.isEmpty then [.ident n] else .keyword n :: (Expr.argsToks args).drop 1)) := by
  rw [Expr.toks]

theorem toks_of_ELevel {e : Expr} (h : e.isELevel = true) (lvl : Nat) : e.toks lvl = e.toks 3 := by
  cases e <;> simp [Expr.isELevel] at h <;> rw [Expr.toks, Expr.toks]

theorem toks_closed {e : Expr} {lvl : Nat} (h : openAt e lvl = false) : e.toks lvl = e.toks 3 := by
  cases e with
  | rel op a b => simp [openAt] at h; rw [toks_rel, toks_rel]; simp [h]
  | and_ a b | or_ a b =>
    simp [openAt] at h; rw [Expr.toks, Expr.toks]
    have : 0 < lvl := by omega
    simp [this]
  | filter e n args => simp [openAt] at h; rw [toks_filter, toks_filter]; simp [h]
  | _ => simp [openAt] at h

theorem toks_open {e : Expr} {lvl : Nat} (h : openAt e lvl = true) : e.toks lvl = e.toks 0 := by
  cases e with
  | rel op a b =>
    have : ¬ 1 < lvl := by simp [openAt] at h; omega
    rw [toks_rel, toks_rel, decide_eq_false this]; rfl
  | and_ a b | or_ a b => cases (beq_iff_eq.1 h : lvl = 0); rfl
  | filter e n args =>
    have : ¬ 2 < lvl := by simp [openAt] at h; omega
    rw [toks_filter, toks_filter, decide_eq_false this]; rfl
  | _ => rw [toks_of_ELevel rfl lvl, toks_of_ELevel rfl 0]

theorem toks_three {e : Expr} (h : e.isELevel = false) : e.toks 3 = .ch 40 :: (e.toks 0 ++ [.ch 41]) := by
  cases e with
  | rel | and_ | or_ | filter => rw [Expr.toks, Expr.toks]; rfl
  | _ => cases h

theorem need_of_not_ELevel {e : Expr} (h : e.isELevel = false) : e.need = e.cneed + 3 := by
  cases e with
  | rel | and_ | or_ | filter => rw [Expr.need, Expr.cneed]
  | _ => cases h

theorem openAt_zero (e : Expr) : openAt e 0 = true := by cases e <;> rfl

theorem cost_open {e : Expr} {lvl : Nat} (h : openAt e lvl = true) : cost e lvl = e.cneed := by rw [cost, if_pos h]
theorem cost_closed {e : Expr} {lvl : Nat} (h : openAt e lvl = false) : cost e lvl = e.need := by
  rw [cost, if_neg (by rw [h]; decide)]

theorem cost_of_ELevel {e : Expr} (h : e.isELevel = true) (lvl : Nat) : cost e lvl = e.cneed := by
  cases e <;> simp [Expr.isELevel] at h <;> exact cost_open rfl

theorem relOpOf_relOpTok (op : RelOp) : relOpOf (relOpTok op) = some op := by cases op <;> rfl
theorem stopE_relOpTok (op : RelOp) (r : List ETok) : stopE (relOpTok op :: r) = true := by cases op <;> rfl
theorem noDD_relOpTok (op : RelOp) (r : List ETok) : noDD (relOpTok op :: r) = true := by cases op <;> rfl

theorem SRl_of_SE {e : Expr} (hE : SE e) (ht : e.toks 1 = e.toks 3) (hc : e.need ≤ cost e 1) : SRl e := by
  intro F G r hs hF hG
  have := e.need_pos
  unfold relOf
  rw [ht, hE.final (by omega) (stopR_stopE hs)]
  obtain ⟨g, rfl⟩ : ∃ k, G = k + 1 + 1 := ⟨G - 2, by omega⟩
  cases r with
  | nil => exact parseRelFrom_nil _ e
  | cons t r' =>
    have ho : relOpOf t = none := by
      simp only [stopR, Bool.and_eq_true, Option.isNone_iff_eq_none] at hs; exact hs.2
    show parseRelFrom (g + 1 + 1) e (t :: r') = _
    rw [parseRelFrom_filt ho, parseFilters_stop (Nat.succ_pos g) e (stopR_noBar hs)]

theorem SC_of_SRl {e : Expr} (hR : SRl e) (ho : openAt e 1 = true) : SC e := by
  intro F G r hs hF hG
  obtain ⟨g, rfl⟩ : ∃ k, G = k + 1 := ⟨G - 1, by omega⟩
  have := e.cneed_pos
  refine ⟨g, by omega, ?_⟩
  rw [← toks_open ho]
  exact condOf_of_relOf (hR F g r hs (by rw [cost_open ho]; omega) (by rw [cost_open ho]; omega))

theorem SH_of_SE {e : Expr} (hE : SE e) (lvl : Nat) (ht : e.toks lvl = e.toks 3) (hc : e.need ≤ cost e lvl) : SH e lvl := by
  intro F r hF hs hd
  exact ⟨e, r, by rw [ht]; exact hE.final (by omega) hs, hd⟩

/-- a tree that `parsePrimary` reads in one piece (a literal, a name, a range, `( cond )`): `parseExpr` hands it to the
    postfix loop -/
theorem SE_of_primary {e : Expr}
    (h : ∀ g r, e.need ≤ g + 1 → parsePrimary (g + 1) (e.toks 3 ++ r) = some (e, r)) : SE e := by
  intro F r hF
  have := e.need_pos
  obtain ⟨g, rfl⟩ : ∃ k, F = k + 1 + 1 := ⟨F - 2, by omega⟩
  exact ⟨g + 1, by omega, parseExpr_of_primary (h g r (by omega))⟩

/-- `( cond )` -/
theorem SE_of_SC {e : Expr} (hl : e.isELevel = false) (hH : SH e 0) (hC : SC e) : SE e := by
  refine SE_of_primary fun g r hg => ?_
  rw [need_of_not_ELevel hl] at hg
  obtain ⟨a, r1, h1, hd1⟩ := hH g (.ch 41 :: r) (by rw [cost_open (openAt_zero e)]; omega) rfl rfl
  obtain ⟨g', hg', h2⟩ := hC g g (.ch 41 :: r) rfl (by omega) (by omega)
  rw [parseCondTail_stop (by omega) e (r := .ch 41 :: r) rfl] at h2
  unfold condOf at h2
  rw [h1] at h2
  rw [toks_three hl, List.cons_append, List.append_assoc]
  exact parsePrimary_paren h1 hd1 h2

/-- an `expr` of the grammar: everything follows from `SE` -/
theorem Compl.ofE {e : Expr} (hl : e.isELevel = true) (hE : SE e) (hc : e.cneed = e.need + 2) : Compl e := by
  have hle : ∀ lvl, e.need ≤ cost e lvl := fun lvl => by rw [cost_of_ELevel hl]; omega
  have ho : openAt e 1 = true := by
    cases e with
    | rel | and_ | or_ | filter => cases hl
    | _ => rfl
  have hR : SRl e := SRl_of_SE hE (toks_of_ELevel hl 1) (hle 1)
  refine ⟨hE, fun lvl => SH_of_SE hE lvl (toks_of_ELevel hl lvl) (hle lvl), ?_, hR, SC_of_SRl hR ho⟩
  intro hf
  cases e with
  | filter => cases hl
  | _ => cases hf

/-- any other tree: `SE` is `( cond )`, and the tree is written as at level 3 wherever it is in parentheses -/
theorem Compl.ofC {e : Expr} (hl : e.isELevel = false) (hH : ∀ lvl, openAt e lvl = true → SH e lvl)
    (hRF : e.isFilter = true → SRF e) (hR : SE e → SRl e) (hC : SC e) : Compl e := by
  have hE : SE e := SE_of_SC hl (hH 0 (openAt_zero e)) hC
  refine ⟨hE, fun lvl => ?_, hRF, hR hE, hC⟩
  cases ho : openAt e lvl with
  | true => exact hH lvl ho
  | false => exact SH_of_SE hE lvl (toks_closed ho) (by rw [cost_closed ho]; exact Nat.le_refl _)

theorem SE_lit (v : GoVal) : SE (.lit v) :=
  SE_of_primary fun g r _ => by rw [Expr.toks]; exact parsePrimary_lit g v r

theorem SE_var (x : Bytes) : SE (.var x) :=
  SE_of_primary fun g r _ => by rw [Expr.toks]; exact parsePrimary_ident g x r

/-- a tree written as `e` followed by `tail` (`.name`, `[ i ]`), on which the postfix loop spends one round and `k` units
    of fuel below it -/
theorem SE_postfix {e e' : Expr} {tail : List ETok} (k : Nat) (ih : SE e) (hn : e'.need = e.need + k + 1)
    (ht : e'.toks 3 = e.toks 3 ++ tail)
    (hstep : ∀ f r, k ≤ f → parsePostfix (f + 1) e (tail ++ r) = parsePostfix f e' r) : SE e' := by
  intro F r hF
  rw [hn] at hF ⊢
  obtain ⟨f1, hf1, h1⟩ := ih F (tail ++ r) (by omega)
  obtain ⟨f2, rfl⟩ : ∃ k, f1 = k + 1 := ⟨f1 - 1, by omega⟩
  exact ⟨f2, by omega, by rw [ht, List.append_assoc, h1, hstep f2 r (by omega)]⟩

theorem SE_prop {e : Expr} (n : Bytes) (ih : SE e) : SE (.prop e n) :=
  SE_postfix 0 ih (by rw [Expr.need]) (by rw [Expr.toks]) fun f r _ => parsePostfix_prop f e n r

theorem SE_index {e i : Expr} (ihe : SE e) (ihi : SE i) : SE (.index e i) :=
  SE_postfix (i.need + 1) ihe (by rw [Expr.need]; omega) (by rw [Expr.toks]) fun f r hf => by
    rw [List.cons_append, List.append_assoc]
    exact parsePostfix_idx (ihi.final (by omega) rfl)

theorem SE_range {a b : Expr} (iha : SE a) (ihb : SE b) : SE (.range a b) := by
  refine SE_of_primary fun g r hg => ?_
  rw [Expr.need] at hg
  have ha := iha.final (F := g) (r := .dotdot :: (b.toks 3 ++ .ch 41 :: r)) (by omega) rfl
  have hb := ihb.final (F := g) (r := .ch 41 :: r) (by omega) rfl
  have : (Expr.range a b).toks 3 ++ r = .ch 40 :: (a.toks 3 ++ .dotdot :: (b.toks 3 ++ .ch 41 :: r)) := by
    rw [Expr.toks]; simp
  rw [this]
  exact parsePrimary_range ha hb

theorem Compl.rel (op : RelOp) {a b : Expr} (iha : SE a) (ihb : SE b) : Compl (.rel op a b) := by
  have hcn : (Expr.rel op a b).cneed = a.need + b.need + 4 := by rw [Expr.cneed]
  have ht0 : (Expr.rel op a b).toks 0 = a.toks 3 ++ relOpTok op :: b.toks 3 := by rw [toks_rel]; rfl
  have hR : SRl (.rel op a b) := by
    intro F G r hs hF hG
    rw [cost_open rfl, hcn] at hF hG
    obtain ⟨g, rfl⟩ : ∃ k, G = k + 1 := ⟨G - 1, by omega⟩
    unfold relOf
    rw [toks_open (lvl := 1) rfl, ht0, List.append_assoc, List.cons_append, iha.final (by omega) (stopE_relOpTok op _)]
    exact parseRelFrom_op (relOpOf_relOpTok op) (ihb.final (by omega) (stopR_stopE hs))
  refine Compl.ofC rfl (fun lvl ho F r hF hs hd => ?_) (fun hf => by cases hf) (fun _ => hR) (SC_of_SRl hR rfl)
  rw [cost_open ho, hcn] at hF
  refine ⟨a, relOpTok op :: (b.toks 3 ++ r), ?_, noDD_relOpTok op _⟩
  rw [toks_open ho, ht0, List.append_assoc, List.cons_append]
  exact iha.final (by omega) (stopE_relOpTok op _)

/-- `and` / `or` share one proof: `tk` is the operator token, `mk` the constructor -/
theorem Compl.bool (tk : ETok) (mk : Expr → Expr → Expr) {a b : Expr} (ca : Compl a) (cb : Compl b)
    (hl : (mk a b).isELevel = false) (hcn : (mk a b).cneed = a.cneed + cost b 1 + 4)
    (ht0 : (mk a b).toks 0 = a.toks 0 ++ tk :: b.toks 1)
    (hop : ∀ lvl, openAt (mk a b) lvl = (lvl == 0)) (hnf : (mk a b).isFilter = false)
    (hse : ∀ r, stopE (tk :: r) = true) (hdd : ∀ r, noDD (tk :: r) = true) (hsr : ∀ r, stopR (tk :: r) = true)
    (hstep : ∀ f c d r r1, parseRel f r = some (d, r1) → parseCondTail (f+1) c (tk :: r) = parseCondTail f (mk c d) r1) :
    Compl (mk a b) := by
  have hC : SC (mk a b) := by
    intro F G r hs hF hG
    rw [hcn] at hF hG ⊢
    obtain ⟨g1, hg1, h1⟩ := ca.C F G (tk :: (b.toks 1 ++ r)) (hsr _) (by omega) (by omega)
    obtain ⟨g3, rfl⟩ : ∃ k, g1 = k + 1 + 1 := ⟨g1 - 2, by omega⟩
    refine ⟨g3 + 1, by omega, ?_⟩
    have hb : parseRel (g3 + 1) (b.toks 1 ++ r) = some (b, r) := by
      rw [parseRel_eq]; exact cb.R g3 g3 r hs (by omega) (by omega)
    rw [ht0, List.append_assoc, List.cons_append, h1]
    exact hstep _ _ _ _ _ hb
  refine Compl.ofC hl (fun lvl ho F r hF hs hd => ?_) (fun hf => by rw [hnf] at hf; cases hf)
    (fun hE => SRl_of_SE hE (toks_closed (hop 1)) (by rw [cost_closed (hop 1)]; exact Nat.le_refl _)) hC
  rw [hop, beq_iff_eq] at ho
  subst ho
  rw [cost_open (openAt_zero _), hcn] at hF
  rw [ht0, List.append_assoc, List.cons_append]
  exact ca.H 0 F _ (by rw [cost_open (openAt_zero a)]; omega) (hse _) (hdd _)

theorem toks_nonFilter {e : Expr} (h : e.isFilter = false) : e.toks 2 = e.toks 3 := by
  cases ho : openAt e 2 with
  | false => exact toks_closed ho
  | true =>
    cases e with
    | filter => cases h
    | rel | and_ | or_ => cases ho
    | _ => exact toks_of_ELevel rfl 2

theorem need_le_cost {e : Expr} (hf : e.isFilter = false) : e.need ≤ cost e 2 := by
  cases e with
  | filter => cases hf
  | rel | and_ | or_ => exact Nat.le_of_eq (cost_closed rfl).symm
  | _ => rw [cost_open rfl, Expr.need, Expr.cneed]; omega

theorem Compl.filter {e1 : Expr} (n : Bytes) (args : List Expr) (c1 : Compl e1) (ha : SA args) :
    Compl (.filter e1 n args) := by
  have hcn : (Expr.filter e1 n args).cneed = cost e1 2 + Expr.needArgs args + 4 := by rw [Expr.cneed]; rfl
  have ht0 : (Expr.filter e1 n args).toks 0 =
      e1.toks 2 ++ .ch 124 :: (if args.isEmpty then [.ident n] else .keyword n :: (Expr.argsToks args).drop 1) := by
    rw [toks_filter]; rfl
  have hRF : SRF (.filter e1 n args) := by
    intro F G r hs hF hG
    rw [hcn] at hF hG ⊢
    have hc1 := e1.need_pos
    -- the receiver, up to the `|`
    have step1 : ∀ R, stopA (.ch 124 :: R) = true →
        ∃ g1, G ≤ g1 + cost e1 2 ∧ relOf F G (e1.toks 2 ++ .ch 124 :: R) = parseFilters g1 e1 (.ch 124 :: R) := by
      intro R hsR
      cases hf : e1.isFilter with
      | true =>
        have hc : cost e1 2 = e1.cneed := by
          cases e1 with
          | filter => exact cost_open rfl
          | _ => cases hf
        rw [hc] at hF hG ⊢
        exact c1.RF hf F G _ hsR (by omega) (by omega)
      | false =>
        have hle := need_le_cost hf
        obtain ⟨g, rfl⟩ : ∃ k, G = k + 1 := ⟨G - 1, by omega⟩
        refine ⟨g, by omega, ?_⟩
        unfold relOf
        rw [toks_nonFilter hf, c1.E.final (by omega) rfl]
        exact parseRelFrom_filt rfl
    rw [toks_open (lvl := 2) rfl, ht0, List.append_assoc, List.cons_append]
    cases args with
    | nil =>
      obtain ⟨g1, hg1, h1⟩ := step1 (.ident n :: r) rfl
      obtain ⟨g2, rfl⟩ : ∃ k, g1 = k + 1 := ⟨g1 - 1, by omega⟩
      refine ⟨g2, by rw [Expr.needArgs]; omega, ?_⟩
      rw [List.isEmpty_nil, if_pos rfl, List.singleton_append, h1, parseFilters_ident]
    | cons a as =>
      obtain ⟨g1, hg1, h1⟩ := step1 (.keyword n :: ((Expr.argsToks (a :: as)).drop 1 ++ r)) rfl
      obtain ⟨g2, rfl⟩ : ∃ k, g1 = k + 1 := ⟨g1 - 1, by omega⟩
      refine ⟨g2, by omega, ?_⟩
      rw [List.isEmpty_cons, if_neg Bool.false_ne_true, List.cons_append, h1,
        parseFilters_kw (ha g2 r hs (List.cons_ne_nil _ _) (by omega))]
  have hR : SRl (.filter e1 n args) := by
    intro F G r hs hF hG
    rw [cost_open rfl] at hF hG
    obtain ⟨g', hg', h⟩ := hRF F G r (stopR_stopA hs) hF hG
    have := (Expr.filter e1 n args).cneed_pos
    rw [toks_open (lvl := 1) rfl, ← toks_open (lvl := 2) rfl, h, parseFilters_stop (by omega) _ (stopR_noBar hs)]
  refine Compl.ofC rfl (fun lvl ho F r hF hs hd => ?_) (fun _ => hRF) (fun _ => hR) (SC_of_SRl hR rfl)
  rw [cost_open ho, hcn] at hF
  rw [toks_open ho, ht0, List.append_assoc, List.cons_append]
  exact c1.H 2 F _ (by omega) rfl rfl

theorem SA_cons {a : Expr} {as : List Expr} (ha : SE a) (ih : SA as) : SA (a :: as) := by
  intro F r hs _ hF
  rw [Expr.needArgs] at hF
  obtain ⟨f, rfl⟩ : ∃ k, F = k + 1 := ⟨F - 1, by omega⟩
  cases as with
  | nil =>
    have : (Expr.argsToks [a]).drop 1 ++ r = a.toks 3 ++ r := by
      rw [Expr.argsToks, Expr.argsToks]; simp
    rw [this]
    exact parseParams_last (ha.final (by omega) (stopA_stopE hs)) (stopA_noComma hs)
  | cons b bs =>
    have : (Expr.argsToks (a :: b :: bs)).drop 1 ++ r = a.toks 3 ++ .ch 44 :: ((Expr.argsToks (b :: bs)).drop 1 ++ r) := by
      rw [Expr.argsToks, Expr.argsToks]; simp
    rw [this]
    exact parseParams_more (ha.final (by omega) (by rfl)) (ih f r hs (by simp) (by omega))

mutual
theorem compl : (e : Expr) → Compl e
  | .lit v => Compl.ofE rfl (SE_lit v) (by rw [Expr.cneed, Expr.need])
  | .var x => Compl.ofE rfl (SE_var x) (by rw [Expr.cneed, Expr.need])
  | .prop e n => Compl.ofE rfl (SE_prop n (compl e).E) (by rw [Expr.cneed, Expr.need])
  | .index e i => Compl.ofE rfl (SE_index (compl e).E (compl i).E) (by rw [Expr.cneed, Expr.need])
  | .range a b => Compl.ofE rfl (SE_range (compl a).E (compl b).E) (by rw [Expr.cneed, Expr.need])
  | .rel op a b => Compl.rel op (compl a).E (compl b).E
  | .and_ a b => Compl.bool .and_ .and_ (compl a) (compl b) rfl (by rw [Expr.cneed]; rfl) (by rw [toks_and]; rfl)
      (fun _ => rfl) rfl (fun _ => rfl) (fun _ => rfl) (fun _ => rfl) (fun _ _ _ _ _ h => parseCondTail_and h)
  | .or_ a b => Compl.bool .or_ .or_ (compl a) (compl b) rfl (by rw [Expr.cneed]; rfl) (by rw [toks_or]; rfl)
      (fun _ => rfl) rfl (fun _ => rfl) (fun _ => rfl) (fun _ => rfl) (fun _ _ _ _ _ h => parseCondTail_or h)
  | .filter e n args => Compl.filter n args (compl e) (complArgs args)
theorem complArgs : (as : List Expr) → SA as
  | [] => fun _ _ _ h => absurd rfl h
  | a :: as => SA_cons (compl a).E (complArgs as)
end

theorem parenIf_length (c : Bool) (ts : List ETok) : ts.length ≤ (parenIf c ts).length := by
  unfold parenIf; split <;> simp <;> omega

structure Bound (e : Expr) : Prop where
  n : e.need ≤ 8 * (e.toks 3).length
  c : ∀ lvl, e.cneed ≤ 8 * (e.toks lvl).length

theorem Bound.cost {e : Expr} (h : Bound e) (lvl : Nat) : cost e lvl ≤ 8 * (e.toks lvl).length := by
  unfold _root_.cost
  cases ho : openAt e lvl with
  | true => simpa using h.c lvl
  | false => simp only [Bool.false_eq_true, if_false]; rw [toks_closed ho]; exact h.n

theorem Bound.ofE {e : Expr} (hl : e.isELevel = true) (hn : e.need + 2 ≤ 8 * (e.toks 3).length) (hc : e.cneed = e.need + 2) :
    Bound e := ⟨by omega, fun lvl => by rw [toks_of_ELevel hl lvl]; omega⟩

/-- a tree written as `body`, in parentheses at the levels `p` -/
theorem Bound.paren {e : Expr} {body : List ETok} {k : Nat} (p : Nat → Bool) (ht : ∀ lvl, e.toks lvl = parenIf (p lvl) body)
    (h3 : p 3 = true) (hc : e.cneed = k + 4) (hn : e.need = k + 7) (hk : k + 4 ≤ 8 * body.length) : Bound e := by
  refine ⟨?_, fun lvl => ?_⟩
  · rw [hn, ht, h3, parenIf, if_pos rfl, List.length_cons, List.length_append]; omega
  · have := parenIf_length (p lvl) body
    rw [hc, ht]; omega

mutual
theorem bound : (e : Expr) → Bound e
  | .lit _ | .var _ => Bound.ofE rfl (by rw [Expr.need, Expr.toks]; simp) (by rw [Expr.cneed, Expr.need])
  | .prop e n => Bound.ofE rfl (by have := (bound e).n; rw [Expr.need, Expr.toks]; simp; omega) (by rw [Expr.cneed, Expr.need])
  | .index e i => Bound.ofE rfl (by have := (bound e).n; have := (bound i).n; rw [Expr.need, Expr.toks]; simp; omega)
      (by rw [Expr.cneed, Expr.need])
  | .range a b => Bound.ofE rfl (by have := (bound a).n; have := (bound b).n; rw [Expr.need, Expr.toks]; simp; omega)
      (by rw [Expr.cneed, Expr.need])
  | .rel op a b => Bound.paren _ (toks_rel op a b) rfl (by rw [Expr.cneed]) (by rw [Expr.need]) (by
      have := (bound a).n; have := (bound b).n
      rw [List.length_append, List.length_cons]; omega)
  | .and_ a b | .or_ a b => Bound.paren (fun lvl => decide (0 < lvl)) (fun _ => by rw [Expr.toks]) rfl (by rw [Expr.cneed])
      (by rw [Expr.need]) (by
        have := (bound a).c 0; have := (bound b).cost 1
        rw [List.length_append, List.length_cons]; unfold cost at *; omega)
  | .filter e n args => Bound.paren _ (toks_filter e n args) rfl (by rw [Expr.cneed]) (by rw [Expr.need]) (by
      have := (bound e).cost 2; have ha := boundArgs args
      rw [List.length_append, List.length_cons]
      unfold cost at *
      cases args with
      | nil => rw [Expr.needArgs]; simp; omega
      | cons x xs => rw [Expr.argsToks] at ha ⊢; simp at ha ⊢; omega)
theorem boundArgs : (as : List Expr) → Expr.needArgs as ≤ 8 * (Expr.argsToks as).length
  | [] => by simp [Expr.needArgs]
  | a :: as => by
    have := (bound a).n; have := boundArgs as
    rw [Expr.needArgs, Expr.argsToks]; simp; omega
end

/-- the first token of an expression is a literal, an identifier or `(` -/
def startsExpr : List ETok → Bool
  | .lit _ :: _ => true
  | .ident _ :: _ => true
  | .ch b :: _ => b == 40
  | _ => false

theorem startsExpr_of_primary {f : Nat} {toks : List ETok} {q : Expr × List ETok} (h : parsePrimary f toks = some q) :
    startsExpr toks = true := by
  cases f with
  | zero => rw [parsePrimary] at h; cases h
  | succ f =>
    rw [parsePrimary.eq_def] at h
    simp only at h
    split at h
    · rfl
    · rfl
    · rfl
    · cases h

/-- what `parseCond` accepts starts an expression: none of the statement selectors of `parseTokensE` -/
theorem startsExpr_of_parseCond {F : Nat} {toks : List ETok} {q : Expr × List ETok} (h : parseCond F toks = some q) :
    startsExpr toks = true := by
  unfold parseCond at h
  cases F with
  | zero => rw [parseExpr] at h; cases h
  | succ f =>
    rw [parseExpr] at h
    cases hp : parsePrimary f toks with
    | none => rw [hp] at h; cases h
    | some p => exact startsExpr_of_primary hp

theorem parseCond_toks (e : Expr) (F : Nat) (r : List ETok) (hF : e.cneed + 2 ≤ F) (hs : stopC r = true) :
    parseCond F (e.toks 0 ++ r) = some (e, r) := by
  obtain ⟨g', hg', h⟩ := (compl e).C F F r (stopC_stopR hs) hF hF
  rw [parseCond_eq, h, parseCondTail_stop (by omega) e hs]

theorem parseTokensE_toks (e : Expr) : parseTokensE (e.toks 0 ++ [.ch 59]) = some (.expr e) := by
  have hb := (bound e).c 0
  have hp := parseCond_toks e (8 * (e.toks 0 ++ [ETok.ch 59]).length + 16) [.ch 59] (by simp; omega) (by rfl)
  have hst := startsExpr_of_parseCond hp
  -- the list starts with a literal, an identifier or `(`: every statement-selector branch of `parseTokensE` is
  -- excluded, the remaining one is `parseCond`
  unfold parseTokensE
  split
  all_goals first
    | (rename_i heq; rw [heq] at hst; simp [startsExpr] at hst; done)
    | skip
  rename_i heq
  simp only [hp, endOk, if_true]
