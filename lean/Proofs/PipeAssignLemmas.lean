import Proofs.C08
import Proofs.PostLemmas
import Proofs.RenderLogic
import Proofs.CallLemmas
import Proofs.ToLiquidLemmas
import Liquid.Call
import Liquid.Std
/-!
# A pipeline, one step at a time through `assign` (helper lemmas for `Proofs/C08Source.lean`)

* `Expr.mentions t e`: the variable `t` occurs in `e`; `eval_fresh`: binding a variable that does not occur
  changes nothing.
* `unwrap_toLiquid_unwrap`: what `assign` stores (`Evaluate` = the wrapper's `Interface()`) and what a
  variable reference reads back (`ToLiquid`, then the next filter's `Interface()`) is the same value.
* `EnvFree m`: `m` neither reads nor changes the variables (the writer's operations, and `EnvFree.bind`);
  `obj_env_irrelevant`: an object node looks at the variables only through the value of its expression.
* `pipeErr`: the error of a pipeline whose receiver fails; `evalList_length`: as many values as argument expressions.
-/

open GoVal

mutual
def Expr.mentions (t : Bytes) : Expr → Bool
  | .lit _ => false
  | .var x => x == t
  | .prop e _ => e.mentions t
  | .index e i => e.mentions t || i.mentions t
  | .range a b => a.mentions t || b.mentions t
  | .rel _ a b => a.mentions t || b.mentions t
  | .and_ a b => a.mentions t || b.mentions t
  | .or_ a b => a.mentions t || b.mentions t
  | .filter e _ args => e.mentions t || mentionsList t args
def mentionsList (t : Bytes) : List Expr → Bool
  | [] => false
  | e :: es => e.mentions t || mentionsList t es
end

mutual
theorem eval_fresh (P : Prims) (env : Env) (t : Bytes) (w : GoVal) :
    ∀ e : Expr, e.mentions t = false → eval P (env.set t w) e = eval P env e
  | .lit v, _ => by rw [eval, eval]
  | .var x, h => by
    simp only [Expr.mentions, beq_eq_false_iff_ne, ne_eq] at h
    rw [eval, eval, Env.get_set_other _ _ _ _ h]
  | .prop e name, h => by
    simp only [Expr.mentions] at h
    rw [eval, eval, eval_fresh P env t w e h]
  | .index a b, h | .range a b, h | .rel _ a b, h | .and_ a b, h | .or_ a b, h => by
    simp only [Expr.mentions, Bool.or_eq_false_iff] at h
    rw [eval, eval, eval_fresh P env t w a h.1, eval_fresh P env t w b h.2]
  | .filter e name args, h => by
    simp only [Expr.mentions, Bool.or_eq_false_iff] at h
    rw [eval, eval, eval_fresh P env t w e h.1, evalList_fresh P env t w args h.2]
theorem evalList_fresh (P : Prims) (env : Env) (t : Bytes) (w : GoVal) :
    ∀ es : List Expr, mentionsList t es = false → evalList P (env.set t w) es = evalList P env es
  | [], _ => by rw [evalList, evalList]
  | e :: es, h => by
    simp only [mentionsList, Bool.or_eq_false_iff] at h
    rw [evalList, evalList, eval_fresh P env t w e h.1, evalList_fresh P env t w es h.2]
end

theorem unwrap_toLiquid_unwrap (r : GoVal) : unwrap (toLiquid (unwrap r)) = unwrap r :=
  (unwrap_toLiquid r.unwrap).trans (unwrap_idem r)

theorem evaluate_eq_bind (P : Prims) (env : Env) (e : Expr) :
    evaluate P env e = (eval P env e).bind fun v => .ok v.unwrap := by
  unfold evaluate
  cases eval P env e <;> rfl

theorem eval_filter_via_evaluate (P : Prims) (env : Env) (y : Expr) (g : Bytes) (b : List Expr) :
    eval P env (.filter y g b) =
      if !P.hasFilter g then .err (.undefinedFilter g) else
      (evaluate P env y).bind fun u => (evalList P env b).bind fun as => P.applyFilter g u (as.map GoVal.unwrap) := by
  rw [eval, evaluate_eq_bind]
  cases eval P env y <;> rfl

theorem evaluate_var_set (P : Prims) (env : Env) (t : Bytes) (r : GoVal) :
    evaluate P (env.set t (unwrap r)) (.var t) = .ok (unwrap r) := by
  simp only [evaluate, eval, Env.get_set_same, unwrap_toLiquid_unwrap]

def FreshFor (t : Bytes) (fs : List (Bytes × List Expr)) : Prop := ∀ fa ∈ fs, mentionsList t fa.2 = false

theorem evaluate_pipeline_congr (P : Prims) (env : Env) (t : Bytes) (w : GoVal) (fs : List (Bytes × List Expr))
    (hfresh : FreshFor t fs) : ∀ (y z : Expr), evaluate P (env.set t w) y = evaluate P env z →
    evaluate P (env.set t w) (pipeline y fs) = evaluate P env (pipeline z fs) := by
  induction fs with
  | nil => intro y z h; exact h
  | cons fa rest ih =>
    intro y z h
    obtain ⟨g, b⟩ := fa
    simp only [pipeline]
    refine ih (fun fa hfa => hfresh fa (List.mem_cons_of_mem _ hfa)) _ _ ?_
    have hb : mentionsList t b = false := hfresh (g, b) (List.mem_cons_self ..)
    rw [evaluate_eq_bind, evaluate_eq_bind, eval_filter_via_evaluate, eval_filter_via_evaluate, h,
      evalList_fresh P env t w b hb]

theorem evaluate_pipeline_ok_head (P : Prims) (env : Env) (fs : List (Bytes × List Expr)) :
    ∀ (x : Expr) (v : GoVal), evaluate P env (pipeline x fs) = .ok v → ∃ v0, evaluate P env x = .ok v0 := by
  induction fs with
  | nil => intro x v h; exact ⟨v, h⟩
  | cons fa rest ih =>
    intro x v h
    obtain ⟨g, b⟩ := fa
    simp only [pipeline] at h
    obtain ⟨v1, h1⟩ := ih _ _ h
    rw [evaluate_eq_bind] at h1
    obtain ⟨u, h1, _⟩ := Res.bind_eq_ok h1
    rw [eval_filter_via_evaluate] at h1
    split at h1
    · cases h1
    · obtain ⟨v0, hx, _⟩ := Res.bind_eq_ok h1
      exact ⟨v0, hx⟩

theorem evaluate_unwrapped (P : Prims) (env : Env) (e : Expr) (v : GoVal) (h : evaluate P env e = .ok v) :
    v = unwrap v := by
  rw [evaluate_eq_bind] at h
  obtain ⟨r, _, h⟩ := Res.bind_eq_ok h
  cases h
  exact (unwrap_idem r).symm

/-- `p` with the variables of its final state replaced by `env`; `m ⟨env', tw⟩ = withEnv env' (m ⟨env, tw⟩)` says that `m` neither reads
    nor changes the variables -/
def withEnv {α} (env : Env) (p : Prog (α × RS)) : Prog (α × RS) :=
  p.bind fun r => .ret (r.1, { r.2 with env := env })

theorem withEnv_withEnv {α} (e1 e2 : Env) (p : Prog (α × RS)) : withEnv e2 (withEnv e1 p) = withEnv e2 p := by
  unfold withEnv
  rw [Prog.bind_assoc]
  rfl

/-- `m` neither reads nor changes the variables: started with other variables it does the same and ends with those -/
def EnvFree {α} (m : M α) : Prop := ∀ env env' tw, m ⟨env', tw⟩ = withEnv env' (m ⟨env, tw⟩)

theorem opM_env (op : WOp) : EnvFree (opM op) := by
  intro env env' tw
  unfold opM withEnv
  simp only
  split
  · rfl
  · simp only [Prog.bind]
    congr 1
    funext r
    cases r <;> rfl

theorem EnvFree.bind {α β} {m : M α} {f : α → M β} (hm : EnvFree m) (hf : ∀ a, EnvFree (f a)) : EnvFree (m >>= f) := by
  intro env env' tw
  simp only [Bind.bind, M.bind]
  rw [hm env env' tw]
  unfold withEnv
  rw [Prog.bind_assoc, Prog.bind_assoc]
  congr 1
  funext r
  obtain ⟨u, s1⟩ := r
  obtain ⟨e1, tw1⟩ := s1
  simp only [Prog.bind]
  exact hf u e1 env' tw1

theorem writeVerbatimM_env (b : Bytes) : EnvFree (writeVerbatimM b) := by
  unfold writeVerbatimM
  rw [writeM_eq, writeM_eq, flushM_eq]
  exact (opM_env _).bind fun _ => (opM_env _).bind fun _ => opM_env _

theorem writeAllM_env : ∀ cs : List Bytes, EnvFree (writeAllM cs)
  | [] => fun _ _ _ => rfl
  | c :: cs => by
    unfold writeAllM
    exact (writeVerbatimM_env c).bind fun _ => writeAllM_env cs

theorem ofRes_env {α} (r : Res Cause α) : EnvFree (M.ofRes r) := by
  intro env env' tw
  cases r <;> rfl

theorem mapFail_withEnv {α} (g : RawErr → RawErr) (env : Env) (p : Prog (α × RS)) :
    (withEnv env p).mapFail g = withEnv env (p.mapFail g) := by
  unfold withEnv
  induction p with
  | ret a => rfl
  | fail e => rfl
  | panic w => rfl
  | unmodelled w => rfl
  | call b k ih => simp only [Prog.bind, Prog.mapFail]; congr 1; funext r; exact ih r

/-- what an object node does with the value of its expression; the variables are not looked at -/
def objM (c : RCtx) (r : Res Cause GoVal) : M Status := do
  let v ← M.ofRes r
  if v.isNil && c.cfg.strict then M.fail (.plain (.other "undefinedVariable")) else do
  let chunks ← M.ofRes (c.O.chunks v)
  writeAllM chunks
  pure .done

theorem objM_env (c : RCtx) (r : Res Cause GoVal) : EnvFree (objM c r) := by
  refine (ofRes_env r).bind fun v => ?_
  split
  · exact fun _ _ _ => rfl
  · exact (ofRes_env _).bind fun chunks => (writeAllM_env chunks).bind fun _ _ _ _ => rfl

theorem obj_env_irrelevant (c : RCtx) (line : Nat) (e e' : Expr) (env env' : Env) (tw : TW)
    (h : evaluate c.P env' e' = evaluate c.P env e) :
    renderNode c (.obj line e') ⟨env', tw⟩ = withEnv env' (renderNode c (.obj line e) ⟨env, tw⟩) := by
  unfold renderNode
  show (objM c (evaluate c.P env' e') ⟨env', tw⟩).mapFail _ = withEnv env' ((objM c (evaluate c.P env e) ⟨env, tw⟩).mapFail _)
  rw [h, objM_env c _ env env' tw, mapFail_withEnv]

theorem renderList_single (c : RCtx) (n : Node) (s : RS) :
    renderList c [n] s = (renderNode c n s).bind fun r => .ret r := by
  rw [renderList]
  simp only [bind, M.bind]
  congr 1
  funext r
  obtain ⟨st, s'⟩ := r
  cases st <;> simp [renderList, pure, M.pure]

theorem renderList_obj_env (c : RCtx) (line : Nat) (e e' : Expr) (env env' : Env) (tw : TW)
    (h : evaluate c.P env' e' = evaluate c.P env e) :
    renderList c [.obj line e'] ⟨env', tw⟩ = withEnv env' (renderList c [.obj line e] ⟨env, tw⟩) := by
  rw [renderList_single, renderList_single, Prog.bind_ret, Prog.bind_ret]
  exact obj_env_irrelevant c line e e' env env' tw h

theorem evaluate_step_var (P : Prims) (env : Env) (t : Bytes) (x : Expr) (v0 : GoVal) (f : Bytes) (a : List Expr)
    (hx : evaluate P env x = .ok v0) (ha : mentionsList t a = false) :
    evaluate P (env.set t v0) (.filter (.var t) f a) = evaluate P env (.filter x f a) := by
  have hv0 := evaluate_unwrapped P env x v0 hx
  rw [evaluate_eq_bind, evaluate_eq_bind, eval_filter_via_evaluate, eval_filter_via_evaluate, hx, hv0,
    evaluate_var_set, evalList_fresh P env t _ a ha]

/-- the error of a pipeline whose receiver fails with `cause`: a filter is looked up before its receiver is
    evaluated, so the outermost unknown filter — if there is one — is reported instead -/
def pipeErr (P : Prims) (cause : Cause) (fs : List (Bytes × List Expr)) : Cause :=
  fs.foldl (fun c fa => if P.hasFilter fa.1 then c else .undefinedFilter fa.1) cause

theorem evaluate_pipeline_err (P : Prims) (env : Env) (fs : List (Bytes × List Expr)) :
    ∀ (e : Expr) (cause : Cause), evaluate P env e = .err cause →
      evaluate P env (pipeline e fs) = .err (pipeErr P cause fs) := by
  induction fs with
  | nil => intro e cause h; exact h
  | cons fa rest ih =>
    intro e cause h
    obtain ⟨g, b⟩ := fa
    simp only [pipeline, pipeErr, List.foldl_cons]
    refine ih _ _ ?_
    rw [evaluate_eq_bind, eval_filter_via_evaluate, h]
    cases P.hasFilter g <;> rfl

theorem evalList_length (P : Prims) (env : Env) : ∀ (es : List Expr) (vs : List GoVal),
    evalList P env es = .ok vs → vs.length = es.length
  | [], vs, h => by rw [evalList] at h; cases h; rfl
  | e :: es, vs, h => by
    rw [evalList] at h
    obtain ⟨v, _, h⟩ := Res.bind_eq_ok h
    obtain ⟨ws, hes, h⟩ := Res.bind_eq_ok h
    cases h
    rw [List.length_cons, List.length_cons, evalList_length P env es ws hes]

theorem stdOut_nil : stdOut.chunks .nil = .ok [] := rfl
