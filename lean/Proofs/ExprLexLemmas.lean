import Liquid.ExprParse
/-!
# The expression lexer, one step at a time

Every file about the scanner (`Proofs/ExprLexemes.lean` onwards) builds on this one.

* `lexRun s` — `lexAux` with exactly the fuel `lex` gives it; `lexAux_fuel`/`lexAux_acc` show the fuel
  and the accumulator are irrelevant, `lexAux_cons` is one step in terms of `consTok`, `lexRun_append` the unfolding equation
  `lexRun (l ++ rest) = consTok (mkTok r l) (lexRun rest)` whenever the scanner's longest match at
  `l ++ rest` is rule `r` with exactly the bytes `l`.
* `lexStep s = bestRule (ruleMatches s)` and its dispatch on the first byte: a rule matches only at a first byte
  of its own class (`startOf`, `startRules`, `ruleLen_of_not_start`), so only the few rules of that class take part
  (`lexStep_cons`; `lexStep_num`, `lexStep_word`, … are its instances).
-/

theorem UInt8.forall_iff_nat (p : UInt8 → Prop) : (∀ c, p c) ↔ ∀ n, n < 256 → p (UInt8.ofNat n) := by
  constructor
  · intro h n _; exact h _
  · intro h c
    have := h c.toNat (UInt8.toNat_lt c)
    simpa using this

instance UInt8.decForall (p : UInt8 → Prop) [DecidablePred p] : Decidable (∀ c, p c) :=
  decidable_of_iff _ (UInt8.forall_iff_nat p).symm

theorem class_ne {p : UInt8 → Bool} {k c : UInt8} (h : p k ≠ p c) : (k == c) = false :=
  beq_eq_false_iff_ne.2 fun e => h (e ▸ rfl)

theorem idStart_not_digit : ∀ c : UInt8, isIdStart c = true → isDigit c = false := by decide +kernel
theorem idStart_not_space : ∀ c : UInt8, isIdStart c = true → isLexSpace c = false := by decide +kernel
theorem digit_not_space : ∀ c : UInt8, isDigit c = true → isLexSpace c = false := by decide +kernel

/-- what one token contributes to the result of `lexAux` -/
def consTok (t : Res LexErr (Option ETok)) (rest : List ETok × Option (Res LexErr Unit)) :
    List ETok × Option (Res LexErr Unit) :=
  match t with
  | .ok (some t) => (t :: rest.1, rest.2)
  | .ok none => rest
  | .err e => ([], some (.err e))
  | .panic w => ([], some (.panic w))
  | .unmodelled w => ([], some (.unmodelled w))

/-- the scanner's decision at the head of `s`: the winning rule and the length of its match -/
def lexStep (s : Bytes) : Option (Rule × Nat) := bestRule (ruleMatches s)

theorem lexAux_acc : ∀ (n : Nat) (s : Bytes) (acc : List ETok),
    lexAux n s acc = (acc.reverse ++ (lexAux n s []).1, (lexAux n s []).2) := by
  intro n
  induction n with
  | zero => intro s acc; simp [lexAux]
  | succ n ih =>
    intro s acc
    cases s with
    | nil => simp [lexAux]
    | cons c t =>
      simp only [lexAux]
      cases bestRule (ruleMatches (c :: t)) with
      | none => simp
      | some p =>
        obtain ⟨r, len⟩ := p
        simp only
        cases mkTok r (List.take (max len 1) (c :: t)) with
        | ok o =>
          cases o with
          | none => exact ih _ _
          | some tk =>
            simp only
            rw [ih _ (tk :: acc), ih _ [tk]]
            simp
        | err e => simp
        | panic w => simp
        | unmodelled w => simp

theorem lexAux_cons (n : Nat) (c : UInt8) (t : Bytes) :
    lexAux (n + 1) (c :: t) [] = (match lexStep (c :: t) with
      | none => ([], none)
      | some (r, len) => consTok (mkTok r ((c :: t).take (max len 1))) (lexAux n ((c :: t).drop (max len 1)) [])) := by
  simp only [lexAux, lexStep]
  cases bestRule (ruleMatches (c :: t)) with
  | none => rfl
  | some p =>
    simp only
    cases mkTok p.1 (List.take (max p.2 1) (c :: t)) with
    | ok o =>
      cases o with
      | none => rfl
      | some tk => simp only [consTok]; rw [lexAux_acc]; rfl
    | _ => rfl

theorem lexAux_fuel : ∀ (n m : Nat) (s : Bytes), s.length ≤ n → s.length ≤ m → lexAux n s [] = lexAux m s [] := by
  intro n
  induction n with
  | zero =>
    intro m s hn _
    cases List.eq_nil_of_length_eq_zero (Nat.le_zero.1 hn)
    cases m <;> rfl
  | succ n ih =>
    intro m s hn hm
    cases s with
    | nil => cases m <;> rfl
    | cons c t =>
      cases m with
      | zero => cases hm
      | succ m =>
        rw [lexAux_cons, lexAux_cons]
        cases lexStep (c :: t) with
        | none => rfl
        | some p =>
          have hd : ((c :: t).drop (max p.2 1)).length ≤ t.length := by
            simp only [List.length_drop, List.length_cons]; omega
          simp only [List.length_cons] at hn hm
          simp only
          rw [ih m _ (by omega) (by omega)]

/-- `lexAux` with the fuel `lex` gives it -/
def lexRun (s : Bytes) : List ETok × Option (Res LexErr Unit) := lexAux s.length s []

theorem lex_eq_lexRun (src : Bytes) : lex src = lexRun (src ++ [59]) := rfl

theorem lexRun_nil : lexRun [] = ([], none) := rfl

theorem lexRun_append (l rest : Bytes) (r : Rule) (hl : l ≠ [])
    (h : lexStep (l ++ rest) = some (r, l.length)) :
    lexRun (l ++ rest) = consTok (mkTok r l) (lexRun rest) := by
  cases l with
  | nil => exact absurd rfl hl
  | cons c t =>
    have hmax : max (c :: t).length 1 = (c :: t).length := Nat.max_eq_left (Nat.succ_pos _)
    rw [lexRun, List.cons_append, List.length_cons, lexAux_cons, ← List.cons_append, h]
    simp only
    rw [hmax, List.take_left' rfl, List.drop_left' rfl, lexAux_fuel _ rest.length rest (by simp) (Nat.le_refl _)]
    rfl

theorem bestRule_cons_none (r : Rule) (ms : List (Rule × Option Nat)) :
    bestRule ((r, none) :: ms) = bestRule ms := by
  simp [bestRule]

theorem bestRule_filter (ms : List (Rule × Option Nat)) :
    bestRule ms = bestRule (ms.filter (fun x => x.2.isSome)) := by
  unfold bestRule
  generalize (none : Option (Rule × Nat)) = init
  induction ms generalizing init with
  | nil => rfl
  | cons x xs ih =>
    obtain ⟨r, m⟩ := x
    cases m with
    | none => simp only [List.foldl_cons, List.filter, Option.isSome]; exact ih _
    | some n => simp only [List.foldl_cons, List.filter, Option.isSome]; exact ih _

/-- the foldl step of `bestRule` -/
def bestStep (best : Option (Rule × Nat)) (x : Rule × Option Nat) : Option (Rule × Nat) :=
  match x.2, best with
  | some n, none => some (x.1, n)
  | some n, some (_, bn) => if n > bn then some (x.1, n) else best
  | none, _ => best

@[simp] theorem bestStep_none (best : Option (Rule × Nat)) (r : Rule) : bestStep best (r, none) = best := by
  unfold bestStep; simp

theorem bestStep_first (r : Rule) (n : Nat) : bestStep none (r, some n) = some (r, n) := rfl

theorem bestStep_some (r r' : Rule) (n bn : Nat) :
    bestStep (some (r', bn)) (r, some n) = if n > bn then some (r, n) else some (r', bn) := rfl

theorem litLen_cons (w0 : UInt8) (w : Bytes) (c : UInt8) (t : Bytes) :
    litLen (w0 :: w) (c :: t) = if w0 == c then (litLen w t).map (· + 1) else none := by
  unfold litLen
  simp only [isPrefixOfB, List.length_cons]
  by_cases h1 : (w0 == c) = true <;> by_cases h2 : isPrefixOfB w t = true <;> simp [h1, h2]

theorem litLen_nil (t : Bytes) : litLen [] t = some 0 := by simp [litLen, isPrefixOfB]

theorem litLen_nil_right (w0 : UInt8) (w : Bytes) : litLen (w0 :: w) [] = none := by simp [litLen, isPrefixOfB]

theorem stringLen_cons_other (c : UInt8) (t : Bytes) (h : (c == 34 || c == 39) = false) : stringLen (c :: t) = none := by
  simp [stringLen, h]

theorem identLen_cons_other (c : UInt8) (t : Bytes) (h : isIdStart c = false) : identLen (c :: t) = none := by
  simp [identLen, h]

theorem propertyLen_cons_other (c : UInt8) (t : Bytes) (h : (c == 46) = false) : propertyLen (c :: t) = none := by
  unfold propertyLen
  split
  · rename_i heq; cases heq; cases h
  · rfl

theorem spanLen_cons_false (p : UInt8 → Bool) (c : UInt8) (t : Bytes) (h : p c = false) : spanLen p (c :: t) = 0 := by
  simp [spanLen, h]

theorem spanLen_cons_true (p : UInt8 → Bool) (c : UInt8) (t : Bytes) (h : p c = true) :
    spanLen p (c :: t) = spanLen p t + 1 := by
  simp [spanLen, h]

theorem lexStep_def (s : Bytes) : lexStep s = (ruleMatches s).foldl bestStep none := by
  unfold lexStep bestRule
  congr 1

theorem intLen_cons_other (c : UInt8) (t : Bytes) (h : (isDigit c || c == 45) = false) : intLen (c :: t) = none := by
  rw [Bool.or_eq_false_iff] at h
  unfold intLen
  split
  · rename_i heq
    split at heq
    · rename_i h2; cases h2; cases h.2
    · cases heq; simp [spanLen, h.1]

theorem floatLen_cons_other (c : UInt8) (t : Bytes) (h : (isDigit c || c == 45) = false) : floatLen (c :: t) = none := by
  simp [floatLen, intLen_cons_other c t h]

/-- `identifier ':'` -/
def keywordLen (s : Bytes) : Option Nat :=
  match identLen s with
  | some n => (match s.drop n with | 58 :: _ => some (n + 1) | _ => none)
  | none => none

theorem keywordLen_of_ident (s : Bytes) (n : Nat) (h : identLen s = some n) :
    keywordLen s = (match s.drop n with | 58 :: _ => some (n + 1) | _ => none) := by
  simp only [keywordLen, h]

/-- `true | false` -/
def boolLen (s : Bytes) : Option Nat :=
  match litLen kwTrue s with
  | some n => some n
  | none => litLen kwFalse s

/-- the length rule `r` matches at the head of `s`: the entries of `ruleMatches` as a function of the rule -/
def ruleLen : Rule → Bytes → Option Nat
  | .rAssign, s => litLen kwAssign s
  | .rCycle, s => litLen kwCycle s
  | .rLoop, s => litLen kwLoop s
  | .rWhen, s => litLen kwWhen s
  | .rInt, s => intLen s
  | .rFloat, s => floatLen s
  | .rString, s => stringLen s
  | .rBool, s => boolLen s
  | .rNil, s => litLen kwNil s
  | .rEq, s => litLen [61, 61] s
  | .rNeq, s => litLen [33, 61] s
  | .rGe, s => litLen [62, 61] s
  | .rLe, s => litLen [60, 61] s
  | .rAnd, s => litLen kwAnd s
  | .rOr, s => litLen kwOr s
  | .rContains, s => litLen kwContains s
  | .rIn, s => litLen kwIn s
  | .rDotdot, s => litLen [46, 46] s
  | .rKeyword, s => keywordLen s
  | .rIdent, s => identLen s
  | .rProperty, s => propertyLen s
  | .rSpace, s => let n := spanLen isLexSpace s; if n == 0 then none else some n
  | .rAny, s => match s with | [] => none | _ => some 1

/-- the rules in the order of `scanner.rl` -/
def allRules : List Rule :=
  [.rAssign, .rCycle, .rLoop, .rWhen, .rInt, .rFloat, .rString, .rBool, .rNil, .rEq, .rNeq, .rGe, .rLe, .rAnd, .rOr,
   .rContains, .rIn, .rDotdot, .rKeyword, .rIdent, .rProperty, .rSpace, .rAny]

theorem ruleMatches_eq (s : Bytes) : ruleMatches s = allRules.map fun r => (r, ruleLen r s) := rfl

/-- the classes of first bytes that the rules tell apart -/
inductive Start where
  | num | word | space | quote | dot | eq | neq | ge | le | percent | brace | other
  deriving DecidableEq

def startOf (c : UInt8) : Start :=
  if isDigit c || c == 45 then .num else if isIdStart c then .word else if isLexSpace c then .space
  else if c == 34 || c == 39 then .quote else if c == 46 then .dot else if c == 61 then .eq else if c == 33 then .neq
  else if c == 62 then .ge else if c == 60 then .le else if c == 37 then .percent else if c == 123 then .brace
  else .other

/-- the rules that can match at a first byte of each class, in the order of `scanner.rl` -/
def startRules : Start → List Rule
  | .num => [.rInt, .rFloat, .rAny]
  | .word => [.rBool, .rNil, .rAnd, .rOr, .rContains, .rIn, .rKeyword, .rIdent, .rAny]
  | .space => [.rSpace, .rAny]
  | .quote => [.rString, .rAny]
  | .dot => [.rDotdot, .rProperty, .rAny]
  | .eq => [.rEq, .rAny]
  | .neq => [.rNeq, .rAny]
  | .ge => [.rGe, .rAny]
  | .le => [.rLe, .rAny]
  | .percent => [.rAssign, .rLoop, .rAny]
  | .brace => [.rCycle, .rWhen, .rAny]
  | .other => [.rAny]

theorem startOf_word {c : UInt8} (h : isIdStart c = true) : startOf c = .word := by
  rw [startOf, idStart_not_digit c h, class_ne (p := isIdStart) (k := c) (c := 45) (by rw [h]; decide), if_neg (by decide), if_pos h]

theorem startOf_space {c : UInt8} (h : isLexSpace c = true) : startOf c = .space := by
  have hd : isDigit c = false := Bool.eq_false_iff.2 fun hd => by rw [digit_not_space c hd] at h; cases h
  have hw : isIdStart c = false := Bool.eq_false_iff.2 fun hw => by rw [idStart_not_space c hw] at h; cases h
  rw [startOf, hd, hw, class_ne (p := isLexSpace) (k := c) (c := 45) (by rw [h]; decide), if_neg (by decide), if_neg (by decide), if_pos h]

theorem litLen_cons_ne {w0 c : UInt8} (h : w0 ≠ c) (w t : Bytes) : litLen (w0 :: w) (c :: t) = none := by
  rw [litLen_cons, if_neg (by simpa using h)]

theorem ruleLen_of_not_start {r : Rule} {c : UInt8} (h : (startRules (startOf c)).contains r = false) (t : Bytes) :
    ruleLen r (c :: t) = none := by
  have ne : ∀ k, (startRules k).contains r = true → startOf c ≠ k := fun k hk e => by rw [e, hk] at h; cases h
  have byte : ∀ k : UInt8, (startRules (startOf k)).contains r = true → ∀ w, litLen (k :: w) (c :: t) = none :=
    fun k hk w => litLen_cons_ne (fun e : k = c => ne _ hk (e ▸ rfl)) w t
  cases r with
  | rAssign | rCycle | rLoop | rWhen | rEq | rNeq | rGe | rLe | rDotdot | rNil | rAnd | rOr | rContains | rIn =>
    exact byte _ (by decide +kernel) _
  | rBool => show boolLen _ = none; rw [boolLen, kwTrue, byte _ (by decide +kernel)]; exact byte _ (by decide +kernel) _
  | rInt => exact intLen_cons_other c t (Bool.eq_false_iff.2 fun hn => ne .num rfl (by rw [startOf, if_pos hn]))
  | rFloat => exact floatLen_cons_other c t (Bool.eq_false_iff.2 fun hn => ne .num rfl (by rw [startOf, if_pos hn]))
  | rString => exact stringLen_cons_other c t (Bool.eq_false_iff.2 fun hq => ne .quote rfl (by
      rw [Bool.or_eq_true, beq_iff_eq, beq_iff_eq] at hq; rcases hq with rfl | rfl <;> decide +kernel))
  | rKeyword =>
    show keywordLen _ = none
    rw [keywordLen, identLen_cons_other c t (Bool.eq_false_iff.2 fun hw => ne .word rfl (startOf_word hw))]
  | rIdent => exact identLen_cons_other c t (Bool.eq_false_iff.2 fun hw => ne .word rfl (startOf_word hw))
  | rProperty => exact propertyLen_cons_other c t (beq_eq_false_iff_ne.2 fun e => ne .dot rfl (by rw [e]; decide +kernel))
  | rSpace =>
    show (if spanLen isLexSpace (c :: t) == 0 then none else _) = none
    rw [spanLen_cons_false isLexSpace c t (Bool.eq_false_iff.2 fun hs => ne .space rfl (startOf_space hs))]; rfl
  | rAny => generalize startOf c = k at h; cases k <;> cases h

theorem lexStep_cons (c : UInt8) (t : Bytes) :
    lexStep (c :: t) = ((startRules (startOf c)).map fun r => (r, ruleLen r (c :: t))).foldl bestStep none := by
  have hs : startRules (startOf c) = allRules.filter (startRules (startOf c)).contains := by
    cases startOf c <;> decide +kernel
  rw [hs, lexStep_def, ruleMatches_eq]
  generalize (none : Option (Rule × Nat)) = init
  induction allRules generalizing init with
  | nil => rfl
  | cons r rs ih =>
    rw [List.filter_cons, List.map_cons, List.foldl_cons]
    cases h : (startRules (startOf c)).contains r with
    | true => exact ih _
    | false => rw [ruleLen_of_not_start h, bestStep_none]; exact ih _

theorem lexStep_num (c : UInt8) (t : Bytes) (h : isDigit c = true ∨ c = 45) :
    lexStep (c :: t) = ([(.rInt, intLen (c :: t)), (.rFloat, floatLen (c :: t)), (.rAny, some 1)] :
      List (Rule × Option Nat)).foldl bestStep none := by
  have hs : startOf c = .num := by
    rw [startOf, if_pos]
    rcases h with h | rfl
    · rw [h]; rfl
    · rfl
  rw [lexStep_cons, hs]; rfl

theorem lexStep_quote (c : UInt8) (t : Bytes) (h : (c == 34 || c == 39) = true) :
    lexStep (c :: t) = ([(.rString, stringLen (c :: t)), (.rAny, some 1)] : List (Rule × Option Nat)).foldl bestStep none := by
  rw [Bool.or_eq_true, beq_iff_eq, beq_iff_eq] at h
  rcases h with rfl | rfl
  · rw [lexStep_cons]; rfl
  · rw [lexStep_cons]; rfl

/-- the reserved words as candidates -/
def reservedCands (s : Bytes) : List (Rule × Option Nat) :=
  [(.rBool, boolLen s), (.rNil, litLen kwNil s), (.rAnd, litLen kwAnd s), (.rOr, litLen kwOr s),
   (.rContains, litLen kwContains s), (.rIn, litLen kwIn s)]

/-- the candidates at a letter or `_` -/
def wordCands (s : Bytes) : List (Rule × Option Nat) :=
  reservedCands s ++ [(.rKeyword, keywordLen s), (.rIdent, identLen s), (.rAny, some 1)]

theorem lexStep_word (c : UInt8) (t : Bytes) (h : isIdStart c = true) :
    lexStep (c :: t) = (wordCands (c :: t)).foldl bestStep none := by
  rw [lexStep_cons, startOf_word h]; rfl

theorem lexStep_dot (t : Bytes) :
    lexStep (46 :: t) = ([(.rDotdot, litLen [46, 46] (46 :: t)), (.rProperty, propertyLen (46 :: t)), (.rAny, some 1)] :
      List (Rule × Option Nat)).foldl bestStep none := by
  rw [lexStep_cons]; rfl

/-- the first byte of `==`, `!=`, `>=`, `<=` -/
def isOpStart (c : UInt8) : Bool := c == 61 || c == 33 || c == 62 || c == 60

def opRule (c : UInt8) : Rule := if c == 61 then .rEq else if c == 33 then .rNeq else if c == 62 then .rGe else .rLe

theorem lexStep_op (c : UInt8) (t : Bytes) (h : isOpStart c = true) :
    lexStep (c :: t) = ([(opRule c, litLen [c, 61] (c :: t)), (.rAny, some 1)] : List (Rule × Option Nat)).foldl bestStep none := by
  simp only [isOpStart, Bool.or_eq_true, beq_iff_eq] at h
  rcases h with ((rfl | rfl) | rfl) | rfl
  · rw [lexStep_cons]; rfl
  · rw [lexStep_cons]; rfl
  · rw [lexStep_cons]; rfl
  · rw [lexStep_cons]; rfl

theorem lexStep_space (c : UInt8) (t : Bytes) (h : isLexSpace c = true) :
    lexStep (c :: t) = some (.rSpace, spanLen isLexSpace t + 1) := by
  rw [lexStep_cons, startOf_space h]
  show bestStep (bestStep none (.rSpace, if spanLen isLexSpace (c :: t) == 0 then none else _)) _ = _
  rw [spanLen_cons_true _ c t h]; rfl

theorem lexStep_other (c : UInt8) (t : Bytes) (h : startOf c = .other) : lexStep (c :: t) = some (.rAny, 1) := by
  rw [lexStep_cons, h]; rfl

theorem lexStep_percent (t : Bytes) :
    lexStep (37 :: t) = ([(.rAssign, litLen kwAssign (37 :: t)), (.rLoop, litLen kwLoop (37 :: t)), (.rAny, some 1)] :
      List (Rule × Option Nat)).foldl bestStep none := by
  rw [lexStep_cons]; rfl

theorem lexStep_brace (t : Bytes) :
    lexStep (123 :: t) = ([(.rCycle, litLen kwCycle (123 :: t)), (.rWhen, litLen kwWhen (123 :: t)), (.rAny, some 1)] :
      List (Rule × Option Nat)).foldl bestStep none := by
  rw [lexStep_cons]; rfl
