import Proofs.StdNoPanicLemmas
import Liquid.Filters.Arr
import Proofs.InsertionSort
import Proofs.CompareLemmas
/-!
# The bodies of `Filters/Arr.lean` never panic on converted arguments

`ArrF.badArgs` (a body applied to arguments of the wrong Go type) is the only `.panic` of the file;
`values.Call` converts the receiver to a `[]any` and every argument to its parameter type first, and
each body's patterns cover exactly those shapes. The registered bodies are put together from these in `Proofs/StdNoPanic.lean`
(`stdFilterImpls_noPanic`).
-/

namespace ArrF

theorem eager_anys {f : List GoVal → R GoVal} (h : ∀ xs, NoPanicRes (f [.slice .any xs])) :
    ∀ args, ArgsOK [.val .anys] args → NoPanicRes (eager f args) := by
  intro args ha
  refine ofEager_noPanic ha.np (fun vs hvs => ?_)
  obtain ⟨_, rfl, xs, rfl⟩ := ha.val₁
  cases hvs
  exact h xs

theorem eager_anys_val {t : ParamTy} {f : List GoVal → R GoVal}
    (h : ∀ xs v, HasTy t v → NoPanicRes (f [.slice .any xs, v])) :
    ∀ args, ArgsOK [.val .anys, .val t] args → NoPanicRes (eager f args) := by
  intro args ha
  refine ofEager_noPanic ha.np (fun vs hvs => ?_)
  obtain ⟨_, w, rfl, ⟨xs, rfl⟩, hw⟩ := ha.val₂
  cases hvs
  exact h xs w hw

theorem eager_anys_fn {t : ParamTy} {f : List GoVal → R GoVal}
    (h0 : ∀ xs, NoPanicRes (f [.slice .any xs]))
    (h1 : ∀ xs v, HasTy t v → NoPanicRes (f [.slice .any xs, v])) :
    ∀ args, ArgsOK [.val .anys, .fn t] args → NoPanicRes (eager f args) := by
  intro args ha
  refine ofEager_noPanic ha.np (fun vs hvs => ?_)
  obtain ⟨_, y, rfl, ⟨xs, rfl⟩, h3⟩ := ha.val_fn
  rcases h3.fn_inv with rfl | ⟨c, rfl, _, hc⟩
  · cases hvs
    exact h0 xs
  · cases c with
    | ok w =>
      cases hvs
      exact h1 xs w (hc w rfl)
    | _ => cases hvs

theorem sprintNonNil_noPanic : ∀ xs : List GoVal, NoPanicRes (sprintNonNil xs)
  | [] => trivial
  | x :: xs => by
    rw [sprintNonNil]
    split
    · exact sprintNonNil_noPanic xs
    · exact NoPanicRes.bind (sprint_noPanic _) (fun _ => (sprintNonNil_noPanic xs).bind_ok)

theorem joinF_noPanic (xs : List GoVal) (sep : Bytes) : NoPanicRes (joinF xs sep) :=
  (sprintNonNil_noPanic xs).bind_ok

theorem propOf_noPanic (x : GoVal) (k : Bytes) : NoPanicRes (propOf x k) := by
  unfold propOf; split <;> trivial

theorem mapF_noPanic (k : Bytes) : ∀ xs : List GoVal, NoPanicRes (mapF k xs)
  | [] => trivial
  | x :: xs => by
    rw [mapF]
    exact NoPanicRes.bind (propOf_noPanic x k) (fun _ => (mapF_noPanic k xs).bind_ok)

theorem uniq_noPanic (xs : List GoVal) : NoPanicRes (uniq [.slice .any xs]) := by
  rw [uniq]; split <;> trivial

theorem lessByKeyM_isPanic (key : Bytes) (a b : GoVal) : (lessByKeyM key a b).isPanic = false := by
  unfold lessByKeyM
  split <;> first | rfl | exact Cmp.less_noPanic _ _

theorem sortM_noPanic (xs : List GoVal) : NoPanicRes (sortM xs) := by
  unfold sortM
  split
  · exact NoPanicRes.of_isPanic (insertionSortM_isPanic Cmp.less_noPanic xs)
  · split <;> trivial

theorem sortByM_noPanic (key : Bytes) (xs : List GoVal) : NoPanicRes (sortByM key xs) := by
  unfold sortByM
  split
  · exact NoPanicRes.of_isPanic (insertionSortM_isPanic (lessByKeyM_isPanic key) xs)
  · split <;> trivial

theorem sortWith_noPanic (strict : Bool) (xs : List GoVal) (key : GoVal) :
    NoPanicRes (sortWith strict [.slice .any xs, key]) := by
  unfold sortWith
  split
  · refine NoPanicRes.bind (sortM_noPanic _) (fun ys => ?_)
    split <;> trivial
  · refine NoPanicRes.bind (sprint_noPanic _) (fun k => ?_)
    refine NoPanicRes.bind (sortByM_noPanic k _) (fun ys => ?_)
    split <;> trivial
  · next _ h => exact (h _ _ rfl).elim

theorem caseRes_noPanic (o : Option Bytes) : NoPanicRes (caseRes o) := by
  cases o <;> trivial

theorem natKey_noPanic (v : GoVal) : NoPanicRes (natKey v) := by
  unfold natKey; split
  · trivial
  · exact NoPanicRes.bind (sprint_noPanic _) (fun _ => caseRes_noPanic _)

theorem natKeyBy_noPanic (key : Bytes) (m : GoVal) : NoPanicRes (natKeyBy key m) := by
  unfold natKeyBy
  simp only []
  split
  · exact caseRes_noPanic _
  · trivial

theorem decorate_noPanic {f : GoVal → R Bytes} (hf : ∀ v, NoPanicRes (f v)) :
    ∀ xs : List GoVal, NoPanicRes (decorate f xs)
  | [] => trivial
  | x :: xs => by
    rw [decorate]
    exact NoPanicRes.bind (hf x) (fun _ => (decorate_noPanic hf xs).bind_ok)

theorem natLessM_isPanic {f : GoVal → R Bytes} (hf : ∀ v, NoPanicRes (f v)) (a b : GoVal) :
    (natLessM f a b).isPanic = false :=
  (NoPanicRes.bind (hf a) fun _ => (hf b).bind_ok).isPanic

theorem sortNatM_noPanic (strict : Bool) {f : GoVal → R Bytes} (hf : ∀ v, NoPanicRes (f v)) (xs : List GoVal) :
    NoPanicRes (sortNatM strict f xs) := by
  unfold sortNatM
  split
  · exact NoPanicRes.of_isPanic (insertionSortM_isPanic (natLessM_isPanic hf) xs)
  · refine NoPanicRes.bind (decorate_noPanic hf xs) (fun ds => ?_)
    simp only []
    split <;> trivial

theorem sortNaturalWith_noPanic (strict : Bool) (xs : List GoVal) (key : GoVal) :
    NoPanicRes (sortNaturalWith strict [.slice .any xs, key]) := by
  have tail : ∀ f : GoVal → R Bytes, (∀ v, NoPanicRes (f v)) →
      NoPanicRes ((sortNatM strict f xs).bind fun ys => Res.ok (GoVal.slice Ty.any ys)) :=
    fun f hf => (sortNatM_noPanic strict hf xs).bind_ok
  simp only [sortNaturalWith]
  split
  · exact tail _ natKey_noPanic
  · refine NoPanicRes.bind_of_eq ((sprint_noPanic _).bind_ok) (fun f hf => ?_)
    obtain ⟨name, _, hn⟩ := Res.bind_eq_ok hf
    cases hn
    exact tail _ (natKeyBy_noPanic name)

end ArrF

