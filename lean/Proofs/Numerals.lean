import Liquid.Sprint
/-!
# Decimal numerals

`natDec` (the model of `strconv.Itoa` on naturals) by its two equations and the induction along them; `decVal`, the
number a digit string spells, reads it back. Digit strings of one length are determined by the number they spell
(`foldl_digits_inj`), so the zero-padded field `zpad w n` (`%0<w>d`) is the one string of `w` digits that spells `n`;
`natDec` and `intDec` are injective.
-/

def allDigits (b : Bytes) : Prop := ∀ c ∈ b, 48 ≤ c.toNat ∧ c.toNat ≤ 57

theorem allDigits_nil : allDigits [] := by intro c h; cases h

theorem allDigits_cons {c : UInt8} {b : Bytes} (hc : 48 ≤ c.toNat ∧ c.toNat ≤ 57) (hb : allDigits b) :
    allDigits (c :: b) := by
  intro d hd
  rcases List.mem_cons.mp hd with h | h
  · subst h; exact hc
  · exact hb d h

theorem allDigits_append {a b : Bytes} (ha : allDigits a) (hb : allDigits b) : allDigits (a ++ b) := by
  intro c hc
  rcases List.mem_append.mp hc with h | h
  · exact ha c h
  · exact hb c h

theorem allDigits_of_subset {a b : Bytes} (h : a ⊆ b) (hb : allDigits b) : allDigits a :=
  fun c hc => hb c (h hc)

theorem allDigits_zeros (n : Nat) : allDigits (zeros n) := by
  intro c hc
  have := List.eq_of_mem_replicate hc
  subst this
  decide

theorem toNat_digit {n : Nat} (h : n < 10) : ((48 + n).toUInt8).toNat = 48 + n := by
  simp [Nat.toUInt8, UInt8.toNat_ofNat']
  omega

theorem digit_toUInt8 {n : Nat} (h : n < 10) : 48 ≤ ((48 + n).toUInt8).toNat ∧ ((48 + n).toUInt8).toNat ≤ 57 := by
  rw [toNat_digit h]
  omega

def dg (k : Nat) : UInt8 := (48 + k).toUInt8

/-- the accumulator is a suffix: `natDec` is all there is to `decDigitsAux` -/
theorem decDigitsAux_eq (fuel : Nat) : ∀ (n : Nat) (acc : Bytes), n < fuel → decDigitsAux fuel n acc = natDec n ++ acc := by
  induction fuel using Nat.strongRecOn with
  | _ fuel ih =>
    intro n acc h
    cases fuel with
    | zero => omega
    | succ f =>
      by_cases h10 : n < 10
      · simp [natDec, decDigitsAux, h10]
      · have e1 : decDigitsAux (f + 1) n acc = decDigitsAux f (n / 10) (dg (n % 10) :: acc) := by
          simp [decDigitsAux, h10, dg]
        have e2 : natDec n = decDigitsAux n (n / 10) [dg (n % 10)] := by
          simp [natDec, decDigitsAux, h10, dg]
        rw [e1, e2, ih f (Nat.lt_succ_self f) (n / 10) _ (by omega), ih n (by omega) (n / 10) _ (by omega)]
        simp

theorem natDec_lt10 (n : Nat) (h : n < 10) : natDec n = [dg n] := by
  simp [natDec, decDigitsAux, h, dg]

theorem natDec_step (n : Nat) (h : 10 ≤ n) : natDec n = natDec (n / 10) ++ [dg (n % 10)] := by
  have h10 : ¬ n < 10 := by omega
  have e2 : natDec n = decDigitsAux n (n / 10) [dg (n % 10)] := by
    simp [natDec, decDigitsAux, h10, dg]
  rw [e2, decDigitsAux_eq n (n / 10) _ (by omega)]

/-- induction along the two equations of `natDec`: what holds of one digit and passes from the text of `n / 10`
    to that text with one more digit holds of `natDec n` -/
theorem natDec_induction {P : Nat → Bytes → Prop} (base : ∀ n, n < 10 → P n [dg n])
    (step : ∀ n, 10 ≤ n → P (n / 10) (natDec (n / 10)) → P n (natDec (n / 10) ++ [dg (n % 10)])) (n : Nat) :
    P n (natDec n) := by
  induction n using Nat.strongRecOn with
  | _ n ih =>
    by_cases h : n < 10
    · rw [natDec_lt10 n h]; exact base n h
    · rw [natDec_step n (by omega)]; exact step n (by omega) (ih _ (by omega))

theorem natDec_digits (n : Nat) : allDigits (natDec n) :=
  natDec_induction (fun _ h => allDigits_cons (digit_toUInt8 h) allDigits_nil)
    (fun n _ ih => allDigits_append ih (allDigits_cons (digit_toUInt8 (Nat.mod_lt n (by decide))) allDigits_nil)) n

theorem natDec_ne_nil (n : Nat) : natDec n ≠ [] :=
  natDec_induction (P := fun _ b => b ≠ []) (fun _ _ => List.cons_ne_nil _ _) (fun _ _ _ => by simp) n

def decVal (ds : Bytes) : Nat := ds.foldl (fun acc d => acc * 10 + (d.toNat - 48)) 0

theorem decVal_natDec (n : Nat) : decVal (natDec n) = n := by
  refine natDec_induction (P := fun n b => decVal b = n) (fun n h => ?_) (fun n _ ih => ?_) n
  · show 0 * 10 + ((dg n).toNat - 48) = n
    rw [dg, toNat_digit h]; omega
  · show (natDec (n / 10) ++ [dg (n % 10)]).foldl _ 0 = n
    rw [List.foldl_append, show (natDec (n / 10)).foldl _ 0 = n / 10 from ih]
    show n / 10 * 10 + ((dg (n % 10)).toNat - 48) = n
    rw [dg, toNat_digit (Nat.mod_lt n (by decide))]; omega

theorem decVal_zeros_append (k : Nat) (ds : Bytes) : decVal (zeros k ++ ds) = decVal ds := by
  unfold decVal zeros
  induction k with
  | zero => rfl
  | succ k ih =>
    simp only [List.replicate_succ, List.cons_append, List.foldl_cons]
    exact ih

theorem isDigit_iff (c : UInt8) : isDigit c = true ↔ 48 ≤ c.toNat ∧ c.toNat ≤ 57 := by
  simp [isDigit, UInt8.le_iff_toNat_le]

theorem all_isDigit_of_allDigits (b : Bytes) (h : allDigits b) : b.all isDigit = true := by
  rw [List.all_eq_true]
  intro c hc
  exact (isDigit_iff c).2 (h c hc)

theorem natDec_all_digits (n : Nat) : (natDec n).all isDigit = true := all_isDigit_of_allDigits _ (natDec_digits n)

theorem zeros_all_digits (k : Nat) : (zeros k).all isDigit = true := all_isDigit_of_allDigits _ (allDigits_zeros k)

theorem foldl_dec_shift (b : Bytes) : ∀ (acc : Nat),
    b.foldl (fun x d => x * 10 + (d.toNat - 48)) acc = acc * 10 ^ b.length + decVal b := by
  unfold decVal
  induction b with
  | nil => intro acc; simp
  | cons d t ih =>
    intro acc
    simp only [List.foldl_cons, List.length_cons]
    rw [ih (acc * 10 + (d.toNat - 48)), ih (0 * 10 + (d.toNat - 48))]
    simp only [Nat.zero_mul, Nat.zero_add, Nat.pow_succ, Nat.add_mul]
    rw [Nat.mul_assoc, Nat.mul_comm 10 (10 ^ t.length)]
    omega

theorem decVal_append (a b : Bytes) : decVal (a ++ b) = decVal a * 10 ^ b.length + decVal b := by
  rw [decVal, List.foldl_append, foldl_dec_shift b]
  rfl

theorem natDec_length_le (k n : Nat) (h : n < 10 ^ (k + 1)) : (natDec n).length ≤ k + 1 := by
  induction k generalizing n with
  | zero => rw [natDec_lt10 n (by simpa using h)]; simp
  | succ k ih =>
    by_cases h10 : n < 10
    · rw [natDec_lt10 n h10]; simp
    · rw [natDec_step n (by omega), List.length_append, List.length_singleton]
      have := ih (n / 10) (by rw [Nat.div_lt_iff_lt_mul (by decide)]; rwa [Nat.pow_succ] at h)
      omega

theorem foldl_digits_lt (ds : Bytes) : ∀ p : Nat, ds.all isDigit = true →
    ds.foldl (fun n d => n * 10 + (d.toNat - 48)) p < (p + 1) * 10 ^ ds.length := by
  induction ds with
  | nil => intro p _; simp
  | cons x ds ih =>
    intro p h
    rw [List.all_cons, Bool.and_eq_true] at h
    have hx := (isDigit_iff x).1 h.1
    refine Nat.lt_of_lt_of_le (ih (p * 10 + (x.toNat - 48)) h.2) ?_
    rw [List.length_cons, Nat.pow_succ, Nat.mul_comm (10 ^ ds.length) 10, ← Nat.mul_assoc]
    exact Nat.mul_le_mul_right _ (by omega)

theorem decVal_lt {ds : Bytes} (h : ds.all isDigit = true) : decVal ds < 10 ^ ds.length := by
  have := foldl_digits_lt ds 0 h
  rwa [Nat.zero_add, Nat.one_mul] at this

/-- digit strings of equal length that spell the same number are equal -/
theorem foldl_digits_inj (a : Bytes) : ∀ (b : Bytes) (p q : Nat), a.length = b.length → a.all isDigit = true →
    b.all isDigit = true →
    a.foldl (fun n d => n * 10 + (d.toNat - 48)) p = b.foldl (fun n d => n * 10 + (d.toNat - 48)) q → p = q ∧ a = b := by
  induction a with
  | nil =>
    intro b p q hl _ _ h
    cases List.length_eq_zero_iff.1 hl.symm
    exact ⟨h, rfl⟩
  | cons x a ih =>
    intro b p q hl ha hb h
    cases b with
    | nil => cases hl
    | cons y b =>
      rw [List.all_cons, Bool.and_eq_true] at ha hb
      obtain ⟨e, rfl⟩ := ih b _ _ (Nat.succ.inj hl) ha.2 hb.2 h
      have hx := (isDigit_iff x).1 ha.1
      have hy := (isDigit_iff y).1 hb.1
      have e : p * 10 + (x.toNat - 48) = q * 10 + (y.toNat - 48) := e
      clear h ih hl ha hb
      have : p = q ∧ x.toNat = y.toNat := by omega
      exact ⟨this.1, by rw [UInt8.toNat_inj.1 this.2]⟩

/-- `%0<w>d` of a natural number -/
def zpad (w n : Nat) : Bytes := zeros (w - (natDec n).length) ++ natDec n

theorem zpad_digits (w n : Nat) : (zpad w n).all isDigit = true := by
  rw [zpad, List.all_append, zeros_all_digits, natDec_all_digits]; rfl

theorem zpad_ne_nil (w n : Nat) : zpad w n ≠ [] :=
  fun h => natDec_ne_nil n (List.append_eq_nil_iff.mp h).2

theorem decVal_zpad (w n : Nat) : decVal (zpad w n) = n := by
  rw [zpad, decVal_zeros_append, decVal_natDec]

/-- a number of `w` digits or more is printed as it is -/
theorem zpad_of_le_length {w n : Nat} (h : w ≤ (natDec n).length) : zpad w n = natDec n := by
  rw [zpad, Nat.sub_eq_zero_of_le h]
  rfl

/-- the field of width `w` of a number below `10^w`: `w` digits that spell it -/
theorem zpad_spec {w n : Nat} (hw : 1 ≤ w) (h : n < 10 ^ w) :
    (zpad w n).length = w ∧ (zpad w n).all isDigit = true ∧ decVal (zpad w n) = n := by
  have hl : (natDec n).length ≤ w := by
    obtain ⟨k, rfl⟩ : ∃ k, w = k + 1 := ⟨w - 1, by omega⟩
    exact natDec_length_le k n h
  refine ⟨?_, zpad_digits w n, decVal_zpad w n⟩
  simp only [zpad, List.length_append, zeros, List.length_replicate]; omega

/-- and the only such string -/
theorem zpad_decVal {ds : Bytes} (hne : ds ≠ []) (hd : ds.all isDigit = true) : zpad ds.length (decVal ds) = ds := by
  obtain ⟨l, d, v⟩ := @zpad_spec ds.length (decVal ds) (List.length_pos_iff.2 hne) (decVal_lt hd)
  exact (foldl_digits_inj _ _ 0 0 l d hd v).2

theorem natDec_inj (n m : Nat) (h : natDec n = natDec m) : n = m := by
  rw [← decVal_natDec n, h, decVal_natDec]

theorem natDec_head_ne_minus (n : Nat) : ∀ r, natDec n ≠ 45 :: r := by
  intro r h
  have := natDec_all_digits n
  rw [h] at this
  simp [isDigit] at this

theorem intDec_inj (n m : Int) (h : intDec n = intDec m) : n = m := by
  unfold intDec at h
  by_cases hn : n < 0 <;> by_cases hm : m < 0 <;> simp only [hn, hm, if_true, if_false] at h
  · have := natDec_inj _ _ (by simpa using h)
    omega
  · exact absurd h.symm (natDec_head_ne_minus _ _)
  · exact absurd h (natDec_head_ne_minus _ _)
  · have := natDec_inj _ _ h
    omega

