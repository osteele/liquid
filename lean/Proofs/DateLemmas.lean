import Liquid.Time
/-!
# Helper lemmas about `Liquid/Time.lean`

The calendar: one 400-year era (`yoeDoy`, `monthDay`), the shift by whole eras, the round trips
between day numbers and civil dates, the ranges of the fields of a broken-down time.
-/

namespace Cal

/-- length of the March-based year `yoe` of an era: it ends with February of the civil year `yoe + 1` -/
def yearLenMarch (yoe : Nat) : Nat := if 4 ∣ yoe + 1 ∧ (¬ 100 ∣ yoe + 1 ∨ 400 ∣ yoe + 1) then 366 else 365

theorem yearLenMarch_le (yoe : Nat) : 365 ≤ yearLenMarch yoe ∧ yearLenMarch yoe ≤ 366 := by
  unfold yearLenMarch; split <;> decide

/-- the definition without its truncated subtraction, which `omega` pays for with a case split at every use -/
theorem daysBeforeYoe_add (y : Nat) : daysBeforeYoe y + y / 100 = 365 * y + y / 4 :=
  Nat.sub_add_cancel (Nat.le_trans (Nat.div_le_div_left (by decide) (by decide)) (Nat.le_add_left _ _))

theorem yoe_digits {c q a : Nat} (hq : q ≤ 24) (ha : a ≤ 3) :
    daysBeforeYoe (100 * c + 4 * q + a) = 36524 * c + 1461 * q + 365 * a ∧
    (a = 3 → (q = 24 → c = 3) → yearLenMarch (100 * c + 4 * q + a) = 366) := by
  refine ⟨?_, fun ha hqc => if_pos (by omega)⟩
  have := daysBeforeYoe_add (100 * c + 4 * q + a)
  omega

/-- `n ≤ L * (k + 1)` cut into at most `k` whole pieces of length `L` and a rest: the rest is a whole piece and one more
    only after `k` pieces (Go's `absDate`: the fourth century and the fourth year are a day longer) -/
theorem cut {L k n : Nat} (hL : 0 < L) (hn : n ≤ L * (k + 1)) :
    min (n / L) k ≤ k ∧ n = L * min (n / L) k + (n - L * min (n / L) k) ∧ n - L * min (n / L) k ≤ L ∧
    (n - L * min (n / L) k = L → min (n / L) k = k) := by
  rcases Nat.lt_or_ge (n / L) k with h | h
  · have hr := Nat.mod_lt n hL
    rw [Nat.min_eq_left (Nat.le_of_lt h), ← Nat.mod_def]
    exact ⟨Nat.le_of_lt h, (Nat.div_add_mod n L).symm, Nat.le_of_lt hr, fun e => absurd e (Nat.ne_of_lt hr)⟩
  · rw [Nat.min_eq_right h]
    have hle := Nat.le_trans (Nat.mul_le_mul_left L h) (Nat.mul_div_le n L)
    exact ⟨Nat.le_refl k, (Nat.add_sub_cancel' hle).symm, Nat.sub_le_iff_le_add'.2 hn, fun _ => rfl⟩

theorem yoeDoy_spec (doe : Nat) (h : doe < 146097) :
    (yoeDoy doe).1 < 400 ∧ daysBeforeYoe (yoeDoy doe).1 + (yoeDoy doe).2 = doe ∧
    (yoeDoy doe).2 < yearLenMarch (yoeDoy doe).1 := by
  simp only [yoeDoy]
  obtain ⟨hc, hdoe, hdoc, hc'⟩ := cut (L := 36524) (k := 3) (n := doe) (by decide) (by omega)
  generalize min (doe / 36524) 3 = c at *
  generalize doe - 36524 * c = doc at *
  clear h
  obtain ⟨hq, hdoc', hdoq⟩ : doc / 1461 ≤ 24 ∧ doc = 1461 * (doc / 1461) + (doc - 1461 * (doc / 1461)) ∧
      doc - 1461 * (doc / 1461) ≤ 1460 := by omega
  generalize doc / 1461 = q at *
  generalize doc - 1461 * q = doq at *
  obtain ⟨ha, hdoq', hdoy, ha'⟩ := cut (L := 365) (k := 3) (n := doq) (by decide) (by omega)
  generalize min (doq / 365) 3 = a at *
  generalize doq - 365 * a = doy at *
  obtain ⟨e1, e2⟩ := @yoe_digits c q a hq ha
  rw [e1]
  refine ⟨by omega, by omega, ?_⟩
  rcases Nat.lt_or_ge doy 365 with hlt | hge
  · exact Nat.lt_of_lt_of_le hlt (yearLenMarch_le _).1
  · -- day 365 exists only in the last year of a cycle that is not cut short by the end of a century
    rw [e2 (ha' (by omega)) fun hq24 => hc' (by omega)]
    omega

theorem daysBeforeYoe_succ {y : Nat} (h : y < 399) :
    daysBeforeYoe (y + 1) = daysBeforeYoe y + yearLenMarch y := by
  have h1 := daysBeforeYoe_add y
  have h2 := daysBeforeYoe_add (y + 1)
  -- a quotient grows at the multiples of its divisor, and a multiple of 100 is one of 4: there the two steps cancel
  rw [Nat.succ_div, Nat.succ_div] at h2
  have h400 : ¬ 400 ∣ y + 1 := Nat.not_dvd_of_pos_of_lt (Nat.succ_pos y) (by omega)
  unfold yearLenMarch
  -- the divisibility facts are cleared before `omega`, which would turn each into a remainder
  by_cases b : 100 ∣ y + 1
  · rw [if_pos b, if_pos (Nat.dvd_trans (by decide) b)] at h2
    rw [if_neg fun c => c.2.elim (absurd b) h400]
    clear b h400
    omega
  · rw [if_neg b] at h2
    clear h400
    split at h2
    · next a => rw [if_pos ⟨a, Or.inl b⟩]; clear a b; omega
    · next a => rw [if_neg fun c => a c.1]; clear a b; omega

theorem daysBeforeYoe_lt {y y' : Nat} (h : y < y') (h' : y' < 400) :
    daysBeforeYoe y + yearLenMarch y ≤ daysBeforeYoe y' := by
  induction y' with
  | zero => omega
  | succ n ih =>
    rw [daysBeforeYoe_succ (by omega)]
    rcases Nat.lt_succ_iff_lt_or_eq.mp h with h | rfl
    · exact Nat.le_trans (ih h (by omega)) (Nat.le_add_right _ _)
    · exact Nat.le_refl _

/-- and back: the years of an era do not overlap, so `yoeDoy_spec` leaves one choice for the year -/
theorem yoeDoy_inv (yoe doy : Nat) (hy : yoe < 400) (hd : doy < yearLenMarch yoe) :
    daysBeforeYoe yoe + doy < 146097 ∧ yoeDoy (daysBeforeYoe yoe + doy) = (yoe, doy) := by
  have hlt : daysBeforeYoe yoe + doy < 146097 := by
    have := yearLenMarch_le yoe
    have := daysBeforeYoe_add yoe
    omega
  refine ⟨hlt, ?_⟩
  obtain ⟨h1, h2, h3⟩ := yoeDoy_spec _ hlt
  generalize yoeDoy (daysBeforeYoe yoe + doy) = p at h1 h2 h3 ⊢
  obtain ⟨y', d'⟩ := p
  dsimp only at h1 h2 h3
  have hyy : y' = yoe := by
    rcases Nat.lt_trichotomy y' yoe with h | h | h
    · have := daysBeforeYoe_lt h hy
      omega
    · exact h
    · have := daysBeforeYoe_lt h h1
      omega
  subst hyy
  have hdd : d' = doy := by omega
  rw [hdd]

/-! ### month and day of a March-based day of the year: by evaluation of the 366 days -/

/-- what is checked for one day of the year (`daysInMonth 0`: the lengths with February 29) -/
def monthDayOK (doy : Nat) : Bool :=
  let md := monthDay doy
  decide (1 ≤ md.1 ∧ md.1 ≤ 12 ∧ 1 ≤ md.2 ∧ md.2 ≤ daysInMonth 0 md.1 ∧ doyOfMonthDay md.1 md.2 = doy)

theorem monthDay_all : (List.range 366).all monthDayOK = true := by decide +kernel

theorem monthDay_spec (doy : Nat) (h : doy < 366) :
    1 ≤ (monthDay doy).1 ∧ (monthDay doy).1 ≤ 12 ∧ 1 ≤ (monthDay doy).2 ∧
    (monthDay doy).2 ≤ daysInMonth 0 (monthDay doy).1 ∧ doyOfMonthDay (monthDay doy).1 (monthDay doy).2 = doy :=
  of_decide_eq_true (List.all_eq_true.1 monthDay_all doy (List.mem_range.2 h))

theorem daysInMonth_le_31 (y : Int) (m : Nat) : daysInMonth y m ≤ 31 := by
  unfold daysInMonth
  split
  · split <;> decide
  · split <;> decide

/-- the converse, for the 12 × 31 pairs (`daysInMonth 1`: the lengths with February 28): January and
    February are the days from 306 on, February 29 is day 365 -/
def dayMonthOK (m d : Nat) : Bool :=
  decide (1 ≤ m → 1 ≤ d → d ≤ daysInMonth 0 m →
    monthDay (doyOfMonthDay m d) = (m, d) ∧ doyOfMonthDay m d < 366 ∧
    (d ≤ daysInMonth 1 m ↔ doyOfMonthDay m d < 365) ∧ (m ≤ 2 ↔ 306 ≤ doyOfMonthDay m d))

theorem dayMonth_all : (List.range 13).all (fun m => (List.range 32).all (dayMonthOK m)) = true := by decide +kernel

theorem dayMonth_spec (m d : Nat) (hm1 : 1 ≤ m) (hm : m ≤ 12) (hd1 : 1 ≤ d) (hd : d ≤ daysInMonth 0 m) :
    monthDay (doyOfMonthDay m d) = (m, d) ∧ doyOfMonthDay m d < 366 ∧
    (d ≤ daysInMonth 1 m ↔ doyOfMonthDay m d < 365) ∧ (m ≤ 2 ↔ 306 ≤ doyOfMonthDay m d) :=
  of_decide_eq_true (List.all_eq_true.1 (List.all_eq_true.1 dayMonth_all m (List.mem_range.2 (Nat.lt_succ_of_le hm))) d
    (List.mem_range.2 (Nat.lt_succ_of_le (Nat.le_trans hd (daysInMonth_le_31 0 m))))) hm1 hd1 hd

theorem isLeap_natCast (n : Nat) : isLeap (n : Int) = true ↔ 4 ∣ n ∧ (¬ 100 ∣ n ∨ 400 ∣ n) := by
  simp only [isLeap, ← Int.dvd_iff_emod_eq_zero, Bool.and_eq_true, Bool.or_eq_true, beq_iff_eq, bne_iff_ne, ne_eq]
  exact and_congr (Int.natCast_dvd_natCast (m := 4))
    (or_congr (not_congr (Int.natCast_dvd_natCast (m := 100))) (Int.natCast_dvd_natCast (m := 400)))

/-- the leap rule has period 400: what makes every era alike -/
theorem isLeap_add_era (y era : Int) : isLeap (y + era * 400) = isLeap y := by
  have h : ∀ {k : Int}, k ∣ 400 → (y + era * 400) % k = y % k := fun ⟨j, hj⟩ => by
    rw [hj, ← Int.mul_assoc, Int.mul_comm, ← Int.mul_assoc, Int.add_mul_emod_self_right]
  rw [isLeap, h ⟨100, rfl⟩, h ⟨4, rfl⟩, h ⟨1, rfl⟩, isLeap]

theorem yearLenMarch_eq (yoe : Nat) (era : Int) :
    yearLenMarch yoe = if isLeap ((yoe : Int) + era * 400 + 1) then 366 else 365 := by
  rw [Int.add_right_comm, isLeap_add_era, ← Int.natCast_succ]
  simp only [isLeap_natCast, yearLenMarch]

theorem daysInMonth_congr {y y' : Int} (h : isLeap y = isLeap y') (m : Nat) : daysInMonth y m = daysInMonth y' m := by
  unfold daysInMonth
  rw [h]

theorem daysInMonth_le_leap (y : Int) (m : Nat) : daysInMonth 1 m ≤ daysInMonth y m ∧ daysInMonth y m ≤ daysInMonth 0 m := by
  have h10 : daysInMonth 1 m ≤ daysInMonth 0 m := by
    unfold daysInMonth
    split
    · decide
    · exact Nat.le_refl _
  cases h : isLeap y
  · rw [daysInMonth_congr (y' := 1) h m]
    exact ⟨Nat.le_refl _, h10⟩
  · rw [daysInMonth_congr (y' := 0) h m]
    exact ⟨h10, Nat.le_refl _⟩

/-- Euclidean division by a positive `k` (the years or days of an era, the seconds of a day, the days of a week):
    every integer is `r + e * k` with a natural `r` below `k`, and `e`, `r` are read off such a sum -/
theorem toNat_emod_spec {k : Int} (hk : 0 < k) (z : Int) :
    ((z % k).toNat : Int) < k ∧ z = ((z % k).toNat : Int) + z / k * k := by
  rw [Int.toNat_of_nonneg (Int.emod_nonneg z (Int.ne_of_gt hk))]
  exact ⟨Int.emod_lt_of_pos z hk, (Int.emod_add_ediv_mul z k).symm⟩

theorem ediv_emod_shift {k : Int} {r : Nat} (hr : (r : Int) < k) (e : Int) :
    ((r : Int) + e * k) / k = e ∧ (((r : Int) + e * k) % k).toNat = r := by
  rw [Int.add_mul_ediv_right _ _ (by omega), Int.add_mul_emod_self_right,
    Int.ediv_eq_zero_of_lt (Int.natCast_nonneg r) hr, Int.emod_eq_of_lt (Int.natCast_nonneg r) hr]
  exact ⟨Int.zero_add e, Int.toNat_natCast r⟩

theorem exists_era (y c : Int) : ∃ (era : Int) (yoe : Nat), yoe < 400 ∧ y = (yoe : Int) + era * 400 + c :=
  ⟨(y - c) / 400, ((y - c) % 400).toNat, Int.ofNat_lt.1 (toNat_emod_spec (by decide) (y - c)).1,
    Int.sub_eq_iff_eq_add.1 (toNat_emod_spec (by decide) (y - c)).2⟩

theorem valid_iff (era : Int) {yoe m d : Nat} (hm1 : 1 ≤ m) (hm : m ≤ 12) (hd1 : 1 ≤ d)
    (hd : d ≤ daysInMonth 0 m) :
    d ≤ daysInMonth ((yoe : Int) + era * 400 + (if m ≤ 2 then 1 else 0)) m ↔ doyOfMonthDay m d < yearLenMarch yoe := by
  obtain ⟨_, h366, h365, h306⟩ := dayMonth_spec m d hm1 hm hd1 hd
  have hlen := yearLenMarch_le yoe
  by_cases hc : d ≤ daysInMonth 1 m
  · have := h365.mp hc
    exact ⟨fun _ => by omega, fun _ => Nat.le_trans hc (daysInMonth_le_leap _ m).1⟩
  · -- February 29
    have hm2 : m ≤ 2 := h306.mpr (by omega)
    rw [if_pos hm2, yearLenMarch_eq yoe era]
    cases hl : isLeap ((yoe : Int) + era * 400 + 1)
    · rw [daysInMonth_congr (y' := 1) hl m]
      exact h365
    · rw [daysInMonth_congr (y' := 0) hl m]
      exact ⟨fun _ => h366, fun _ => hd⟩

def civilOfEraDoe (era : Int) (doe : Nat) : Int × Nat × Nat :=
  let yd := yoeDoy doe
  let md := monthDay yd.2
  ((yd.1 : Int) + era * 400 + (if md.1 ≤ 2 then 1 else 0), md.1, md.2)

theorem civilOfDays_eq (z : Int) :
    civilOfDays z = civilOfEraDoe ((z + 719468) / 146097) ((z + 719468) % 146097).toNat := rfl

theorem daysOfCivil_era (era : Int) {yoe : Nat} (hy : yoe < 400) (m d : Nat) :
    daysOfCivil ((yoe : Int) + era * 400 + (if m ≤ 2 then 1 else 0)) m d =
      ((daysBeforeYoe yoe + doyOfMonthDay m d : Nat) : Int) + era * 146097 - 719468 := by
  simp only [daysOfCivil]
  obtain ⟨e1, e2⟩ := ediv_emod_shift (k := 400) (Int.ofNat_lt.2 hy) era
  rw [Int.add_sub_cancel, e1, e2, Int.add_comm]

theorem civilOfEraDoe_spec (era : Int) (doe : Nat) (hlt : doe < 146097) {y : Int} {m d : Nat}
    (h : civilOfEraDoe era doe = (y, m, d)) :
    daysOfCivil y m d = (doe : Int) + era * 146097 - 719468 ∧ 1 ≤ m ∧ m ≤ 12 ∧ 1 ≤ d ∧ d ≤ daysInMonth y m := by
  obtain ⟨hy, hdoe, hdoy⟩ := yoeDoy_spec doe hlt
  have hdoy366 := Nat.lt_of_lt_of_le hdoy (yearLenMarch_le _).2
  obtain ⟨hm1, hm, hd1, hd, hinv⟩ := monthDay_spec (yoeDoy doe).2 hdoy366
  cases h
  refine ⟨?_, hm1, hm, hd1, (valid_iff era hm1 hm hd1 hd).mpr (by rw [hinv]; exact hdoy)⟩
  rw [daysOfCivil_era era hy, hinv, hdoe]

theorem daysOfCivil_civilOfDays (z : Int) :
    daysOfCivil (civilOfDays z).1 (civilOfDays z).2.1 (civilOfDays z).2.2 = z := by
  obtain ⟨hlt, hz⟩ := toNat_emod_spec (k := 146097) (by decide) (z + 719468)
  exact (civilOfEraDoe_spec _ _ (Int.ofNat_lt.1 hlt) rfl).1.trans (by rw [← hz, Int.add_sub_cancel])

theorem civil_ranges (z : Int) :
    1 ≤ (civilOfDays z).2.1 ∧ (civilOfDays z).2.1 ≤ 12 ∧ 1 ≤ (civilOfDays z).2.2 ∧
    (civilOfDays z).2.2 ≤ daysInMonth (civilOfDays z).1 (civilOfDays z).2.1 :=
  (civilOfEraDoe_spec _ _ (Int.ofNat_lt.1 (toNat_emod_spec (by decide) (z + 719468)).1) rfl).2

theorem civilOfDays_daysOfCivil (y : Int) (m d : Nat) (hm1 : 1 ≤ m) (hm : m ≤ 12) (hd1 : 1 ≤ d)
    (hd : d ≤ daysInMonth y m) : civilOfDays (daysOfCivil y m d) = (y, m, d) := by
  have hd0 := Nat.le_trans hd (daysInMonth_le_leap y m).2
  obtain ⟨era, yoe, hy, rfl⟩ := exists_era y (if m ≤ 2 then 1 else 0)
  obtain ⟨hdoe, hinv⟩ := yoeDoy_inv yoe (doyOfMonthDay m d) hy ((valid_iff era hm1 hm hd1 hd0).mp hd)
  obtain ⟨e1, e2⟩ := ediv_emod_shift (k := 146097) (Int.ofNat_lt.2 hdoe) era
  rw [daysOfCivil_era era hy, civilOfDays_eq, Int.sub_add_cancel, e1, e2]
  simp only [civilOfEraDoe, hinv, (dayMonth_spec m d hm1 hm hd1 hd0).1]

/-! Non-vacuity: 2000-02-29 is day 11016, 1969-12-31 is day −1, 0000-03-01 is day −719468 -/
example : civilOfDays 11016 = (2000, 2, 29) ∧ daysOfCivil 2000 2 29 = 11016 := by decide +kernel
example : civilOfDays (-1) = (1969, 12, 31) ∧ daysOfCivil 0 3 1 = -719468 := by decide +kernel

theorem secOfDay_lt (u : Int) : secOfDay u < 86400 ∧ u = u / 86400 * 86400 + (secOfDay u : Nat) :=
  ⟨Int.ofNat_lt.1 (toNat_emod_spec (by decide) u).1, (toNat_emod_spec (by decide) u).2.trans (Int.add_comm _ _)⟩

theorem weekdayOfDays_lt (z : Int) : weekdayOfDays z < 7 := Int.ofNat_lt.1 (toNat_emod_spec (by decide) (z + 4)).1

theorem weekdayOfDays_succ (z : Int) : weekdayOfDays (z + 1) = (weekdayOfDays z + 1) % 7 := by
  obtain ⟨-, e⟩ := toNat_emod_spec (k := 7) (by decide) (z + 4)
  unfold weekdayOfDays
  generalize ((z + 4) % 7).toNat = r at *
  rw [Int.add_right_comm, e, Int.add_right_comm, Int.add_mul_emod_self_right]
  exact Int.toNat_natCast ((r + 1) % 7)

theorem broken_clock (u : Int) :
    (broken u).hour < 24 ∧ (broken u).min < 60 ∧ (broken u).sec < 60 ∧ (broken u).wday < 7 ∧
    (u = (broken u).days * 86400 + ((broken u).hour * 3600 + (broken u).min * 60 + (broken u).sec : Nat)) := by
  have h := secOfDay_lt u
  simp only [broken]
  refine ⟨Nat.div_lt_of_lt_mul h.1, Nat.mod_lt _ (by decide), Nat.mod_lt _ (by decide), weekdayOfDays_lt _, ?_⟩
  omega

theorem broken_date (u : Int) :
    1 ≤ (broken u).month ∧ (broken u).month ≤ 12 ∧ 1 ≤ (broken u).day ∧
    (broken u).day ≤ daysInMonth (broken u).year (broken u).month ∧
    daysOfCivil (broken u).year (broken u).month (broken u).day = u / 86400 := by
  have h := civil_ranges (u / 86400)
  have h' := daysOfCivil_civilOfDays (u / 86400)
  simp only [broken]
  exact ⟨h.1, h.2.1, h.2.2.1, h.2.2.2, h'⟩

/-- March to December of the civil year `yoe + era * 400 + 1` come one March-based year after March 1 of the
    year before; the last year of an era is followed by the first of the next -/
theorem daysOfCivil_era_succ (era : Int) {yoe : Nat} (hy : yoe < 400) {m : Nat} (hm : ¬ m ≤ 2) (d : Nat) :
    daysOfCivil ((yoe : Int) + era * 400 + 1) m d =
      ((daysBeforeYoe yoe + yearLenMarch yoe + doyOfMonthDay m d : Nat) : Int) + era * 146097 - 719468 := by
  by_cases h399 : yoe = 399
  · subst h399
    have e : ((399 : Nat) : Int) + era * 400 + 1 = ((0 : Nat) : Int) + (era + 1) * 400 + (if m ≤ 2 then 1 else 0) := by
      rw [if_neg hm]; omega
    rw [e, daysOfCivil_era (era + 1) (by decide)]
    have h1 : daysBeforeYoe 0 = 0 := by decide
    have h2 : daysBeforeYoe 399 + yearLenMarch 399 = 146097 := by decide
    omega
  · have e : (yoe : Int) + era * 400 + 1 = ((yoe + 1 : Nat) : Int) + era * 400 + (if m ≤ 2 then 1 else 0) := by
      rw [if_neg hm]; omega
    rw [e, daysOfCivil_era era (by omega), daysBeforeYoe_succ (by omega)]

theorem yday_bounds (y : Int) (m d : Nat) (hm1 : 1 ≤ m) (hm : m ≤ 12) (hd1 : 1 ≤ d) (hd : d ≤ daysInMonth y m) :
    0 ≤ daysOfCivil y m d - daysOfCivil y 1 1 ∧
    daysOfCivil y m d - daysOfCivil y 1 1 < ((if isLeap y then 366 else 365 : Nat) : Int) := by
  obtain ⟨_, h366, _, h306⟩ := dayMonth_spec m d hm1 hm hd1 (Nat.le_trans hd (daysInMonth_le_leap y m).2)
  -- both dates counted from March 1 of the year before
  obtain ⟨era, yoe, hy, rfl⟩ := exists_era y 1
  have hjan : doyOfMonthDay 1 1 = 306 := by decide
  rw [show daysOfCivil ((yoe : Int) + era * 400 + 1) 1 1 = _ from daysOfCivil_era era hy 1 1, hjan, ← yearLenMarch_eq yoe era]
  have hlen := yearLenMarch_le yoe
  by_cases hm2 : m ≤ 2
  · rw [show daysOfCivil ((yoe : Int) + era * 400 + 1) m d = _ from if_pos hm2 ▸ daysOfCivil_era era hy m d]
    have := h306.mp hm2
    omega
  · rw [daysOfCivil_era_succ era hy hm2]
    have := mt h306.mpr hm2
    omega

theorem broken_yday (u : Int) :
    1 ≤ (broken u).yday ∧ (broken u).yday ≤ (if isLeap (broken u).year then 366 else 365) := by
  obtain ⟨hm1, hm12, hd1, hdm, hdays⟩ := broken_date u
  have hb := yday_bounds (broken u).year (broken u).month (broken u).day hm1 hm12 hd1 hdm
  rw [hdays] at hb
  have hy : (broken u).yday = (u / 86400 - daysOfCivil (broken u).year 1 1).toNat + 1 := rfl
  rw [hy]
  generalize (if isLeap (broken u).year then 366 else 365 : Nat) = len at hb ⊢
  omega

theorem isoWeek_range (z : Int) : 1 ≤ (isoWeek z).2 ∧ (isoWeek z).2 ≤ 53 := by
  simp only [isoWeek]
  generalize z + 3 - (((weekdayOfDays z + 6) % 7 : Nat) : Int) = th
  obtain ⟨hm1, hm12, hd1, hdm⟩ := civil_ranges th
  have hb := yday_bounds (civilOfDays th).1 (civilOfDays th).2.1 (civilOfDays th).2.2 hm1 hm12 hd1 hdm
  rw [daysOfCivil_civilOfDays] at hb
  split at hb <;> omega

end Cal
