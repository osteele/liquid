import Proofs.C05Render
import Proofs.ParseLemmas
/-!
# End-to-end helpers: `run` as a composition of its layers

`run` = scan → parseTokens → compileList → frender → runPure. This file names the stages after
the tokenizer (`runTokens`), proves `run = runTokens ∘ scan`, and evaluates the last stages on the
roots that the C05 theorems are about (no node, one text node, one raw node). Also here: `firstUnmodelledObj` on the
forms of token lists the later files meet, and the block parser on a raw or comment block.
Property theorems are in `Proofs/C05E2E.lean`, `Proofs/C06E2E.lean`.
-/

def runRoot (P : Prims) (O : OutPrims) (cfg : Cfg) (fs : FS) (fuel : Nat) (root : List Node) (env : Env) : RunResult :=
  match (frender P O cfg fs fuel root env).runPure with
  | (out, .ok _) => .ok out
  | (_, .err (.located e)) => .err e
  | (_, .err (.plain c)) => .err ⟨0, false, c, .byCause⟩
  | (_, .panic w) => .panic w
  | (_, .unmodelled w) => .unmodelled w

def runCompiled (P : Prims) (O : OutPrims) (cfg : Cfg) (fs : FS) (fuel : Nat) (c : CRes (List Node)) (env : Env) : RunResult :=
  match c with
  | .err e => .err e
  | .panic w => .panic w
  | .unmodelled w => .unmodelled w
  | .ok root => runRoot P O cfg fs fuel root env

def compileTokens (toks : List Token) : CRes (List Node) :=
  match firstUnmodelledObj toks with
  | some w => .unmodelled w
  | none => do
    let ast ← liftPErr (parseTokens stdGrammar objChk toks)
    compileList ast

def runTokens (P : Prims) (O : OutPrims) (cfg : Cfg) (fs : FS) (fuel : Nat) (toks : List Token) (env : Env) : RunResult :=
  runCompiled P O cfg fs fuel (compileTokens toks) env

theorem compileSource_eq_compileTokens (delims : List Bytes) (src : Bytes) (line : Nat) :
    compileSource delims src line = compileTokens (scan delims src line) := rfl

theorem run_eq_runCompiled (P : Prims) (O : OutPrims) (cfg : Cfg) (fs : FS) (fuel : Nat) (src : Bytes) (line : Nat) (env : Env) :
    run P O cfg fs fuel src line env = runCompiled P O cfg fs fuel (compileSource cfg.delims src line) env := by
  unfold run runCompiled runRoot
  cases compileSource cfg.delims src line <;> rfl

theorem run_eq_runTokens (P : Prims) (O : OutPrims) (cfg : Cfg) (fs : FS) (fuel : Nat) (src : Bytes) (line : Nat) (env : Env) :
    run P O cfg fs fuel src line env = runTokens P O cfg fs fuel (scan cfg.delims src line) env :=
  run_eq_runCompiled P O cfg fs fuel src line env

/-- every object of the list is inside the expression-lexer model -/
theorem firstUnmodelledObj_eq_none_iff {toks : List Token} :
    firstUnmodelledObj toks = none ↔ ∀ t ∈ toks, t.ty = .obj → ∀ w, parseExprSource t.args ≠ .unmodelled w := by
  induction toks with
  | nil => exact ⟨fun _ => nofun, fun _ => rfl⟩
  | cons t ts ih =>
    rw [List.forall_mem_cons, ← ih, firstUnmodelledObj]
    by_cases ht : t.ty = .obj
    · rw [if_pos (beq_iff_eq.mpr ht)]
      split
      · next w hw => exact ⟨nofun, fun h => absurd hw (h.1 ht w)⟩
      · next hnu => exact ⟨fun h => ⟨fun _ w hw => hnu w hw, h⟩, fun h => h.2⟩
    · rw [if_neg (by simpa using ht)]
      exact ⟨fun h => ⟨fun h' => absurd h' ht, h⟩, fun h => h.2⟩

theorem firstUnmodelledObj_none_of_no_obj : ∀ (toks : List Token), (∀ t ∈ toks, t.ty ≠ .obj) → firstUnmodelledObj toks = none :=
  fun _ h => firstUnmodelledObj_eq_none_iff.mpr fun t ht hty => absurd hty (h t ht)

theorem frender_nil_run (P : Prims) (O : OutPrims) (cfg : Cfg) (fs : FS) (fuel : Nat) (env : Env) :
    (frender P O cfg fs fuel [] env).runPure = ([], .ok ()) := by
  simp [frender, renderRoot, renderList, pure, M.pure, Prog.bind, wrapFailAt, M.mapFail, flushM, Prog.mapFail,
    statusToProg, Prog.runPure]

theorem runRoot_nil (P : Prims) (O : OutPrims) (cfg : Cfg) (fs : FS) (fuel : Nat) (env : Env) :
    runRoot P O cfg fs fuel [] env = .ok [] := by
  simp only [runRoot, frender_nil_run]

theorem runRoot_text (P : Prims) (O : OutPrims) (cfg : Cfg) (fs : FS) (fuel line : Nat) (src : Bytes) (env : Env) :
    runRoot P O cfg fs fuel [.text line src] env = .ok src := by
  simp only [runRoot, frender_text_run]

theorem runRoot_raw (P : Prims) (O : OutPrims) (cfg : Cfg) (fs : FS) (fuel : Nat) (slices : List Bytes) (env : Env) :
    runRoot P O cfg fs fuel [.raw slices] env = .ok slices.flatten := by
  simp only [runRoot, frender_raw_run]

theorem firstUnmodelledObj_append : ∀ (a b : List Token),
    firstUnmodelledObj (a ++ b) = (match firstUnmodelledObj a with | some w => some w | none => firstUnmodelledObj b)
  | [], b => rfl
  | t :: ts, b => by
    simp only [List.cons_append, firstUnmodelledObj]
    split
    · split
      · rfl
      · exact firstUnmodelledObj_append ts b
    · exact firstUnmodelledObj_append ts b

theorem firstUnmodelledObj_tag (t : Token) (ts : List Token) (h : t.ty = .tag) :
    firstUnmodelledObj (t :: ts) = firstUnmodelledObj ts := by
  simp [firstUnmodelledObj, h]

theorem firstUnmodelledObj_map (f : Token → Token) (hty : ∀ t, (f t).ty = t.ty) (hargs : ∀ t, (f t).args = t.args) :
    ∀ toks : List Token, firstUnmodelledObj (toks.map f) = firstUnmodelledObj toks
  | [] => rfl
  | t :: ts => by simp only [List.map_cons, firstUnmodelledObj, hty, hargs, firstUnmodelledObj_map f hty hargs ts]

theorem firstUnmodelledObj_enclosed (o c : Token) (body : List Token) (ho : o.ty = .tag) (hc : c.ty = .tag) :
    firstUnmodelledObj (o :: (body ++ [c])) = firstUnmodelledObj body := by
  rw [firstUnmodelledObj_tag _ _ ho, firstUnmodelledObj_append, firstUnmodelledObj_tag _ _ hc]
  cases firstUnmodelledObj body <;> rfl

theorem compileTokens_of_parse {toks : List Token} {ast : List AST} (hU : firstUnmodelledObj toks = none)
    (h : parseTokens stdGrammar objChk toks = .ok ast) : compileTokens toks = compileList ast := by
  simp only [compileTokens, hU, h, liftPErr, bind, Res.bind]

/-- what `liftPErr` makes of a parser error -/
def parseErrOf (e : PErr) : SErr :=
  match e.kind with
  | .objSyntax c => ⟨e.line, true, c, .byCause⟩
  | .tagSyntax c => ⟨e.line, true, c, .byCause⟩
  | .notInside => ⟨e.line, true, .none, .notInside⟩
  | .unterminated => ⟨e.line, true, .none, .unterminated⟩
  | .undefinedTag => ⟨e.line, true, .none, .undefinedTag⟩

theorem compileTokens_of_parse_err {toks : List Token} {e : PErr} (hU : firstUnmodelledObj toks = none)
    (h : parseTokens stdGrammar objChk toks = .err e) : compileTokens toks = .err (parseErrOf e) := by
  simp only [compileTokens, hU, h, liftPErr, bind, Res.bind, parseErrOf]
  cases e.kind <;> rfl

theorem compileList_text (t : Token) : compileList [.text t] = .ok [.text t.line t.source] := by
  simp [compileList, compileNode, bind, Res.bind]

theorem compileList_raw (sl : List Bytes) : compileList [.raw sl] = .ok [.raw sl] := by
  simp [compileList, compileNode, bind, Res.bind]

theorem parseTokens_text (chk : Bytes → Option Cause) (t : Token) (h : t.ty = .text) :
    parseTokens stdGrammar chk [t] = .ok [.text t] :=
  parse_of_derives stdGrammar_OK (.text t [] [] h .nil)

theorem isRawOpen_std {o : Token} (h1 : o.ty = .tag) (h2 : o.name = rawName) : stdGrammar.isRawOpen o = true :=
  isRawOpen_iff.mpr ⟨h1, h2, by decide +kernel⟩

theorem isCommentOpen_std {o : Token} (h1 : o.ty = .tag) (h2 : o.name = commentName) : stdGrammar.isCommentOpen o = true :=
  isCommentOpen_iff.mpr ⟨h1, h2, by decide +kernel⟩

theorem parseTokens_raw_block (chk : Bytes → Option Cause) (o c : Token) (body : List Token)
    (ho : stdGrammar.isRawOpen o = true) (hc : isEndRaw c = true) (hb : ∀ t ∈ body, isEndRaw t = false) :
    parseTokens stdGrammar chk (o :: (body ++ [c])) = .ok [.raw (body.map (·.source))] :=
  parse_of_derives stdGrammar_OK (.raw o c body [] [] ho hb hc .nil)

theorem parseTokens_comment_block (chk : Bytes → Option Cause) (o c : Token) (body : List Token)
    (ho : stdGrammar.isCommentOpen o = true) (hc : isEndComment c = true) (hb : ∀ t ∈ body, isEndComment t = false) :
    parseTokens stdGrammar chk (o :: (body ++ [c])) = .ok [] :=
  parse_of_derives stdGrammar_OK (.comment o c body [] [] ho hb hc .nil)

/-- a comment block after a prefix that the parser leaves outside comment/raw (or rejects) is
    invisible to the parser -/
theorem parseTokens_comment_erased (g : Grammar) (chk : Bytes → Option Cause) (pre body post : List Token) (o c : Token)
    (hpre : ∀ s, parseLoop g chk {} pre = .ok s → s.mode = .normal)
    (ho : g.isCommentOpen o = true) (hc : isEndComment c = true) (hb : ∀ t ∈ body, isEndComment t = false) :
    parseTokens g chk (pre ++ o :: (body ++ c :: post)) = parseTokens g chk (pre ++ post) := by
  unfold parseTokens
  rw [loop_append_bind, loop_append_bind (b := post)]
  cases hp : parseLoop g chk {} pre with
  | ok s =>
    obtain ⟨cur, st, mode⟩ := s
    cases (hpre _ hp : mode = .normal)
    rw [Res.bind, Res.bind, loop_cons_ok (step_commentOpen ho), loop_comment_interior _ _ hb, loop_cons_ok (step_inComment_end hc)]
  | err e | panic w | unmodelled w => rfl
