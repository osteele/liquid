import Liquid.Render
/-!
# A structurally recursive twin of the renderer

`renderNode` and the four functions recursive with it (`Liquid/Render.lean`; not `whenMatches`, which calls only itself and is structural) are
compiled by well-founded recursion (`renderBlockBody c body` calls `renderList c body` on the same list), so neither `rfl` nor the kernel can run them on a
concrete tree. `renderNodeS` … are the same equations with the flush after a block body taken out of the recursion
(`blockBodyOf`) and the clauses of a loop matched in the pattern, which makes the recursion structural; `renderNode_eq_S`
… prove the two equal by the one induction over the tree. A concrete render is then evaluated on the twin.
-/

/-- what `renderBlockBody` does after the sequence: the flush when it ended normally -/
def blockBodyOf (c : RCtx) (m : M Status) : M Status := do
  let st ← m
  match st with
  | .done => do wrapFailAt c.cfg.path invalidLoc flushM; pure .done
  | st => pure st

mutual
def renderNodeS (c : RCtx) : Node → M Status
  | .text line src => wrapFailAt c.cfg.path ⟨line, true⟩ (do writeM src; pure .done)
  | .obj line e => wrapFailAt c.cfg.path ⟨line, true⟩ (do
      let env ← M.getEnv
      let v ← M.ofRes (evaluate c.P env e)
      if v.isNil && c.cfg.strict then M.fail (.plain (.other "undefinedVariable")) else do
      let chunks ← M.ofRes (c.O.chunks v)
      writeAllM chunks
      pure .done)
  | .raw slices => wrapFailAt c.cfg.path invalidLoc (do writeAllM slices; pure .done)
  | .trim true => wrapFailAt c.cfg.path invalidLoc (do trimLeftM; pure .done)
  | .trim false => do trimRightM; pure .done
  | .assign line x e => wrapFailAt c.cfg.path ⟨line, true⟩ (do
      let env ← M.getEnv
      let v ← M.ofRes (evaluate c.P env e)
      M.setVar x v
      pure .done)
  | .capture line x body => wrapAt c.cfg.path ⟨line, true⟩ (do
      let (st, out) ← captureM (renderListS c body)
      match st with
      | .done => do M.setVar x (.str out); pure .done
      | st => pure st)
  | .ifB line branches => wrapAt c.cfg.path ⟨line, true⟩ (renderBranchesS c branches)
  | .caseB line subject cases => wrapAt c.cfg.path ⟨line, true⟩ (do
      let env ← M.getEnv
      let sel ← M.ofRes (evaluate c.P env subject)
      renderCasesS c sel cases)
  | .loop line tablerow var e mods body [] =>
    loopRun c.cfg.budget c.P c.cfg.path ⟨line, true⟩ tablerow var e mods (blockBodyOf c (renderListS c body)) false none
  | .loop line tablerow var e mods body [els] =>
    loopRun c.cfg.budget c.P c.cfg.path ⟨line, true⟩ tablerow var e mods (blockBodyOf c (renderListS c body)) false
      (some (blockBodyOf c (renderListS c els)))
  | .loop line tablerow var e mods body (_ :: _ :: _) =>
    loopRun c.cfg.budget c.P c.cfg.path ⟨line, true⟩ tablerow var e mods (blockBodyOf c (renderListS c body)) true none
  | .cycle line group v0 rest =>
    let loc : Loc := ⟨line, true⟩
    wrapFailAt c.cfg.path loc (do
      let lv ← M.getVar nmForloop
      match cyclesOf lv with
      | none => M.fail (.located (errorfAt loc .cycleOutside))          -- "cycle must be within a forloop"
      | some (cyc, rebuild) =>
        let n := cycleGet cyc group
        M.setVar nmForloop (rebuild (cycleSet cyc group (n + 1)))
        -- `TagNode.render` hands the tag `verbatimWriter{w}`: what a tag writes is not literal text
        writeVerbatimM ((v0 :: rest).getD (n % (rest.length + 1)) v0)
        pure .done)
  | .brk line => pure (.brk (wrapError c.cfg.path (.located (wrapError c.cfg.path (.plain .brk) ⟨line, true⟩)) ⟨line, true⟩))
  | .cont line => pure (.cont (wrapError c.cfg.path (.located (wrapError c.cfg.path (.plain .cont) ⟨line, true⟩)) ⟨line, true⟩))
  | .incl line args =>
    let loc : Loc := ⟨line, true⟩
    wrapAt c.cfg.path loc (do
      let env ← M.getEnv
      let e ← M.ofRes ((parseExprSource args).mapErr (fun _ => Cause.syntax))
      let v ← M.ofRes (evaluate c.P env e)
      match v with
      | .str rel =>
        let filename := joinPath (dirPath c.cfg.path) rel
        let (st, out) ← (fun s => (c.inc line filename env).bind (fun r => .ret (r, s)) : M (Status × Bytes))
        (match st with
         | .done => do writeVerbatimM out; pure .done   -- the tag's writer is `verbatimWriter{w}`
         | st => pure st)
      | _ => M.fail (.located (errorfAt loc .includeArg)))             -- "include requires a string argument"
def renderListS (c : RCtx) : List Node → M Status
  | [] => pure .done
  | n :: ns => do
    let st ← renderNodeS c n
    match st with
    | .done => renderListS c ns
    | st => pure st
def renderBranchesS (c : RCtx) : List (CondT × List Node) → M Status
  | [] => pure .done
  | (t, body) :: rest => do
    let b ← evalCond c.P c.cfg.path t
    if b then blockBodyOf c (renderListS c body) else renderBranchesS c rest
def renderCasesS (c : RCtx) (sel : GoVal) : List (Option (Nat × List Expr) × List Node) → M Status
  | [] => pure .done
  | (none, body) :: _ => blockBodyOf c (renderListS c body)
  | (some (line, es), body) :: rest => do
    let hit ← wrapFailAt c.cfg.path ⟨line, true⟩ (whenMatches c sel es)
    if hit then blockBodyOf c (renderListS c body) else renderCasesS c sel rest
end

theorem renderBlockBody_eq (c : RCtx) (body : List Node) : renderBlockBody c body = blockBodyOf c (renderList c body) := by
  rw [renderBlockBody]; rfl

mutual
theorem renderNode_eq_S (c : RCtx) : ∀ n : Node, renderNode c n = renderNodeS c n
  | .text .. | .obj .. | .raw _ | .trim true | .trim false | .assign .. | .brk _ | .cont _ => by rw [renderNode, renderNodeS]
  -- the two definitions have each their own copy of the inner `match`
  | .cycle .. | .incl .. => by rw [renderNode, renderNodeS]; rfl
  | .capture _ _ body => by rw [renderNode, renderNodeS, renderList_eq_S c body]; rfl
  | .ifB _ bs => by rw [renderNode, renderNodeS, renderBranches_eq_S c bs]
  | .caseB _ _ cs => by
    rw [renderNode, renderNodeS]
    simp only [renderCases_eq_S c _ cs]
  | .loop _ _ _ _ _ body [] => by rw [renderNode, renderNodeS, renderBlockBody_eq, renderList_eq_S c body]
  | .loop _ _ _ _ _ body [els] => by
    rw [renderNode, renderNodeS, renderBlockBody_eq, renderBlockBody_eq, renderList_eq_S c body, renderList_eq_S c els]
  | .loop _ _ _ _ _ body (_ :: _ :: _) => by rw [renderNode, renderNodeS, renderBlockBody_eq, renderList_eq_S c body]
theorem renderList_eq_S (c : RCtx) : ∀ ns : List Node, renderList c ns = renderListS c ns
  | [] => by rw [renderList, renderListS]
  | n :: ns => by rw [renderList, renderListS, renderNode_eq_S c n, renderList_eq_S c ns]; rfl
theorem renderBranches_eq_S (c : RCtx) : ∀ bs : List (CondT × List Node), renderBranches c bs = renderBranchesS c bs
  | [] => by rw [renderBranches, renderBranchesS]
  | (_, body) :: rest => by
    rw [renderBranches, renderBranchesS, renderBlockBody_eq, renderList_eq_S c body, renderBranches_eq_S c rest]
theorem renderCases_eq_S (c : RCtx) (sel : GoVal) :
    ∀ cs : List (Option (Nat × List Expr) × List Node), renderCases c sel cs = renderCasesS c sel cs
  | [] => by rw [renderCases, renderCasesS]
  | (none, body) :: _ => by rw [renderCases, renderCasesS, renderBlockBody_eq, renderList_eq_S c body]
  | (some _, body) :: rest => by
    rw [renderCases, renderCasesS, renderBlockBody_eq, renderList_eq_S c body, renderCases_eq_S c sel rest]
end

/-! ### The functions above the tree, on the twin -/

def renderRootS (c : RCtx) (root : List Node) (env : Env) : Prog Status :=
  ((renderListS c root) { env := env, tw := {} }).bind fun (st, s) =>
    match st with
    | .done => ((wrapFailAt c.cfg.path invalidLoc flushM) s).bind fun _ => .ret .done
    | st => .ret st

theorem renderRoot_eq_S (c : RCtx) (root : List Node) (env : Env) : renderRoot c root env = renderRootS c root env := by
  rw [renderRoot, renderRootS, renderList_eq_S]; rfl

def renderFileWithS (P : Prims) (O : OutPrims) (cfg : Cfg) (fs : FS)
    (inner : Nat → Bytes → Env → Prog (Status × Bytes)) (line : Nat) (filename : Bytes) (env : Env) :
    Prog (Status × Bytes) :=
  let src? : Except Cause Bytes := match fs.read filename with
    | .content b => .ok b
    | .notExist => (match fs.cache filename with
        | some b => .ok b
        | none => .error (.other "notExist"))
    | .otherError => .error .io
  match src? with
  | .error c => .fail (.plain c)
  | .ok src =>
    match compileSource cfg.delims src line with
    | .err e => .fail (.located e)
    | .panic w => .panic w
    | .unmodelled w => .unmodelled w
    | .ok root =>
      match (renderRootS { P := P, O := O, cfg := cfg, inc := inner } root env).runPure with
      | (out, .ok .done) => .ret (.done, out)
      | (_, .ok st) => .ret (st, [])
      | (_, .err e) => .fail e
      | (_, .panic w) => .panic w
      | (_, .unmodelled w) => .unmodelled w

theorem renderFileWith_eq_S (P : Prims) (O : OutPrims) (cfg : Cfg) (fs : FS) (inner : Nat → Bytes → Env → Prog (Status × Bytes)) :
    renderFileWith P O cfg fs inner = renderFileWithS P O cfg fs inner := by
  funext line filename env
  unfold renderFileWith renderFileWithS
  simp only [renderRoot_eq_S]
  rfl

def incFuelS (P : Prims) (O : OutPrims) (cfg : Cfg) (fs : FS) : Nat → Nat → Bytes → Env → Prog (Status × Bytes)
  | 0 => fun _ _ _ => .fail includeDepthErr
  | n+1 => renderFileWithS P O cfg fs (incFuelS P O cfg fs n)

theorem incFuel_eq_S (P : Prims) (O : OutPrims) (cfg : Cfg) (fs : FS) : ∀ n, incFuel P O cfg fs n = incFuelS P O cfg fs n
  | 0 => rfl
  | n+1 => by rw [incFuel, incFuelS, incFuel_eq_S P O cfg fs n, renderFileWith_eq_S]

/-- what `Render` returns, from the run of the interaction tree -/
def resultOf (x : Bytes × Prog.Outcome Unit) : RunResult :=
  match x with
  | (out, .ok _) => .ok out
  | (_, .err (.located e)) => .err e
  | (_, .err (.plain c)) => .err ⟨0, false, c, .byCause⟩
  | (_, .panic w) => .panic w
  | (_, .unmodelled w) => .unmodelled w

/-- `run` on the twin: what the kernel evaluates for a concrete source -/
def runS (c : RCtx) (src : Bytes) (line : Nat) (env : Env) : RunResult :=
  match compileSource c.cfg.delims src line with
  | .err e => .err e
  | .panic w => .panic w
  | .unmodelled w => .unmodelled w
  | .ok root => resultOf ((renderRootS c root env).bind statusToProg).runPure

theorem run_eq_S (P : Prims) (O : OutPrims) (cfg : Cfg) (fs : FS) (fuel : Nat) (src : Bytes) (line : Nat) (env : Env) :
    run P O cfg fs fuel src line env = runS { P := P, O := O, cfg := cfg, inc := incFuelS P O cfg fs fuel } src line env := by
  unfold run runS frender mkCtx
  simp only [renderRoot_eq_S, incFuel_eq_S]
  rfl
