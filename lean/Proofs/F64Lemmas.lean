import Liquid.F64
/-!
# `roundFloat` is a projection (helper lemmas for C17 and for the float literals of C08: `Proofs/F64Mono.lean`,
`Proofs/NumLemmas.lean`, `Proofs/ShowFloatLemmas.lean`)

`pow2` is `2^e` for integer `e`; the exponent `roundFloat` picks (`fexp1`) is THE integer `x` with
`2^(p-1) ≤ a / 2^x < 2^p` (`fexp1_spec`, `fexp_unique`: the estimate from the bit lengths of numerator and
denominator is off by at most one). So the result of rounding a positive rational is `0` or `m · 2^e` with
`0 < m < 2^p`, `emin ≤ e`, normalised unless `e = emin` (`roundFloat_rep`), and such a value rounds to itself
(`roundFloat_of_rep`): `roundFloat` is idempotent on its image. `roundPos` is the rounding of a positive rational
before the overflow test. `OnGrid e q` says that `q` is an integer multiple of `2^e`; the positive points of that grid
below `2^(p+e)` are fixed points of `roundPos` (`roundPos_of_int_mul`).
-/

theorem pow2_eq_zpow (e : Int) : pow2 e = (2 : Rat) ^ e := by
  unfold pow2
  split
  · rename_i h
    have : e = (e.toNat : Int) := by omega
    conv => rhs; rw [this]
    rw [Rat.zpow_natCast, Rat.natCast_pow]; rfl
  · rename_i h
    have : e = -((-e).toNat : Int) := by omega
    conv => rhs; rw [this]
    rw [Rat.zpow_neg, Rat.zpow_natCast, Rat.natCast_pow, Rat.div_def, Rat.one_mul]; rfl

theorem pow2_pos (e : Int) : 0 < pow2 e := by
  rw [pow2_eq_zpow]; exact Rat.zpow_pos (by decide)

theorem pow2_ne_zero (e : Int) : pow2 e ≠ 0 := Rat.ne_of_gt (pow2_pos e)

theorem pow2_add (a b : Int) : pow2 (a + b) = pow2 a * pow2 b := by
  simp only [pow2_eq_zpow]; exact Rat.zpow_add (by decide) a b

theorem pow2_zero : pow2 0 = 1 := by rw [pow2_eq_zpow]; rfl
theorem pow2_one : pow2 1 = 2 := by rw [pow2_eq_zpow]; rfl

theorem pow2_natCast (n : Nat) : pow2 (n : Int) = ((2 ^ n : Nat) : Rat) := by
  unfold pow2; simp

theorem pow2_succ (a : Int) : pow2 (a + 1) = 2 * pow2 a := by
  rw [pow2_add, pow2_one, Rat.mul_comm]

theorem one_le_pow2 (n : Nat) : 1 ≤ pow2 (n : Int) := by
  rw [pow2_natCast]
  simpa using Rat.natCast_le_natCast.2 (Nat.one_le_two_pow (n := n))

theorem pow2_le {a b : Int} (h : a ≤ b) : pow2 a ≤ pow2 b := by
  obtain ⟨n, rfl⟩ := Int.le.dest h
  have := Rat.mul_le_mul_of_nonneg_left (one_le_pow2 n) (Rat.le_of_lt (pow2_pos a))
  rwa [Rat.mul_one, ← pow2_add] at this

theorem pow2_lt_iff {a b : Int} : pow2 a < pow2 b ↔ a < b := by
  refine ⟨fun h => Int.lt_of_not_ge fun hn => Rat.not_le.2 h (pow2_le hn), fun h => ?_⟩
  have h1 : pow2 (a + 1) ≤ pow2 b := pow2_le (by omega)
  rw [pow2_succ] at h1
  have := pow2_pos a
  grind

theorem pow2_natCast_int (n : Nat) : pow2 (n : Int) = (((2 ^ n : Nat) : Int) : Rat) := by
  rw [pow2_natCast]; rfl

theorem pow2_pred_int (p : Nat) (hp : 1 ≤ p) : pow2 ((p : Int) - 1) = (((2 ^ (p - 1) : Nat) : Int) : Rat) := by
  rw [← pow2_natCast_int]; congr 1; omega

theorem mul_pow2_le {a b : Rat} (h : a ≤ b) (e : Int) : a * pow2 e ≤ b * pow2 e :=
  Rat.mul_le_mul_of_nonneg_right h (Rat.le_of_lt (pow2_pos e))

theorem mul_pow2_lt {a b : Rat} (h : a < b) (e : Int) : a * pow2 e < b * pow2 e :=
  Rat.mul_lt_mul_of_pos_right h (pow2_pos e)

theorem div_pow2_lt_iff {q x : Rat} {e : Int} : q / pow2 e < x ↔ q < x * pow2 e := Rat.div_lt_iff (pow2_pos e)

theorem div_pow2_le_iff {q x : Rat} {e : Int} : q / pow2 e ≤ x ↔ q ≤ x * pow2 e := by
  rw [← Rat.not_lt, ← Rat.not_lt, Rat.lt_div_iff (pow2_pos e)]

theorem le_div_pow2_iff {q x : Rat} {e : Int} : x ≤ q / pow2 e ↔ x * pow2 e ≤ q := by
  rw [← Rat.not_lt, ← Rat.not_lt, div_pow2_lt_iff]

def OnGrid (e : Int) (q : Rat) : Prop := ∃ k : Int, q = (k : Rat) * pow2 e

theorem OnGrid.of_le {e e' : Int} {q : Rat} (h : OnGrid e q) (he : e' ≤ e) : OnGrid e' q := by
  obtain ⟨k, rfl⟩ := h
  refine ⟨k * ((2 ^ (e - e').toNat : Nat) : Int), ?_⟩
  rw [Rat.intCast_mul, Rat.mul_assoc, ← pow2_natCast_int, ← pow2_add]
  congr 2
  omega

theorem onGrid_intCast (n : Int) {e : Int} (he : e ≤ 0) : OnGrid e (n : Rat) :=
  OnGrid.of_le ⟨n, by rw [pow2_zero, Rat.mul_one]⟩ he

theorem onGrid_pow2 {e e' : Int} (he : e' ≤ e) : OnGrid e' (pow2 e) :=
  OnGrid.of_le ⟨1, by grind⟩ he

theorem OnGrid.add {e : Int} {a b : Rat} (ha : OnGrid e a) (hb : OnGrid e b) : OnGrid e (a + b) := by
  obtain ⟨k, rfl⟩ := ha
  obtain ⟨l, rfl⟩ := hb
  exact ⟨k + l, by grind⟩

theorem OnGrid.sub {e : Int} {a b : Rat} (ha : OnGrid e a) (hb : OnGrid e b) : OnGrid e (a - b) := by
  obtain ⟨k, rfl⟩ := ha
  obtain ⟨l, rfl⟩ := hb
  exact ⟨k - l, by grind⟩

theorem OnGrid.neg {e : Int} {q : Rat} (h : OnGrid e q) : OnGrid e (-q) := by
  obtain ⟨k, rfl⟩ := h
  exact ⟨-k, by grind⟩

theorem OnGrid.add_le {e : Int} {a b : Rat} (ha : OnGrid e a) (hb : OnGrid e b) (h : a < b) : a + pow2 e ≤ b := by
  obtain ⟨k, rfl⟩ := ha
  obtain ⟨l, rfl⟩ := hb
  have hkl := Rat.intCast_lt_intCast.1 ((Rat.mul_lt_mul_right (pow2_pos e)).1 h)
  have := mul_pow2_le (Rat.intCast_le_intCast.2 (show k + 1 ≤ l by omega)) e
  grind

theorem rat_eq_num_div_den (a : Rat) : a = (a.num : Rat) / ((a.den : Nat) : Rat) := by
  rw [← Rat.mkRat_eq_div, Rat.mkRat_self]

theorem rat_nonneg_eq {a : Rat} (h : 0 ≤ a) : a * ((a.den : Nat) : Rat) = ((a.num.natAbs : Nat) : Rat) := by
  have hn : 0 ≤ a.num := Rat.num_nonneg.2 h
  have h1 : ((a.num.natAbs : Nat) : Rat) = (a.num : Rat) := by
    rw [← Rat.intCast_natCast]; congr 1; omega
  have hd : ((a.den : Nat) : Rat) ≠ 0 := by
    simp [Rat.natCast_eq_zero_iff, a.den_nz]
  rw [h1]
  have := @Rat.div_mul_cancel (a.num : Rat) _ hd
  rwa [← rat_eq_num_div_den a] at this

def fexp0 (p : Nat) (a : Rat) : Int :=
  (Nat.log2 a.num.natAbs : Int) - (Nat.log2 a.den : Int) - (p - 1 : Int)

def fexp1 (p : Nat) (a : Rat) : Int :=
  if a / pow2 (fexp0 p a) < ((2 ^ (p - 1) : Nat) : Rat) then fexp0 p a - 1 else
  if a / pow2 (fexp0 p a) ≥ ((2 ^ p : Nat) : Rat) then fexp0 p a + 1 else fexp0 p a

theorem fexp0_bracket (p : Nat) (a : Rat) (ha : 0 < a) :
    pow2 ((p : Int) - 2 + fexp0 p a) < a ∧ a < pow2 ((p : Int) + fexp0 p a) := by
  have hn : a.num.natAbs ≠ 0 := fun h0 => Rat.ne_of_gt ha (Rat.num_eq_zero.1 (Int.natAbs_eq_zero.1 h0))
  -- numerator and denominator lie between consecutive powers of two, and `a * den = num`
  have hnl := Rat.natCast_le_natCast.2 (Nat.log2_self_le hn)
  have hnu := Rat.natCast_lt_natCast.2 (@Nat.lt_log2_self a.num.natAbs)
  have hdl := Rat.natCast_le_natCast.2 (Nat.log2_self_le a.den_nz)
  have hdu := Rat.natCast_lt_natCast.2 (@Nat.lt_log2_self a.den)
  rw [← pow2_natCast] at hnl hnu hdl hdu
  rw [← rat_nonneg_eq (Rat.le_of_lt ha)] at hnl hnu
  unfold fexp0
  constructor
  · apply (Rat.mul_lt_mul_right (pow2_pos ((Nat.log2 a.den + 1 : Nat) : Int))).1
    rw [← pow2_add]
    exact Std.lt_of_le_of_lt (Rat.le_trans (pow2_le (by omega)) hnl) (Rat.mul_lt_mul_of_pos_left hdu ha)
  · apply (Rat.mul_lt_mul_right (pow2_pos (Nat.log2 a.den : Int))).1
    rw [← pow2_add]
    exact Std.lt_of_le_of_lt (Rat.mul_le_mul_of_nonneg_left hdl (Rat.le_of_lt ha)) (Std.lt_of_lt_of_le hnu (pow2_le (by omega)))

theorem fexp1_bracket (p : Nat) (hp : 1 ≤ p) (a : Rat) (ha : 0 < a) :
    pow2 ((p : Int) - 1 + fexp1 p a) ≤ a ∧ a < pow2 ((p : Int) + fexp1 p a) := by
  obtain ⟨hl, hu⟩ := fexp0_bracket p a ha
  unfold fexp1
  split
  · next h =>
    rw [← pow2_natCast, div_pow2_lt_iff, ← pow2_add] at h
    exact ⟨Rat.le_trans (pow2_le (by omega)) (Rat.le_of_lt hl), Std.lt_of_lt_of_le h (pow2_le (by omega))⟩
  · next h =>
    rw [← pow2_natCast, div_pow2_lt_iff, ← pow2_add] at h
    have hu' : ¬ a / pow2 (fexp0 p a) ≥ ((2 ^ p : Nat) : Rat) := by
      rw [← pow2_natCast, ge_iff_le, le_div_pow2_iff, ← pow2_add]
      exact Rat.not_le.2 hu
    rw [if_neg hu']
    exact ⟨Rat.le_trans (pow2_le (by omega)) (Rat.not_lt.1 h), hu⟩

theorem fexp1_spec (p : Nat) (hp : 1 ≤ p) (a : Rat) (ha : 0 < a) :
    pow2 ((p : Int) - 1) ≤ a / pow2 (fexp1 p a) ∧ a / pow2 (fexp1 p a) < pow2 (p : Int) := by
  rw [le_div_pow2_iff, div_pow2_lt_iff, ← pow2_add, ← pow2_add]
  exact fexp1_bracket p hp a ha

theorem fexp_unique (p : Nat) (a : Rat) (x y : Int)
    (hx1 : pow2 ((p : Int) - 1) ≤ a / pow2 x) (hx2 : a / pow2 x < pow2 (p : Int))
    (hy1 : pow2 ((p : Int) - 1) ≤ a / pow2 y) (hy2 : a / pow2 y < pow2 (p : Int)) : x = y := by
  have key : ∀ x y : Int, pow2 ((p : Int) - 1) ≤ a / pow2 y → a / pow2 x < pow2 (p : Int) → y ≤ x := by
    intro x y h1 h2
    have h1 := le_div_pow2_iff.1 h1
    have h2 := div_pow2_lt_iff.1 h2
    rw [← pow2_add] at h1 h2
    have := pow2_lt_iff.1 (Std.lt_of_le_of_lt h1 h2)
    omega
  have k1 := key x y hy1 hx2
  have k2 := key y x hx1 hy2
  omega

theorem fexp1_mono (p : Nat) (hp : 1 ≤ p) (a b : Rat) (ha : 0 < a) (hab : a ≤ b) : fexp1 p a ≤ fexp1 p b := by
  have := pow2_lt_iff.1 (Std.lt_of_le_of_lt (Rat.le_trans (fexp1_bracket p hp a ha).1 hab)
    (fexp1_bracket p hp b (Std.lt_of_lt_of_le ha hab)).2)
  omega

theorem rat_half_pos : (0 : Rat) < 1 / 2 := by grind

theorem roundHalfEven_intCast (m : Int) : roundHalfEven (m : Rat) = m := by
  unfold roundHalfEven
  simp only [Rat.floor_intCast, Rat.sub_self, rat_half_pos, if_true]

theorem roundHalfEven_cases (z : Rat) :
    (roundHalfEven z = z.floor ∧ z - (z.floor : Rat) ≤ 1 / 2) ∨
    (roundHalfEven z = z.floor + 1 ∧ 1 / 2 ≤ z - (z.floor : Rat)) := by
  unfold roundHalfEven
  simp only
  split
  · next h => exact Or.inl ⟨rfl, Rat.le_of_lt h⟩
  · next h =>
    split
    · next h' => exact Or.inr ⟨rfl, Rat.le_of_lt h'⟩
    · next h' =>
      split
      · exact Or.inl ⟨rfl, Rat.not_lt.1 h'⟩
      · exact Or.inr ⟨rfl, Rat.not_lt.1 h⟩

theorem roundHalfEven_floor (q : Rat) : q.floor ≤ roundHalfEven q ∧ roundHalfEven q ≤ q.floor + 1 := by
  rcases roundHalfEven_cases q with ⟨e, _⟩ | ⟨e, _⟩ <;> omega

theorem roundHalfEven_mono {a b : Rat} (h : a ≤ b) : roundHalfEven a ≤ roundHalfEven b := by
  have hf : a.floor ≤ b.floor := Rat.le_floor_iff.2 (Rat.le_trans (Rat.floor_le a) h)
  rcases roundHalfEven_cases a with ⟨ea, ha⟩ | ⟨ea, ha⟩ <;> rcases roundHalfEven_cases b with ⟨eb, hb⟩ | ⟨eb, hb⟩
  · omega
  · omega
  · -- `a` rounds up and `b` down: in the same unit interval only if both are its midpoint
    by_cases hfe : a.floor = b.floor
    · have : a = b := by rw [hfe] at ha; grind
      subst this; omega
    · omega
  · omega

theorem roundHalfEven_le_of_le (q : Rat) (hi : Int) (h : q ≤ (hi : Rat)) : roundHalfEven q ≤ hi :=
  roundHalfEven_intCast hi ▸ roundHalfEven_mono h

theorem roundHalfEven_ge (q : Rat) (lo : Int) (h : (lo : Rat) ≤ q) : lo ≤ roundHalfEven q :=
  roundHalfEven_intCast lo ▸ roundHalfEven_mono h

theorem roundHalfEven_le (q : Rat) (hi : Int) (h : q < (hi : Rat)) : roundHalfEven q ≤ hi :=
  roundHalfEven_le_of_le q hi (Rat.le_of_lt h)

theorem roundFloat_pos (p : Nat) (emin emax : Int) (q : Rat) (hq : 0 < q) :
    roundFloat p emin emax q =
      (if (roundHalfEven (q / pow2 (if fexp1 p q < emin then emin else fexp1 p q)) : Rat) *
            pow2 (if fexp1 p q < emin then emin else fexp1 p q) ≥ pow2 emax then none
       else some ((roundHalfEven (q / pow2 (if fexp1 p q < emin then emin else fexp1 p q)) : Rat) *
            pow2 (if fexp1 p q < emin then emin else fexp1 p q))) := by
  have h0 : (q == 0) = false := by
    simp only [beq_eq_false_iff_ne, ne_eq]; exact Rat.ne_of_gt hq
  have h1 : ¬ q < 0 := Rat.not_lt.2 (Rat.le_of_lt hq)
  unfold roundFloat
  simp only [h0, Bool.false_eq_true, if_false, h1]
  rfl

/-- the exponent `roundFloat` uses -/
def fexpC (p : Nat) (emin : Int) (q : Rat) : Int := if fexp1 p q < emin then emin else fexp1 p q

def roundPos (p : Nat) (emin : Int) (q : Rat) : Rat :=
  (roundHalfEven (q / pow2 (fexpC p emin q)) : Rat) * pow2 (fexpC p emin q)

theorem roundFloat_eq_roundPos (p : Nat) (emin emax : Int) (q : Rat) (hq : 0 < q) :
    roundFloat p emin emax q = if roundPos p emin q ≥ pow2 emax then none else some (roundPos p emin q) :=
  roundFloat_pos p emin emax q hq

theorem roundFloat_some_iff (p : Nat) (emin emax : Int) {q r : Rat} (hq : 0 < q) :
    roundFloat p emin emax q = some r ↔ roundPos p emin q = r ∧ r < pow2 emax := by
  rw [roundFloat_eq_roundPos p emin emax q hq]
  split
  · next h => exact ⟨nofun, fun ⟨e, hlt⟩ => absurd (e ▸ h) (Rat.not_le.2 hlt)⟩
  · next h => exact ⟨fun e => by cases e; exact ⟨rfl, Rat.not_le.1 h⟩, fun ⟨e, _⟩ => by rw [e]⟩

theorem fexpC_ge (p : Nat) (emin : Int) (q : Rat) :
    emin ≤ fexpC p emin q ∧ fexp1 p q ≤ fexpC p emin q ∧ (fexpC p emin q = emin ∨ fexpC p emin q = fexp1 p q) := by
  unfold fexpC; split <;> omega

theorem fexpC_mono (p : Nat) (hp : 1 ≤ p) (emin : Int) (a b : Rat) (ha : 0 < a) (hab : a ≤ b) :
    fexpC p emin a ≤ fexpC p emin b := by
  have := fexp1_mono p hp a b ha hab
  unfold fexpC
  split <;> split <;> omega

theorem div_fexpC_lt (p : Nat) (hp : 1 ≤ p) (emin : Int) (q : Rat) (hq : 0 < q) :
    q / pow2 (fexpC p emin q) < pow2 (p : Int) := by
  have := (fexpC_ge p emin q).2.1
  rw [div_pow2_lt_iff, ← pow2_add]
  exact Std.lt_of_lt_of_le (fexp1_bracket p hp q hq).2 (pow2_le (by omega))

theorem signif_le (p : Nat) (hp : 1 ≤ p) (emin : Int) (q : Rat) (hq : 0 < q) :
    roundHalfEven (q / pow2 (fexpC p emin q)) ≤ ((2 ^ p : Nat) : Int) :=
  roundHalfEven_le _ _ (pow2_natCast_int p ▸ div_fexpC_lt p hp emin q hq)

theorem le_signif (p : Nat) (hp : 1 ≤ p) (emin : Int) (q : Rat) (hq : 0 < q) (h : fexpC p emin q = fexp1 p q) :
    ((2 ^ (p - 1) : Nat) : Int) ≤ roundHalfEven (q / pow2 (fexpC p emin q)) :=
  roundHalfEven_ge _ _ (by rw [h, ← pow2_pred_int p hp]; exact (fexp1_spec p hp q hq).1)

theorem signif_nonneg (p : Nat) (emin : Int) (q : Rat) (hq : 0 < q) :
    0 ≤ roundHalfEven (q / pow2 (fexpC p emin q)) :=
  roundHalfEven_ge _ 0 (le_div_pow2_iff.2 (by grind))

/-- `r = m · 2^e` is a positive value of the format: `0 < m < 2^p`, `emin ≤ e`, normalised (`2^(p-1) ≤ m`) unless
    `e = emin` (subnormal), below the overflow threshold -/
structure IsFloatRep (p : Nat) (emin emax : Int) (r : Rat) (m e : Int) : Prop where
  eq : r = (m : Rat) * pow2 e
  he : emin ≤ e
  mpos : 0 < m
  mlt : (m : Rat) < pow2 (p : Int)
  norm : pow2 ((p : Int) - 1) ≤ (m : Rat) ∨ e = emin
  lt : r < pow2 emax

theorem roundPos_of_int_mul (p : Nat) (hp : 1 ≤ p) (emin : Int) (k e : Int) (hk : 0 < k)
    (hk2 : (k : Rat) < pow2 (p : Int)) (he : emin ≤ e) : roundPos p emin ((k : Rat) * pow2 e) = (k : Rat) * pow2 e := by
  have hq : 0 < (k : Rat) * pow2 e := Rat.mul_pos (Rat.intCast_pos.2 hk) (pow2_pos e)
  -- the exponent of the rounding is at most `e`, so the scaled argument is an integer
  have hF : fexp1 p ((k : Rat) * pow2 e) ≤ e := by
    have b2 := mul_pow2_lt hk2 e
    rw [← pow2_add] at b2
    have := pow2_lt_iff.1 (Std.lt_of_le_of_lt (fexp1_bracket p hp _ hq).1 b2)
    omega
  obtain ⟨g1, g2, g3⟩ := fexpC_ge p emin ((k : Rat) * pow2 e)
  unfold roundPos
  generalize fexpC p emin ((k : Rat) * pow2 e) = E at *
  obtain ⟨K, hK⟩ := OnGrid.of_le ⟨k, rfl⟩ (show E ≤ e by omega)
  rw [hK, Rat.mul_div_cancel (pow2_ne_zero E), roundHalfEven_intCast]

theorem roundFloat_of_rep (p : Nat) (hp : 1 ≤ p) (emin emax : Int) (r : Rat) (m e : Int)
    (h : IsFloatRep p emin emax r m e) : roundFloat p emin emax r = some r := by
  have hr : 0 < r := by rw [h.eq]; exact Rat.mul_pos (Rat.intCast_pos.2 h.mpos) (pow2_pos e)
  refine (roundFloat_some_iff p emin emax hr).2 ⟨?_, h.lt⟩
  rw [h.eq]
  exact roundPos_of_int_mul p hp emin m e h.mpos h.mlt h.he

theorem roundFloat_rep (p : Nat) (hp : 1 ≤ p) (emin emax : Int) (q r : Rat) (hq : 0 < q)
    (h : roundFloat p emin emax q = some r) : r = 0 ∨ ∃ m e, IsFloatRep p emin emax r m e := by
  obtain ⟨rfl, hlt⟩ := (roundFloat_some_iff p emin emax hq).1 h
  obtain ⟨g1, _, g3⟩ := fexpC_ge p emin q
  have hM1 := signif_le p hp emin q hq
  have hM0 := signif_nonneg p emin q hq
  have hn := g3.imp_right (le_signif p hp emin q hq)
  unfold roundPos at hlt ⊢
  generalize fexpC p emin q = E at *
  generalize roundHalfEven (q / pow2 E) = M at *
  have hP : ((2 ^ p : Nat) : Int) = 2 * ((2 ^ (p - 1) : Nat) : Int) := by
    obtain ⟨p', rfl⟩ : ∃ p', p = p' + 1 := ⟨p - 1, by omega⟩
    rw [Nat.pow_succ, Nat.add_sub_cancel, Int.natCast_mul, Int.mul_comm]
    rfl
  have hPpos : 0 < ((2 ^ (p - 1) : Nat) : Int) := Int.natCast_pos.2 (Nat.pow_pos (by decide))
  by_cases hz : M = 0
  · left; rw [hz]; simp
  right
  by_cases htop : M = ((2 ^ p : Nat) : Int)
  · -- the significand rounded up to 2^p: renormalise
    refine ⟨((2 ^ (p - 1) : Nat) : Int), E + 1, ⟨?_, by omega, hPpos, ?_, Or.inl ?_, hlt⟩⟩
    · rw [htop, hP, pow2_succ]; push_cast; grind
    · rw [pow2_natCast_int]; exact Rat.intCast_lt_intCast.2 (by omega)
    · rw [pow2_pred_int p hp]; exact Rat.le_refl
  · refine ⟨M, E, ⟨rfl, g1, by omega, ?_, hn.symm.imp (fun h => ?_) id, hlt⟩⟩
    · rw [pow2_natCast_int]; exact Rat.intCast_lt_intCast.2 (by omega)
    · rw [pow2_pred_int p hp]; exact Rat.intCast_le_intCast.2 h

theorem roundF64_zero : roundF64 0 = some 0 := rfl
