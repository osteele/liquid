import Liquid.TrimWriter
import Liquid.TrimGeneric
import Proofs.TrimLemmas
import Proofs.TwLemmas
/-!
# Bridge between the byte-level trim writer (`TW.step`) and the generic machine (`Gen.GTW.step`)

For writes that are UTF-8 encodings of scalar values, `TW.step` is the image of `Gen.GTW.step`
(alphabet `Rune`, whitespace predicate `isSpaceRune`) under `encodeRunes`.

Only the erasure law of C13 and the validity of the output (`runOps_valid`) go through this bridge. Second half: `twTotal t ops`, the bytes that reach the writer from state
`t` by the next flush (`runOps ops = twTotal {} ops`), for the laws that hold of ALL bytes, valid UTF-8 or not, and in EVERY
state: they are proved on the byte machine itself (`twTotal_pending` is its commit lemma). Among them the two adjacency laws:
`tw_run_trimRight_write` (operation lists, `Proofs/C13.lean`) and `twTotal_write_trimLeft` (operation lists, and the template
level: `FaceRel`, `Proofs/HyphenFace.lean`).
-/

abbrev ValidScalar (r : Rune) : Prop := isScalar r = true

theorem trimLeftSpace_encode (rs : List Rune) (h : ∀ r ∈ rs, ValidScalar r) :
    trimLeftSpace (encodeRunes rs) = encodeRunes (rs.dropWhile isSpaceRune) := by
  have := trimLeftSpace_encodeRunes_append rs h (t := []) isSpaceRune_runeError
  rwa [List.append_nil, List.append_nil] at this

theorem trimRightSpace_encode (rs : List Rune) (h : ∀ r ∈ rs, ValidScalar r) :
    trimRightSpace (encodeRunes rs) = encodeRunes (Gen.rstrip isSpaceRune rs) :=
  trimRightSpace_append_encodeRunes rs h (t := []) isSpaceRune_runeError

def encOp : Gen.GOp Rune → WOp
  | .write b => .write (encodeRunes b)
  | .trimLeft => .trimLeft
  | .trimRight => .trimRight
  | .flush => .flush

def decOp : WOp → Gen.GOp Rune
  | .write b => .write (decodeRunes b)
  | .trimLeft => .trimLeft
  | .trimRight => .trimRight
  | .flush => .flush

def encTW (t : Gen.GTW Rune) : TW := { buf := encodeRunes t.buf, trim := t.trim }

def ScalarOp : Gen.GOp Rune → Prop
  | .write b => ∀ r ∈ b, ValidScalar r
  | _ => True

def ValidOps (ops : List WOp) : Prop := ∀ b, WOp.write b ∈ ops → ValidUtf8 b

theorem step_enc (t : Gen.GTW Rune) (ht : ∀ r ∈ t.buf, ValidScalar r) (op : Gen.GOp Rune) (hop : ScalarOp op) :
    TW.step (encTW t) (encOp op) =
        (encTW (t.step isSpaceRune op).1, (t.step isSpaceRune op).2.map encodeRunes) ∧
      ∀ r ∈ (t.step isSpaceRune op).1.buf, ValidScalar r := by
  cases t with | mk buf trim =>
  cases op with
  | write b =>
    cases trim
    · refine ⟨?_, hop⟩
      simp only [TW.step, Gen.GTW.step, encTW, encOp, Bool.false_eq_true, if_false, encodeRunes_isEmpty]
      cases buf <;> rfl
    · refine ⟨?_, fun r hr => hop r ((List.dropWhile_sublist _).subset hr)⟩
      simp only [TW.step, Gen.GTW.step, encTW, encOp, if_true, encodeRunes_isEmpty]
      rw [trimLeftSpace_encode b hop]
      cases buf <;> rfl
  | trimLeft =>
    refine ⟨?_, by simp [Gen.GTW.step]⟩
    simp only [TW.step, Gen.GTW.step, encTW, encOp, List.map_cons, List.map_nil]
    rw [trimRightSpace_encode buf ht]; rfl
  | trimRight => exact ⟨rfl, ht⟩
  | flush =>
    refine ⟨?_, by simp [Gen.GTW.step]⟩
    simp only [TW.step, Gen.GTW.step, encTW, encOp, encodeRunes_isEmpty]
    cases buf <;> rfl

theorem run_enc (ops : List (Gen.GOp Rune)) : ∀ (t : Gen.GTW Rune), (∀ r ∈ t.buf, ValidScalar r) →
    (∀ op ∈ ops, ScalarOp op) →
    TW.run (encTW t) (ops.map encOp) =
      (encTW (Gen.GTW.run isSpaceRune t ops).1, (Gen.GTW.run isSpaceRune t ops).2.map encodeRunes) := by
  induction ops with
  | nil => intro t _ _; rfl
  | cons op ops ih =>
    intro t ht hops
    obtain ⟨e, ht'⟩ := step_enc t ht op (hops op (by simp))
    simp only [List.map_cons, TW.run, Gen.GTW.run, e]
    rw [ih _ ht' (fun o ho => hops o (by simp [ho]))]
    simp

theorem writeCalls_enc (ops : List (Gen.GOp Rune)) (h : ∀ op ∈ ops, ScalarOp op) :
    writeCalls (ops.map encOp) = (Gen.GTW.run isSpaceRune {} (ops ++ [.flush])).2.map encodeRunes := by
  have e : ops.map encOp ++ [WOp.flush] = (ops ++ [Gen.GOp.flush]).map encOp := by simp [encOp]
  unfold writeCalls
  rw [e]
  exact congrArg Prod.snd
    (run_enc (ops ++ [.flush]) {} (by simp) (by simpa [or_imp, forall_and, ScalarOp] using h))

/-- **the bridge**: hence the byte machine outputs the encoding of what the generic machine outputs -/
theorem runOps_enc (ops : List (Gen.GOp Rune)) (h : ∀ op ∈ ops, ScalarOp op) :
    runOps (ops.map encOp) = encodeRunes (Gen.out isSpaceRune ops) := by
  show (writeCalls (ops.map encOp)).flatten = _
  rw [writeCalls_enc ops h, ← encodeRunes_flatten]
  rfl

theorem eraseTrims_map_encOp (ops : List (Gen.GOp Rune)) :
    eraseTrims (ops.map encOp) = (Gen.eraseTrims ops).map encOp := by
  induction ops with
  | nil => rfl
  | cons op ops ih =>
    cases op <;> simp_all [eraseTrims, Gen.eraseTrims, encOp]

theorem scalarOp_decOp : ∀ op : WOp, ScalarOp (decOp op)
  | .write b => decodeRunes_all_scalar b
  | .trimLeft | .trimRight | .flush => trivial

theorem validOps_lift (ops : List WOp) (h : ValidOps ops) :
    ∃ g : List (Gen.GOp Rune), g.map encOp = ops ∧ ∀ op ∈ g, ScalarOp op := by
  refine ⟨ops.map decOp, ?_, by simp [scalarOp_decOp]⟩
  rw [List.map_map]
  refine (List.map_congr_left fun op hop => ?_).trans (List.map_id ops)
  cases op with
  | write b => exact congrArg WOp.write (encodeRunes_decodeRunes_of_valid b (h b hop))
  | _ => rfl

def wopWrites : List WOp → Bytes
  | [] => []
  | .write b :: ops => b ++ wopWrites ops
  | _ :: ops => wopWrites ops

theorem tw_run_append (t : TW) (xs ys : List WOp) :
    TW.run t (xs ++ ys) =
      ((TW.run (TW.run t xs).1 ys).1, (TW.run t xs).2 ++ (TW.run (TW.run t xs).1 ys).2) := by
  induction xs generalizing t with
  | nil => simp [TW.run]
  | cons op xs ih =>
    simp only [List.cons_append, TW.run]
    rw [ih]
    simp [List.append_assoc]

/-- the bytes written by `ops` from state `t`, followed by the text still pending: what reaches the writer by the
    next flush -/
def twTotal (t : TW) (ops : List WOp) : Bytes := (TW.run t ops).2.flatten ++ (TW.run t ops).1.buf

theorem twTotal_nil (t : TW) : twTotal t [] = t.buf := by simp [twTotal, TW.run]

theorem twTotal_cons (t : TW) (op : WOp) (ops : List WOp) :
    twTotal t (op :: ops) = (t.step op).2.flatten ++ twTotal (t.step op).1 ops := by
  simp [twTotal, TW.run, List.append_assoc]

theorem twTotal_append (t : TW) (xs ys : List WOp) :
    twTotal t (xs ++ ys) = (TW.run t xs).2.flatten ++ twTotal (TW.run t xs).1 ys := by
  simp only [twTotal, tw_run_append, List.flatten_append, List.append_assoc]

theorem twTotal_flush (t : TW) (ops : List WOp) : (TW.run t (ops ++ [.flush])).2.flatten = twTotal t ops := by
  rw [tw_run_append]
  simp only [twTotal, TW.run, TW.step, List.append_nil, List.flatten_append, Gen.flatten_flushCalls]

theorem runOps_eq_twTotal (ops : List WOp) : runOps ops = twTotal {} ops := twTotal_flush {} ops

theorem runOps_append (pre rest : List WOp) :
    runOps (pre ++ rest) = (TW.run {} pre).2.flatten ++ twTotal (TW.run {} pre).1 rest := by
  rw [runOps_eq_twTotal, twTotal_append]

theorem tw_run_flush_state (t : TW) (ops : List WOp) :
    (TW.run t (ops ++ [.flush])).1 = { buf := [], trim := (TW.run t ops).1.trim } := by
  rw [tw_run_append]
  simp [TW.run, TW.step]

/-- text pending before a sequence of operations goes out in front of what the sequence produces
    from an empty buffer — provided a trim-left cannot bite into it (it has no trailing white
    space). The trim flag may be anything. -/
theorem twTotal_pending (ops : List WOp) : ∀ (B : Bytes) (t : Bool), trimRightSpace B = B →
    twTotal { buf := B, trim := t } ops = B ++ twTotal { buf := [], trim := t } ops ∧
    (TW.run { buf := B, trim := t } ops).1.trim = (TW.run { buf := [], trim := t } ops).1.trim := by
  induction ops with
  | nil => intro B t _; simp [twTotal, TW.run]
  | cons op ops ih =>
    intro B t hB
    cases op with
    | write b | flush =>
      simp only [twTotal_cons, TW.run, TW.step, Gen.flatten_flushCalls, List.isEmpty_nil, if_true, List.flatten_nil,
        List.nil_append]
      exact ⟨trivial, trivial⟩
    | trimLeft =>
      have h0 : trimRightSpace ([] : Bytes) = [] := rfl
      simp only [twTotal_cons, TW.run, TW.step, hB, h0, List.flatten_cons, List.flatten_nil, List.append_nil,
        List.nil_append]
      exact ⟨trivial, trivial⟩
    | trimRight =>
      simp only [twTotal_cons, TW.run, TW.step, List.flatten_nil, List.nil_append]
      exact ih B true hB

theorem twTotal_eraseTrims (ops : List WOp) : ∀ (buf : Bytes),
    twTotal { buf := buf, trim := false } (eraseTrims ops) = buf ++ wopWrites ops := by
  unfold eraseTrims
  induction ops with
  | nil => intro buf; simp [twTotal_nil, wopWrites]
  | cons op ops ih =>
    intro buf
    cases op <;> simp only [List.filter_cons, twTotal_cons, TW.step, Gen.flatten_flushCalls, ih, wopWrites, List.nil_append,
      Bool.false_eq_true, if_false, if_true]

/-- the trims only delete, whatever the bytes are: what reaches the writer is a subsequence of the text pending and the texts
    written (`trimLeftSpace b` is a suffix of `b`, `trimRightSpace b` a prefix) -/
theorem twTotal_sublist (ops : List WOp) : ∀ t : TW, (twTotal t ops).Sublist (t.buf ++ wopWrites ops) := by
  induction ops with
  | nil => intro t; simp [twTotal_nil, wopWrites]
  | cons op ops ih =>
    intro t
    cases op with
    | write b =>
      simp only [twTotal_cons, TW.step, Gen.flatten_flushCalls, wopWrites]
      refine (List.Sublist.refl _).append ((ih _).trans (List.Sublist.append ?_ (List.Sublist.refl _)))
      cases t.trim
      · exact List.Sublist.refl _
      · exact (trimLeftSpace_suffix b).sublist
    | trimLeft =>
      simp only [twTotal_cons, TW.step, List.flatten_cons, List.flatten_nil, List.append_nil, wopWrites]
      exact (trimRightSpace_prefix t.buf).sublist.append (by simpa using ih { t with buf := [] })
    | trimRight =>
      simp only [twTotal_cons, TW.step, List.flatten_nil, List.nil_append, wopWrites]
      exact ih { t with trim := true }
    | flush =>
      simp only [twTotal_cons, TW.step, Gen.flatten_flushCalls, wopWrites]
      exact (List.Sublist.refl _).append (by simpa using ih { t with buf := [] })

/-- **right side, every state, every byte string**: a `TrimRight` directly before a write acts as the write of the
    left-stripped text (a write always consumes the flag, and stripping twice is stripping once) -/
theorem tw_run_trimRight_write (t : TW) (u : Bytes) (post : List WOp) :
    TW.run t (.trimRight :: .write u :: post) = TW.run t (.write (trimLeftSpace u) :: post) := by
  cases h : t.trim <;> simp [TW.run, TW.step, h, trimLeftSpace_idem]

/-- **left side, every state, every byte string**: a `TrimLeft` directly after a write acts as the write of the
    right-stripped text, as far as the bytes that reach the writer by the next flush and the flag go (the stripped
    text stays pending instead of being written at once, and no later `TrimLeft` can bite into it). When a `TrimRight`
    is pending the text is stripped on the left first: that the two strips commute (`trimComm_all`) is used there. -/
theorem twTotal_write_trimLeft (t : TW) (u : Bytes) (post : List WOp) :
    twTotal t (.write u :: .trimLeft :: post) = twTotal t (.write (trimRightSpace u) :: post) ∧
    (TW.run t (.write u :: .trimLeft :: post)).1.trim = (TW.run t (.write (trimRightSpace u) :: post)).1.trim := by
  have hc : (if t.trim then trimLeftSpace (trimRightSpace u) else trimRightSpace u) =
      trimRightSpace (if t.trim then trimLeftSpace u else u) := by
    cases t.trim
    · simp
    · simp only [if_true]; exact (trimComm_all u).symm
  have hp := twTotal_pending post _ false (trimRightSpace_idem (if t.trim then trimLeftSpace u else u))
  simp only [twTotal_cons, TW.run, TW.step, Gen.flatten_flushCalls, List.flatten_cons, List.flatten_nil, List.append_nil, hc,
    hp.1, hp.2, and_self]

theorem tw_step_calls_le_one (t : TW) (op : WOp) : (t.step op).2.length ≤ 1 := by
  cases op <;> simp only [TW.step] <;> repeat' split
  all_goals simp

theorem tw_run_calls_le (ops : List WOp) : ∀ t : TW, (TW.run t ops).2.length ≤ ops.length := by
  induction ops with
  | nil => intro t; simp [TW.run]
  | cons op ops ih =>
    intro t
    simp only [TW.run, List.length_append, List.length_cons]
    have := tw_step_calls_le_one t op
    have := ih (t.step op).1
    omega

/-- delete every `unicode.IsSpace` rune (Go: `strings.Map` with a negative result for spaces;
    an invalid byte decodes to U+FFFD and is written back as `EF BF BD`, as `strings.Map` does) -/
def stripSpaceBytes (s : Bytes) : Bytes :=
  encodeRunes ((decodeRunes s).filter fun r => !isSpaceRune r)

def hasInkBytes (s : Bytes) : Bool := Gen.hasInk isSpaceRune (decodeRunes s)

theorem out_scalar (ops : List (Gen.GOp Rune)) (h : ∀ op ∈ ops, ScalarOp op) :
    ∀ r ∈ Gen.out isSpaceRune ops, ValidScalar r := fun r hr =>
  -- what comes out was written
  let ⟨b, hb, hrb⟩ := Gen.mem_writes.1 (((Gen.out_wsDeletion isSpaceRune ops).sublist isSpaceRune).subset hr)
  h (.write b) hb r hrb

theorem scalar_eraseTrims (ops : List (Gen.GOp Rune)) (h : ∀ op ∈ ops, ScalarOp op) :
    ∀ op ∈ Gen.eraseTrims ops, ScalarOp op := fun op hop =>
  h op (List.mem_filter.1 hop).1

theorem validOps_append {xs ys : List WOp} : ValidOps (xs ++ ys) ↔ ValidOps xs ∧ ValidOps ys := by
  simp only [ValidOps, List.mem_append, or_imp, forall_and]

theorem validOps_cons_write {u : Bytes} {ys : List WOp} :
    ValidOps (.write u :: ys) ↔ ValidUtf8 u ∧ ValidOps ys := by
  simp only [ValidOps, List.mem_cons, WOp.write.injEq, or_imp, forall_and, forall_eq]

theorem runOps_valid (ops : List WOp) (h : ValidOps ops) : ValidUtf8 (runOps ops) := by
  obtain ⟨g, rfl, hs⟩ := validOps_lift ops h
  rw [runOps_enc g hs]
  exact ⟨_, out_scalar g hs, rfl⟩

theorem decodeRunes_runOps (g : List (Gen.GOp Rune)) (hs : ∀ op ∈ g, ScalarOp op) :
    decodeRunes (runOps (g.map encOp)) = Gen.out isSpaceRune g := by
  rw [runOps_enc g hs, decodeRunes_encodeRunes _ (out_scalar g hs)]

def twFlagAfter (ops : List WOp) : Bool := (TW.run {} ops).1.trim

theorem flagAfter_enc (g : List (Gen.GOp Rune)) (hs : ∀ op ∈ g, ScalarOp op) :
    twFlagAfter (g.map encOp) = Gen.flagAfter isSpaceRune g :=
  congrArg (fun r => r.1.trim) (run_enc g {} (by simp) hs)
