import Proofs.HeapCall
/-!
# C15 / C03 — the array filters do not write into the caller's backing arrays

The clause "… and leave the array they were applied to unchanged" (C15), "neither the top-level map nor
any slice … reachable from it" (C03) is about WRITES through Go slices, which the value model of
`Filters/Arr.lean` cannot express. `Liquid/Heap.lean` models Go's slice memory (`Store`, `SliceRef`,
`index setIndex reslice make append copy`, every run with the LOG of the locations written) and, line by
line from the Go source, what `values.Convert(·, []any)` and every array filter do on it. Tied to the code by
the `alias` stream (`harness/stream_alias.go`): real `[]any` receivers that are sub-slices of larger backing
arrays filled with a sentinel; result, whether the result lies in the receiver's backing array, and which
locations of the caller's arrays changed must agree with the model on every case.

Vocabulary. `run p st = .ok o`: program `p` started in store `st` ends with value `o.val`, store `o.st`, and
wrote exactly the locations `o.log` (`heap_log_complete`). `st.length` is the number of backing arrays that
exist when a call starts: an array index `≥ st.length` was ALLOCATED BY THE CALL. `view st s`: the elements
of slice `s` as `st` holds them. `HVal.abs st v`: the pure value (`GoVal`) that `v` — a slice header or an
immutable value — stands for. `Refines r p Q`: the run `r` answers as the pure computation `p` (same error /
panic / unmodelled), and when `p = ok b` the run succeeds with a value and store related to `b` by `Q`.
-/

open Heap

/-- **The write log is complete**, for every program over the memory: nothing is freed, and a location
that is not in the log holds afterwards what it held before. (So "the log has no entry below `st.length`"
means "no array of `st` changed".) -/
theorem heap_log_complete {α : Type} (p : Heap.Prog α) (st : Store) (o : Out α) (h : Heap.run p st = .ok o) :
    st.length ≤ o.st.length ∧ ∀ a i, a < st.length → (a, i) ∉ o.log → readAt o.st a i = readAt st a i := by
  obtain ⟨hlen, hrows⟩ := run_frame p st o h
  refine ⟨hlen, ?_⟩
  intro a i ha hlog
  obtain ⟨row', h1, _, h3⟩ := hrows a _ (List.getElem?_eq_getElem ha)
  simp only [readAt, h1, List.getElem?_eq_getElem ha]
  exact h3 i hlog

/-- a program that, whatever store it starts in, writes only into arrays it allocated itself: every logged
location is at or above `st.length`, hence every array of `st` — the elements of the caller's slices AND the
spare capacity behind them — is unchanged, i.e. the initial store is a prefix of the final one -/
def WritesOnlyFresh {α : Type} (p : Heap.Prog α) : Prop :=
  ∀ st o, Heap.run p st = .ok o →
    (∀ l ∈ o.log, st.length ≤ l.1) ∧ (∀ a, a < st.length → o.st[a]? = st[a]?) ∧ st <+: o.st

theorem prefix_of_kept {st st' : Store} (h : ∀ a, a < st.length → st'[a]? = st[a]?) :
    st <+: st' := by
  rw [List.prefix_iff_eq_take]
  apply List.ext_getElem?
  intro i
  rw [List.getElem?_take]
  by_cases hi : i < st.length
  · rw [if_pos hi, h i hi]
  · rw [if_neg hi, List.getElem?_eq_none (by omega)]

theorem writesOnlyFresh_of_above {α : Type} {p : Heap.Prog α} {Q : Nat → α → Prop} (h : ∀ N, Above N p (Q N)) : WritesOnlyFresh p := by
  intro st o hr
  obtain ⟨hk, hl, _⟩ := (h st.length).keeps (Nat.le_refl _) hr
  exact ⟨hl, hk.1, prefix_of_kept hk.1⟩

/-! ## (a) no filter writes into its input -/

/-- **C15/C03, one filter application.** `x | f: args` — argument conversion (`values.Convert`, which passes a
`[]any` through UNCOPIED) followed by the filter body — for each of compact concat join map reverse sort
sort_natural first last uniq size default, every receiver and arguments, every store: all writes go to arrays
the call allocated; the caller's backing arrays, spare capacity included, are unchanged. No hypothesis: it
holds for ill-formed headers too (a run that would leave its array ends in `panic`, not in a write). -/
theorem array_filters_do_not_write_inputs (strict : Bool) (f : FName) (recv : HVal) (args : List HVal) :
    WritesOnlyFresh (stageF strict f recv args) :=
  writesOnlyFresh_of_above fun N => stageF_result N strict f recv args

/-- the conversion step alone (it allocates, or hands the caller's own slice on) -/
theorem convert_does_not_write_inputs (v : HVal) : WritesOnlyFresh (convertAnys v) :=
  writesOnlyFresh_of_above fun N => convertAnys_above N v

/-- each filter body alone, on ANY slices `a`, `b` — in particular on the caller's own (`Convert` passes them
through): `append` only ever extends `result`, which starts nil or from `make`; `reverse` and the sorts write
only into the slice `make` returned -/
theorem filter_bodies_do_not_write_inputs (a b : Slice) (k sep : Bytes) (key : GoVal) (strict natural : Bool) :
    WritesOnlyFresh (compactH a) ∧ WritesOnlyFresh (concatH a b) ∧ WritesOnlyFresh (reverseH a) ∧
    WritesOnlyFresh (uniqH a) ∧ WritesOnlyFresh (mapH a k) ∧ WritesOnlyFresh (joinH a sep) ∧
    WritesOnlyFresh (firstH a) ∧ WritesOnlyFresh (lastH a) ∧ WritesOnlyFresh (sortH strict natural a key) :=
  ⟨writesOnlyFresh_of_above fun N => compactH_above N a, writesOnlyFresh_of_above fun N => concatH_above N a b,
   writesOnlyFresh_of_above fun N => reverseH_above N a, writesOnlyFresh_of_above fun N => uniqH_above N a,
   writesOnlyFresh_of_above fun N => mapH_above N a k, writesOnlyFresh_of_above fun N => joinH_above N a sep,
   writesOnlyFresh_of_above fun N => firstH_above N a, writesOnlyFresh_of_above fun N => lastH_above N a,
   writesOnlyFresh_of_above fun N => sortH_above N strict natural a key⟩

/-- **Pipelines.** For any chain `x | f1: a1 | f2: a2 | …` of these filters — where a later filter may receive
the caller's own slice from an earlier one (`default` returns its input uncopied; `first`/`last` return an
element that may itself be a slice of the caller) — no location of the initial store is written. Induction
over the chain. -/
theorem pipeline_no_write (strict : Bool) (chain : List (FName × List HVal)) (v : HVal) :
    WritesOnlyFresh (runChainF strict v chain) :=
  writesOnlyFresh_of_above fun N => runChainF_above N strict chain v

/-- the same for the pipeline the `alias` driver op runs (filters by name) -/
theorem pipeline_no_write_by_name (strict : Bool) (chain : List (Bytes × List HVal)) (v : HVal) :
    WritesOnlyFresh (runChain strict v chain) :=
  writesOnlyFresh_of_above fun N => runChain_above N strict chain v

/-! ### the statements are not vacuous: the model CAN write into a caller's array -/

/-- the caller's memory of the examples: `x = backing0[0:3]` with two spare elements, `a0 = backing1[0:1]` -/
def exampleStore : Store :=
  [[.int .int 3, .nil, .int .int 1, sentinel, sentinel], [.int .int 9, sentinel, sentinel]]
def exampleRecv : SliceRef := ⟨0, 0, 3, 5⟩
def exampleArg : SliceRef := ⟨1, 0, 1, 3⟩

/-- `append(a, b...)` — what a `concat` written without `make` would do — writes the caller's array 0 at
index 3, its first spare element: the hazard is expressible, and the log shows it -/
example : (match Heap.run ((elems (some exampleArg)).bind fun ys => append (some exampleRecv) ys) exampleStore with
    | .ok o => o.log
    | _ => []) = [(0, 3)] := by decide +kernel

/-- the modelled `concat` on the same memory: four writes, all into the new array 2 -/
example : (match Heap.run (stageF true .concat (.sl .any (some exampleRecv)) [.sl .any (some exampleArg)]) exampleStore with
    | .ok o => (o.log, o.st.length, (o.val.abs o.st).enc)
    | _ => ([], 0, "")) = ([(2, 0), (2, 1), (2, 2), (2, 3)], 3, "La[i0:3;ni0:1;i0:9;]") := by decide +kernel

/-- `sort` on `x[0:1]` of the same memory: only the copy (array 2) is written — once by `copy`, once by the sort -/
example : (match Heap.run (stageF true .sort (.sl .any (some ⟨0, 0, 1, 5⟩)) []) exampleStore with
    | .ok o => (o.log, (o.val.abs o.st).enc)
    | _ => ([], "")) = ([(2, 0), (2, 0)], "La[i0:3;]") := by decide +kernel

/-- the hypotheses of the refinement theorems hold for the example -/
example : Slice.wf exampleStore (some exampleRecv) ∧ Slice.wf exampleStore (some exampleArg) :=
  ⟨⟨by decide, _, rfl, by decide⟩, ⟨by decide, _, rfl, by decide⟩⟩

/-! ## (b) what the filters return, read through the final store, is the pure model's result -/

namespace Heap

/-! The post-conditions of the statements below: what the result is in the final store `st'`, and that every array of the
starting store `st` is as it was. The triples of `Proofs/HeapFilters.lean`, `Proofs/HeapStage.lean` say the same with `Owned`,
`Rd`, `Stands` and `Kept`. -/

def Result (st : Store) (v : Slice) (st' : Store) (ys : List GoVal) : Prop :=
  view st' v = ys ∧ Slice.wf st' v ∧ Fresh st.length v ∧ (∀ b, b < st.length → st'[b]? = st[b]?) ∧ st.length ≤ st'.length

theorem Tri.result {st : Store} {p : Prog Slice} {x : Res Cause (List GoVal)} (h : Tri st.length st p x (Owned st.length)) :
    Refines (run p st) x (Result st) :=
  (h (Nat.le_refl _)).post fun _ _ _ ⟨k, o⟩ => ⟨o.reads, o.wf, o.fresh, k.1, k.2⟩

def ValResult (st : Store) (v : GoVal) (st' : Store) (w : GoVal) : Prop :=
  v = w ∧ (∀ b, b < st.length → st'[b]? = st[b]?) ∧ st.length ≤ st'.length

/-- what a conversion leaves: a well-formed slice that reads `ys` — possibly the argument's own slice —
and every array of `st` as it was -/
def ConvResult (st : Store) (v : Slice) (st' : Store) (ys : List GoVal) : Prop :=
  view st' v = ys ∧ Slice.wf st' v ∧ (∀ b, b < st.length → st'[b]? = st[b]?) ∧ st.length ≤ st'.length

def StageResult (st : Store) (v : HVal) (st' : Store) (w : GoVal) : Prop :=
  v.abs st' = w ∧ HVal.wf st' v ∧ (∀ b, b < st.length → st'[b]? = st[b]?) ∧ st.length ≤ st'.length

/-- a triple of a whole call in the terms of the property statements -/
theorem Tri.stage {st : Store} {p : Prog HVal} {x : Res Cause GoVal} (h : Tri st.length st p x Stands) :
    Refines (run p st) x (StageResult st) :=
  (h (Nat.le_refl _)).post fun _ _ _ ⟨k, s⟩ => ⟨s.abs, s.wf, k.1, k.2⟩

end Heap

/-- **Refinement, one filter application**: on well-formed slices the memory-level run of `x | f: args`
answers exactly as the pure model's `evalFilter` (standard registry, bodies of `Filters/Arr.lean`) on the
values the slices hold — the same error, `unmodelled` or panic, and on success a well-formed result that
READS, in the final store, as the pure result; every array of `st` is as it was. All twelve filters, every
receiver (`[]any`, typed slice, any value) and argument. Hence every theorem of `Proofs/C15.lean` about the
bodies and about `applyFilter` (`sort_perm`, `sort_sorted`, `uniq_spec`, `compact_spec`, `unary_filters`, …)
is a statement about what the memory-level filters return. -/
theorem heap_refines_pure (f : FName) {st : Store} {recv : HVal} {args : List HVal}
    (hr : HVal.wf st recv) (ha : ∀ h ∈ args, HVal.wf st h) :
    Refines (Heap.run (stageF true f recv args) st)
      (evalFilter (lookupImpl stdFilterImpls) f.name (recv.abs st) (args.map (·.abs st))) (StageResult st) := by
  rw [← stageP_eq_evalFilter]
  exact (stageF_tri true f hr ha).stage

/-- **Refinement, pipelines**: a chain on the memory answers as the chain of `evalFilter`s on values -/
theorem heap_pipeline_refines_pure (chain : List (FName × List HVal)) {st : Store} {v : HVal}
    (hv : HVal.wf st v) (ha : ∀ p ∈ chain, ∀ h ∈ p.2, HVal.wf st h) :
    Refines (Heap.run (runChainF true v chain) st) (evalChain (v.abs st) (absChain st chain)) (StageResult st) := by
  rw [← chainP_eq_evalChain]
  exact (runChainF_tri true chain st v (Kept.refl _ _) hv ha).stage

/-- **Refinement, the bodies**: each body on a well-formed slice returns a slice that reads as the body of
`Filters/Arr.lean` applied to the elements (`Result st`: …, is well-formed, lies in an array the run allocated
or is nil, and no array of `st` was touched); `first`/`last` return the element. -/
theorem heap_bodies_refine_pure {st : Store} {a b : Slice} (ha : Slice.wf st a) (hb : Slice.wf st b) (k sep : Bytes)
    (key : GoVal) (strict natural : Bool) :
    Refines (Heap.run (compactH a) st) (.ok (ArrF.compactF (view st a))) (Result st) ∧
    Refines (Heap.run (concatH a b) st) (.ok (ArrF.concatF (view st a) (view st b))) (Result st) ∧
    Refines (Heap.run (reverseH a) st) (.ok (ArrF.reverseF (view st a))) (Result st) ∧
    Refines (Heap.run (uniqH a) st) (uniqP (view st a)) (Result st) ∧
    Refines (Heap.run (mapH a k) st) (ArrF.mapF k (view st a)) (Result st) ∧
    Refines (Heap.run (joinH a sep) st) (ArrF.joinF (view st a) sep) (ValResult st) ∧
    Heap.run (firstH a) st = .ok ⟨ArrF.firstF (view st a), st, []⟩ ∧
    Heap.run (lastH a) st = .ok ⟨ArrF.lastF (view st a), st, []⟩ ∧
    Refines (Heap.run (sortH strict natural a key) st) (sortedList strict natural (view st a) key) (Result st) :=
  have ha : Rd a st (view st a) := ⟨ha, rfl⟩
  ⟨(compactH_tri ha).result, (concatH_tri ha ⟨hb, rfl⟩).result, (reverseH_tri ha).result, (uniqH_tri ha).result,
   (mapH_tri ha k).result, (joinH_tri ha sep (Nat.le_refl _)).post fun _ _ _ ⟨k, e⟩ => ⟨e, k⟩, firstH_run ha, lastH_run ha,
   (sortH_tri ha strict natural key).result⟩

/-- the conversion: the slice it returns reads as `Convert.convert · .anys` of the value -/
theorem heap_convert_refines_pure {st : Store} {v : HVal} (hw : HVal.wf st v) :
    Refines (Heap.run (convertAnys v) st) (convAnysP (v.abs st)) (ConvResult st) :=
  (convertAnys_tri hw (Nat.le_refl _)).post fun _ _ _ ⟨k, r⟩ => ⟨r.reads, r.wf, k⟩

/-- `sort` / `sort_natural` in particular: whenever the memory-level filter returns, what it returns is a
permutation of the receiver's elements (on every array, whatever `Less` does on it), and the receiver still
reads as before -/
theorem heap_sort_permutation {st : Store} {a : Slice} (hw : Slice.wf st a) (strict natural : Bool) (key : GoVal)
    (o : Out Slice) (h : Heap.run (sortH strict natural a key) st = .ok o) :
    (view o.st o.val).Perm (view st a) ∧ view o.st a = view st a := by
  have hr := (sortH_tri ⟨hw, rfl⟩ strict natural key).result
  cases hs : sortedList strict natural (view st a) key with
  | ok ys =>
    rw [hs] at hr
    obtain ⟨o', e', q1, _, _, qk⟩ := hr
    rw [h] at e'
    cases e'
    exact ⟨by rw [q1]; exact sortedList_perm hs, (Kept.slice qk hw).2⟩
  | _ => rw [hs] at hr; simp only [Refines] at hr; rw [h] at hr; cases hr

/-! ## (c) which results share memory with their input -/

namespace Heap

def FName.returnsArray : FName → Bool
  | .compact | .concat | .map | .reverse | .sort | .sortNatural | .uniq => true
  | _ => false

end Heap

/-- **THE alias**: `Convert` hands a `[]any` without drops to the filter body AS IS — the same backing array,
offset, length and capacity, nothing allocated, nothing written. Whatever the body then writes through it, it
writes into the caller's array (`filter_bodies_do_not_write_inputs`: the bodies write nothing through it). -/
theorem convert_passes_generic_slice_through {st : Store} {s : Slice} (hw : Slice.wf st s)
    (hd : (view st s).any isDropTok = false) : Heap.run (convertAnys (.sl .any s)) st = .ok ⟨s, st, []⟩ := by
  simp only [convertAnys, convSlice]
  rw [run_load (run_elems hw), hd]
  rfl

/-- every other conversion ALLOCATES: a typed slice, a `[]any` holding a drop (converted element by element),
and every value that is not a slice (fixed array, range, `MapSlice`, map, `[]byte`; nil is the nil slice) give
a slice in an array the conversion allocated, or nil -/
theorem convert_allocates_otherwise {st : Store} :
    (∀ t s o, t ≠ .any → Heap.run (convertAnys (.sl t s)) st = .ok o → Fresh st.length o.val) ∧
    (∀ s o, Slice.wf st s → (view st s).any isDropTok = true → Heap.run (convertAnys (.sl .any s)) st = .ok o → Fresh st.length o.val) ∧
    (∀ v o, (∀ t xs, v.toLiquid ≠ .slice t xs) → Heap.run (convertAnys (.val v)) st = .ok o → Fresh st.length o.val) := by
  refine ⟨?_, ?_, ?_⟩
  · intro t s o ht h
    have : convertAnys (.sl t s) = convElemwise s := by
      cases t <;> first | exact absurd rfl ht | rfl
    rw [this] at h
    exact ((convElemwise_above st.length s) st o (Nat.le_refl _) h).2
  · intro s o hw hd h
    simp only [convertAnys, convSlice] at h
    rw [run_load (run_elems hw), hd] at h
    exact ((convElemwise_above st.length s) st o (Nat.le_refl _) h).2
  · intro v o hv h
    by_cases hn : v = .nil
    · subst hn
      simp only [convertAnys, Heap.run, Res.ok.injEq] at h
      subst h
      exact Fresh.none _
    · rw [convertAnys_val hn] at h
      split at h
      · rename_i t xs heq; exact absurd heq (hv t xs)
      · split at h
        · exact ((freshSlice_above st.length _) st o (Nat.le_refl _) h).2
        all_goals cases h

/-- **No array-returning filter returns an alias of anything that existed**: the result of compact, concat,
map, reverse, sort, sort_natural, uniq is the nil slice or a slice in an array allocated by the call
(`result.arr ≥ st.length`), for every receiver and argument — also `concat` with an empty argument, `compact`
without nils, `reverse`/`sort` of zero or one element, `uniq` without duplicates: none of them returns its
input when nothing is to be done. -/
theorem array_results_never_alias (strict : Bool) (f : FName) (hf : f.returnsArray = true) (recv : HVal)
    (args : List HVal) (st : Store) (o : Out HVal) (h : Heap.run (stageF strict f recv args) st = .ok o) :
    ∃ r, o.val = .sl .any r ∧ ∀ r', r = some r' → st.length ≤ r'.arr := by
  have hres := (stageF_result st.length strict f recv args st o (Nat.le_refl _) h).2
  cases f <;> first | exact hres | cases hf

/-- **`default` returns its receiver, or its argument, UNCOPIED** — a slice result is the caller's own slice
(same array, offset, length, capacity), no allocation, no write. The next filter of a pipeline then works on
the caller's array; `pipeline_no_write` shows that none of them writes into it. -/
theorem default_returns_its_input_uncopied (strict : Bool) (t t' : Ty) (s s' : Slice) (st : Store) :
    Heap.run (stageF strict .default (.sl t s) [.sl t' s']) st =
      .ok ⟨if lenS s == 0 then .sl t' s' else .sl t s, st, []⟩ := by
  unfold stageF
  rw [if_neg (by simp [FName.arity])]
  simp only [bodyF, HVal.via, List.map, List.head?, convAnyH, liftR, Heap.Prog.bind, Heap.run, defaultH]
  by_cases hc : (lenS s == 0) = true
  · rw [if_pos hc]; rfl
  · rw [if_neg hc]; rfl

/-- the other results are VALUES, not slices into the store: `first`, `last` return an element (which in Go
may itself be a slice or map of the caller — an element is passed on as it is, never copied: results are
shallow), `join` a string, `size` an integer -/
theorem scalar_results_are_values (strict : Bool) (f : FName) (hf : f = .first ∨ f = .last ∨ f = .join ∨ f = .size)
    (recv : HVal) (args : List HVal) (st : Store) (o : Out HVal) (h : Heap.run (stageF strict f recv args) st = .ok o) :
    ∃ w, o.val = .val w := by
  have hres := (stageF_result 0 strict f recv args st o (Nat.zero_le _) h).2
  rcases hf with rfl | rfl | rfl | rfl <;> exact hres
