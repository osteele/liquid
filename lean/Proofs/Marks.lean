import Proofs.C07Lines
import Proofs.SrcLines
import Proofs.C06
/-!
# Marks: the located constructs of a template

A mark is a line together with what stands there: a text, a construct that can fail (object, tag, block, clause test), or an
include tag with its argument text. The line functions of a compiled tree (`lines`, `elines`, `ilines`, `noIncl`) and of a parse
tree (`tokLines`, `etokLines`, `itokLines`, `noInc`) are read off its marks (`Node.proj`, `AST.proj`); the compiler keeps the marks
and fails at a mark that is not a text (`marks_compileNode` …), and the marks of a derived tree are marks of tokens
(`Derives.marks`). What is said of each line function separately (Proofs/SrcCompileLines.lean, SrcCompileLinesInc.lean,
IncLines.lean) follows.
-/

mutual
def AST.etokLines : AST → List Nat
  | .text _ => []
  | .obj t => [t.line]
  | .tag t => [t.line]
  | .trim _ => []
  | .raw _ => []
  | .block t body clauses => t.line :: (etokLinesList body ++ etokLinesClauses clauses)
def etokLinesList : List AST → List Nat
  | [] => []
  | n :: ns => n.etokLines ++ etokLinesList ns
def etokLinesClauses : List (Token × List AST) → List Nat
  | [] => []
  | (t, body) :: cs => t.line :: (etokLinesList body ++ etokLinesClauses cs)
end

mutual
/-- no tag named `include` -/
def AST.noInc : AST → Bool
  | .tag t => t.name != nmInclude
  | .block _ body clauses => noIncList body && noIncClauses clauses
  | _ => true
def noIncList : List AST → Bool
  | [] => true
  | n :: ns => n.noInc && noIncList ns
def noIncClauses : List (Token × List AST) → Bool
  | [] => true
  | (_, body) :: cs => noIncList body && noIncClauses cs
end

def elinesCClauses : List (Token × List Node) → List Nat
  | [] => []
  | (t, body) :: cs => t.line :: (elinesList body ++ elinesCClauses cs)

def noInclCClauses : List (Token × List Node) → Bool
  | [] => true
  | (_, body) :: cs => noInclList body && noInclCClauses cs

mutual
def AST.itokLines : AST → List (Nat × Bytes)
  | .tag t => if t.name == nmInclude then [(t.line, t.args)] else []
  | .block _ body clauses => itokLinesList body ++ itokLinesClauses clauses
  | _ => []
def itokLinesList : List AST → List (Nat × Bytes)
  | [] => []
  | n :: ns => n.itokLines ++ itokLinesList ns
def itokLinesClauses : List (Token × List AST) → List (Nat × Bytes)
  | [] => []
  | (_, body) :: cs => itokLinesList body ++ itokLinesClauses cs
end

def ilinesCClauses : List (Token × List Node) → List (Nat × Bytes)
  | [] => []
  | (_, body) :: cs => ilinesList body ++ ilinesCClauses cs

inductive MarkKind where
  | text | plain | incl (args : Bytes)
  deriving DecidableEq

structure Mark where
  line : Nat
  kind : MarkKind

def CondT.marks : CondT → List Mark
  | .expr line _ => [⟨line, .plain⟩]
  | .notExpr line _ => [⟨line, .plain⟩]
  | .always => []

mutual
def Node.marks : Node → List Mark
  | .text line _ => [⟨line, .text⟩]
  | .obj line _ => [⟨line, .plain⟩]
  | .raw _ => []
  | .trim _ => []
  | .assign line _ _ => [⟨line, .plain⟩]
  | .capture line _ body => ⟨line, .plain⟩ :: marksList body
  | .ifB line bs => ⟨line, .plain⟩ :: marksBranches bs
  | .caseB line _ cs => ⟨line, .plain⟩ :: marksCases cs
  | .loop line _ _ _ _ body clauses => ⟨line, .plain⟩ :: (marksList body ++ marksClauses clauses)
  | .cycle line _ _ _ => [⟨line, .plain⟩]
  | .brk line => [⟨line, .plain⟩]
  | .cont line => [⟨line, .plain⟩]
  | .incl line args => [⟨line, .incl args⟩]
def marksList : List Node → List Mark
  | [] => []
  | n :: ns => n.marks ++ marksList ns
def marksBranches : List (CondT × List Node) → List Mark
  | [] => []
  | (t, body) :: rest => t.marks ++ marksList body ++ marksBranches rest
def marksCases : List (Option (Nat × List Expr) × List Node) → List Mark
  | [] => []
  | (none, body) :: rest => marksList body ++ marksCases rest
  | (some (line, _), body) :: rest => ⟨line, .plain⟩ :: (marksList body ++ marksCases rest)
def marksClauses : List (List Node) → List Mark
  | [] => []
  | c :: cs => marksList c ++ marksClauses cs
end

def marksCClauses : List (Token × List Node) → List Mark
  | [] => []
  | (t, body) :: cs => ⟨t.line, .plain⟩ :: (marksList body ++ marksCClauses cs)

/-- the mark of a plain tag: an include tag carries its argument text -/
def Token.tagMark (t : Token) : Mark := ⟨t.line, if t.name == nmInclude then .incl t.args else .plain⟩

mutual
def AST.marks : AST → List Mark
  | .text t => [⟨t.line, .text⟩]
  | .obj t => [⟨t.line, .plain⟩]
  | .tag t => [t.tagMark]
  | .trim _ => []
  | .raw _ => []
  | .block t body clauses => ⟨t.line, .plain⟩ :: (amarksList body ++ amarksClauses clauses)
def amarksList : List AST → List Mark
  | [] => []
  | n :: ns => n.marks ++ amarksList ns
def amarksClauses : List (Token × List AST) → List Mark
  | [] => []
  | (t, body) :: cs => ⟨t.line, .plain⟩ :: (amarksList body ++ amarksClauses cs)
end

def Mark.inclArg (m : Mark) : Option (Nat × Bytes) :=
  match m.kind with
  | .incl a => some (m.line, a)
  | _ => none

def linesOf (ms : List Mark) : List Nat := ms.map (·.line)
def elinesOf (ms : List Mark) : List Nat := (ms.filter (fun m => decide (m.kind ≠ .text))).map (·.line)
def ilinesOf (ms : List Mark) : List (Nat × Bytes) := ms.filterMap Mark.inclArg
def noInclOf (ms : List Mark) : Bool := ms.all (fun m => m.inclArg.isNone)

theorem linesOf_append (a b : List Mark) : linesOf (a ++ b) = linesOf a ++ linesOf b := List.map_append
theorem elinesOf_append (a b : List Mark) : elinesOf (a ++ b) = elinesOf a ++ elinesOf b := by
  simp only [elinesOf, List.filter_append, List.map_append]
theorem ilinesOf_append (a b : List Mark) : ilinesOf (a ++ b) = ilinesOf a ++ ilinesOf b := List.filterMap_append
theorem noInclOf_append (a b : List Mark) : noInclOf (a ++ b) = (noInclOf a && noInclOf b) := List.all_append

/-- the four functions of a tree, or of an AST, as one record: what `marks` has to agree with -/
structure Proj (ms : List Mark) (l e : List Nat) (i : List (Nat × Bytes)) (n : Bool) : Prop where
  lines : l = linesOf ms
  elines : e = elinesOf ms
  ilines : i = ilinesOf ms
  noIncl : n = noInclOf ms

theorem Proj.nil : Proj [] [] [] [] true := ⟨rfl, rfl, rfl, rfl⟩

theorem Proj.append {a b l1 e1 i1 n1 l2 e2 i2 n2} (h1 : Proj a l1 e1 i1 n1) (h2 : Proj b l2 e2 i2 n2) :
    Proj (a ++ b) (l1 ++ l2) (e1 ++ e2) (i1 ++ i2) (n1 && n2) :=
  ⟨by rw [linesOf_append, h1.lines, h2.lines], by rw [elinesOf_append, h1.elines, h2.elines],
   by rw [ilinesOf_append, h1.ilines, h2.ilines], by rw [noInclOf_append, h1.noIncl, h2.noIncl]⟩

theorem Proj.plain {ms l e i n} (x : Nat) (h : Proj ms l e i n) : Proj (⟨x, .plain⟩ :: ms) (x :: l) (x :: e) i n :=
  ⟨by rw [h.lines]; rfl, by rw [h.elines]; simp [elinesOf], by rw [h.ilines]; rfl, by rw [h.noIncl]; simp [noInclOf, Mark.inclArg]⟩

theorem CondT.proj (t : CondT) : Proj t.marks t.lines t.lines [] true := by
  cases t <;> first | exact Proj.nil | exact Proj.nil.plain _

mutual
theorem Node.proj : ∀ n : Node, Proj n.marks n.lines n.elines n.ilines n.noIncl
  | .text _ _ => ⟨rfl, rfl, rfl, rfl⟩
  | .obj line _ => Proj.nil.plain line
  | .raw _ => Proj.nil
  | .trim _ => Proj.nil
  | .assign line _ _ => Proj.nil.plain line
  | .capture line _ body => (projList body).plain line
  | .ifB line bs => (projBranches bs).plain line
  | .caseB line _ cs => (projCases cs).plain line
  | .loop line _ _ _ _ body clauses => ((projList body).append (projClauses clauses)).plain line
  | .cycle line _ _ _ => Proj.nil.plain line
  | .brk line => Proj.nil.plain line
  | .cont line => Proj.nil.plain line
  | .incl _ _ => ⟨rfl, rfl, rfl, rfl⟩
theorem projList : ∀ ns : List Node, Proj (marksList ns) (linesList ns) (elinesList ns) (ilinesList ns) (noInclList ns)
  | [] => Proj.nil
  | n :: ns => n.proj.append (projList ns)
theorem projBranches : ∀ bs : List (CondT × List Node),
    Proj (marksBranches bs) (linesBranches bs) (elinesBranches bs) (ilinesBranches bs) (noInclBranches bs)
  | [] => Proj.nil
  | (t, body) :: rest => by
    have := (t.proj.append (projList body)).append (projBranches rest)
    simp only [List.nil_append, Bool.true_and] at this
    exact this
theorem projCases : ∀ cs : List (Option (Nat × List Expr) × List Node),
    Proj (marksCases cs) (linesCases cs) (elinesCases cs) (ilinesCases cs) (noInclCases cs)
  | [] => Proj.nil
  | (none, body) :: rest => (projList body).append (projCases rest)
  | (some (line, _), body) :: rest => ((projList body).append (projCases rest)).plain line
theorem projClauses : ∀ cs : List (List Node),
    Proj (marksClauses cs) (linesClauses cs) (elinesClauses cs) (ilinesClauses cs) (noInclClauses cs)
  | [] => Proj.nil
  | c :: cs => (projList c).append (projClauses cs)
end

theorem projCClauses : ∀ cs : List (Token × List Node),
    Proj (marksCClauses cs) (linesCClauses cs) (elinesCClauses cs) (ilinesCClauses cs) (noInclCClauses cs)
  | [] => Proj.nil
  | (t, body) :: cs => ((projList body).append (projCClauses cs)).plain t.line

theorem Token.proj_tagMark (t : Token) :
    Proj [t.tagMark] [t.line] [t.line] (if t.name == nmInclude then [(t.line, t.args)] else []) (t.name != nmInclude) := by
  unfold Token.tagMark
  cases h : t.name == nmInclude
  · simp only [bne, h, Bool.false_eq_true, if_false, Bool.not_false]
    exact Proj.nil.plain _
  · simp only [bne, h, if_true, Bool.not_true]
    exact ⟨rfl, rfl, rfl, rfl⟩

mutual
theorem AST.proj : ∀ a : AST, Proj a.marks a.tokLines a.etokLines a.itokLines a.noInc
  | .text _ => ⟨rfl, rfl, rfl, rfl⟩
  | .obj t => Proj.nil.plain t.line
  | .tag t => t.proj_tagMark
  | .trim _ => Proj.nil
  | .raw _ => Proj.nil
  | .block t body clauses => ((aprojList body).append (aprojClauses clauses)).plain t.line
theorem aprojList : ∀ as : List AST, Proj (amarksList as) (tokLinesList as) (etokLinesList as) (itokLinesList as) (noIncList as)
  | [] => Proj.nil
  | a :: as => a.proj.append (aprojList as)
theorem aprojClauses : ∀ cs : List (Token × List AST),
    Proj (amarksClauses cs) (tokLinesClauses cs) (etokLinesClauses cs) (itokLinesClauses cs) (noIncClauses cs)
  | [] => Proj.nil
  | (t, body) :: cs => ((aprojList body).append (aprojClauses cs)).plain t.line
end

theorem linesOf_sub {a b : List Mark} (h : a ⊆ b) : linesOf a ⊆ linesOf b := List.map_subset _ h

theorem mem_elinesOf {ms : List Mark} {x : Nat} : x ∈ elinesOf ms ↔ ∃ m ∈ ms, m.kind ≠ .text ∧ m.line = x := by
  simp [elinesOf, and_assoc]

theorem mem_ilinesOf {ms : List Mark} {x : Nat × Bytes} : x ∈ ilinesOf ms ↔ ⟨x.1, .incl x.2⟩ ∈ ms := by
  simp only [ilinesOf, List.mem_filterMap]
  constructor
  · rintro ⟨⟨l, k⟩, hm, h⟩
    cases k <;> simp only [Mark.inclArg, Option.some.injEq, reduceCtorEq] at h
    subst h
    exact hm
  · exact fun h => ⟨_, h, rfl⟩

theorem elinesOf_sub {a b : List Mark} (h : a ⊆ b) : elinesOf a ⊆ elinesOf b :=
  fun _ hx => mem_elinesOf.mpr ((mem_elinesOf.mp hx).imp fun _ hm => ⟨h hm.1, hm.2⟩)

theorem ilinesOf_sub {a b : List Mark} (h : a ⊆ b) : ilinesOf a ⊆ ilinesOf b :=
  fun _ hx => mem_ilinesOf.mpr (h (mem_ilinesOf.mp hx))

theorem noInclOf_sub {a b : List Mark} (h : a ⊆ b) (hb : noInclOf b = true) : noInclOf a = true := by
  simp only [noInclOf, List.all_eq_true] at hb ⊢
  exact fun m hm => hb m (h hm)

theorem elinesOf_sub_linesOf (ms : List Mark) : elinesOf ms ⊆ linesOf ms :=
  List.map_subset _ (fun _ h => (List.mem_filter.mp h).1)

theorem ilinesOf_of_noInclOf {ms : List Mark} (h : noInclOf ms = true) : ilinesOf ms = [] := by
  simp only [noInclOf, List.all_eq_true, Option.isNone_iff_eq_none] at h
  exact List.filterMap_eq_nil_iff.mpr h

theorem Proj.sub {ms Ms : List Mark} {l e l' e' : List Nat} {i i' : List (Nat × Bytes)} {n n' : Bool}
    (hr : Proj ms l e i n) (ha : Proj Ms l' e' i' n') (h : ms ⊆ Ms) : l ⊆ l' ∧ e ⊆ e' ∧ i ⊆ i' ∧ (n' = true → n = true) :=
  ⟨hr.lines ▸ ha.lines ▸ linesOf_sub h, hr.elines ▸ ha.elines ▸ elinesOf_sub h, hr.ilines ▸ ha.ilines ▸ ilinesOf_sub h,
   fun hn => hr.noIncl ▸ noInclOf_sub h (ha.noIncl ▸ hn)⟩

theorem Node.ilines_of_noIncl (n : Node) (h : n.noIncl = true) : n.ilines = [] :=
  n.proj.ilines ▸ ilinesOf_of_noInclOf (n.proj.noIncl ▸ h)

theorem ilinesList_of_noIncl (ns : List Node) (h : noInclList ns = true) : ilinesList ns = [] :=
  (projList ns).ilines ▸ ilinesOf_of_noInclOf ((projList ns).noIncl ▸ h)

section
-- reducible, `CPost` makes elaboration evaluate the compiler: Proofs/C07Lines.lean, at the same attribute
attribute [local irreducible] CPost

def MErr (Ms : List Mark) (e : SErr) : Prop := ∃ m ∈ Ms, m.kind ≠ .text ∧ e.At m.line

theorem MErr.plain {Ms : List Mark} {x : Nat} (h : ⟨x, .plain⟩ ∈ Ms) (e : SErr) (he : e.At x) : MErr Ms e :=
  ⟨_, h, nofun, he⟩

theorem marksList_append : ∀ a b : List Node, marksList (a ++ b) = marksList a ++ marksList b
  | [], _ => rfl
  | n :: ns, b => by simp only [List.cons_append, marksList, marksList_append ns b, List.append_assoc]

theorem linesList_append (a b : List Node) : linesList (a ++ b) = linesList a ++ linesList b := by
  rw [(projList _).lines, (projList a).lines, (projList b).lines, marksList_append, linesOf_append]

theorem elinesList_append (a b : List Node) : elinesList (a ++ b) = elinesList a ++ elinesList b := by
  rw [(projList _).elines, (projList a).elines, (projList b).elines, marksList_append, elinesOf_append]

theorem ilinesList_append (a b : List Node) : ilinesList (a ++ b) = ilinesList a ++ ilinesList b := by
  rw [(projList _).ilines, (projList a).ilines, (projList b).ilines, marksList_append, ilinesOf_append]

theorem noInclList_append (a b : List Node) : noInclList (a ++ b) = (noInclList a && noInclList b) := by
  rw [(projList _).noIncl, (projList a).noIncl, (projList b).noIncl, marksList_append, noInclOf_append]

theorem marksClauses_map_snd : ∀ cs : List (Token × List Node), marksClauses (cs.map (·.2)) ⊆ marksCClauses cs
  | [] => List.Subset.refl _
  | (t, body) :: cs => by
    simp only [List.map_cons, marksClauses, marksCClauses]
    exact List.subset_cons_of_subset _ (List.append_subset.mpr
      ⟨List.subset_append_left _ _, (marksClauses_map_snd cs).trans (List.subset_append_right _ _)⟩)

theorem marks_ifClauseTests (Ms : List Mark) :
    ∀ cs : List (Token × List Node), marksCClauses cs ⊆ Ms →
      CPost (MErr Ms) (fun r => marksBranches r ⊆ Ms) (compileIfClauseTests cs)
  | [], _ => .ok (List.nil_subset _)
  | (t, body) :: cs, hM => by
    simp only [marksCClauses, List.cons_subset, List.append_subset] at hM
    unfold compileIfClauseTests
    refine CPost.bind (R := fun test => test.marks ⊆ Ms) ?_ (fun test htest =>
      CPost.bind (marks_ifClauseTests Ms cs hM.2.2) (fun rest hrest => CPost.pure _ ?_))
    · split
      · exact CPost.bind ((cpost_liftParse t.line true _).mono (MErr.plain hM.1) (fun _ h => h))
          (fun e _ => CPost.pure _ (List.cons_subset.mpr ⟨hM.1, List.nil_subset _⟩))
      · exact CPost.pure _ (List.nil_subset _)
    · simp only [marksBranches, List.append_subset]
      exact ⟨⟨htest, hM.2.1⟩, hrest⟩

theorem marks_caseClauses (Ms : List Mark) :
    ∀ cs : List (Token × List Node), marksCClauses cs ⊆ Ms →
      CPost (MErr Ms) (fun r => marksCases r ⊆ Ms) (compileCaseClauses cs)
  | [], _ => .ok (List.nil_subset _)
  | (t, body) :: cs, hM => by
    simp only [marksCClauses, List.cons_subset, List.append_subset] at hM
    unfold compileCaseClauses
    refine CPost.bind (R := fun c => ∀ l es, c = some (l, es) → l = t.line) ?_ (fun c hc =>
      CPost.bind (marks_caseClauses Ms cs hM.2.2) (fun rest hrest => CPost.pure _ ?_))
    · split
      · refine CPost.bind ((cpost_liftParse t.line true _).mono (MErr.plain hM.1) (fun _ h => h)) (fun st _ => ?_)
        split
        · exact CPost.pure _ (fun l es h => by cases h; rfl)
        · exact .err (MErr.plain hM.1 _ ⟨rfl, rfl, nofun, nofun⟩)
      · exact CPost.pure _ (fun l es h => by cases h)
    · match c, hc with
      | none, _ => simp only [marksCases, List.append_subset]; exact ⟨hM.2.1, hrest⟩
      | some (l, es), hc =>
        simp only [marksCases, List.cons_subset, List.append_subset]
        exact ⟨hc l es rfl ▸ hM.1, hM.2.1, hrest⟩

theorem plainMark_of_ne {t : Token} (h : (t.name == nmInclude) = false) : t.tagMark = ⟨t.line, .plain⟩ := by
  simp only [Token.tagMark, h, Bool.false_eq_true, if_false]

mutual
theorem marks_compileNode (Ms : List Mark) :
    ∀ a : AST, a.marks ⊆ Ms → CPost (MErr Ms) (fun ns => marksList ns ⊆ Ms) (compileNode a)
  | .text t, hM => .ok (by simpa [marksList, Node.marks, AST.marks] using hM)
  | .obj t, hM => by
    have ht : ⟨t.line, .plain⟩ ∈ Ms := hM List.mem_cons_self
    unfold compileNode
    split
    · exact .ok (by simpa [marksList, Node.marks] using ht)
    · exact .err (MErr.plain ht _ ⟨rfl, rfl, nofun, nofun⟩)
    · exact .panic
    · exact .unmodelled
  | .trim l, _ => .ok (by simp [marksList, Node.marks])
  | .raw sl, _ => .ok (by simp [marksList, Node.marks])
  | .tag t, hM => by
    have ht : t.tagMark ∈ Ms := hM List.mem_cons_self
    unfold compileNode
    by_cases hi : (t.name == nmInclude) = true
    · have hn : t.name = nmInclude := eq_of_beq hi
      rw [if_neg (by rw [hn]; decide), if_pos hi]
      exact .ok (by simpa [marksList, Node.marks, Token.tagMark, hi] using ht)
    have hp : ⟨t.line, .plain⟩ ∈ Ms := plainMark_of_ne (by simpa using hi) ▸ ht
    have one : ∀ n : Node, n.marks = [⟨t.line, .plain⟩] → marksList [n] ⊆ Ms := fun n hn => by
      simpa [marksList, hn] using hp
    have stmt : ∀ r : Res ParseErr Stmt, CPost (MErr Ms) (fun _ => True) (liftParse t.line false r) :=
      fun r => (cpost_liftParse t.line false r).mono (MErr.plain hp) (fun _ h => h)
    by_cases h1 : (t.name == nmAssign) = true
    · rw [if_pos h1]
      refine CPost.bind (stmt _) (fun st _ => ?_)
      split
      · exact CPost.pure _ (one _ rfl)
      · exact .err (MErr.plain hp _ ⟨rfl, rfl, nofun, nofun⟩)
    rw [if_neg h1, if_neg hi]
    by_cases h3 : (t.name == nmBreak) = true
    · rw [if_pos h3]; exact .ok (one _ rfl)
    rw [if_neg h3]
    by_cases h4 : (t.name == nmContinue) = true
    · rw [if_pos h4]; exact .ok (one _ rfl)
    rw [if_neg h4]
    by_cases h5 : (t.name == nmCycle) = true
    · rw [if_pos h5]
      refine CPost.bind (stmt _) (fun st _ => ?_)
      split
      · exact CPost.pure _ (one _ rfl)
      · exact .err (MErr.plain hp _ ⟨rfl, rfl, nofun, nofun⟩)
    rw [if_neg h5]
    exact .err (MErr.plain hp _ ⟨rfl, rfl, nofun, nofun⟩)
  | .block t body clauses, hM => by
    obtain ⟨ht, hbc⟩ := List.cons_subset.mp hM
    obtain ⟨hb, hc⟩ := List.append_subset.mp hbc
    have hp : ∀ {α} (r : Res ParseErr α), CPost (MErr Ms) (fun _ => True) (liftParse t.line true r) :=
      fun r => (cpost_liftParse t.line true r).mono (MErr.plain ht) (fun _ h => h)
    unfold compileNode
    refine CPost.bind (marks_compileList Ms body hb) (fun b hb => CPost.bind (marks_compileClauses Ms clauses hc) (fun cs hcs => ?_))
    by_cases h1 : (t.name == nmIf || t.name == nmUnless) = true
    · rw [if_pos h1]
      refine CPost.bind (hp _) (fun e _ => CPost.bind (marks_ifClauseTests Ms cs hcs) (fun rest hrest => CPost.pure _ ?_))
      have hcm : (if t.name == nmIf then CondT.expr t.line e else CondT.notExpr t.line e).marks = [⟨t.line, .plain⟩] := by
        split <;> rfl
      simp only [marksList, Node.marks, marksBranches, hcm, List.append_nil]
      exact List.cons_subset.mpr ⟨ht, List.cons_subset.mpr ⟨ht, List.append_subset.mpr ⟨hb, hrest⟩⟩⟩
    rw [if_neg h1]
    by_cases h2 : (t.name == nmCase) = true
    · rw [if_pos h2]
      refine CPost.bind (hp _) (fun e _ => CPost.bind (marks_caseClauses Ms cs hcs) (fun cases hcases => CPost.pure _ ?_))
      simp only [marksList, Node.marks, List.append_nil]
      exact List.cons_subset.mpr ⟨ht, hcases⟩
    rw [if_neg h2]
    by_cases h3 : (t.name == nmFor || t.name == nmTablerow) = true
    · rw [if_pos h3]
      refine CPost.bind (hp _) (fun st _ => ?_)
      split
      · refine CPost.pure _ ?_
        simp only [marksList, Node.marks, List.append_nil]
        exact List.cons_subset.mpr ⟨ht, List.append_subset.mpr ⟨hb, (marksClauses_map_snd cs).trans hcs⟩⟩
      · exact .err (MErr.plain ht _ ⟨rfl, rfl, nofun, nofun⟩)
    rw [if_neg h3]
    split
    · refine CPost.pure _ ?_
      simp only [marksList, Node.marks, List.append_nil]
      exact List.cons_subset.mpr ⟨ht, hb⟩
    · exact .unmodelled
theorem marks_compileList (Ms : List Mark) :
    ∀ as : List AST, amarksList as ⊆ Ms → CPost (MErr Ms) (fun ns => marksList ns ⊆ Ms) (compileList as)
  | [], _ => .ok (List.nil_subset _)
  | a :: as, hM => by
    obtain ⟨ha, has⟩ := List.append_subset.mp hM
    unfold compileList
    refine CPost.bind (marks_compileNode Ms a ha) (fun na hna =>
      CPost.bind (marks_compileList Ms as has) (fun nb hnb => CPost.pure _ ?_))
    rw [marksList_append]
    exact List.append_subset.mpr ⟨hna, hnb⟩
theorem marks_compileClauses (Ms : List Mark) :
    ∀ cs : List (Token × List AST), amarksClauses cs ⊆ Ms →
      CPost (MErr Ms) (fun r => marksCClauses r ⊆ Ms) (compileClauses cs)
  | [], _ => .ok (List.nil_subset _)
  | (t, body) :: cs, hM => by
    obtain ⟨ht, hbc⟩ := List.cons_subset.mp hM
    obtain ⟨hb, hc⟩ := List.append_subset.mp hbc
    unfold compileClauses
    exact CPost.bind (marks_compileList Ms body hb) (fun b hb =>
      CPost.bind (marks_compileClauses Ms cs hc) (fun rest hrest => CPost.pure _
        (List.cons_subset.mpr ⟨ht, List.append_subset.mpr ⟨hb, hrest⟩⟩)))
end

theorem MErr.line {Ms : List Mark} {l e : List Nat} {i : List (Nat × Bytes)} {n : Bool} {err : SErr} (h : MErr Ms err)
    (ha : Proj Ms l e i n) : err.line ∈ l :=
  let ⟨_, hm, _, he⟩ := h; ha.lines ▸ he.1 ▸ List.mem_map_of_mem hm

theorem MErr.eloc {Ms : List Mark} {l e : List Nat} {i : List (Nat × Bytes)} {n : Bool} {err : SErr} (h : MErr Ms err)
    (ha : Proj Ms l e i n) : ELoc e err :=
  let ⟨m, hm, hk, he⟩ := h; ⟨ha.elines ▸ he.1 ▸ mem_elinesOf.mpr ⟨m, hm, hk, rfl⟩, he.2.1⟩

theorem cpost_compileList (L : List Nat) :
    ∀ as : List AST, (∀ x, x ∈ tokLinesList as → x ∈ L) →
      CPost (fun e => e.line ∈ L) (fun ns => ∀ x, x ∈ linesList ns → x ∈ L) (compileList as) :=
  fun as hL => (marks_compileList _ as (List.Subset.refl _)).mono (fun _ he => hL _ (he.line (aprojList as)))
    (fun ns hr x hx => hL x (((projList ns).sub (aprojList as) hr).1 hx))

theorem cpost_compileClauses (L : List Nat) :
    ∀ cs : List (Token × List AST), (∀ x, x ∈ tokLinesClauses cs → x ∈ L) →
      CPost (fun e => e.line ∈ L) (fun r => ∀ x, x ∈ linesCClauses r → x ∈ L) (compileClauses cs) :=
  fun cs hL => (marks_compileClauses _ cs (List.Subset.refl _)).mono (fun _ he => hL _ (he.line (aprojClauses cs)))
    (fun r hr x hx => hL x (((projCClauses r).sub (aprojClauses cs) hr).1 hx))

end

/-- a token of the list carries the mark -/
def MarkTok (toks : List Token) (m : Mark) : Prop :=
  ∃ t ∈ toks, t.line = m.line ∧
    match m.kind with
    | .text => True
    | .plain => t.ty = .tag ∨ t.ty = .obj
    | .incl a => t.ty = .tag ∧ t.name = nmInclude ∧ t.args = a

theorem MarkTok.mono {a b : List Token} {m : Mark} (h : MarkTok a m) (hs : ∀ t, t ∈ a → t ∈ b) : MarkTok b m :=
  let ⟨t, ht, hl⟩ := h; ⟨t, hs t ht, hl⟩

theorem MarkTok.cons {toks : List Token} {m : Mark} (t0 : Token) (h : MarkTok toks m) : MarkTok (t0 :: toks) m :=
  h.mono fun _ => List.mem_cons_of_mem _

theorem MarkTok.head_plain {t : Token} {toks : List Token} (h : t.ty = .tag ∨ t.ty = .obj) : MarkTok (t :: toks) ⟨t.line, .plain⟩ :=
  ⟨t, List.mem_cons_self, rfl, h⟩

theorem marks_segs {g : Grammar} {o : Token} : ∀ (segs : List Seg), (∀ sg ∈ segs, g.isClauseOf o sg.1 = true) →
    (∀ sg, sg ∈ segs → ∀ m, m ∈ amarksList sg.2.2 → MarkTok sg.2.1 m) →
    ∀ m, m ∈ amarksClauses (segASTs segs) → MarkTok (segToks segs) m
  | [], _, _, m, hm => by simp [segASTs, amarksClauses] at hm
  | (c, ts, ns) :: r, hcl, ih, m, hm => by
    simp only [segASTs, amarksClauses, List.mem_cons, List.mem_append] at hm
    simp only [segToks]
    rcases hm with rfl | hm | hm
    · have := hcl (c, ts, ns) (List.mem_cons_self ..)
      simp only [Grammar.isClauseOf, Bool.and_eq_true, beq_iff_eq] at this
      exact .head_plain (.inl this.1.1.1)
    · exact ((ih (c, ts, ns) (List.mem_cons_self ..) m hm).mono (fun t ht => List.mem_append_left _ ht)).cons c
    · exact ((marks_segs r (fun sg h => hcl sg (List.mem_cons_of_mem _ h)) (fun sg h => ih sg (List.mem_cons_of_mem _ h)) m hm).mono
        (fun t ht => List.mem_append_right _ ht)).cons c

theorem Derives.marks {g : Grammar} {chk : Bytes → Option Cause} {toks : List Token} {ast : List AST}
    (h : Derives g chk toks ast) : ∀ m, m ∈ amarksList ast → MarkTok toks m := by
  induction h with
  | nil => intro m hm; simp [amarksList] at hm
  | text t rest ns ht _ ih =>
    intro m hm
    simp only [amarksList, AST.marks, List.singleton_append, List.mem_cons] at hm
    rcases hm with rfl | hm
    · exact ⟨t, List.mem_cons_self, rfl, True.intro⟩
    · exact (ih m hm).cons t
  | obj t rest ns ht hc _ ih =>
    intro m hm
    simp only [amarksList, AST.marks, List.singleton_append, List.mem_cons] at hm
    rcases hm with rfl | hm
    · exact .head_plain (.inr ht)
    · exact (ih m hm).cons t
  | trimL t rest ns ht _ ih => exact fun m hm => (ih m hm).cons t
  | trimR t rest ns ht _ ih => exact fun m hm => (ih m hm).cons t
  | tag t rest ns ht _ ih =>
    intro m hm
    simp only [amarksList, AST.marks, List.singleton_append, List.mem_cons] at hm
    rcases hm with rfl | hm
    · simp only [Grammar.isPlain, Bool.and_eq_true, beq_iff_eq] at ht
      refine ⟨t, List.mem_cons_self, rfl, ?_⟩
      unfold Token.tagMark
      by_cases hn : (t.name == nmInclude) = true
      · rw [if_pos hn]; exact ⟨ht.1, eq_of_beq hn, rfl⟩
      · rw [if_neg hn]; exact .inl ht.1
    · exact (ih m hm).cons t
  | comment o c interior rest ns ho hi hc _ ih =>
    exact fun m hm => ((ih m hm).mono (fun t ht => List.mem_append_right _ (List.mem_cons_of_mem _ ht))).cons o
  | raw o c interior rest ns ho hi hc _ ih =>
    exact fun m hm => ((ih m hm).mono (fun t ht => List.mem_append_right _ (List.mem_cons_of_mem _ ht))).cons o
  | block o e body bns segs rest ns ho _ hcl _ he _ ihb ihs ihr =>
    intro m hm
    simp only [amarksList, AST.marks, List.cons_append, List.mem_cons, List.mem_append, List.append_assoc] at hm
    rcases hm with rfl | hm | hm | hm
    · simp only [Grammar.isOpen, Bool.and_eq_true, beq_iff_eq] at ho
      exact .head_plain (.inl ho.1.1.1)
    · exact ((ihb m hm).mono (fun t ht => List.mem_append_left _ ht)).cons o
    · exact ((marks_segs segs hcl ihs m hm).mono
        (fun t ht => List.mem_append_right _ (List.mem_append_left _ ht))).cons o
    · exact ((ihr m hm).mono
        (fun t ht => List.mem_append_right _ (List.mem_append_right _ (List.mem_cons_of_mem _ ht)))).cons o

theorem tree_lines_are_token_lines (chk : Bytes → Option Cause) (toks : List Token) (ast : List AST)
    (h : parseTokens stdGrammar chk toks = .ok ast) (x : Nat) (hx : x ∈ tokLinesList ast) : TokLine toks x := by
  rw [(aprojList ast).lines] at hx
  obtain ⟨m, hm, rfl⟩ := List.mem_map.mp hx
  obtain ⟨t, ht, hl, _⟩ := (derives_of_parse h).marks m hm
  exact .inr ⟨t, ht, hl⟩
