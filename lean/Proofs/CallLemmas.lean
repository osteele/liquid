import Liquid.Std
import Liquid.Heap
import Proofs.FilterSigs
import Proofs.ResLemmas
/-!
# The call layer: looking a name up in the standard tables, and `applyFilter` once both lookups are known

`lookupImpl` answers the first entry under a name; in a table without repeated names that is the only one, so a
lookup is settled by pointing at the entry.

The registry `stdFilters` and the table of bodies `stdFilterImpls` hold the same 48 names in different orders.
`stdTables_aligned` reads them against each other in one evaluation (the kernel spells every name once; spelling a name,
`String.toUTF8` of a literal, is what a lookup in these tables costs, not the comparisons). That the names of the bodies are
distinct and that every registered filter has a body are read off it, as is what one position certifies (`stdSigPos_spec`: entry and
signature stand under one name, which the registry answers with that signature); `applyFilter_at` / `applyFilter_pos` turn a call of
the filter at a given position into the conversion of the arguments and the body without looking a name up: the form in which
evaluated instances (`… := by rw [applyFilter_pos 46 (name := …) (by decide +kernel)]; decide +kernel`) reach a body.
The entry at a position is read by `stdImplAt?`, from the one of the five tables it comes from (`stdFilterImpls_getElem?`).
`applyFilter_sigAt` is the same for a call through any other table of bodies (the signature by position in the registry,
the body looked up as it is); `lookupImpl_at` settles one lookup in the standard table by position.

A single concrete `lookupSig` is evaluated by `decide +kernel`, directly or after `rw [lookupSig_is_source]` (the extracted
table spells its names as byte literals). Inside a call the lookup is exposed by `rw [applyFilter]`: `unfold` would
reduce the `match` on it in the elaborator, at many times the cost of the evaluation that follows.

`convertArgs_val`, `convertArgs_fn`, `convertArgs_of_nil`: `values.Call`'s conversion, one parameter at a time; `convertArgs_append`:
parameters left without an argument get `defaultArg`; with these a call whose
body fails (`applyFilter_two_err`) or whose receiver does not convert (`applyFilter_recv_fails`), for any table of bodies;
an eager body (`FilterImpl.ofEager false`) on converted values (`ArrF.eager_vals`, `ArrF.finish_eager`).
-/

theorem stdFilters_namesDistinct : namesDistinct stdFilters = true := by
  have h := filter_sigs_are_standard
  simp only [sameRegistry, Bool.and_eq_true] at h
  exact h.1.1.2

theorem lookupSig_of_mem {sg : FilterSig} (h : sg ∈ stdFilters) : lookupSig sg.name = some sg :=
  (findSig_some_iff stdFilters stdFilters_namesDistinct sg.name sg).2 ⟨h, rfl⟩

theorem lookupImpl_mem {table : List (Bytes × FilterImpl)} {name : Bytes} {f : FilterImpl}
    (h : lookupImpl table name = some f) : (name, f) ∈ table := by
  unfold lookupImpl at h
  obtain ⟨p, hp, rfl⟩ := Option.map_eq_some_iff.mp h
  have hn : p.1 = name := by simpa using List.find?_some hp
  rw [← hn]
  exact List.mem_of_find?_eq_some hp

theorem lookupImpl_of_mem {table : List (Bytes × FilterImpl)} (hd : (table.map (·.1)).Nodup) {name : Bytes} {f : FilterImpl}
    (h : (name, f) ∈ table) : lookupImpl table name = some f := by
  unfold lookupImpl
  rw [List.find?_key_of_nodup (·.1) hd h]
  rfl

/-- For each entry of `stdFilterImpls`, in order, the position in `stdFilters` of the signature registered under its name
    (entry 0 is `abs`, which stands at position 12 of the registry). The list is written by hand and checked by
    `stdTables_aligned`: when one of the two tables is re-ordered, or a filter is added, that evaluation fails and the list has
    to be rewritten (`stdFilterImpls.map fun e => stdFilters.findIdx (·.name == e.1)`); the positions used in
    `applyFilter_at (i := …)` / `applyFilter_pos …` count entries of `stdFilterImpls` and change with that table only. -/
def stdSigPos : List Nat :=
  [12, 13, 14, 17, 16, 18, 15, 19, 20, 0, 21, 22, 28, 23, 24, 43, 25, 26, 27, 29, 30, 31, 32, 34, 35, 36, 37, 38, 39, 40,
   41, 42, 44, 45, 2, 3, 4, 5, 6, 7, 8, 9, 10, 33, 1, 46, 47, 11]

def nameAt (sigs : List FilterSig) (j : Nat) : Bytes := (sigs[j]?.map (·.name)).getD []

theorem stdTables_aligned :
    stdFilterImpls.map (·.1) = stdSigPos.map (nameAt stdFilters) ∧ stdSigPos.Perm (List.range stdFilters.length) := by
  decide +kernel

theorem map_nameAt_range (sigs : List FilterSig) : (List.range sigs.length).map (nameAt sigs) = sigs.map (·.name) := by
  apply List.ext_getElem (by simp)
  intro i h1 h2
  simp only [List.length_map, List.length_range] at h1
  simp [nameAt, h1]

theorem stdFilterImpls_names_perm : (stdFilterImpls.map (·.1)).Perm (stdFilters.map (·.name)) := by
  rw [stdTables_aligned.1, ← map_nameAt_range]
  exact stdTables_aligned.2.map _

theorem stdFilterImpls_nodup : (stdFilterImpls.map (·.1)).Nodup :=
  stdFilterImpls_names_perm.nodup_iff.mpr (namesDistinct_iff_nodup.mp stdFilters_namesDistinct)

theorem lookupImpl_isSome_of_mem {table : List (Bytes × FilterImpl)} {name : Bytes} (h : name ∈ table.map (·.1)) :
    (lookupImpl table name).isSome = true := by
  obtain ⟨e, he, rfl⟩ := List.mem_map.mp h
  simp only [lookupImpl, Option.isSome_map, List.find?_isSome]
  exact ⟨e, he, beq_self_eq_true _⟩

/-- what `ApplyFilter` does with the result of the Go function -/
def applyFilter.finish (name : Bytes) (r : Res Cause (Except Cause GoVal)) : Res Cause GoVal :=
  r.bind fun
    | .error c => .err (.filterErr name c)
    | .ok v => .ok (bytesToString v)

theorem applyFilter_of {impls : Bytes → Option FilterImpl} {name name' : Bytes} {params : List Param} {hasErr : Bool}
    {impl : FilterImpl} (hs : lookupSig name = some ⟨name', params, hasErr⟩) (hi : impls name = some impl)
    (g : GoVal) (args : List GoVal) (hl : ¬ (g :: args).length > params.length) :
    applyFilter impls name g args =
      (convertArgs params (g :: args)).bind fun cargs => applyFilter.finish name (impl cargs) := by
  unfold applyFilter
  simp only [hs, hi, if_neg hl, applyFilter.finish]
  rfl

def sigParamsAt (j : Nat) : List Param := (stdFilters[j]?.map (·.params)).getD []

/-- A call through any table of bodies of the filter whose signature stands at position `j` of the registry: the registry is
    reached by index (the premise is one evaluation that spells the name once), `impls name` is left as it is. -/
theorem applyFilter_sigAt (impls : Bytes → Option FilterImpl) (j : Nat) {name : Bytes} (h : stdFilters[j]?.map (·.name) = some name)
    (g : GoVal) (args : List GoVal) (budget : Int) :
    applyFilter impls name g args budget =
      if (g :: args).length > (sigParamsAt j).length then .err (.filterErr name .parity)
      else (convertArgs (sigParamsAt j) (g :: args) budget).bind fun cargs =>
        match impls name with
        | none => .unmodelled "filter body not modelled"
        | some f => applyFilter.finish name (f cargs) := by
  obtain ⟨sg, hs, rfl⟩ := Option.map_eq_some_iff.mp h
  rw [applyFilter, lookupSig_of_mem (List.mem_of_getElem? hs)]
  simp only [sigParamsAt, hs, Option.map_some, Option.getD_some]
  rfl

/-- `stdFilterImpls[i]?`, read from the one of the five tables that entry `i` comes from. The elaborator reads `stdFilterImpls[i]?`
    at a given `i` by walking `i` entries of `Num.impls ++ … ++ DateF.impls`; here it
    compares `i` with at most four numbers and walks one table. Where a premise below says `stdImplAt? i = some e`, `rfl` proves it. -/
def stdImplAt? (i : Nat) : Option (Bytes × FilterImpl) :=
  if 47 ≤ i then DateF.impls[i - 47]? else if 44 ≤ i then JsonF.impls[i - 44]? else if 34 ≤ i then ArrF.impls[i - 34]?
  else if 11 ≤ i then StrGlue.impls[i - 11]? else Num.impls[i]?

theorem stdFilterImpls_getElem? (i : Nat) : stdFilterImpls[i]? = stdImplAt? i := by
  have hN : Num.impls.length = 11 := rfl
  have hS : StrGlue.impls.length = 23 := rfl
  have hA : ArrF.impls.length = 10 := rfl
  have hJ : JsonF.impls.length = 3 := rfl
  simp only [stdFilterImpls, stdImplAt?, List.getElem?_append, List.length_append, hN, hS, hA, hJ, Nat.reduceAdd, ← Nat.not_le,
    ite_not]

/-- the body under a name is the one that stands beside it in the table: settled by pointing at the position -/
theorem lookupImpl_at {i : Nat} {e : Bytes × FilterImpl} (he : stdImplAt? i = some e) :
    lookupImpl stdFilterImpls e.1 = some e.2 :=
  lookupImpl_of_mem stdFilterImpls_nodup (List.mem_of_getElem? ((stdFilterImpls_getElem? i).trans he))

/-- the entry at position `i` of the table of bodies and the signature at position `stdSigPos[i]` of the registry stand under one
    name, and the registry answers that name with that signature -/
theorem stdSigPos_spec {i j : Nat} (hj : stdSigPos[i]? = some j) :
    ∃ e sg, stdImplAt? i = some e ∧ stdFilters[j]? = some sg ∧ e.1 = sg.name ∧ lookupSig e.1 = some sg := by
  have hjr := List.mem_range.mp (stdTables_aligned.2.mem_iff.mp (List.mem_of_getElem? hj))
  have hi : i < stdFilterImpls.length := by
    have := congrArg List.length stdTables_aligned.1
    simp only [List.length_map] at this
    exact this ▸ (List.getElem?_eq_some_iff.mp hj).1
  have hname : (stdFilterImpls[i]).1 = (stdFilters[j]).name := by
    have := congrArg (·[i]?) stdTables_aligned.1
    simpa [List.getElem?_map, List.getElem?_eq_getElem hi, hj, nameAt, List.getElem?_eq_getElem hjr] using this
  exact ⟨_, _, (stdFilterImpls_getElem? i).symm.trans (List.getElem?_eq_getElem hi), List.getElem?_eq_getElem hjr, hname,
    hname ▸ lookupSig_of_mem (List.getElem_mem hjr)⟩

/-- A call of the filter at position `i` of the table of bodies, with no more arguments than parameters: `values.Call`'s conversion
    under the signature that stands at `stdSigPos[i]` in the registry, then the body. The three premises are read off the tables by
    position (`rfl`): no name is looked up. -/
theorem applyFilter_at {i j : Nat} {e : Bytes × FilterImpl} {sg : FilterSig}
    (he : stdImplAt? i = some e) (hj : stdSigPos[i]? = some j) (hs : stdFilters[j]? = some sg)
    (g : GoVal) (args : List GoVal) (hl : ¬ (g :: args).length > sg.params.length) :
    applyFilter (lookupImpl stdFilterImpls) e.1 g args =
      (convertArgs sg.params (g :: args)).bind fun cargs => applyFilter.finish e.1 (e.2 cargs) := by
  obtain ⟨e', sg', he', hs', _, hsig⟩ := stdSigPos_spec hj
  cases he.symm.trans he'
  cases hs.symm.trans hs'
  exact applyFilter_of (name' := sg.name) hsig (lookupImpl_at he) g args hl

def implAt (i : Nat) : FilterImpl := ((stdImplAt? i).map (·.2)).getD fun _ => .unmodelled "no such entry"

/-- the parameter list under which the body at position `i` is called -/
def paramsAt (i : Nat) : List Param := ((stdSigPos[i]?.bind (stdFilters[·]?)).map (·.params)).getD []

/-- A call of the filter at position `i` of the table of bodies, with the arity test, so that it rewrites a call with any
    number of arguments (also under a binder, by `simp only`). `name` is any spelling of the filter's name (`ArrF.bn "join"`,
    `Num.bn "join"`, a byte literal); the premise is one evaluation that spells it once. An evaluation of the right-hand side
    reaches the parameter list and the body by index. -/
theorem applyFilter_pos (i : Nat) {name : Bytes} (h : stdSigPos[i]?.map (nameAt stdFilters) = some name) (g : GoVal) (args : List GoVal) :
    applyFilter (lookupImpl stdFilterImpls) name g args =
      if (g :: args).length > (paramsAt i).length then .err (.filterErr name .parity)
      else (convertArgs (paramsAt i) (g :: args)).bind fun c => applyFilter.finish name (implAt i c) := by
  obtain ⟨j, hj, rfl⟩ := Option.map_eq_some_iff.mp h
  obtain ⟨e, sg, he, hs, hn, hsig⟩ := stdSigPos_spec hj
  have hname : nameAt stdFilters j = e.1 := by rw [nameAt, hs, hn]; rfl
  rw [hname, applyFilter, hsig, lookupImpl_at he]
  simp only [paramsAt, implAt, hj, hs, he, Option.bind_some, Option.map_some, Option.getD_some]
  rfl

theorem stdPrims_hasFilter_pos (i : Nat) {name : Bytes} (h : stdSigPos[i]?.map (nameAt stdFilters) = some name) :
    stdPrims.hasFilter name = true := by
  obtain ⟨j, hj, rfl⟩ := Option.map_eq_some_iff.mp h
  obtain ⟨e, sg, _, hs, hn, hsig⟩ := stdSigPos_spec hj
  show (lookupSig (nameAt stdFilters j)).isSome = true
  rw [nameAt, hs, Option.map_some, Option.getD_some, ← hn, hsig]
  rfl

open Heap (convArgVal)

theorem convertArgs_of_nil (rest : List GoVal) : convertArgs [] rest = .ok [] := by
  cases rest <;> rfl

theorem convertArgs_val (t : ParamTy) (ps : List Param) (rest : List GoVal) :
    convertArgs (.val t :: ps) rest =
      (convArgVal t rest.head?).bind fun c => (convertArgs ps rest.tail).bind fun r => .ok (.val c :: r) := by
  cases rest with
  | nil => rfl
  | cons a as => cases a <;> rfl

theorem convArgVal_of_ne_nil (t : ParamTy) {a : GoVal} (h : a ≠ .nil) : convArgVal t (some a) = convert a t := by
  cases a with
  | nil => exact absurd rfl h
  | _ => rfl

theorem convertArgs_val_cons {t : ParamTy} {ps : List Param} {a : GoVal} {as : List GoVal} (h : a ≠ .nil) :
    convertArgs (.val t :: ps) (a :: as) =
      (convert a t).bind fun c => (convertArgs ps as).bind fun r => .ok (.val c :: r) := by
  rw [convertArgs_val, List.head?_cons, convArgVal_of_ne_nil t h, List.tail_cons]

theorem convertArgs_fn (t : ParamTy) (ps : List Param) (rest : List GoVal) :
    convertArgs (.fn t :: ps) rest =
      (convertArgs ps rest.tail).bind fun r => .ok (.fn (rest.head?.map (convert · t)) :: r) := by
  cases rest <;> rfl

/-- what `values.Call` passes for a parameter without an argument: the type's zero value, or the identity
    function for a default-function parameter -/
def defaultArg : Param → Arg
  | .val t => .val t.zero
  | .fn _ => .fn none

theorem convertArgs_args_nil (ps : List Param) : convertArgs ps [] = .ok (ps.map defaultArg) := by
  induction ps with
  | nil => rfl
  | cons p ps ih => cases p <;> simp [convertArgs, ih, defaultArg]

theorem convertArgs_append (ps qs : List Param) : ∀ (args : List GoVal), args.length = ps.length →
    convertArgs (ps ++ qs) args = (convertArgs ps args).bind fun r => .ok (r ++ qs.map defaultArg) := by
  induction ps with
  | nil =>
    intro args h
    cases List.eq_nil_of_length_eq_zero h
    rw [List.nil_append, convertArgs_args_nil]; rfl
  | cons p ps ih =>
    intro args h
    cases args with
    | nil => cases h
    | cons a as =>
      cases p <;>
        simp only [List.cons_append, convertArgs_val, convertArgs_fn, List.tail_cons, ih as (Nat.succ.inj h),
          Res.bind_assoc, Res.bind_ok]

/-- a two-parameter filter whose body fails on the converted arguments; `Heap.convArgVal` is what `values.Call` makes of one argument
    (the zero value for nil) -/
theorem applyFilter_two_err {impls : Bytes → Option FilterImpl} {name : Bytes} {sg : FilterSig} {t1 t2 : ParamTy}
    {recv z c1 c2 : GoVal} {f : FilterImpl} {e : Cause}
    (hs : lookupSig name = some sg) (hp : sg.params = [.val t1, .val t2]) (hf : impls name = some f)
    (h1 : Heap.convArgVal t1 (some recv) = .ok c1) (h2 : Heap.convArgVal t2 (some z) = .ok c2)
    (hbody : f [.val c1, .val c2] = retErr e) :
    applyFilter impls name recv [z] = .err (.filterErr name e) := by
  have hargs : convertArgs [.val t1, .val t2] [recv, z] = .ok [.val c1, .val c2] := by
    rw [convertArgs_val, List.head?_cons, h1, List.tail_cons, convertArgs_val, List.head?_cons, h2]
    rfl
  unfold applyFilter
  simp only [hs, hp, List.length_cons, List.length_nil, hargs, hf, Res.bind, hbody, retErr]
  rfl

theorem applyFilter_recv_fails {impls : Bytes → Option FilterImpl} {name : Bytes} {sg : FilterSig} {t : ParamTy}
    {ps : List Param} {recv v : GoVal} {args : List GoVal}
    (hs : lookupSig name = some sg) (hp : sg.params = .val t :: ps) (hn : recv ≠ .nil)
    (hc : ∀ c, convert recv t ≠ .ok c) : applyFilter impls name recv args ≠ .ok v := by
  unfold applyFilter
  simp only [hs, hp]
  split
  · exact nofun
  · rw [convertArgs_val_cons hn]
    cases hc' : convert recv t with
    | ok c => exact absurd hc' (hc c)
    | _ => exact nofun

namespace ArrF

theorem collect_vals (ws : List GoVal) : FilterImpl.ofEager.collect (ws.map Arg.val) = .ok ws := by
  induction ws with
  | nil => rfl
  | cons w ws ih => simp [FilterImpl.ofEager.collect, ih, Res.bind]

theorem collect_val_fn (v : GoVal) (oc : Option (Res Cause GoVal)) :
    FilterImpl.ofEager.collect [.val v, .fn oc] =
      match oc with
      | none => .ok [v]
      | some c => c.bind fun w => .ok [v, w] := by
  cases oc with
  | none => rfl
  | some c => cases c <;> rfl

/-- an eager body (`returnsErr = false`) on converted values -/
def eagerRes (r : Res Cause GoVal) : Res Cause (Except Cause GoVal) :=
  match r with
  | .ok v => .ok (.ok v)
  | .err c => .err c
  | .panic w => .panic w
  | .unmodelled w => .unmodelled w

theorem eager_of_collect {f : List GoVal → R GoVal} {cs : List Arg} {vs : List GoVal}
    (h : FilterImpl.ofEager.collect cs = .ok vs) : eager f cs = eagerRes (f vs) := by
  simp only [eager, FilterImpl.ofEager, h, Res.bind, eagerRes]
  cases f vs <;> simp [ret]

theorem eager_vals (f : List GoVal → R GoVal) (vs : List GoVal) : eager f (vs.map Arg.val) = eagerRes (f vs) :=
  eager_of_collect (collect_vals vs)

theorem eager_val1 (f : List GoVal → R GoVal) (a : GoVal) : eager f [.val a] = eagerRes (f [a]) := eager_vals f [a]

theorem eager_val2 (f : List GoVal → R GoVal) (a b : GoVal) : eager f [.val a, .val b] = eagerRes (f [a, b]) :=
  eager_vals f [a, b]

theorem finish_eager (name : Bytes) (r : Res Cause GoVal) :
    applyFilter.finish name (eagerRes r) = r.bind fun v => .ok (bytesToString v) := by
  cases r <;> rfl

end ArrF
