import Proofs.DecEq
import Proofs.RenderS
import Proofs.RunLemmas
/-!
# C20 — a failing output writer stops the render with an error, never a panic

`FRender` is the interaction tree `frender …` of calls to the caller's writer. For every
template, environment, configuration, file system and fuel, the tree *stops on failure*: at
each call on the success path a failed write ends the render at once with an error whose
cause is the writer's failure. The consequences for a writer that fails at its `k`-th call
(accepting any part of it) follow for every `k`.
-/

/-- `ctx.RenderFile` renders into a private buffer: it never calls the caller's writer -/
theorem renderFileWith_noCalls (P : Prims) (O : OutPrims) (cfg : Cfg) (fs : FS)
    (inner : Nat → Bytes → Env → Prog (Status × Bytes)) (line : Nat) (f : Bytes) (env : Env) :
    NoCalls (renderFileWith P O cfg fs inner line f env) :=
  noCalls_renderFileWith P O cfg fs inner line f env

theorem renderRoot_stops (c : RCtx) (hc : IncOk c) (root : List Node) (env : Env) :
    Stops (renderRoot c root env) := by
  rw [renderRoot_eq_blockBody]
  exact Stops.bind (stops_renderBlockBody c hc root _) fun _ => .ret _

/-- **C20 (main theorem).** Every `FRender` stops on a writer failure. -/
theorem frender_stops (P : Prims) (O : OutPrims) (cfg : Cfg) (fs : FS) (fuel : Nat) (root : List Node) (env : Env) :
    Stops (frender P O cfg fs fuel root env) := by
  unfold frender
  refine Stops.bind (renderRoot_stops _ (incQuiet_mkCtx P O cfg fs fuel).incOk root env) (fun st => ?_)
  cases st <;> simp [statusToProg] <;> first | exact .ret _ | exact .fail _

/-- **C20 (faulty writers).** For every write-call index `k` of the fault-free render and every
    accepted length `acc`: a writer that fails on call `k` makes `FRender` end with an error whose
    cause is the writer's failure — never success, never a panic — the bytes the writer accepted
    are exactly the first `k` calls plus the accepted part of call `k`, and no call follows. -/
theorem frender_faulty (P : Prims) (O : OutPrims) (cfg : Cfg) (fs : FS) (fuel : Nat) (root : List Node) (env : Env)
    (k acc : Nat) (hk : k < (frender P O cfg fs fuel root env).calls.length) :
    let p := frender P O cfg fs fuel root env
    (∃ e, (runFaulty p (some k) acc).1 = .err e ∧ IsIo e) ∧
    (runFaulty p (some k) acc).2.1 = (p.calls.take k).flatten ++ (p.calls.getD k []).take acc ∧
    (runFaulty p (some k) acc).2.2 = 0 :=
  faulty_spec _ (frender_stops P O cfg fs fuel root env) k acc hk

/-- **C20 (prefix).** Whatever the writer accepted before the failure is a prefix of the output a
    fault-free render produces. -/
theorem frender_faulty_prefix (P : Prims) (O : OutPrims) (cfg : Cfg) (fs : FS) (fuel : Nat) (root : List Node) (env : Env)
    (k acc : Nat) (hk : k < (frender P O cfg fs fuel root env).calls.length) :
    (runFaulty (frender P O cfg fs fuel root env) (some k) acc).2.1 <+:
      (frender P O cfg fs fuel root env).runPure.1 := by
  rw [runPure_calls]
  exact faulty_prefix _ (frender_stops P O cfg fs fuel root env) k acc hk

/-- a capture makes no call on the caller's writer (`captureM_noCalls`) -/
theorem capture_infallible {α} (m : M α) (s : RS) : NoCalls (captureM m s) := captureM_noCalls m s

/-! Non-vacuity: text `a `, trim-left, text `b` makes two underlying write calls, so `k` ranges over a
    non-empty set. -/
def trivPrims : Prims :=
  { equal := fun _ _ => .ok false, less := fun _ _ => .ok false, contains := fun _ _ => .ok false,
    equalFn := fun _ _ => .ok false, applyFilter := fun _ v _ => .ok v, hasFilter := fun _ => true }
def trivOut : OutPrims := { chunks := fun _ => .ok [] }

example :
    (frender trivPrims trivOut {} ⟨fun _ => .notExist, fun _ => none⟩ 1
      [.text 1 [97, 32], .trim true, .text 1 [98]] []).calls.length = 2 := by
  rw [frender, renderRoot_eq_S]; decide +kernel
