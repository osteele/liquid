import Liquid.Std
import Proofs.ToLiquidLemmas
import Proofs.C05
import Proofs.RunLemmas
import Proofs.ParseLemmas
/-!
# C05 (render level) — text, raw bodies and string values reach the output byte for byte

Also the two steps of the block parser inside a comment and inside a raw block, and what the standard output layer writes
for a string value.
-/

/-- what a fault-free writer has received when the program ends -/
def outputOf {α} (p : Prog α) : Bytes := p.runPure.1

theorem frender_single (P : Prims) (O : OutPrims) (cfg : Cfg) (fs : FS) (fuel : Nat) (n : Node) (env : Env) :
    frender P O cfg fs fuel [n] env =
      (renderNode (mkCtx P O cfg fs fuel) n { env := env, tw := {} }).bind fun r =>
        match r.1 with
        | .done => ((wrapFailAt cfg.path invalidLoc flushM) r.2).bind fun _ => .ret ()
        | .brk e => .fail (.located e)
        | .cont e => .fail (.located e) := by
  simp only [frender, renderRoot, renderList, bind, M.bind, pure, Prog.bind_assoc, mkCtx]
  congr 1
  funext r
  obtain ⟨st, s⟩ := r
  cases st <;> simp [Prog.bind, statusToProg, Prog.bind_assoc, M.pure]

theorem frender_of_traced (P : Prims) (O : OutPrims) (cfg : Cfg) (fs : FS) (fuel : Nat) (root : List Node) (env env' : Env)
    (ops : List WOp) (h : TracedAt (renderList (mkCtx P O cfg fs fuel) root) env ops (.ok .done env')) :
    (frender P O cfg fs fuel root env).runPure = (runOps ops, .ok ()) := by
  rw [frender, Prog.runPure_bind, renderRoot_of_traced _ root env ops _ h]
  simp [rootResult, statusToProg, Prog.runPure]

theorem frender_text_run (P : Prims) (O : OutPrims) (cfg : Cfg) (fs : FS) (fuel line : Nat) (src : Bytes) (env : Env) :
    (frender P O cfg fs fuel [.text line src] env).runPure = (src, .ok ()) := by
  rw [frender_of_traced P O cfg fs fuel _ env env _
    (tracedAt_list_cons (tracedAtL_textNode _ line src env).toTracedAt (tracedAt_list_nil _ env))]
  simp only [runOps_eq_twTotal, List.cons_append, List.nil_append, twTotal_cons, twTotal_nil, TW.step, Gen.flatten_flushCalls,
    Bool.false_eq_true, if_false]

theorem frender_raw_run (P : Prims) (O : OutPrims) (cfg : Cfg) (fs : FS) (fuel : Nat) (slices : List Bytes) (env : Env) :
    (frender P O cfg fs fuel [.raw slices] env).runPure = (slices.flatten, .ok ()) := by
  rw [frender_of_traced P O cfg fs fuel _ env env _ (tracedAt_list_cons (tracedAt_rawNode _ slices env) (tracedAt_list_nil _ env)),
    runOps_eq_twTotal, twTotal_verbatims, twTotal_nil, List.append_nil]

/-- **C05 (text).** A template that is a single text node renders to exactly that text. -/
theorem text_renders_itself (P : Prims) (O : OutPrims) (cfg : Cfg) (fs : FS) (fuel line : Nat) (src : Bytes) (env : Env) :
    outputOf (frender P O cfg fs fuel [.text line src] env) = src :=
  congrArg Prod.fst (frender_text_run P O cfg fs fuel line src env)

/-- **C05 (raw).** The body of a raw block is emitted exactly as written, whatever tag-like text
    it contains: the slices (token sources) of the body, concatenated. -/
theorem raw_verbatim (P : Prims) (O : OutPrims) (cfg : Cfg) (fs : FS) (fuel : Nat) (slices : List Bytes) (env : Env) :
    outputOf (frender P O cfg fs fuel [.raw slices] env) = slices.flatten :=
  congrArg Prod.fst (frender_raw_run P O cfg fs fuel slices env)

/-- **C05 (comment).** Inside a comment block the parser skips every token that is not the
    `endcomment` tag: the body contributes nothing and is never handed to the expression parser. -/
theorem comment_body_skipped (g : Grammar) (chk : Bytes → Option Cause) (s : PState) (o tok : Token)
    (hm : s.mode = .comment o) (h : ¬ (tok.ty = .tag ∧ tok.name = endcommentName)) :
    parseStep g chk s tok = .ok s := by
  obtain ⟨cur, st, mode⟩ := s
  cases hm
  exact step_inComment_other (Bool.eq_false_iff.mpr (mt isEndComment_iff.mp h))

/-- inside a raw block every token that is not the `endraw` tag is kept as its source text -/
theorem raw_body_kept (g : Grammar) (chk : Bytes → Option Cause) (s : PState) (o tok : Token) (sl : List Bytes)
    (hm : s.mode = .raw o sl) (h : ¬ (tok.ty = .tag ∧ tok.name = endrawName)) :
    parseStep g chk s tok = .ok { s with mode := .raw o (tok.source :: sl) } := by
  obtain ⟨cur, st, mode⟩ := s
  cases hm
  exact step_inRaw_other (Bool.eq_false_iff.mpr (mt isEndRaw_iff.mp h))

/-- **C05 (string values).** A string printed by an object is written exactly: one write of its
    bytes, no escaping, re-encoding or truncation. -/
theorem string_value_exact (s : Bytes) : stdChunks (.str s) = .ok [s] := by
  simp [stdChunks, GoVal.toLiquid, writeChunksL, writeObjectL, sprint, Res.bind]

theorem bytes_value_exact (s : Bytes) : stdChunks (.bytes s) = .ok [s] := by
  simp [stdChunks, GoVal.toLiquid, writeChunksL, writeObjectL, Res.bind]

theorem drop_string_value_exact (s : Bytes) : stdChunks (.drop (.str s)) = .ok [s] := by
  simp [stdChunks, GoVal.toLiquid, writeChunksL, writeObjectL, sprint, Res.bind]

/-- nil prints nothing at all (not even an empty write) -/
theorem nil_prints_nothing : stdChunks .nil = .ok [] := by
  simp [stdChunks, GoVal.toLiquid, writeChunksL]
