import Proofs.DecEq
import Proofs.RenderS
import Proofs.MapOrderLemmas
import Proofs.PostLemmas
import Proofs.LoopLemmas
import Proofs.Budget
/-!
# C11 — loops visit exactly the selected items with consistent forloop state

Statements about the compiled tree and the loop machinery of `Liquid/Render.lean`, for every
`Prims`, state and item list.
-/

/-- **C11 (ranges).** `(a..b)` yields none when `b < a`… -/
theorem rangeItems_empty (a b : Int) (h : b < a) : rangeItems a b = [] := by
  simp [rangeItems, h]

theorem rangeItems_length (a b : Int) (h : a ≤ b) : (rangeItems a b).length = (b - a + 1).toNat := by
  have : ¬ b < a := by omega
  simp [rangeItems, this]

/-- …and otherwise the integers `a, a+1, …, b` in order. -/
theorem rangeItems_get (a b : Int) (i : Nat) (h : a ≤ b) (hi : i < (b - a + 1).toNat) :
    (rangeItems a b)[i]? = some (.int .int (a + i)) := by
  have : ¬ b < a := by omega
  simp [rangeItems, this, hi]

theorem rangeItems_ints (a b : Int) : ∀ x ∈ rangeItems a b, ∃ k, x = .int .int k := by
  intro x hx
  unfold rangeItems at hx
  split at hx
  · cases hx
  · simp only [List.mem_map] at hx
    obtain ⟨j, _, rfl⟩ := hx
    exact ⟨_, rfl⟩

/-- a loop over `(a..b)` visits `rangeItems a b` under EVERY budget of the executable model that is at least `b - a`
    (the Go code iterates lazily and has no limit; the budget has no counterpart in it) -/
theorem loopItems_range (budget a b : Int) (h : b - a ≤ budget) : loopItems budget (.range a b) = .ok (rangeItems a b) := by
  simp only [loopItems]
  rw [if_neg (by omega)]

/-- arrays, typed slices and fixed arrays are visited element by element, in order -/
theorem loopItems_slice (budget : Int) (t : Ty) (xs : List GoVal) : loopItems budget (.slice t xs) = .ok xs := rfl
theorem loopItems_array (budget : Int) (t : Ty) (xs : List GoVal) : loopItems budget (.array t xs) = .ok xs := rfl
/-- a map is visited as `[key, value]` pairs, one per entry, in the order of `values.SortedMapKeys`
    (`MapOrder.sortedEntries`: whatever the order of the entry list `kvs`; `Proofs/MapOrder.lean`
    proves that order independent of it). The only map without an answer has several keys that are
    neither booleans, numbers nor strings (`MapOrder.manyClass4`: ordered by `fmt.Sprint`). -/
theorem loopItems_map (budget : Int) (k v : Ty) (kvs : List (GoVal × GoVal)) (h : MapOrder.manyClass4 kvs = false) :
    loopItems budget (.map k v kvs) = .ok ((MapOrder.sortedEntries kvs).map fun kv => mkPair kv.1 kv.2) := by
  simp [loopItems, MapOrder.sortedMapEntries, h]
theorem loopItems_map_length (budget : Int) (k v : Ty) (kvs : List (GoVal × GoVal)) (xs : List GoVal)
    (h : loopItems budget (.map k v kvs) = .ok xs) : xs.length = kvs.length := by
  simp only [loopItems] at h
  rcases MapOrder.sortedMapEntries_cases (ε := Cause) kvs with ⟨_, h1⟩ | ⟨_, w, h1⟩
  · rw [h1] at h
    simp only [Res.bind_ok, Res.ok.injEq] at h
    subst h
    simp [MapOrder.sortedEntries_length]
  · rw [h1] at h; cases h
theorem loopItems_nil (budget : Int) : loopItems budget .nil = .ok [] := rfl

/-- **C11 (selection).** `reversed`, `offset: o`, `limit: n` select: reverse, then skip `o`, then
    take `n`; an absent or non-positive offset skips nothing and an absent or negative limit
    takes everything. -/
theorem select_spec (r : Bool) (off lim : Option Int) (xs : List GoVal) :
    selectItems r off lim xs =
      let a := if r then xs.reverse else xs
      let b := a.drop (off.getD 0).toNat
      match lim with
      | some l => if l ≥ 0 then b.take l.toNat else b
      | none => b := by
  unfold selectItems
  cases off with
  | none => cases lim <;> simp
  | some o =>
    by_cases ho : o > 0
    · cases lim <;> simp [ho]
    · have : o.toNat = 0 := by omega
      cases lim <;> simp [ho, this]

theorem selectItems_mem (r : Bool) (off lim : Option Int) (xs : List GoVal) : ∀ x ∈ selectItems r off lim xs, x ∈ xs := by
  intro x hx
  rw [select_spec] at hx
  have h1 : x ∈ (if r then xs.reverse else xs).drop (off.getD 0).toNat → x ∈ xs := fun h => by
    have := List.mem_of_mem_drop h
    split at this
    · exact List.mem_reverse.mp this
    · exact this
  cases lim with
  | none => exact h1 hx
  | some l =>
    simp only at hx
    split at hx
    · exact h1 (List.mem_of_mem_take hx)
    · exact h1 hx

theorem select_plain (xs : List GoVal) : selectItems false none none xs = xs := by simp [selectItems]

theorem select_offset_limit (xs : List GoVal) (o l : Nat) :
    selectItems false (some o) (some l) xs = (xs.drop o).take l := by
  rw [select_spec]; simp

theorem select_reversed (xs : List GoVal) : selectItems true none none xs = xs.reverse := by simp [selectItems]

theorem select_length_le (r : Bool) (off lim : Option Int) (xs : List GoVal) :
    (selectItems r off lim xs).length ≤ xs.length := by
  rw [select_spec]
  simp only
  have h1 : ((if r then xs.reverse else xs).drop (off.getD 0).toNat).length ≤ xs.length := by
    cases r <;> simp
  cases lim with
  | none => exact h1
  | some l =>
    simp only
    split
    · exact Nat.le_trans (by simp [List.length_take]; omega) h1
    · exact h1

def fieldOf (v : GoVal) (name : String) : GoVal.LRes := v.propertyValue name.toUTF8.toList

/-- **C11 (forloop).** In iteration `i` (0-based) of `n`: `index = i+1`, `index0 = i`,
    `rindex = n-i`, `rindex0 = n-i-1`, `length = n`, `first ⇔ i = 0`, `last ⇔ i+1 = n`. -/
theorem forloop_index (i n : Nat) (cyc) : (forloopRec i n cyc).propertyValue [105, 110, 100, 101, 120] = .val (.int .int (i + 1)) := by
  unfold forloopRec
  rfl
theorem forloop_index0 (i n : Nat) (cyc) : (forloopRec i n cyc).propertyValue [105, 110, 100, 101, 120, 48] = .val (.int .int i) := by
  unfold forloopRec
  rfl
theorem forloop_rindex (i n : Nat) (cyc) : (forloopRec i n cyc).propertyValue [114, 105, 110, 100, 101, 120] = .val (.int .int (n - i)) := by
  unfold forloopRec
  rfl
theorem forloop_rindex0 (i n : Nat) (cyc) : (forloopRec i n cyc).propertyValue [114, 105, 110, 100, 101, 120, 48] = .val (.int .int ((n : Int) - i - 1)) := by
  unfold forloopRec
  rfl
theorem forloop_length (i n : Nat) (cyc) : (forloopRec i n cyc).propertyValue [108, 101, 110, 103, 116, 104] = .val (.int .int n) := by
  unfold forloopRec
  rfl
theorem forloop_first (i n : Nat) (cyc) : (forloopRec i n cyc).propertyValue [102, 105, 114, 115, 116] = .val (.bool (i == 0)) := by
  unfold forloopRec
  rfl
theorem forloop_last (i n : Nat) (cyc) : (forloopRec i n cyc).propertyValue [108, 97, 115, 116] = .val (.bool (i + 1 == n)) := by
  unfold forloopRec
  rfl

/-- a program all of whose results carry the status `done` -/
def ReturnsDone (p : Prog (Status × RS)) : Prop := AllRet (fun r => r.1 = .done) p

/-- **C11 (innermost loop only).** Whatever its body does, a loop execution never passes a
    `break` or `continue` on: the sentinel is consumed by the loop that encloses it directly. -/
theorem iterate_consumes (var : Bytes) (cols : Option Nat) (body : M Status) (n : Nat) :
    ∀ xs i cyc s, ReturnsDone (iterateM var cols body n xs i cyc s) :=
  iterateM_done var cols body n

/-- **C11 (break).** When the body of an iteration ends with `break`, no further item is visited. -/
theorem iterate_break (var : Bytes) (body : M Status) (n : Nat) (x : GoVal) (xs : List GoVal) (i : Nat) (cyc) (s : RS)
    (e : SErr) (s' : RS)
    (hb : body { s with env := (s.env.set var x).set nmForloop (forloopRec i n cyc) } = .ret (.brk e, s')) :
    iterateM var none body n (x :: xs) i cyc s = .ret (.done, s') := by
  unfold iterateM
  simp only [bind, M.bind, M.setVar, M.getVar, Prog.bind, pure, M.pure, hb]

/-- **C11 (continue / normal end).** When the body ends normally or with `continue`, the loop goes
    on with the next item, index `i+1`, and the cycle counters the body left behind. -/
theorem iterate_next (var : Bytes) (body : M Status) (n : Nat) (x : GoVal) (xs : List GoVal) (i : Nat) (cyc) (s : RS)
    (st : Status) (s' : RS) (hst : ∀ e, st ≠ .brk e)
    (hb : body { s with env := (s.env.set var x).set nmForloop (forloopRec i n cyc) } = .ret (st, s')) :
    iterateM var none body n (x :: xs) i cyc s =
      iterateM var none body n xs (i + 1)
        (match cyclesOf (s'.env.get nmForloop) with | some (c, _) => c | none => cyc) s' := by
  conv => lhs; unfold iterateM
  simp only [bind, M.bind, M.setVar, M.getVar, Prog.bind, pure, M.pure, hb]
  cases st with
  | brk e => exact absurd rfl (hst e)
  | done => rfl
  | cont e => rfl

/-- **C11 (cycle).** Per loop execution and group, the counter a cycle tag reads is the number of
    times a cycle tag of that group has run: reading after writing `n` gives `n`… -/
theorem cycleGet_set_same (cyc : List (GoVal × GoVal)) (g : Bytes) (n : Nat)
    (h : ∀ kv ∈ cyc, ∃ k v, kv = (GoVal.str k, v)) : cycleGet (cycleSet cyc g n) g = n := by
  induction cyc with
  | nil => simp [cycleSet, cycleGet]
  | cons kv cyc ih =>
    obtain ⟨k, v, rfl⟩ := h kv (by simp)
    simp only [cycleSet]
    split
    · next hk => simp [cycleGet, hk]
    · next hk =>
      split
      · simp [cycleGet]
      · have hne : (k == g) = false := by simpa using hk
        have := ih (fun x hx => h x (by simp [hx]))
        simpa [cycleGet, List.find?_cons, hne] using this

/-- the counter of a fresh loop execution is zero for every group, so the first value is emitted first -/
theorem cycleGet_fresh (g : Bytes) : cycleGet [] g = 0 := rfl

/-- **C11 (tablerow).** Before item `i` (0-based) a tablerow with `cols` columns opens a row
    `<tr class="rowR">` when `i` is a multiple of `cols`, then the cell `<td class="colC">`. -/
theorem tablerow_before (cols i : Nat) :
    tablerowBefore cols i = (do
      if i % cols == 0 then writeM (bs "<tr class=\"row" ++ natBytes (i / cols + 1) ++ bs "\">")
      writeM (bs "<td class=\"col" ++ natBytes (i % cols + 1) ++ bs "\">")) := rfl

/-- after the item the cell is closed, and the row when it is full or the item is the last -/
theorem tablerow_after (cols i l : Nat) :
    tablerowAfter cols i l = (do
      writeM (bs "</td>")
      if (i + 1) % cols == 0 || i + 1 == l then writeM (bs "</tr>")) := rfl

/-! ## The whole loop in one equation -/

/-- in the state where the body of iteration `i` of `n` over item `x` starts, `forloop` is bound to
    the record of the `forloop_*` formulas and the loop variable to the item -/
theorem iterStart_forloop (var : Bytes) (s : RS) (x : GoVal) (i n : Nat) (cyc) :
    (iterStart var s x i n cyc).env.get nmForloop = forloopRec i n cyc ∧ (iterStart var s x i n cyc).tw = s.tw :=
  ⟨Env.get_set_same _ _ _, rfl⟩

theorem iterStart_var (var : Bytes) (s : RS) (x : GoVal) (i n : Nat) (cyc) (h : var ≠ nmForloop) :
    (iterStart var s x i n cyc).env.get var = x := by
  simp only [iterStart]
  rw [Env.get_set_other _ _ _ _ h, Env.get_set_same]

/-- every other variable is what it was before the iteration -/
theorem iterStart_other (var : Bytes) (s : RS) (x : GoVal) (i n : Nat) (cyc) (y : Bytes) (h1 : y ≠ var) (h2 : y ≠ nmForloop) :
    (iterStart var s x i n cyc).env.get y = s.env.get y := by
  simp only [iterStart]
  rw [Env.get_set_other _ _ _ _ h2, Env.get_set_other _ _ _ _ h1]

/-- **C11 (loop_denotation).** A `for` or `tablerow` node on a writer that does not fail, once its
    collection evaluates to `v` with items `items0`, and `offset`, `limit` (and `cols`) evaluate to
    `off`, `lim` (`cols`): let `items = selectItems reversed off lim items0` (by `select_spec`:
    reverse, skip, take).
    * If nothing is selected and there is an `else` clause, the node renders that clause.
    * Otherwise the bytes written and the final state are those of the **left fold of `iterStep`
      over `items`**, started with index 0, empty cycle counters and the current state: step `i`
      binds the loop variable to the item and `forloop` to `forloopRec i items.length cyc`
      (`iterStart`; fields by `forloop_index` … `forloop_last`), renders the body (`iterBody`: for a
      tablerow between `tablerowBefore`/`tablerowAfter`, see `tablerow_before`/`tablerow_after`) and
      appends its bytes; a body ending with `break` stops the fold (`LoopSt.broke`: later items
      change nothing, `iterStep_foldl_broke`), one ending normally or with `continue` (which has
      skipped the rest of that iteration's body) goes on with index `i+1` and the cycle counters
      the body left; a failing body abandons the render, the error being located at the loop tag.
      At the end the status is `done` (sentinels are consumed) and `forloop` and the loop variable
      have the values they had before the loop (`restoreFrom`).
    Proof: `loopRun_eq` and `loopIterate_run` (Proofs/LoopLemmas.lean: `iterate_fold`). The lemmas `select_spec`,
    `forloop_*`, `tablerow_before/after` read the pieces of the right-hand side. -/
theorem loop_denotation (c : RCtx) (line : Nat) (tr : Bool) (var : Bytes) (e : Expr) (mods : LoopMods) (body : List Node)
    (clauses : List (List Node)) (s : RS) (v : GoVal) (items0 : List GoVal) (off lim : Option Int) (cols : Option Nat)
    (hcl : clauses.length ≤ 1)
    (hv : evaluate c.P s.env e = .ok v) (hitems : loopItems c.cfg.budget v = .ok items0)
    (hoff : intModifier c.P mods.offset ⟨line, true⟩ s = .ret (off, s))
    (hlim : intModifier c.P mods.limit ⟨line, true⟩ s = .ret (lim, s))
    (hcols : tablerowCols c.P tr mods.cols ⟨line, true⟩ s = .ret (cols, s)) :
    (renderNode c (.loop line tr var e mods body clauses) s).runPure =
      match selectItems mods.reversed off lim items0, clauses with
      | [], [els] => (wrapAt c.cfg.path ⟨line, true⟩ (renderBlockBody c els) s).runPure
      | items, _ =>
        loopResult (fun e => .located (wrapError c.cfg.path e ⟨line, true⟩)) var s
          (items.foldl (iterStep var cols (renderBlockBody c body) items.length) (LoopAcc.start s)) := by
  -- the iterations, wrapped at the tag
  have hiter : ∀ items : List GoVal,
      (wrapAt c.cfg.path ⟨line, true⟩ (loopIterate c.P ⟨line, true⟩ tr var mods.cols (renderBlockBody c body) items) s).runPure =
        loopResult (fun e => .located (wrapError c.cfg.path e ⟨line, true⟩)) var s
          (items.foldl (iterStep var cols (renderBlockBody c body) items.length) (LoopAcc.start s)) := by
    intro items
    rw [runPure_wrapAt, loopIterate_run c.P ⟨line, true⟩ tr var mods.cols _ items s cols hcols]
    simp only [loopResult]
    rcases (items.foldl (iterStep var cols (renderBlockBody c body) items.length) (LoopAcc.start s)) with ⟨out, i, cyc, st⟩
    cases st with
    | running s' => rfl
    | broke s' => rfl
    | halted h => cases h <;> rfl
  match clauses, hcl with
  | [], _ =>
    rw [renderNode]
    rw [loopRun_eq c.P c.cfg.path ⟨line, true⟩ tr var e mods _ none s v items0 off lim hv hitems hoff hlim, no_else_clause]
    rw [hiter]
    split
    · simp_all
    · rfl
  | [els], _ =>
    rw [renderNode]
    rw [loopRun_eq c.P c.cfg.path ⟨line, true⟩ tr var e mods _ (some _) s v items0 off lim hv hitems hoff hlim]
    cases hsel : selectItems mods.reversed off lim items0 with
    | nil => rw [else_when_empty]
    | cons x xs => rw [no_else_when_nonempty, hiter]
  | _ :: _ :: _, h => simp at h

/-- **C11 (for_denotation).** `loop_denotation` for `{% for %}`: no decoration — an iteration
    renders just the body (`iterBody none body i n = body`, up to the monad laws). -/
theorem for_denotation (c : RCtx) (line : Nat) (var : Bytes) (e : Expr) (mods : LoopMods) (body : List Node)
    (clauses : List (List Node)) (s : RS) (v : GoVal) (items0 : List GoVal) (off lim : Option Int)
    (hcl : clauses.length ≤ 1)
    (hv : evaluate c.P s.env e = .ok v) (hitems : loopItems c.cfg.budget v = .ok items0)
    (hoff : intModifier c.P mods.offset ⟨line, true⟩ s = .ret (off, s))
    (hlim : intModifier c.P mods.limit ⟨line, true⟩ s = .ret (lim, s)) :
    (renderNode c (.loop line false var e mods body clauses) s).runPure =
      match selectItems mods.reversed off lim items0, clauses with
      | [], [els] => (wrapAt c.cfg.path ⟨line, true⟩ (renderBlockBody c els) s).runPure
      | items, _ =>
        loopResult (fun e => .located (wrapError c.cfg.path e ⟨line, true⟩)) var s
          (items.foldl (iterStep var none (renderBlockBody c body) items.length) (LoopAcc.start s)) :=
  loop_denotation c line false var e mods body clauses s v items0 off lim none hcl hv hitems hoff hlim
    (tablerowCols_for _ _ _ _)

/-- the body of a `for` iteration is the block body itself -/
theorem iterBody_for (body : M Status) (i n : Nat) (s : RS) :
    (iterBody none body i n s).runPure = (body s).runPure := by
  simp only [iterBody, bind, M.bind, pure, M.pure, Prog.bind, Prog.runPure_bind]
  rcases (body s).runPure with ⟨o, r⟩
  cases r with
  | ok r => obtain ⟨st, s'⟩ := r; simp [Prog.runPure]
  | _ => rfl

/-- **C11 (tablerow_denotation).** `loop_denotation` for `{% tablerow %}` with `cols` columns
    (`cols` absent or not positive: unbounded, `tablerowCols_none`/`tablerowCols_int`): iteration `i`
    renders `tablerowBefore cols i`, the body, `tablerowAfter cols i n` (`tablerow_before`,
    `tablerow_after`: `<tr class="rowR">` before every `cols`-th item, `<td class="colC">` … `</td>`
    around each, `</tr>` after every `cols`-th and after the last). -/
theorem tablerow_denotation (c : RCtx) (line : Nat) (var : Bytes) (e : Expr) (mods : LoopMods) (body : List Node)
    (clauses : List (List Node)) (s : RS) (v : GoVal) (items0 : List GoVal) (off lim : Option Int) (cols : Nat)
    (hcl : clauses.length ≤ 1)
    (hv : evaluate c.P s.env e = .ok v) (hitems : loopItems c.cfg.budget v = .ok items0)
    (hoff : intModifier c.P mods.offset ⟨line, true⟩ s = .ret (off, s))
    (hlim : intModifier c.P mods.limit ⟨line, true⟩ s = .ret (lim, s))
    (hcols : tablerowCols c.P true mods.cols ⟨line, true⟩ s = .ret (some cols, s)) :
    (renderNode c (.loop line true var e mods body clauses) s).runPure =
      match selectItems mods.reversed off lim items0, clauses with
      | [], [els] => (wrapAt c.cfg.path ⟨line, true⟩ (renderBlockBody c els) s).runPure
      | items, _ =>
        loopResult (fun e => .located (wrapError c.cfg.path e ⟨line, true⟩)) var s
          (items.foldl (iterStep var (some cols) (renderBlockBody c body) items.length) (LoopAcc.start s)) :=
  loop_denotation c line true var e mods body clauses s v items0 off lim (some cols) hcl hv hitems hoff hlim hcols

theorem iterBody_tablerow (cols : Nat) (body : M Status) (i n : Nat) :
    iterBody (some cols) body i n = (do
      tablerowBefore cols i
      let st ← body
      tablerowAfter cols i n
      pure st) := rfl

/-! ### Non-vacuity of the denotation theorems

A minimal context (strings print as themselves), the loop `{% for x in ["a","b","c"] %}…{% endfor %}`. -/

def c11Prims : Prims :=
  { equal := fun _ _ => .ok false, less := fun _ _ => .ok false, contains := fun _ _ => .ok false,
    equalFn := fun _ _ => .ok false, applyFilter := fun _ v _ => .ok v, hasFilter := fun _ => false }
def c11Out : OutPrims := { chunks := fun v => match v with | .str b => .ok [b] | _ => .ok [] }
def c11Ctx : RCtx := { P := c11Prims, O := c11Out, cfg := {}, inc := fun _ _ _ => .unmodelled "no include" }
def c11Abc : List GoVal := [.str [97], .str [98], .str [99]]

/-- all hypotheses of `for_denotation` hold for the literal array, `offset: 1`, no limit, any body -/
example (body : List Node) :
    (renderNode c11Ctx (.loop 1 false [120] (.lit (.slice .any c11Abc)) { offset := some (.lit (.int .int 1)) } body [])
        ⟨[], {}⟩).runPure =
      loopResult (fun e => .located (wrapError [] e ⟨1, true⟩)) [120] ⟨[], {}⟩
        ([GoVal.str [98], .str [99]].foldl (iterStep [120] none (renderBlockBody c11Ctx body) 2) (LoopAcc.start ⟨[], {}⟩)) :=
  for_denotation c11Ctx 1 [120] (.lit (.slice .any c11Abc)) { offset := some (.lit (.int .int 1)) } body []
    ⟨[], {}⟩ (.slice .any c11Abc) c11Abc (some 1) none (by decide) rfl rfl rfl rfl

/-- the fold on a body that prints the item: `abc`, index 3, still running -/
example :
    (c11Abc.foldl (iterStep [120] none (renderBlockBody c11Ctx [.obj 1 (.var [120])]) 3) (LoopAcc.start ⟨[], {}⟩)).out =
      [97, 98, 99] := by
  simp only [renderBlockBody_eq, renderList_eq_S]
  decide +kernel

/-- the fold on a body `{{ x }}{% break %}`: the first item only (a value is written through
    `WriteVerbatim`: it has reached the writer, nothing is pending), then the loop is over — the
    items `b`, `c` change nothing -/
example :
    ∃ s', (c11Abc.foldl (iterStep [120] none (renderBlockBody c11Ctx [.obj 1 (.var [120]), .brk 1]) 3)
        (LoopAcc.start ⟨[], {}⟩)).st = .broke s' ∧ s'.tw = { buf := [], trim := false } ∧
      (c11Abc.foldl (iterStep [120] none (renderBlockBody c11Ctx [.obj 1 (.var [120]), .brk 1]) 3)
        (LoopAcc.start ⟨[], {}⟩)).out = [97] := by
  simp only [renderBlockBody, renderList, renderNode]
  exact ⟨_, rfl, rfl, rfl⟩

/-- `{% continue %}` first: every item is visited (index reaches 3), nothing is printed -/
example :
    (c11Abc.foldl (iterStep [120] none (renderBlockBody c11Ctx [.cont 1, .obj 1 (.var [120])]) 3)
        (LoopAcc.start ⟨[], {}⟩)).i = 3 ∧
    (c11Abc.foldl (iterStep [120] none (renderBlockBody c11Ctx [.cont 1, .obj 1 (.var [120])]) 3)
        (LoopAcc.start ⟨[], {}⟩)).out = [] := by
  simp only [renderBlockBody_eq, renderList_eq_S]
  decide +kernel

/-! ## The budgets of the executable model are not part of the semantics -/

/-- **C11 (a range loop of any size).** The Go code iterates `(a..b)` lazily, without a limit; the model does the same
    under a sufficient budget, and the budget is arbitrary. For every `a ≤ b` — no bound on `b - a` — there is a budget
    (any `budget ≥ b - a`), and in every context with such a budget a `for` loop whose collection evaluates to `(a..b)`
    visits exactly `rangeItems a b`: `b - a + 1` items, the `i`-th being `a + i`, in this order — what the node renders
    is the left fold of its body over them (`for_denotation`; the modifiers select from them as `select_spec` says). -/
theorem range_loop_any_size (a b : Int) (hab : a ≤ b) :
    (∃ budget : Int, b - a ≤ budget) ∧
    ∀ c : RCtx, b - a ≤ c.cfg.budget →
      loopItems c.cfg.budget (.range a b) = .ok (rangeItems a b) ∧
      (rangeItems a b).length = (b - a + 1).toNat ∧
      (∀ i : Nat, i < (b - a + 1).toNat → (rangeItems a b)[i]? = some (.int .int (a + i))) ∧
      ∀ (line : Nat) (var : Bytes) (e : Expr) (body : List Node) (s : RS), evaluate c.P s.env e = .ok (.range a b) →
        (renderNode c (.loop line false var e {} body []) s).runPure =
          loopResult (fun e => .located (wrapError c.cfg.path e ⟨line, true⟩)) var s
            ((rangeItems a b).foldl (iterStep var none (renderBlockBody c body) (rangeItems a b).length) (LoopAcc.start s)) := by
  refine ⟨⟨b - a, Int.le_refl _⟩, fun c hc => ⟨loopItems_range _ a b hc, rangeItems_length a b hab,
    fun i hi => rangeItems_get a b i hab hi, ?_⟩⟩
  intro line var e body s hv
  have h := for_denotation c line var e {} body [] s (.range a b) (rangeItems a b) none none (by simp) hv
    (loopItems_range _ a b hc) rfl rfl
  rw [h]
  have hs : selectItems ({} : LoopMods).reversed none none (rangeItems a b) = rangeItems a b := by simp [selectItems]
  rw [hs]
  cases rangeItems a b <;> rfl

/-- **C11 (the budget is not part of the semantics: the items of a loop).** Raising the budget never changes the items:
    what `loopItems` answers under `n` (items, or the `unmodelled` of a map with several unordered keys — which does not
    depend on the budget either) it answers under every `m ≥ n`, unless it was the `unmodelled` of the budget itself. -/
theorem budget_monotone_loopItems (n m : Int) (h : n ≤ m) (v : GoVal) (hn : ∀ w, loopItems n v ≠ .unmodelled w) :
    loopItems m v = loopItems n v :=
  (loopItems_le h v).eq hn

/-- **C11, C12, C01 (the budgets are not part of the semantics: a whole render).** `budget_monotone`: for every value layer,
    output layer, configuration, file system, include depth, source and environment — a render that gives an answer
    (output, or a located error, or even a panic) under the loop budget `cfg.budget` gives the SAME answer under every larger
    one. Through `for`/`tablerow` nodes, their bodies and `else` clauses, captures, conditions, and included files at
    every depth (`Proofs/Budget.lean`: `renderNode_le`, `incFuel_le`, `run_le`). -/
theorem budget_monotone (P : Prims) (O : OutPrims) (cfg : Cfg) (fs : FS) (fuel : Nat) (src : Bytes) (line : Nat) (env : Env)
    (m : Int) (hm : cfg.budget ≤ m) (hn : ∀ w, run P O cfg fs fuel src line env ≠ .unmodelled w) :
    run P O { cfg with budget := m } fs fuel src line env = run P O cfg fs fuel src line env := by
  rcases run_le (PrimsLe.refl P) O cfg hm fs fuel src line env with ⟨w, h⟩ | h
  · exact absurd h (hn w)
  · exact h

/-- **C11, C15 (both budgets, the standard engine).** The standard value layer with the budget `n` for the array conversion
    of a range (`stdPrimsB n`; the driver's `stdPrims` is `stdPrimsB 1000000`) and the loop budget `cfg.budget`: a render
    that gives an answer gives the same answer when either budget, or both, are raised. In particular what `runStd` (the
    function the model binary computes, and every theorem about it) answers is the answer under ALL larger budgets. -/
theorem budget_monotone_std (cfg : Cfg) (fs : FS) (fuel : Nat) (src : Bytes) (line : Nat) (env : Env) (n n' m : Int)
    (hn' : n ≤ n') (hm : cfg.budget ≤ m) (hn : ∀ w, run (stdPrimsB n) stdOut cfg fs fuel src line env ≠ .unmodelled w) :
    run (stdPrimsB n') stdOut { cfg with budget := m } fs fuel src line env = run (stdPrimsB n) stdOut cfg fs fuel src line env := by
  rcases run_le (stdPrimsB_le hn') stdOut cfg hm fs fuel src line env with ⟨w, h⟩ | h
  · exact absurd h (hn w)
  · exact h

/-- **C11, C15 (what the driver computes).** `runStd` — the function behind every `render` case line, with the two default
    budgets — when it gives an answer, gives the answer of every run with larger budgets: the defaults limit which inputs
    the model binary answers, never what the answer is. -/
theorem budget_monotone_runStd (cfg : Cfg) (fs : FS) (src : Bytes) (line : Nat) (env : Env) (n' m : Int)
    (hn' : 1000000 ≤ n') (hm : cfg.budget ≤ m) (hn : ∀ w, runStd cfg fs src line env ≠ .unmodelled w) :
    run (stdPrimsB n') stdOut { cfg with budget := m } fs maxIncludeDepth src line env = runStd cfg fs src line env :=
  budget_monotone_std cfg fs maxIncludeDepth src line env 1000000 n' m hn' hm hn

/-- a loop node in isolation: the same, for the interaction tree (every answer of the writer), with the order
    `PLe` = "does the same up to the point, if any, where the smaller budget gave up" -/
theorem budget_monotone_loop_node (c : RCtx) (m : Int) (hm : c.cfg.budget ≤ m) (line : Nat) (tr : Bool) (var : Bytes) (e : Expr)
    (mods : LoopMods) (body : List Node) (clauses : List (List Node)) (s : RS) :
    PLe (renderNode c (.loop line tr var e mods body clauses) s)
      (renderNode { c with cfg := { c.cfg with budget := m } } (.loop line tr var e mods body clauses) s) :=
  renderNode_le c c.P m c.inc (PrimsLe.refl _) hm (fun _ _ _ => PLe.refl _) _ s

/-- non-vacuity: under the default budget the loop over `(0..100001)` has no answer; under 100001 it visits 100002 items,
    and so under every larger budget -/
example : loopItems ({} : Cfg).budget (.range 0 100001) = .unmodelled "huge range" := rfl
example (m : Int) (h : 100001 ≤ m) : loopItems m (.range 0 100001) = .ok (rangeItems 0 100001) :=
  loopItems_range m 0 100001 (by omega)
-- (`budget_monotone` on source bytes: the last example of `Proofs/C11Source.lean`)

example : selectItems true (some 1) (some 2) [.int .int 1, .int .int 2, .int .int 3, .int .int 4]
    = [.int .int 3, .int .int 2] := by simp [selectItems]
example : rangeItems 2 4 = [.int .int 2, .int .int 3, .int .int 4] := by simp [rangeItems, List.range, List.range.loop]
