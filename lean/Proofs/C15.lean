import Proofs.DecEq
import Proofs.C08
import Proofs.HeapCall
import Proofs.Budget
/-!
# C15 — array filters compute their documented function and never modify their input

The bodies are `ArrF.compactF`, `ArrF.sortF`, … of `Liquid/Filters/Arr.lean` (tied to
`filters/standard_filters.go`, `filters/sort_filters.go`, `values/sort.go`, `values/convert.go`
by the `arrf`, `filter` and `render` streams). Every statement is for an arbitrary list (no
bound on length or contents).

Vocabulary: `insertionSort` is Go's (`sort/zsortinterface.go`) — all of `sort.Sort` up to 12 elements;
`ArrF.lessB` is `values.Less`; `ArrF.homog xs` says `xs` is homogeneous (all integers /
all numbers with the integers inside ±2⁵³ / all strings / all booleans / all nil / all unordered
values) — the arrays on which `Less` is a strict weak order; `ArrF.IntWF x` says an unsigned
integer is not negative (true of every Go value, the protocol cannot spell anything else).

The theorems through the call layer (`unary_filters`, `nil_receiver`, `sort_concat_filters`) are proved
with `Heap.bodyP`, `Heap.convAnysP`, `Heap.applyFilter_bodyP` (`Proofs/HeapStage.lean`,
`Proofs/HeapFilters.lean`, `Proofs/HeapCall.lean`): despite the namespace these are functions of values, the pure half of the
refinement of `Proofs/C15Heap.lean`, and say nothing about memory.
-/

open ArrF

/-! ## Go's insertion sort — all of `sort.Sort` on at most 12 elements (`Liquid/InsertionSort.lean`)

`lt` is the comparator (`data.Less`); nothing is assumed about it unless stated. -/

/-- The insertion sort returns a permutation of its input — for every comparator. -/
theorem insertionSort_perm {α : Type} (lt : α → α → Bool) (xs : List α) : (insertionSort lt xs).Perm xs :=
  insertionSort_perm' lt xs

/-- It sorts (no element is less than an earlier one) whenever the comparator is a strict weak order on
the elements of the list: asymmetric, and `¬ a<b`, `¬ b<c` imply `¬ a<c`. -/
theorem insertionSort_sorted {α : Type} (lt : α → α → Bool) (l : List α)
    (asym : ∀ a ∈ l, ∀ b ∈ l, lt a b = true → lt b a = false)
    (ntrans : ∀ a ∈ l, ∀ b ∈ l, ∀ c ∈ l, lt a b = false → lt b c = false → lt a c = false) :
    (insertionSort lt l).Pairwise (fun a b => lt b a = false) :=
  (insertionSort_swo (.of_asym asym ntrans)).2

/-- It is stable — for every comparator: a subsequence of the input in which no element is less than
an earlier one is a subsequence of the result (for a pair `[a, b]`: if `a` precedes `b` and `¬ b<a`,
then `a` still precedes `b`; in particular tied elements keep their order). -/
theorem insertionSort_stable {α : Type} (lt : α → α → Bool) (l ys : List α)
    (hp : ys.Pairwise (fun a b => lt b a = false)) (hs : ys.Sublist l) :
    ys.Sublist (insertionSort lt l) := by
  have := insertionLoop_stable (lt := lt) (rest := l) (rev := []) (ys := []) (zs := ys) (by simp) hs (by simpa using hp)
  simpa [insertionSort] using this

/-- When "not greater" (`¬ b<a`) is transitive and total on the elements of the list, the insertion
sort returns the same list as `List.mergeSort` — so everything known about `mergeSort` transfers. -/
theorem insertionSort_eq_mergeSort {α : Type} (lt : α → α → Bool) (l : List α)
    (trans : ∀ a ∈ l, ∀ b ∈ l, ∀ c ∈ l, lt b a = false → lt c b = false → lt c a = false)
    (total : ∀ a ∈ l, ∀ b ∈ l, lt b a = false ∨ lt a b = false) :
    insertionSort lt l = l.mergeSort (fun a b => !lt b a) :=
  (insertionSort_swo ⟨trans, total⟩).1

/-- The version the filters run, over a comparator that may panic or be outside the model
(`insertionSortM`): whenever it answers, the answer is a permutation of the input; and where the
comparator answers on the elements of the list, it is the insertion sort by those answers. -/
theorem insertionSort_partial {α ε : Type} (ltM : α → α → Res ε Bool) (xs : List α) :
    (∀ ys, insertionSortM ltM xs = .ok ys → ys.Perm xs) ∧
    (∀ lt : α → α → Bool, (∀ a ∈ xs, ∀ b ∈ xs, ltM a b = .ok (lt a b)) →
      insertionSortM ltM xs = .ok (insertionSort lt xs)) :=
  ⟨fun _ h => insertionSortM_perm h, fun _ h => insertionSortM_eq h⟩

/-- `<` on `[3, 1, 2]`: a strict order; the hypotheses of the four theorems hold and the result is `[1, 2, 3]` -/
example : insertionSort (fun a b : Nat => decide (a < b)) [3, 1, 2] = [1, 2, 3] ∧
    (∀ a ∈ [3, 1, 2], ∀ b ∈ [3, 1, 2], decide (a < b) = true → decide (b < a) = false) ∧
    (∀ a ∈ [3, 1, 2], ∀ b ∈ [3, 1, 2], ∀ c ∈ [3, 1, 2],
      decide (b < a) = false → decide (c < b) = false → decide (c < a) = false) ∧
    (∀ a ∈ [3, 1, 2], ∀ b ∈ [3, 1, 2], decide (b < a) = false ∨ decide (a < b) = false) ∧
    [1, 2].Pairwise (fun a b => decide (b < a) = false) ∧ [1, 2].Sublist [3, 1, 2] := by
  refine ⟨by decide +kernel, by decide +kernel, by decide +kernel, by decide +kernel, by decide +kernel, by decide +kernel⟩
/-- a comparator that is not an order (`a "<" b` iff `b = a + 1`; not transitive): `[3, 1, 2]` stays as
it is although `1 "<" 2 "<" 3` — still a permutation, and the partial version agrees -/
example : insertionSort (fun a b : Nat => b == a + 1) [3, 1, 2] = [3, 1, 2] ∧
    insertionSortM (ε := Unit) (fun a b : Nat => .ok (b == a + 1)) [3, 1, 2] = .ok [3, 1, 2] := by
  exact ⟨by decide, by decide⟩
/-- a comparison that does not answer ends the sort only if it is made: `[5]` needs none -/
example : insertionSortM (ε := Unit) (fun _ _ : Nat => .unmodelled "?") [5] = .ok [5] ∧
    insertionSortM (ε := Unit) (fun _ _ : Nat => .unmodelled "?") [5, 6] = .unmodelled "?" := ⟨rfl, rfl⟩

/-! ## sort

`sortF` is what `values.Sort` computes: `insertionSort` by `values.Less` up to 12 elements, a
`Less`-sorted permutation beyond (`mergeSort`). `sortM` is the filter's model: the same insertion sort
over `Cmp.less` as the partial function it is in the model, and `unmodelled` beyond 12 elements unless
the array is homogeneous. -/

/-- `sort` returns a permutation of its input — on every array, homogeneous or not, of every length. -/
theorem sort_perm (xs : List GoVal) : (sortF xs).Perm xs := sortF_perm xs

/-- On a homogeneous array the result is in ascending order: no element is `Less` than an earlier one. -/
theorem sort_sorted (xs : List GoVal) (h : homog xs = true) (hw : ∀ x ∈ xs, IntWF x) :
    (sortF xs).Pairwise (fun a b => lessB b a = false) := (sortPath_swo (homog_swo xs h hw)).2

/-- the hypotheses hold for `[2, 1.5, int8(-1), uint8(3)]` and for `["b", "B", "a"]` -/
example : homog [.int .int 2, .flt .f64 (3/2), .int .i8 (-1), .int .u8 3] = true ∧
    (∀ x ∈ [GoVal.int .int 2, .flt .f64 (3/2), .int .i8 (-1), .int .u8 3], IntWF x) ∧
    homog [.str [98], .str [66], .str [97]] = true ∧ (∀ x ∈ [GoVal.str [98], .str [66], .str [97]], IntWF x) := by
  simp only [List.forall_mem_cons, List.not_mem_nil, false_imp_iff, implies_true, and_true]
  exact ⟨by decide +kernel, ⟨fun _ => by decide, trivial, fun h => absurd h (by decide), fun _ => by decide⟩,
    by decide +kernel, trivial, trivial, trivial⟩
/-- a mixed array is *not* homogeneous: only `sort_perm`, `sort_model` and `sort_stable` are claimed -/
example : homog [.int .int 1, .str [97], .nil] = false := by decide +kernel

/-- The filter's model and `sortF`: whenever the model answers, it answers `sortF xs`; it answers on
every array of at most 12 elements (mixed kinds included: there the list is Go's insertion sort,
comparison by comparison) and on every homogeneous array; `values.Less` itself always answers. -/
theorem sort_model (xs : List GoVal) :
    (∀ ys, sortM xs = .ok ys → ys = sortF xs) ∧
    (xs.length ≤ 12 ∨ homog xs = true → sortM xs = .ok (sortF xs)) ∧
    (xs.length ≤ 12 → sortF xs = insertionSort lessB xs) ∧
    (∀ a b, Cmp.less a b = .ok (lessB a b)) :=
  ⟨(sortM_eq xs).1, (sortM_eq xs).2, fun h => if_pos h, less_eq_lessB⟩

/-- Up to 12 elements `sort` is stable, on every array: a subsequence of the input in which no
element is `Less` than an earlier one is a subsequence of the result. -/
theorem sort_stable (xs ys : List GoVal) (hl : xs.length ≤ 12)
    (hp : ys.Pairwise (fun a b => lessB b a = false)) (hs : ys.Sublist xs) : ys.Sublist (sortF xs) := by
  rw [(sort_model xs).2.2.1 hl]
  exact insertionSort_stable lessB xs ys hp hs

/-- `[2, 1, "a", 0]`: `Less` answers false across kinds, so `"a"` stops the `0` — Go's result, and the
model's, is `[1, 2, "a", 0]` -/
example : sortM [.int .int 2, .int .int 1, .str [97], .int .int 0]
      = .ok (sortF [.int .int 2, .int .int 1, .str [97], .int .int 0]) ∧
    (sortF [.int .int 2, .int .int 1, .str [97], .int .int 0]).map GoVal.enc
      = ([.int .int 1, .int .int 2, .str [97], .int .int 0] : List GoVal).map GoVal.enc :=
  ⟨(sort_model _).2.1 (Or.inl (by decide)), by decide +kernel⟩

/-- On a homogeneous array the insertion sort and `mergeSort` agree: `sortF` is `mergeSort` by
`¬ Less(b, a)` for every length. -/
theorem sort_eq_mergeSort (xs : List GoVal) (h : homog xs = true) (hw : ∀ x ∈ xs, IntWF x) :
    sortF xs = xs.mergeSort sortLe := (sortPath_swo (homog_swo xs h hw)).1

/-- Why the `arrf` stream may compare sort results of more than 12 elements in canonical form (key
sequence + multiset): any two sorted permutations of a homogeneous array — Go's, whatever its
unstable sort does with ties, and the model's — have the same sequence of canonical sort keys, and
the same elements up to order. -/
theorem sort_canonical (xs ys zs : List GoVal) (h : homog xs = true) (hw : ∀ x ∈ xs, IntWF x)
    (py : ys.Perm xs) (pz : zs.Perm xs)
    (sy : ys.Pairwise (fun a b => lessB b a = false)) (sz : zs.Pairwise (fun a b => lessB b a = false)) :
    ys.map canonKey = zs.map canonKey ∧ (ys.map GoVal.enc).Perm (zs.map GoVal.enc) := by
  refine ⟨?_, (py.trans pz.symm).map _⟩
  obtain ⟨κ, key, kle, shw, _, _, anti, spec, hshow⟩ := homog_keyOrder xs h hw
  have sorted : ∀ ws : List GoVal, ws.Perm xs → ws.Pairwise (fun a b => lessB b a = false) →
      (ws.map key).Pairwise kle := by
    intro ws pw sw
    rw [List.pairwise_map]
    refine sw.imp_of_mem ?_
    intro a b ha hb hab
    have := spec b (pw.subset hb) a (pw.subset ha)
    apply Classical.byContradiction
    intro hk
    rw [this.mpr hk] at hab
    exact absurd hab (by simp)
  have hkeys : ys.map key = zs.map key :=
    List.Perm.eq_of_pairwise (le := kle) (fun a b _ _ => anti a b) (sorted ys py sy) (sorted zs pz sz)
      ((py.trans pz.symm).map key)
  have canon : ∀ ws : List GoVal, ws.Perm xs → ws.map canonKey = (ws.map key).map shw := by
    intro ws pw
    rw [List.map_map]
    exact List.map_congr_left (fun a ha => hshow a (pw.subset ha))
  rw [canon ys py, canon zs pz, hkeys]

/-- `sort: key` returns a permutation of its input. -/
theorem sort_key_perm (key : Bytes) (xs : List GoVal) : (sortByF key xs).Perm xs := sortByF_perm key xs

/-- `sort: key` on an array whose non-nil keys are homogeneous: ascending in the key order
(`lessByKey`: an entry without the key, or holding nil there, is below every entry that has one). -/
theorem sort_key_sorted (key : Bytes) (xs : List GoVal) (h : homogBy key xs = true)
    (hw : ∀ x ∈ xs, IntWF (keyIndex key x)) :
    (sortByF key xs).Pairwise (fun a b => lessByKey key b a = false) :=
  (sortPath_swo (homogBy_swo key xs h hw)).2

/-- … in particular the entries lacking the key (or holding nil) come first: whatever precedes such
an entry lacks the key too. -/
theorem sort_key_nil_first (key : Bytes) (xs : List GoVal) (h : homogBy key xs = true)
    (hw : ∀ x ∈ xs, IntWF (keyIndex key x)) :
    (sortByF key xs).Pairwise (fun a b => (keyIndex key b).isNil = true → (keyIndex key a).isNil = true) := by
  refine (sort_key_sorted key xs h hw).imp ?_
  intro a b hab hb
  cases ha : (keyIndex key a).isNil
  · simp [lessByKey, ha, hb] at hab
  · rfl

/-- the hypotheses hold for `[{k: 2}, {}, {k: 1}, {k: nil}, 5]` sorted by `k` -/
example : homogBy [107] [.map .str .any [(.str [107], .int .int 2)], .map .str .any [], .map .str .any [(.str [107], .int .int 1)],
      .map .str .any [(.str [107], .nil)], .int .int 5] = true ∧
    (∀ x ∈ [GoVal.map .str .any [(.str [107], .int .int 2)], .map .str .any [], .map .str .any [(.str [107], .int .int 1)],
      .map .str .any [(.str [107], .nil)], .int .int 5], IntWF (keyIndex [107] x)) := by
  refine ⟨by decide +kernel, ?_⟩
  simp only [List.forall_mem_cons, List.not_mem_nil, false_imp_iff, implies_true, and_true]
  exact ⟨fun _ => by decide, trivial, fun _ => by decide, trivial, trivial⟩

/-- The filter's model of `sort: key` and `sortByF` (as `sort_model`): up to 12 elements it answers on
every array, whatever the keys hold, with Go's insertion sort by `sortableByProperty.Less`. -/
theorem sort_key_model (key : Bytes) (xs : List GoVal) :
    (∀ ys, sortByM key xs = .ok ys → ys = sortByF key xs) ∧
    (xs.length ≤ 12 ∨ homogBy key xs = true → sortByM key xs = .ok (sortByF key xs)) ∧
    (xs.length ≤ 12 → sortByF key xs = insertionSort (lessByKey key) xs) ∧
    (∀ a b, lessByKeyM key a b = .ok (lessByKey key a b)) :=
  ⟨(sortByM_eq key xs).1, (sortByM_eq key xs).2, fun h => if_pos h, lessByKeyM_eq key⟩

/-- Up to 12 elements `sort: key` is stable, on every array (entries with tied keys, and entries
without the key among themselves, keep their order). -/
theorem sort_key_stable (key : Bytes) (xs ys : List GoVal) (hl : xs.length ≤ 12)
    (hp : ys.Pairwise (fun a b => lessByKey key b a = false)) (hs : ys.Sublist xs) :
    ys.Sublist (sortByF key xs) := by
  rw [(sort_key_model key xs).2.2.1 hl]
  exact insertionSort_stable (lessByKey key) xs ys hp hs

/-- On an array whose non-nil keys are homogeneous `sortByF` is `mergeSort` for every length. -/
theorem sort_key_eq_mergeSort (key : Bytes) (xs : List GoVal) (h : homogBy key xs = true)
    (hw : ∀ x ∈ xs, IntWF (keyIndex key x)) : sortByF key xs = xs.mergeSort (sortByLe key) :=
  (sortPath_swo (homogBy_swo key xs h hw)).1

example : ([.int .int 5, .nil] : List GoVal).Pairwise (fun a b => lessByKey [107] b a = false) ∧
    ([.int .int 5, .nil] : List GoVal).Sublist [.map .str .any [], .int .int 5, .nil] := by
  refine ⟨by decide +kernel, ?_⟩
  exact (List.Sublist.refl _).cons _

/-! ## sort_natural: a permutation in ascending order of the sort texts, on every array

`sortNatF k` is what `sort.Sort(keySortable{…})` computes when the sort text of every element `x` is
`k x`: the insertion sort up to 12 elements, a sorted permutation beyond. `sortNatM` is the model. -/

/-- `sort_natural` returns a permutation of its input — on every array, of every length. -/
theorem sort_natural_perm (k : GoVal → Bytes) (xs : List GoVal) : (sortNatF k xs).Perm xs :=
  sortNatF_eq_sortPath k xs ▸ sortPath_perm _ xs

/-- … in ascending order of the sort texts (a total preorder on every array: no hypothesis). -/
theorem sort_natural_sorted (k : GoVal → Bytes) (xs : List GoVal) :
    (sortNatF k xs).Pairwise (fun a b => k a ≤ k b) := by
  rw [sortNatF_eq_sortPath]
  refine (sortPath_swo (swOn_of_key _ k (· ≤ ·) (fun _ _ _ => List.le_trans) List.le_total xs
    fun a _ b _ => by simp [Cmp.bytesLt, List.not_le])).2.imp ?_
  intro a b hab
  simpa [Cmp.bytesLt] using hab

/-- Up to 12 elements `sort_natural` is stable: elements with equal sort texts keep their order. -/
theorem sort_natural_stable (k : GoVal → Bytes) (xs ys : List GoVal) (hl : xs.length ≤ 12)
    (hp : ys.Pairwise (fun a b => k a ≤ k b)) (hs : ys.Sublist xs) : ys.Sublist (sortNatF k xs) := by
  rw [show sortNatF k xs = insertionSort (fun a b => Cmp.bytesLt (k a) (k b)) xs from if_pos hl]
  refine insertionSort_stable _ xs ys (hp.imp ?_) hs
  intro a b hab
  simpa [Cmp.bytesLt] using hab

/-- The model and `sortNatF`: whenever the model answers, the answer is a permutation of the input
(whatever the key function does — an array of one element is returned without its sort text being
computed, as in Go); and when the key function answers `k x` on every element `x`, the model
answers `sortNatF k xs` — always in canonical mode, and up to 12 elements in every mode. -/
theorem sort_natural_model (f : GoVal → ArrF.R Bytes) (xs : List GoVal) :
    (∀ strict ys, sortNatM strict f xs = .ok ys → ys.Perm xs) ∧
    (∀ k : GoVal → Bytes, (∀ x ∈ xs, f x = .ok (k x)) →
      (∀ strict ys, sortNatM strict f xs = .ok ys → ys = sortNatF k xs) ∧
      sortNatM false f xs = .ok (sortNatF k xs) ∧
      (xs.length ≤ 12 → sortNatM true f xs = .ok (sortNatF k xs))) := by
  refine ⟨fun _ _ h => sortNatM_perm h, fun k hf => ?_⟩
  have hi : insertionSortM (natLessM f) xs = .ok (insertionSort (fun a b => Cmp.bytesLt (k a) (k b)) xs) :=
    insertionSortM_eq fun a ha b hb => natLessM_eq (hf a ha) (hf b hb)
  unfold sortNatM sortNatF
  by_cases hl : xs.length ≤ maxInsertion
  · simp only [hl, if_true, hi, Res.ok.injEq]
    exact ⟨fun _ ys h => h.symm, trivial, fun _ => trivial⟩
  · simp only [hl, if_false, decorate_eq_map hf, Res.bind]
    refine ⟨?_, by simp, fun h => (hl h).elim⟩
    intro strict ys h
    split at h
    · cases h
    · simp only [Res.ok.injEq] at h
      exact h.symm

/-- `["b", nil, "a"]` with the texts `natKey` gives them (`"B"`, `""`, `"A"`): the key function answers -/
example : ∀ x ∈ [GoVal.str [98], .nil, .str [97]], natKey x = .ok ((fun v => match v with
    | .str [98] => [66] | .str [97] => [65] | _ => []) x) := by
  intro x hx; simp at hx
  rcases hx with rfl | rfl | rfl <;> rfl
example : (sortNatF (fun v => match v with | .str [98] => [66] | .str [97] => [65] | _ => [])
    [.str [98], .nil, .str [97]]).map GoVal.enc = ([.nil, .str [97], .str [98]] : List GoVal).map GoVal.enc := by
  decide +kernel

theorem reverse_spec (xs : List GoVal) : reverseF xs = xs.reverse := reverseF_eq xs

/-- `compact` removes exactly the nils -/
theorem compact_spec (xs : List GoVal) :
    compactF xs = xs.filter (fun x => !x.isNil) ∧ (∀ x, x ∈ compactF xs ↔ x ∈ xs ∧ x ≠ .nil) := by
  refine ⟨compactF_eq_filter xs, fun x => ?_⟩
  rw [compactF_eq_filter, List.mem_filter]
  have := x.isNil_iff
  cases h : x.isNil <;> simp_all

theorem concat_spec (xs ys : List GoVal) : concatF xs ys = xs ++ ys := rfl

example : compactF [.nil, .int .int 1, .nil, .str []] = [.int .int 1, .str []] := by rfl
example : reverseF [.int .int 1, .nil, .str [97]] = [.str [97], .nil, .int .int 1] := by rfl

/-- `uniq` keeps the first occurrence of each class of equal elements, in order. Equality is Go's
(`ArrF.same`: scalars by dynamic type and contents — `1` and `1.0` differ —, arrays and maps by what they hold
whatever the Go type that holds it, a drop in them standing for its value: the same canonical encoding of
`uniqForm`; two maps with the same entries in different orders are the same element, and so are `[]int{1}`,
`[]any{1}` and `[]any{Drop(1)}`):
the result is a sublist of the input, no two kept elements are equal, every input element is equal
to a kept one, and an element appended to the input is kept exactly when nothing equal precedes it. -/
theorem uniq_spec (xs : List GoVal) :
    (uniqF xs).Sublist xs ∧
    (uniqF xs).Pairwise (fun a b => same a b = false) ∧
    (∀ x ∈ xs, ∃ y ∈ uniqF xs, same y x = true) ∧
    (∀ x, uniqF (xs ++ [x]) = uniqF xs ++ (if xs.any (same x ·) then [] else [x])) := by
  refine ⟨uniqOn_sublist _ _ _, ?_, ?_, ?_⟩
  · exact (uniqOn_pairwise uniqKey [] xs).imp (by intro a b h; simpa [same] using h)
  · intro x hx
    rcases uniqOn_support uniqKey [] xs x hx with h | ⟨y, hy, hk⟩
    · simp at h
    · exact ⟨y, hy, by simpa [same] using hk⟩
  · intro x
    have hc : (xs.map uniqKey).contains (uniqKey x) = xs.any (same x ·) := by
      induction xs with
      | nil => rfl
      | cons z zs ih =>
        show ((z :: zs).map uniqKey).contains (uniqKey x) = ((same x z) || zs.any (same x ·))
        rw [List.map_cons, List.contains_cons, ih]; rfl
    have h := uniqOn_append_singleton uniqKey [] xs x
    rw [List.contains_nil, Bool.false_or, hc] at h
    exact h

/-- `1`, `1.0` and `int8(1)` are three different elements; the second `1` and the second nil go -/
example : (uniqF [.int .int 1, .flt .f64 1, .int .int 1, .nil, .str [97], .nil, .int .i8 1]).map GoVal.enc
    = ([.int .int 1, .flt .f64 1, .nil, .str [97], .int .i8 1] : List GoVal).map GoVal.enc := by decide +kernel

/-- a typed slice, its generic twin, a fixed array and a slice holding a drop of a drop are one element
    (`fixes/nested-drops-resolved`) -/
example : (uniqF [.slice (.int .int) [.int .int 1], .slice .any [.int .int 1], .array (.int .int) [.int .int 1],
      .slice .any [.drop (.drop (.int .int 1))], .slice .any [.flt .f64 1]]).map GoVal.enc
    = ([.slice (.int .int) [.int .int 1], .slice .any [.flt .f64 1]] : List GoVal).map GoVal.enc := by decide +kernel

/-- `first` is the element at index 0 (nil for an empty array) and agrees with `a[0]` and `a.first` -/
theorem first_spec (xs : List GoVal) :
    firstF xs = xs[0]?.getD .nil ∧
    GoVal.indexValue (.slice .any xs) (.int .int 0) = .val (firstF xs) ∧
    GoVal.propertyValue (.slice .any xs) GoVal.firstKey = .val (firstF xs) := by
  refine ⟨by cases xs <;> rfl, ?_, ?_⟩
  · cases xs <;> simp [GoVal.indexValue, GoVal.indexValue.indexList, GoVal.unwrap, firstF]
  · cases xs <;> simp [GoVal.propertyValue, GoVal.propertyValue.propList, GoVal.unwrap, firstF]

/-- `last` is the final element (nil for an empty array) and agrees with `a[-1]` and `a.last` -/
theorem last_spec (xs : List GoVal) :
    lastF xs = xs.getLast?.getD .nil ∧
    GoVal.indexValue (.slice .any xs) (.int .int (-1)) = .val (lastF xs) ∧
    GoVal.propertyValue (.slice .any xs) GoVal.lastKey = .val (lastF xs) := by
  refine ⟨lastF_eq xs, ?_, by rw [array_last, lastF_eq]⟩
  cases xs with
  | nil => rfl
  | cons x r =>
    rw [lastF_eq_getD]
    exact index_neg .any (x :: r) 1 Nat.one_pos (Nat.succ_pos _)

/-- `size` of an array is its element count; of a range the number of its items -/
theorem size_spec (t : Ty) (xs : List GoVal) (a b : Int) :
    Num.size [.val (.slice t xs)] = ret (.int .int xs.length) ∧
    Num.size [.val (.array t xs)] = ret (.int .int xs.length) ∧
    (a ≤ b → b - a < maxInt64 → Num.size [.val (.range a b)] = ret (.int .int ((rangeInts a b).length))) := by
  refine ⟨by simp [Num.size, GoVal.toLiquid], by simp [Num.size, GoVal.toLiquid], ?_⟩
  intro hab hlt
  have h1 : ¬ b < a := by omega
  have h2 : ¬ b - a ≥ maxInt64 := by omega
  simp only [Num.size, GoVal.toLiquid, Num.rangeLen, h1, h2, if_false, rangeInts, List.length_map, List.length_range]
  congr 3
  omega

example : firstF [.int .int 7, .nil] = .int .int 7 ∧ lastF [.int .int 7, .nil] = .nil ∧ firstF [] = .nil := ⟨rfl, rfl, rfl⟩

/-- `join`: the printed forms (`fmt.Sprint`, the drops nested in an element resolved first:
    `values.ResolveDrops`) of the non-nil elements with the separator between them -/
theorem join_spec (xs : List GoVal) (sep : Bytes) (ss : List Bytes)
    (h : sprintAll ((xs.filter (fun x => !x.isNil)).map GoVal.resolveDrops) = .ok ss) :
    joinF xs sep = .ok (.str (sep.intercalate ss)) := by
  simp [joinF, sprintNonNil_eq, h, Res.bind, joinBytes_eq_intercalate]

example : sprintAll (([GoVal.int .int 1, .nil, .str [97]].filter (fun x => !x.isNil)).map GoVal.resolveDrops) = .ok [[49], [97]] := by
  simp [sprintAll, sprint, GoVal.isNil, intDec, natDec, decDigitsAux, Res.bind]

/-- `map: key` is the per-element property lookup (`obj.key`, as `Lookup.lean` defines it) -/
theorem map_spec (xs : List GoVal) (k : Bytes) (h : ∀ x ∈ xs, ∃ v, GoVal.propertyValue x k = .val v) :
    mapF k xs = .ok (xs.map (propOfD · k)) := by
  induction xs with
  | nil => rfl
  | cons x xs ih =>
    obtain ⟨v, hv⟩ := h x List.mem_cons_self
    have ih' := ih (fun y hy => h y (List.mem_cons_of_mem _ hy))
    simp [mapF, propOf, propOfD, hv, ih', Res.bind]

example : ∀ x ∈ [GoVal.map .str .any [(.str [107], .int .int 1)], .nil, .map .str .any []], ∃ v, GoVal.propertyValue x [107] = .val v := by
  simp only [List.forall_mem_cons, List.not_mem_nil, false_imp_iff, implies_true, and_true]
  exact ⟨⟨_, rfl⟩, ⟨_, rfl⟩, ⟨_, rfl⟩⟩

/-! ## receivers: typed slices, fixed arrays, ranges, ordered maps and maps are generic slices -/

/-- The receiver conversion (`values.Convert(·, []any)`; a nil element stays, a drop among the elements is
resolved): whatever the representation, the filter body sees the `[]any` of the elements' Liquid values. -/
theorem as_array (t t' : Ty) (xs : List GoVal) (kvs : List (GoVal × GoVal)) (kt vt : Ty) (a b : Int) :
    convert (.slice t xs) .anys = .ok (.slice .any (xs.map GoVal.toLiquid)) ∧
    convert (.array t' xs) .anys = convert (.slice t xs) .anys ∧
    convert (.mapSlice kvs) .anys = convert (.slice .any (kvs.map (·.2))) .anys ∧
    (MapOrder.manyClass4 kvs = false →       -- a map: its values in the order of `SortedMapKeys`, whatever the order of `kvs`
      convert (.map kt vt kvs) .anys = convert (.slice .any ((MapOrder.sortedEntries kvs).map (·.2))) .anys) ∧
    -- a range: its integers, up to the code's limit `maxRangeArrayLen` — under EVERY budget of the executable model
    -- that is at least `b - a` (the driver's is 1000000; `range_to_array_any_size`, `budget_monotone_convert`)
    (∀ budget : Int, b - a ≤ budget → b - a + 1 ≤ 10000000 →
      convert (.range a b) .anys budget = .ok (.slice .any (rangeInts a b))) := by
  refine ⟨by simp [convert, GoVal.toLiquid, convElems], by simp [convert, GoVal.toLiquid, convElems],
    by simp [convert, GoVal.toLiquid, convElems],
    fun hm => by simp [convert, GoVal.toLiquid, convElems, MapOrder.sortedMapEntries, hm], ?_⟩
  intro budget h h0
  have h1 : ¬ b - a + 1 > 10000000 := by omega
  have h2 : ¬ b - a > budget := by omega
  simp [convert, GoVal.toLiquid, h1, h2]

/-- **C15 (a range of any size the code accepts becomes an array).** `values.Convert` rejects a range of more than
    `maxRangeArrayLen` = 10 000 000 items (`TypeError`) and converts every other one. The budget of the executable
    model is no further limit: for every such range there is a budget (any `budget ≥ b - a`) under which the array is
    exactly its integers `a, …, b` (`range_items`), and beyond the code's limit the answer is the `TypeError` under
    every budget. -/
theorem range_to_array_any_size (a b : Int) :
    (∃ budget : Int, b - a ≤ budget) ∧
    (∀ budget : Int, b - a ≤ budget → b - a + 1 ≤ 10000000 →
      convert (.range a b) .anys budget = .ok (.slice .any (rangeInts a b))) ∧
    (∀ budget : Int, b - a + 1 > 10000000 → convert (.range a b) .anys budget = .err .typeErr) := by
  refine ⟨⟨b - a, Int.le_refl _⟩, (as_array .any .any [] [] .any .any a b).2.2.2.2, ?_⟩
  intro budget h
  simp [convert, GoVal.toLiquid, h]

/-- **C15 (the budget is not part of the semantics: conversion).** Raising the budget never changes a conversion that
    gave an answer: a value, the `TypeError`, whatever it was — for every value and every target type. -/
theorem budget_monotone_convert (n m : Int) (h : n ≤ m) (v : GoVal) (t : ParamTy)
    (hn : ∀ w, convert v t n ≠ .unmodelled w) : convert v t m = convert v t n :=
  (convert_le h v t).eq hn

/-- **C15 (the budget is not part of the semantics: a filter application).** `ApplyFilter` — conversion of the receiver
    and of the arguments, the call of the body, the conversion of the result — and the evaluation of `x | name: args`
    (`evalFilter`), with ANY table of filter bodies: what they answer under one budget they answer under every larger
    one. So every theorem of this file about a filter applied under the driver's budget holds under every larger budget
    (`stdPrims = stdPrimsB 1000000`). -/
theorem budget_monotone_filter (impls : Bytes → Option FilterImpl) (name : Bytes) (recv : GoVal) (args : List GoVal)
    (n m : Int) (h : n ≤ m) :
    ((∀ w, applyFilter impls name recv args n ≠ .unmodelled w) →
      applyFilter impls name recv args m = applyFilter impls name recv args n) ∧
    ((∀ w, evalFilter impls name recv args n ≠ .unmodelled w) →
      evalFilter impls name recv args m = evalFilter impls name recv args n) :=
  ⟨(applyFilter_le impls name recv args h).eq, (evalFilter_le impls name recv args h).eq⟩

/-- a range of two million items: no answer under the driver's budget, its array under a budget of two million, and
    then under every larger one; eleven million items: the code's `TypeError`, under every budget -/
example : convert (.range 1 2000001) .anys = .unmodelled "range of more than a million items" := by
  simp [convert, GoVal.toLiquid]
example (m : Int) (h : 2000000 ≤ m) : convert (.range 1 2000001) .anys m = .ok (.slice .any (rangeInts 1 2000001)) :=
  (range_to_array_any_size 1 2000001).2.1 m (by omega) (by omega)
example (m : Int) : convert (.range 1 11000000) .anys m = .err .typeErr :=
  (range_to_array_any_size 1 11000000).2.2 m (by omega)
/-- `(1..3) | last` with a body that returns its (converted) receiver: answered under the budget 2, hence under every larger one -/
example : applyFilter (fun _ => some fun | [.val v] => ret v | _ => ret .nil) (ArrF.bn "last") (.range 1 3) [] 2 =
      .ok (.slice .any (rangeInts 1 3)) ∧
    ∀ m : Int, 2 ≤ m → applyFilter (fun _ => some fun | [.val v] => ret v | _ => ret .nil) (ArrF.bn "last") (.range 1 3) [] m =
      .ok (.slice .any (rangeInts 1 3)) := by
  have h0 : applyFilter (fun _ => some fun | [.val v] => ret v | _ => ret .nil) (ArrF.bn "last") (.range 1 3) [] 2 =
      .ok (.slice .any (rangeInts 1 3)) := by
    rw [applyFilter_sigAt _ 9 (by decide +kernel)]; decide +kernel
  exact ⟨h0, fun m hm => by
    rw [(budget_monotone_filter _ _ _ _ 2 m hm).1 (by rw [h0]; intro w hw; cases hw), h0]⟩

/-- a range converts to its items `a, a+1, …, b` (none when `b < a`) -/
theorem range_items (a b : Int) :
    (rangeInts a b).length = (b + 1 - a).toNat ∧
    ∀ i (h : i < (rangeInts a b).length), (rangeInts a b)[i] = .int .int (a + i) := by
  refine ⟨by simp [rangeInts], ?_⟩
  intro i h
  simp [rangeInts]

/-- without drops among the elements the `[]any` is the element list itself -/
theorem as_array_plain (t : Ty) (xs : List GoVal) (h : ∀ x ∈ xs, x.toLiquid = x) :
    convert (.slice t xs) .anys = .ok (.slice .any xs) := by
  rw [(as_array t t xs [] .any .any 0 0).1, map_toLiquid_of_noDrop xs h]

example : convert (.slice (.int .int) [.int .int 2, .int .int 1]) .anys = .ok (.slice .any [.int .int 2, .int .int 1]) ∧
    convert (.array .any [.nil, .drop (.str [120])]) .anys = .ok (.slice .any [.nil, .str [120]]) := by
  simp [convert, GoVal.toLiquid, convElems]
example : (rangeInts 1 3).length = 3 ∧ (rangeInts 5 1).length = 0 := by simp [rangeInts]

/-! ## through the call layer (`expressions.ApplyFilter` + `values.Call`) with the standard table -/

/-- `{{ a | compact }}`, `{{ a | reverse }}`, `{{ a | uniq }}`, `{{ a | first }}`, `{{ a | last }}` for
any receiver that converts to an array with elements `ys` -/
theorem unary_filters (recv : GoVal) (ys : List GoVal) (hn : recv ≠ .nil)
    (hc : convert recv .anys = .ok (.slice .any ys)) :
    applyFilter (lookupImpl stdFilterImpls) (bn "compact") recv [] = .ok (.slice .any (ys.filter (fun x => !x.isNil))) ∧
    applyFilter (lookupImpl stdFilterImpls) (bn "reverse") recv [] = .ok (.slice .any ys.reverse) ∧
    applyFilter (lookupImpl stdFilterImpls) (bn "first") recv [] = .ok (bytesToString (firstF ys)) ∧
    applyFilter (lookupImpl stdFilterImpls) (bn "last") recv [] = .ok (bytesToString (lastF ys)) ∧
    (ys.any hasPtr = false → applyFilter (lookupImpl stdFilterImpls) (bn "uniq") recv [] = .ok (.slice .any (uniqF ys))) := by
  have hx := Heap.convAnysP_of_convert hn hc
  refine ⟨?_, ?_, ?_, ?_, ?_⟩
  · rw [← compactF_eq_filter]
    exact (Heap.applyFilter_bodyP (f := .compact) (Nat.le_refl _)).trans (by rw [Heap.bodyP, hx]; rfl)
  · rw [← reverseF_eq]
    exact (Heap.applyFilter_bodyP (f := .reverse) (Nat.le_refl _)).trans (by rw [Heap.bodyP, hx]; rfl)
  · exact (Heap.applyFilter_bodyP (f := .first) (Nat.le_refl _)).trans (by rw [Heap.bodyP, hx]; rfl)
  · exact (Heap.applyFilter_bodyP (f := .last) (Nat.le_refl _)).trans (by rw [Heap.bodyP, hx]; rfl)
  · intro hp
    exact (Heap.applyFilter_bodyP (f := .uniq) (Nat.le_refl _)).trans (by rw [Heap.bodyP, hx, Res.bind_ok, Heap.uniqP, hp]; rfl)

/-- `{{ a | sort }}` through the call layer, for a receiver of up to 12 elements of any kinds (where
Go's sort is an insertion sort, so that the verbatim result is determined): the permutation `sortF`
of `sort_perm` / `sort_model`, sorted when the array is homogeneous (`sort_sorted`).
`{{ a | concat: b }}` appends. -/
theorem sort_concat_filters (recv arg : GoVal) (xs ys : List GoVal) (hn : recv ≠ .nil) (hn' : arg ≠ .nil)
    (hc : convert recv .anys = .ok (.slice .any xs)) (hc' : convert arg .anys = .ok (.slice .any ys)) :
    (xs.length ≤ 12 →
      applyFilter (lookupImpl stdFilterImpls) (bn "sort") recv [] = .ok (.slice .any (sortF xs))) ∧
    applyFilter (lookupImpl stdFilterImpls) (bn "concat") recv [arg] = .ok (.slice .any (xs ++ ys)) := by
  have hx := Heap.convAnysP_of_convert hn hc
  refine ⟨fun hl => ?_, ?_⟩
  · have hlen : (sortF xs).length ≤ 12 := by rw [(sortF_perm xs).length_eq]; exact hl
    refine (Heap.applyFilter_bodyP (f := .sort) (Nat.le_succ _)).trans ?_
    simp [Heap.bodyP, hx, Heap.convArgVal, ParamTy.zero, Heap.sortedList_sliceOf, sortWith, (sortM_eq xs).2 (Or.inl hl), Res.bind,
      stableEnough, maxInsertion, hlen, bytesToString]
  · refine (Heap.applyFilter_bodyP (f := .concat) (Nat.le_refl _)).trans ?_
    rw [Heap.bodyP, hx, List.headD_cons, Heap.convAnysP_of_convert hn' hc']
    rfl

example : convert (.range 3 1) .anys = .ok (.slice .any []) ∧ convert (.array .str [.str [98], .str [97]]) .anys
    = .ok (.slice .any [.str [98], .str [97]]) ∧ homog [.str [98], .str [97]] = true := by
  refine ⟨by simp [convert, GoVal.toLiquid, rangeInts], by simp [convert, GoVal.toLiquid, convElems], by decide +kernel⟩

/-- a nil receiver is the empty array -/
theorem nil_receiver :
    applyFilter (lookupImpl stdFilterImpls) (bn "compact") .nil [] = .ok (.slice .any []) ∧
    applyFilter (lookupImpl stdFilterImpls) (bn "reverse") .nil [] = .ok (.slice .any []) ∧
    applyFilter (lookupImpl stdFilterImpls) (bn "first") .nil [] = .ok .nil ∧
    applyFilter (lookupImpl stdFilterImpls) (bn "uniq") .nil [] = .ok (.slice .any []) := by
  exact ⟨Heap.applyFilter_bodyP (f := .compact) (Nat.le_refl _), Heap.applyFilter_bodyP (f := .reverse) (Nat.le_refl _),
    Heap.applyFilter_bodyP (f := .first) (Nat.le_refl _), Heap.applyFilter_bodyP (f := .uniq) (Nat.le_refl _)⟩

/-- a receiver that is not an array (a string, a number, a boolean) is a `TypeError`, not a panic -/
theorem non_array_receiver (recv : GoVal)
    (h : (∃ s, recv = .str s) ∨ (∃ k n, recv = .int k n) ∨ (∃ k q, recv = .flt k q) ∨ (∃ b, recv = .bool b)) :
    convert recv .anys = .err .typeErr := by
  rcases h with ⟨s, rfl⟩ | ⟨k, n, rfl⟩ | ⟨k, q, rfl⟩ | ⟨b, rfl⟩ <;> simp [convert, GoVal.toLiquid]

/-- The caller's array next to the result: Go passes the `[]any` by reference, and no body assigns
to it (`sortFilter`/`sortNaturalFilter` sort a copy, the others build a fresh `result`). -/
def runKeeping (f : List GoVal → ArrF.R GoVal) (xs : List GoVal) (args : List GoVal) :
    ArrF.R (List GoVal × GoVal) :=
  (f (.slice .any xs :: args)).bind fun v => .ok (xs, v)

/- Full statement: "after `{{ a | f }}` the Go array bound to `a` holds the same elements at the same
addresses, spare capacity included". A Lean function cannot write to its argument, so in THIS (value) model
`filters_pure_partial` only records that the value bound to the receiver after the call is the value before it.
The clause itself is proved on the slice-memory model of `Liquid/Heap.lean` — a store of backing arrays, Go's
`append`/`copy`/element assignment with a write log, `Convert` passing a `[]any` through uncopied, every body
line by line — in `Proofs/C15Heap.lean` (`array_filters_do_not_write_inputs`, `pipeline_no_write`,
`heap_refines_pure`: the memory-level filters return what the bodies of this file compute), tied to the code by
the `alias` stream; the `arrf` stream keeps comparing the caller's Go value with an untouched second realisation
(`reflect.DeepEqual`) and rendering `{{ a | f | join }}␞{{ a | join }}` after every case. -/
theorem filters_pure_partial (f : List GoVal → ArrF.R GoVal) (xs args : List GoVal) (xs' : List GoVal) (v : GoVal)
    (h : runKeeping f xs args = .ok (xs', v)) : xs' = xs ∧ f (.slice .any xs :: args) = .ok v := by
  unfold runKeeping at h
  cases hf : f (.slice .any xs :: args) <;> simp [hf, Res.bind] at h
  exact ⟨h.1.symm, by rw [h.2]⟩

example : runKeeping ArrF.reverse [.int .int 2, .int .int 1] []
    = .ok ([.int .int 2, .int .int 1], .slice .any [.int .int 1, .int .int 2]) := by rfl
