import Proofs.Oracles
import Proofs.C07First
import Proofs.C14
/-!
# C14 — errors that come out of an included file

`ctx.RenderFile` compiles the file with the include tag's `SourceLoc` (`c.node.SourceLoc`) and renders it with
`render.Render` into a buffer. Two consequences, both reproduced by the model and checked on the real code by the
`incl` and `errloc` streams:

* an error inside the file is a `parser.Error` whose PATH is the path the including template was parsed with —
  not the name of the included file — and whose LINE is the include tag's line plus the newlines of the file
  before the failing construct;
* the include tag's own `WrapError` returns such an error as it is (it has a line or a path), so it reaches the
  caller with that location, through every enclosing block of the including template.

Theorems about handler failures that are not located (missing file, read error, non-string argument) and about
parse errors in the file: Proofs/C14.lean (`include_missing_located`, `include_compile_err_located`, …).
-/

/-- **C14 (a render-time error inside the included file).** `{% include e %}` at line `line`, `e` evaluates to a
    string, the file is found (disk, else cache) and compiles — at the tag's line, with the includer's path — to
    `root`, and rendering `root` with the includer's current variables fails with `e'`. Then, for every include
    depth: `e'` is a located error `se`; it is located at the FIRST FAILING CONSTRUCT OF THE INCLUDED FILE
    (`firstFailure` on `root`: lines counted from the include tag's line, path flag of the including template);
    the include node fails with `WrapError(se, tag)`, which is `se` itself whenever `se` has a line or names a
    path — the error is NOT re-located at the include tag. -/
theorem include_render_err_located (P : Prims) (O : OutPrims) (cfg : Cfg) (fs : FS) (fuel : Nat) (line : Nat) (args : Bytes)
    (s : RS) (e : Expr) (rel src : Bytes) (root : List Node) (out : Bytes) (e' : RawErr)
    (he : parseExprSource args = .ok e) (hv : evaluate P s.env e = .ok (.str rel))
    (hsrc : fileSource fs (joinPath (dirPath cfg.path) rel) = some src)
    (hc : compileSource cfg.delims src line = .ok root)
    (hr : (renderRoot (mkCtx P O cfg fs fuel) root s.env).runPure = (out, .err e')) :
    ∃ se, e' = .located se ∧
      firstFailure (mkCtx P O cfg fs fuel) root s.env = some ⟨se.line, se.pathSet⟩ ∧
      renderNode (mkCtx P O cfg fs (fuel + 1)) (.incl line args) s =
        .fail (.located (wrapError cfg.path (.located se) ⟨line, true⟩)) ∧
      ((se.line ≠ 0 ∨ (se.pathSet = true ∧ cfg.path ≠ [])) →
        renderNode (mkCtx P O cfg fs (fuel + 1)) (.incl line args) s = .fail (.located se)) := by
  have hpf := frender_pureFail_of_renderRoot P O cfg fs fuel root s.env out e' hr
  obtain ⟨se, rfl⟩ := frender_pureFail_located P O cfg fs fuel root s.env e' hpf
  have hh : (mkCtx P O cfg fs (fuel + 1)).inc line (joinPath (dirPath cfg.path) rel) s.env = .fail (.located se) :=
    renderFileWith_compiled P O cfg fs (incFuel P O cfg fs fuel) line _ s.env src root out _ hsrc hc hr
  obtain ⟨h1, h2⟩ := include_located_err_passes (mkCtx P O cfg fs (fuel + 1)) line args s e rel se he hv hh
  exact ⟨se, rfl, by simp [firstFailure, (sp_frender P O cfg fs fuel root s.env).fin _ hpf, RawErr.site], h1, h2⟩

/-- **C14 (a `break`/`continue` that comes out of the included file).** When the render of the file ends with a
    `break` (or `continue`) that no loop of the file has consumed, the include node hands it on to the including template (where
    the innermost enclosing loop consumes it; without one it is the error "break outside a loop"), located at the
    `break` tag of the included file; nothing of the file is inserted. -/
theorem include_sentinel_passes (P : Prims) (O : OutPrims) (cfg : Cfg) (fs : FS) (fuel : Nat) (line : Nat) (args : Bytes)
    (s : RS) (e : Expr) (rel src : Bytes) (root : List Node) (out : Bytes) (st : Status)
    (he : parseExprSource args = .ok e) (hv : evaluate P s.env e = .ok (.str rel))
    (hsrc : fileSource fs (joinPath (dirPath cfg.path) rel) = some src)
    (hc : compileSource cfg.delims src line = .ok root)
    (hr : (renderRoot (mkCtx P O cfg fs fuel) root s.env).runPure = (out, .ok st)) (hst : st ≠ .done) :
    renderNode (mkCtx P O cfg fs (fuel + 1)) (.incl line args) s = .ret (st.wrap cfg.path ⟨line, true⟩, s) ∧
    (traceRoot (mkCtx P O cfg fs fuel) root s.env).fin = some st.site := by
  obtain ⟨_, _, hsent⟩ := sp_renderRoot (mkCtx P O cfg fs fuel) (incQuiet_mkCtx P O cfg fs fuel) root s.env
  refine ⟨?_, hsent st (Prog.pureRet_of_runPure _ _ _ hr) hst⟩
  have hh := renderFileWith_compiled P O cfg fs (incFuel P O cfg fs fuel) line _ s.env src root out _ hsrc hc hr
  refine incl_handler_sentinel (mkCtx P O cfg fs (fuel + 1)) line args s e rel [] st he hv hst ?_
  cases st with
  | done => exact absurd rfl hst
  | _ => exact hh

/-- **C14 (which line, from the bytes of the included file).** Under the hypotheses of
    `include_render_err_located`, for an included file without an `include` tag of its own: the error `se` points
    at a token `t` of the FILE that is a tag or an object; `se.line` is the include tag's line plus the number of
    newline bytes of the file before `t` (the token sources partition the file); and `se.pathSet = true` — the
    error names the path of the INCLUDING template (`cfg.path`), since `RenderFile` compiles with the tag's
    `SourceLoc`. -/
theorem include_render_err_at_file_token (P : Prims) (O : OutPrims) (cfg : Cfg) (fs : FS) (fuel : Nat) (line : Nat)
    (env : Env) (src : Bytes) (root : List Node) (out : Bytes) (se : SErr)
    (hc : compileSource cfg.delims src line = .ok root)
    (hni : NoIncludeTag (scan cfg.delims src line))
    (hr : (renderRoot (mkCtx P O cfg fs fuel) root env).runPure = (out, .err (.located se))) :
    ∃ pre t rest, scan cfg.delims src line = pre ++ t :: rest ∧ (t.ty = .tag ∨ t.ty = .obj) ∧
      se.line = line + countNL (srcs pre) ∧ src = srcs pre ++ (t.source ++ srcs rest) ∧ se.pathSet = true := by
  have hrun : run P O cfg fs fuel src line env = .err se :=
    (run_err_iff ..).mpr (.inr ⟨root, hc, frender_pureFail_of_renderRoot P O cfg fs fuel root env out _ hr⟩)
  obtain ⟨pre, t, rest, h1, h2, h3, h4, h5, h6⟩ := run_error_at_tag_or_object P O cfg fs fuel src line env se hni hrun
  exact ⟨pre, t, rest, h1, h2, by rw [h3, h4], h5, h6⟩

/-! ### A concrete instance

`{% include "f" %}` at line 4 of the template `d/t`, the file `f` is `⏎⏎{{ y }}` (strict variables, `y` unbound):
the file compiles — at line 4 — to a text at line 4 and an object at line 6; the render of the file fails at the
object; the include fails with that error, line 6 = 4 + the two newlines before the object, path of `d/t`. -/
def c14ErrFs : FS := ⟨fun _ => .content [10, 10, 123, 123, 32, 121, 32, 125, 125], fun _ => none⟩
def c14ErrCfg : Cfg := { strict := true, path := [100, 47, 116] }

theorem c14Err_inner (P : Prims) (O : OutPrims) :
    (renderRoot (mkCtx P O c14ErrCfg c14ErrFs 0) [.text 4 [10, 10], .obj 6 (.var [121])] []).runPure =
      ([], .err (.located ⟨6, true, .other "undefinedVariable", .byCause⟩)) :=
  renderRoot_of_bot P O _ _ 0 _ _ (by rw [renderRoot_eq_S]; decide +kernel) rfl

example (P : Prims) (O : OutPrims) :
    renderNode (mkCtx P O c14ErrCfg c14ErrFs 1) (.incl 4 [34, 102, 34]) ⟨[], {}⟩ =
      .fail (.located ⟨6, true, .other "undefinedVariable", .byCause⟩) := by
  obtain ⟨se, hse, _, _, h⟩ := include_render_err_located P O c14ErrCfg c14ErrFs 0 4 [34, 102, 34] ⟨[], {}⟩ (.lit (.str [102])) [102]
    [10, 10, 123, 123, 32, 121, 32, 125, 125] [.text 4 [10, 10], .obj 6 (.var [121])] [] _ (by decide +kernel) rfl (by decide +kernel) (by decide +kernel) (c14Err_inner P O)
  cases hse
  exact h (Or.inl (by decide))

/-- `include_render_err_at_file_token` on this instance: the object token `{{ y }}` of the file, two newlines
    after the start of the file -/
example (P : Prims) (O : OutPrims) :
    ∃ pre t rest, scan c14ErrCfg.delims [10, 10, 123, 123, 32, 121, 32, 125, 125] 4 = pre ++ t :: rest ∧ (t.ty = .tag ∨ t.ty = .obj) ∧
      (6 : Nat) = 4 + countNL (srcs pre) ∧ [10, 10, 123, 123, 32, 121, 32, 125, 125] = srcs pre ++ (t.source ++ srcs rest) ∧ true = true :=
  include_render_err_at_file_token P O c14ErrCfg c14ErrFs 0 4 [] [10, 10, 123, 123, 32, 121, 32, 125, 125]
    [.text 4 [10, 10], .obj 6 (.var [121])] [] ⟨6, true, .other "undefinedVariable", .byCause⟩ (by decide +kernel) (by decide) (c14Err_inner P O)

/-- the file is `{% break %}` -/
def c14BrkFs : FS := ⟨fun _ => .content [123, 37, 32, 98, 114, 101, 97, 107, 32, 37, 125], fun _ => none⟩

theorem c14Brk_inner (P : Prims) (O : OutPrims) :
    (renderRoot (mkCtx P O { path := [100, 47, 116] } c14BrkFs 0) [.brk 4] []).runPure =
      ([], .ok (.brk ⟨4, true, .brk, .byCause⟩)) :=
  renderRoot_of_bot P O _ _ 0 _ _ (by rw [renderRoot_eq_S]; decide +kernel) rfl

/-- `include_sentinel_passes`: included at line 4 of `d/t` the file hands a `break` located at line 4 to the including template and
    inserts nothing -/
example (P : Prims) (O : OutPrims) :
    renderNode (mkCtx P O { path := [100, 47, 116] } c14BrkFs 1) (.incl 4 [34, 102, 34]) ⟨[], {}⟩ =
      .ret (.brk ⟨4, true, .brk, .byCause⟩, ⟨[], {}⟩) := by
  have h := (include_sentinel_passes P O { path := [100, 47, 116] } c14BrkFs 0 4 [34, 102, 34] ⟨[], {}⟩ (.lit (.str [102])) [102]
    [123, 37, 32, 98, 114, 101, 97, 107, 32, 37, 125] [.brk 4] [] _ (by decide +kernel) rfl (by decide +kernel) (by decide +kernel) (c14Brk_inner P O) (by simp)).1
  rw [h]
  simp [Status.wrap, wrapError]
