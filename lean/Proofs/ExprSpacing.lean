import Proofs.ExprCut
/-!
# Whitespace between lexemes

A source text is presented as a list of `Piece`s: a lexeme with the whitespace written in front of it.
`lexRun_pieces`: when every separator is whitespace and every lexeme `fits` what follows it, the scanner
returns exactly the tokens of the lexemes (`lexemeToks`), which do not depend on the separators.
-/

/-- all bytes are scanner whitespace (`space+`: space, `\t \n \v \f \r`) -/
def isSpaces (w : Bytes) : Bool := w.all isLexSpace

structure Piece where
  /-- the whitespace written before the lexeme -/
  ws : Bytes
  rule : Rule
  text : Bytes

/-- the source text of a list of pieces -/
def Piece.src : List Piece → Bytes
  | [] => []
  | p :: ps => p.ws ++ p.text ++ Piece.src ps

/-- what the scanner returns for a sequence of lexemes: their tokens up to the first literal out of range -/
def lexemeToks : List (Rule × Bytes) → List ETok × Option (Res LexErr Unit)
  | [] => ([], none)
  | x :: xs => consTok (mkTok x.1 x.2) (lexemeToks xs)

def Piece.lexeme (p : Piece) : Rule × Bytes := (p.rule, p.text)

/-- separators are whitespace, lexemes are lexemes, and each lexeme `fits` the text that follows it -/
def WellSpaced : List Piece → Prop
  | [] => True
  | p :: ps => isSpaces p.ws = true ∧ Lexeme p.rule p.text ∧ fits p.rule p.text (Piece.src ps) = true ∧ WellSpaced ps

/-- white space is skipped whatever follows: white space at the head of `rest` goes into the same token -/
theorem lexRun_spaces (w rest : Bytes) (hw : isSpaces w = true) : lexRun (w ++ rest) = lexRun rest := by
  obtain ⟨a, b, rfl, ha, hb⟩ := spanLen_split isLexSpace rest
  have skip : ∀ v : Bytes, v.all isLexSpace = true → lexRun (v ++ b) = lexRun b := by
    intro v hv
    cases v with
    | nil => rfl
    | cons c t =>
      rw [List.all_cons, Bool.and_eq_true] at hv
      rw [lexRun_append (c :: t) b .rSpace (List.cons_ne_nil _ _) (lexStep_of_cut (.space c t b hv.1 hv.2 hb))]
      rfl
  rw [← List.append_assoc, skip (w ++ a) (by rw [List.all_append, ha, Bool.and_true]; exact hw), skip a ha]

theorem src_append (ps qs : List Piece) : Piece.src (ps ++ qs) = Piece.src ps ++ Piece.src qs := by
  induction ps with
  | nil => rfl
  | cons p ps ih => simp [Piece.src, ih]

theorem lexRun_pieces (ps : List Piece) (h : WellSpaced ps) :
    lexRun (Piece.src ps) = lexemeToks (ps.map Piece.lexeme) := by
  induction ps with
  | nil => rfl
  | cons p ps ih =>
    obtain ⟨hw, hl, hf, hrest⟩ := h
    simp only [Piece.src, List.map_cons, lexemeToks, Piece.lexeme, List.append_assoc]
    rw [lexRun_spaces _ _ hw,
      lexRun_append p.text _ p.rule hl.ne_nil (lexStep_lexeme _ _ _ hl hf), ih hrest]

/-- `parseSource` after the scanner -/
def parseOfLex (x : List ETok × Option (Res LexErr Unit)) : Res ParseErr Stmt :=
  match x with
  | (_, some (.err _)) => .err .syntax
  | (_, some (.panic w)) => .panic w
  | (_, some (.unmodelled w)) => .unmodelled w
  | (_, some (.ok _)) => .err .syntax
  | (toks, none) =>
    match parseTokensE toks with
    | some s => .ok s
    | none => .err .syntax

theorem parseSource_eq (src : Bytes) : parseSource src = parseOfLex (lexRun (src ++ [59])) := by
  unfold parseSource parseOfLex
  rw [lex_eq_lexRun]
  rfl

/-- the closing `;` that `parse` appends, as a piece after the trailing whitespace `w` -/
def semiPiece (w : Bytes) : Piece := ⟨w, .rAny, [59]⟩

theorem lexeme_semi : Lexeme .rAny [59] := Lexeme.punct 59 (by decide)

/-- on well-spaced pieces followed by white space `w` and the `;` that `parse` appends, the scanner returns the tokens
    of the lexemes -/
theorem lex_pieces (ps : List Piece) (w : Bytes) (h : WellSpaced (ps ++ [semiPiece w])) :
    lex (Piece.src ps ++ w) = lexemeToks (ps.map Piece.lexeme ++ [(.rAny, [59])]) := by
  have : Piece.src ps ++ w ++ [59] = Piece.src (ps ++ [semiPiece w]) := by
    rw [src_append]; simp [Piece.src, semiPiece]
  rw [lex_eq_lexRun, this, lexRun_pieces _ h]
  simp [Piece.lexeme, semiPiece]

theorem parseSource_pieces (ps : List Piece) (w : Bytes) (h : WellSpaced (ps ++ [semiPiece w])) :
    parseSource (Piece.src ps ++ w) = parseOfLex (lexemeToks (ps.map Piece.lexeme ++ [(.rAny, [59])])) := by
  rw [← lex_pieces ps w h]; rfl

/-- the lexemes `ls` with the separators `f i, f (i+1), …` written in front of them -/
def layoutFrom (f : Nat → Bytes) : Nat → List (Rule × Bytes) → List Piece
  | _, [] => []
  | i, x :: xs => ⟨f i, x.1, x.2⟩ :: layoutFrom f (i + 1) xs

theorem layoutFrom_lexemes (f : Nat → Bytes) (i : Nat) (ls : List (Rule × Bytes)) :
    (layoutFrom f i ls).map Piece.lexeme = ls := by
  induction ls generalizing i with
  | nil => rfl
  | cons x xs ih => simp [layoutFrom, Piece.lexeme, ih]

/-- the text either is empty or starts with a break byte -/
def startsWithBreak (s : Bytes) : Bool := headOK isBreak s

theorem fits_startsWithBreak (r : Rule) (l s : Bytes) (hl : Lexeme r l) (hs : startsWithBreak s = true) :
    fits r l s = true := by
  cases s with
  | nil => exact fits_nil r l hl
  | cons b t => exact fits_break r l b t hl hs

theorem startsWithBreak_spaces (w rest : Bytes) (hw : isSpaces w = true) (hne : w ≠ []) : startsWithBreak (w ++ rest) = true := by
  cases w with
  | nil => exact absurd rfl hne
  | cons c t =>
    simp only [isSpaces, List.all_cons, Bool.and_eq_true] at hw
    exact space_isBreak c hw.1

theorem startsWithBreak_semi (w : Bytes) (hw : isSpaces w = true) : startsWithBreak (w ++ [59]) = true := by
  cases w with
  | nil => rfl
  | cons c t => exact startsWithBreak_spaces _ _ hw (List.cons_ne_nil _ _)

theorem wellSpaced_layout (f : Nat → Bytes) (ls : List (Rule × Bytes)) (tail : List Piece)
    (hl : ∀ x ∈ ls, Lexeme x.1 x.2) (hsp : ∀ i, isSpaces (f i) = true)
    (ht : WellSpaced tail) (htb : startsWithBreak (Piece.src tail) = true) :
    ∀ i, (∀ j, i < j → f j ≠ []) → WellSpaced (layoutFrom f i ls ++ tail) := by
  induction ls with
  | nil => intro i _; exact ht
  | cons x xs ih =>
    intro i hne
    have hx := hl x (List.mem_cons_self ..)
    refine ⟨hsp i, hx, ?_, ih (fun y hy => hl y (List.mem_cons_of_mem _ hy)) (i + 1) (fun j hj => hne j (by omega))⟩
    apply fits_startsWithBreak _ _ _ hx
    cases xs with
    | nil => exact htb
    | cons y ys =>
      show startsWithBreak (f (i + 1) ++ y.2 ++ Piece.src (layoutFrom f (i + 1 + 1) ys ++ tail)) = true
      rw [List.append_assoc]
      exact startsWithBreak_spaces _ _ (hsp _) (hne _ (by omega))

/-- the lexemes `ls` written with the separator `f i` in front of the `i`-th one -/
def spacedText (f : Nat → Bytes) (ls : List (Rule × Bytes)) : Bytes := Piece.src (layoutFrom f 0 ls)

/-- a family of separators: whitespace only, non-empty between two lexemes (the first may be empty) -/
def Separators (f : Nat → Bytes) : Prop := (∀ i, isSpaces (f i) = true) ∧ ∀ i, 0 < i → f i ≠ []

theorem wellSpaced_spacedText (f : Nat → Bytes) (ls : List (Rule × Bytes)) (w : Bytes)
    (hl : ∀ x ∈ ls, Lexeme x.1 x.2) (hf : Separators f) (hw : isSpaces w = true) :
    WellSpaced (layoutFrom f 0 ls ++ [semiPiece w]) := by
  refine wellSpaced_layout f ls [semiPiece w] hl hf.1 ⟨hw, lexeme_semi, rfl, trivial⟩ ?_ 0 hf.2
  show startsWithBreak (w ++ [59] ++ []) = true
  rw [List.append_nil]
  exact startsWithBreak_semi w hw

/-! ## Concrete lexemes and layouts used by the examples of `Proofs/C08Source.lean` -/

theorem lxX : Lexeme .rIdent [120] := Lexeme.word 120 [] [] (by decide) (by decide) (Or.inl rfl)
theorem lxG : Lexeme .rIdent [103] := Lexeme.word 103 [] [] (by decide) (by decide) (Or.inl rfl)
theorem lxBar : Lexeme .rAny [124] := Lexeme.punct 124 (by decide)
theorem lxComma : Lexeme .rAny [44] := Lexeme.punct 44 (by decide)
theorem lxF : Lexeme .rKeyword [102, 58] := Lexeme.keyword 102 [] [] (by decide) (by decide) (Or.inl rfl)
theorem lx1 : Lexeme .rInt [49] := Lexeme.int [] [49] (Or.inl rfl) (by decide) (by decide)
theorem lx2 : Lexeme .rInt [50] := Lexeme.int [] [50] (Or.inl rfl) (by decide) (by decide)

/-- the lexemes of `x | f: 1, 2 | g` -/
def exLexemes : List (Rule × Bytes) :=
  [(.rIdent, [120]), (.rAny, [124]), (.rKeyword, [102, 58]), (.rInt, [49]), (.rAny, [44]), (.rInt, [50]),
   (.rAny, [124]), (.rIdent, [103])]

theorem exLexemes_ok : ∀ x ∈ exLexemes, Lexeme x.1 x.2 := by
  intro x hx
  simp only [exLexemes, List.mem_cons, List.mem_nil_iff, or_false] at hx
  rcases hx with rfl | rfl | rfl | rfl | rfl | rfl | rfl | rfl
  · exact lxX
  · exact lxBar
  · exact lxF
  · exact lx1
  · exact lxComma
  · exact lx2
  · exact lxBar
  · exact lxG

theorem exSepF : Separators (fun i => if i = 0 then [] else [32]) :=
  ⟨fun i => by dsimp only; split <;> rfl, fun i hi => by simp [Nat.ne_of_gt hi]⟩

theorem getD_of_all {α} (p : α → Prop) (l : List α) (d : α) (hl : ∀ x ∈ l, p x) (hd : p d) (i : Nat) : p (l.getD i d) := by
  rw [List.getD_eq_getElem?_getD]
  cases h : l[i]? with
  | none => exact hd
  | some x => exact hl x (List.mem_of_getElem? h)

theorem exSepG : Separators (fun i => [[9], [10], [13, 10], [32, 32], [32], [32], [11], [12]].getD i [32]) :=
  ⟨getD_of_all (isSpaces · = true) _ _ (by decide) rfl, fun i _ => getD_of_all (· ≠ []) _ _ (by decide) (by decide) i⟩

/-- lexemes may touch where they `fit`: `x|f:1,2|g` is well spaced without any whitespace … -/
def exTight : List Piece :=
  [⟨[], .rIdent, [120]⟩, ⟨[], .rAny, [124]⟩, ⟨[], .rKeyword, [102, 58]⟩, ⟨[], .rInt, [49]⟩, ⟨[], .rAny, [44]⟩,
   ⟨[], .rInt, [50]⟩, ⟨[], .rAny, [124]⟩, ⟨[], .rIdent, [103]⟩]

theorem exTight_ok : WellSpaced (exTight ++ [semiPiece []]) :=
  ⟨rfl, lxX, rfl, rfl, lxBar, rfl, rfl, lxF, rfl, rfl, lx1, rfl, rfl, lxComma, rfl, rfl, lx2, rfl, rfl, lxBar, rfl,
   rfl, lxG, rfl, rfl, lexeme_semi, rfl, trivial⟩

theorem exSepH : Separators (fun i => [[], [10], [13, 10], [32, 32], [32], [9], [11], [12]].getD i [32]) :=
  ⟨getD_of_all (isSpaces · = true) _ _ (by decide) rfl, fun i hi => by
    obtain ⟨j, rfl⟩ := Nat.exists_eq_add_of_le' hi
    exact getD_of_all (· ≠ []) _ _ (by decide) (by decide) j⟩
