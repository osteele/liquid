import Proofs.MapPermRender
import Proofs.StdNoPanicLemmas
import Liquid.Std
/-!
# The standard output layer does not see the order of map entries (helper lemmas for C02)

`fmt.Sprint` of a map sorts the keys itself (`internal/fmtsort`; `Sprint.lean`: `sortEntries`). The
printed text of two related values is the same whenever both are inside the model: `RRel true Eq`
("agree": equal, or one of the two is `unmodelled` — the entries are printed in the order of the entry
list, so *which* part of a value leaves the model first depends on that order).
-/

open GoVal MapOrder

theorem Soft.rrel_left {α : Type} {R : α → α → Prop} {r r' : Res Cause α} (hr : Soft r) (h : ∀ a, r ≠ .ok a) : RRel true R r r' := by
  cases r with
  | ok a => exact absurd rfl (h a)
  | unmodelled w => exact RRel.unmL rfl _ _
  | err e => exact hr.elim
  | panic w => exact hr.elim

theorem Soft.rrel_right {α : Type} {R : α → α → Prop} {r r' : Res Cause α} (hr : Soft r') (h : ∀ a, r' ≠ .ok a) : RRel true R r r' := by
  cases r' with
  | ok a => exact absurd rfl (h a)
  | unmodelled w => exact RRel.unmR rfl _ _
  | err e => exact hr.elim
  | panic w => exact hr.elim

/-- where fmtsort's order of two keys is determined it is the order of `SortedMapKeys` -/
theorem fmtKeyLess_eq_keyLess {a b : GoVal} {x : Bool} : fmtKeyLess a b = some x → x = keyLess a b := by
  fun_cases fmtKeyLess a b
  -- two integers or two floats of one type, two strings, two booleans: one class, one type, ordered by value
  case case1 n k m =>
    rintro ⟨⟩
    rw [keyLess_eq_valueLess (a := .int k n) (b := .int k m) rfl (by cases k <;> rfl)]
    simp only [keyClass, valueLess, numberLess]
    cases k.isSigned <;> rfl
  case case3 q k r => rintro ⟨⟩; exact (keyLess_eq_valueLess (a := .flt k q) (b := .flt k r) rfl (by cases k <;> rfl)).symm
  case case5 s t => rintro ⟨⟩; exact (keyLess_eq_valueLess (a := .str s) (b := .str t) rfl rfl).symm
  case case6 p q => rintro ⟨⟩; exact (keyLess_eq_valueLess (a := .bool p) (b := .bool q) rfl rfl).symm
  all_goals exact nofun

def EKeysOK (es : List (GoVal × Bytes)) : Prop := (∀ e ∈ es, GoodKey e.1) ∧ es.Pairwise (fun a b => a.1 ≠ b.1)

theorem EKeysOK.tail {e : GoVal × Bytes} {es : List (GoVal × Bytes)} (h : EKeysOK (e :: es)) : EKeysOK es :=
  ⟨fun x hx => h.1 x (List.mem_cons_of_mem _ hx), (List.pairwise_cons.mp h.2).2⟩

theorem EKeysOK.perm {es es' : List (GoVal × Bytes)} (hp : es'.Perm es) (h : EKeysOK es) : EKeysOK es' :=
  ⟨fun x hx => h.1 x (hp.subset hx), (hp.pairwise_iff (fun hab => Ne.symm hab)).mpr h.2⟩

/-- sorted in the order of `SortedMapKeys`, which is fmtsort's wherever that is determined (`fmtKeyLess_eq_keyLess`) and, unlike it,
    a total order on the keys of one map -/
def ESorted (es : List (GoVal × Bytes)) : Prop := es.Pairwise (fun a b => keyLess a.1 b.1 = true)

theorem insertEntry_spec {e : GoVal × Bytes} : ∀ {rest r : List (GoVal × Bytes)}, insertEntry e rest = some r →
    EKeysOK (e :: rest) → ESorted rest → r.Perm (e :: rest) ∧ ESorted r
  | [], r, h, _, _ => by
    simp only [insertEntry, Option.some.injEq] at h; subst h
    exact ⟨List.Perm.refl _, List.pairwise_singleton _ _⟩
  | f :: rest, r, h, hk, hs => by
    simp only [insertEntry] at h
    have hge : GoodKey e.1 := hk.1 e List.mem_cons_self
    have hgf : GoodKey f.1 := hk.1 f (List.mem_cons_of_mem _ List.mem_cons_self)
    have hne : e.1 ≠ f.1 := (List.pairwise_cons.mp hk.2).1 f List.mem_cons_self
    cases hx : fmtKeyLess e.1 f.1 with
    | none => rw [hx] at h; cases h
    | some x =>
      rw [hx] at h
      have hxe := fmtKeyLess_eq_keyLess hx
      cases x with
      | true =>
        simp only [Option.some.injEq] at h; subst h
        refine ⟨List.Perm.refl _, List.pairwise_cons.mpr ⟨fun g hg => ?_, hs⟩⟩
        -- `e` is below `f`, and `f` below everything after it
        rcases List.mem_cons.mp hg with rfl | hg'
        · exact hxe.symm
        · exact keyLess_trans hge hgf (hk.1 g (List.mem_cons_of_mem _ (List.mem_cons_of_mem _ hg'))) hxe.symm
            ((List.pairwise_cons.mp hs).1 g hg')
      | false =>
        simp only at h
        cases hi : insertEntry e rest with
        | none => rw [hi] at h; cases h
        | some r' =>
          rw [hi] at h
          simp only [Option.map_some, Option.some.injEq] at h; subst h
          have hk' : EKeysOK (e :: rest) := EKeysOK.tail (hk.perm (List.Perm.swap e f rest))
          obtain ⟨hp, hsr⟩ := insertEntry_spec hi hk' (List.pairwise_cons.mp hs).2
          refine ⟨(List.Perm.cons f hp).trans (List.Perm.swap _ _ _), List.pairwise_cons.mpr ⟨fun g hg => ?_, hsr⟩⟩
          rcases List.mem_cons.mp (hp.subset hg) with rfl | hg'
          · -- `e` is not below `f` and differs from it: `f` is below `e`
            exact (keyLess_total hge hgf hne).resolve_left (by rw [← hxe]; exact Bool.false_ne_true)
          · exact (List.pairwise_cons.mp hs).1 g hg'

theorem sortEntries_spec : ∀ {es r : List (GoVal × Bytes)}, sortEntries es = some r → EKeysOK es → r.Perm es ∧ ESorted r
  | [], r, h, _ => by
    simp only [sortEntries, Option.some.injEq] at h; subst h
    exact ⟨List.Perm.refl _, List.Pairwise.nil⟩
  | e :: rest, r, h, hk => by
    simp only [sortEntries] at h
    cases hs : sortEntries rest with
    | none => rw [hs] at h; cases h
    | some r' =>
      rw [hs] at h
      simp only [Option.bind_some] at h
      obtain ⟨hp, hsr⟩ := sortEntries_spec hs hk.tail
      have hk' : EKeysOK (e :: r') := EKeysOK.perm (List.Perm.cons e hp) hk
      obtain ⟨hp2, hs2⟩ := insertEntry_spec h hk' hsr
      exact ⟨hp2.trans (List.Perm.cons e hp), hs2⟩

theorem sortEntries_perm_agree {es es' r r' : List (GoVal × Bytes)} (hp : es.Perm es') (hk : EKeysOK es)
    (h1 : sortEntries es = some r) (h2 : sortEntries es' = some r') : r = r' := by
  obtain ⟨p1, s1⟩ := sortEntries_spec h1 hk
  obtain ⟨p2, s2⟩ := sortEntries_spec h2 (hk.perm hp.symm)
  refine List.Perm.eq_of_pairwise (le := fun a b : GoVal × Bytes => keyLess a.1 b.1 = true) ?_ s1 s2 ((p1.trans hp).trans p2.symm)
  intro a b ha hb hab hba
  rw [keyLess_asymm (hk.1 a (p1.subset ha)) (hk.1 b (hp.symm.subset (p2.subset hb))) hab] at hba
  cases hba

theorem mapText_perm_agree {es es' : List (GoVal × Bytes)} (hp : es.Perm es') (hk : EKeysOK es) :
    RRel true Eq (mapText es) (mapText es') := by
  unfold mapText
  cases h1 : sortEntries es with
  | none => exact RRel.unmL rfl _ _
  | some r =>
    cases h2 : sortEntries es' with
    | none => exact RRel.unmR rfl _ _
    | some r' =>
      rw [sortEntries_perm_agree hp hk h1 h2]
      exact rrel_eq_refl _

def kvText (kv : GoVal × GoVal) : Res Cause (GoVal × Bytes) :=
  (sprint kv.1).bind fun kb => (sprint kv.2).bind fun vb => .ok (kv.1, kb ++ 58 :: vb)

theorem sprintKVs_eq_travM : ∀ kvs : List (GoVal × GoVal), sprintKVs kvs = travM kvText kvs
  | [] => by rw [sprintKVs]; rfl
  | (k, v) :: r => by
    rw [sprintKVs, travM, ← sprintKVs_eq_travM r, kvText, Res.bind_assoc]
    congr 1; funext kb
    rw [Res.bind_assoc]
    rfl

theorem kvText_key {kv : GoVal × GoVal} {e : GoVal × Bytes} (h : kvText kv = .ok e) : e.1 = kv.1 := by
  obtain ⟨kb, _, h⟩ := Res.bind_eq_ok h
  obtain ⟨vb, _, h⟩ := Res.bind_eq_ok h
  cases h
  rfl

theorem zip2_keys : ∀ {kvs : List (GoVal × GoVal)} {es : List (GoVal × Bytes)},
    Zip2 (fun kv e => kvText kv = .ok e) kvs es → es.map (·.1) = kvs.map (·.1)
  | _, _, .nil => rfl
  | _, _, .cons h hr => by simp [kvText_key h, zip2_keys hr]

theorem sprintKVs_keys {kvs : List (GoVal × GoVal)} {es : List (GoVal × Bytes)} (h : sprintKVs kvs = .ok es) :
    es.map (·.1) = kvs.map (·.1) := by
  rw [sprintKVs_eq_travM] at h
  exact zip2_keys (travM_ok_iff.mp h)

theorem eKeysOK_of_keys {kvs : List (GoVal × GoVal)} {es : List (GoVal × Bytes)} (he : es.map (·.1) = kvs.map (·.1))
    (hk : KeysOK kvs) : EKeysOK es := by
  constructor
  · intro e hx
    have : e.1 ∈ kvs.map (·.1) := by rw [← he]; exact List.mem_map_of_mem hx
    obtain ⟨kv, hkv, e1⟩ := List.mem_map.mp this
    rw [← e1]
    exact hk.1 kv hkv
  · have : (kvs.map (·.1)).Pairwise (· ≠ ·) := by rw [List.pairwise_map]; exact hk.2
    rw [← he, List.pairwise_map] at this
    exact this

theorem rrel_true_bind_soft {α β : Type} {r r' : Res Cause α} {f f' : α → Res Cause β} (h : RRel true Eq r r')
    (hf : ∀ a, RRel true Eq (f a) (f' a)) : RRel true Eq (r.bind f) (r'.bind f') :=
  RRel.bind h (fun a a' e => by subst e; exact hf a)

/-- a map is printed alike whatever the order of its entries: `fmt` sorts them, and where it cannot order the keys in one
    order of the entries it cannot in another -/
theorem sprintMap_perm {kvs mid kvs' : List (GoVal × GoVal)} (hk : KeysOK kvs) (hA : RRel true Eq (sprintKVs kvs) (sprintKVs mid))
    (hp : mid.Perm kvs') : RRel true Eq ((sprintKVs kvs).bind mapText) ((sprintKVs kvs').bind mapText) := by
  rcases travM_perm (f := kvText) hp with ⟨bs, cs, h1, h2, hpe⟩ | ⟨_, h2⟩
  · rw [← sprintKVs_eq_travM] at h1 h2
    rw [h2]
    rcases (sprintKVs_soft kvs).ok_or_unmodelled with ⟨as, hAe⟩ | ⟨w, hAe⟩
    · rw [hAe, h1] at hA
      obtain rfl : as = bs := hA
      rw [hAe]
      exact mapText_perm_agree hpe (eKeysOK_of_keys (sprintKVs_keys hAe) hk)
    · rw [hAe]
      exact RRel.unmL rfl _ _
  · rw [← sprintKVs_eq_travM] at h2
    exact Soft.rrel_right (Soft.bind (sprintKVs_soft kvs') fun _ => mapText_soft _) fun a h =>
      have ⟨cs, hc, _⟩ := Res.bind_eq_ok h
      h2 cs hc

theorem keysOK_resolveDropsVals {kvs : List (GoVal × GoVal)} (hk : KeysOK kvs) : KeysOK (resolveDropsVals kvs) :=
  keysOK_of_keys_eq (by rw [resolveDropsVals_eq_map, List.map_map]; rfl) hk

/-- `fmt.Sprint` of two related values, as they are and with their drops resolved, in one induction: the second is no instance of
    the first (`ResolveDrops` keeps values related, but not the side conditions of `MP.map`: a drop that yields the renderer's
    counter map) -/
theorem sprint_mp_all :
    (∀ {a b : GoVal}, MP a b →
      RRel true Eq (sprint a) (sprint b) ∧ RRel true Eq (sprint a.resolveDrops) (sprint b.resolveDrops)) ∧
    (∀ {xs ys : List GoVal}, MPL xs ys →
      RRel true Eq (sprintAll xs) (sprintAll ys) ∧ RRel true Eq (sprintAll (resolveDropsList xs)) (sprintAll (resolveDropsList ys))) ∧
    (∀ {kvs kvs' : List (GoVal × GoVal)}, MPV kvs kvs' →
      (RRel true Eq (sprintKVs kvs) (sprintKVs kvs') ∧ RRel true Eq (sprintItems kvs) (sprintItems kvs')) ∧
      RRel true Eq (sprintKVs (resolveDropsVals kvs)) (sprintKVs (resolveDropsVals kvs')) ∧
      RRel true Eq (sprintItems (resolveDropsVals kvs)) (sprintItems (resolveDropsVals kvs'))) ∧
    (∀ {fs fs' : List (Bytes × GoVal)}, MPF fs fs' →
      RRel true Eq (sprintFields fs) (sprintFields fs') ∧
      RRel true Eq (sprintFields (resolveDropsFields fs)) (sprintFields (resolveDropsFields fs'))) := by
  have same : ∀ {α β : Type} {r r' : Res Cause α} (f : α → Res Cause β), RRel true Eq r r' → RRel true Eq (r.bind f) (r'.bind f) :=
    fun _ h => rrel_true_bind_soft h (fun _ => rrel_eq_refl _)
  apply MP.induction
  case refl => exact fun _ => ⟨rrel_eq_refl _, rrel_eq_refl _⟩
  case slice =>
    intro t xs ys _ ih
    simp only [resolveDrops_slice]; rw [sprint, sprint, sprint, sprint]
    exact ⟨same _ ih.1, same _ ih.2⟩
  case array =>
    intro t xs ys _ ih
    simp only [resolveDrops_array]; rw [sprint, sprint, sprint, sprint]
    exact ⟨same _ ih.1, same _ ih.2⟩
  case map =>
    intro kt vt kvs mid kvs' _ hk _ _ hp _ ih
    simp only [resolveDrops_map]; rw [sprint, sprint, sprint, sprint]
    refine ⟨sprintMap_perm hk ih.1.1 hp, sprintMap_perm (keysOK_resolveDropsVals hk) ih.2.1 ?_⟩
    rw [resolveDropsVals_eq_map, resolveDropsVals_eq_map]
    exact hp.map _
  case mapVals =>
    intro kt vt kvs kvs' _ _ _ ih
    simp only [resolveDrops_map]; rw [sprint, sprint, sprint, sprint]
    exact ⟨same _ ih.1.1, same _ ih.2.1⟩
  case mapSlice =>
    intro kvs kvs' _ ih
    simp only [resolveDrops_mapSlice]; rw [sprint, sprint, sprint, sprint]
    exact ⟨same _ ih.1.2, same _ ih.2.2⟩
  case keyedMap =>
    intro fs fs' _ _ ih
    simp only [resolveDrops_keyedMap]; rw [sprint, sprint, sprint, sprint]
    exact ⟨same _ ih.1, same _ ih.2⟩
  case struct =>
    -- `ResolveDrops` leaves a struct as it is
    intro fs fs' _ ih
    simp only [resolveDrops_struct]; rw [sprint, sprint]
    exact ⟨same _ ih.1, same _ ih.1⟩
  case ptr =>
    intro v w h ih
    refine ⟨by rw [sprint, sprint]; exact RRel.unmL rfl _ _, ?_⟩
    -- a pointer to a drop resolves like the drop; any other pointer stays, and prints as an address
    cases h using MP.elim with
    | refl => exact rrel_eq_refl _
    | drop => exact ih.2
    | _ => simp only [GoVal.resolveDrops]; rw [sprint, sprint]; exact RRel.unmL rfl _ _
  case drop =>
    intro v w _ ih
    refine ⟨?_, by simp only [resolveDrops_drop]; exact ih.2⟩
    rw [sprint, sprint]
    cases v.hasTime with
    | true => exact RRel.unmL rfl _ _
    | false =>
      cases w.hasTime with
      | true => exact RRel.unmR rfl _ _
      | false => exact same _ ih.1
  case nilL => exact ⟨rrel_eq_refl _, rrel_eq_refl _⟩
  case consL =>
    intro x y xs ys _ _ ih ihs
    rw [resolveDropsList, resolveDropsList, sprintAll, sprintAll, sprintAll, sprintAll]
    exact ⟨rrel_true_bind_soft ih.1 (fun _ => same _ ihs.1), rrel_true_bind_soft ih.2 (fun _ => same _ ihs.2)⟩
  case nilV => exact ⟨⟨rrel_eq_refl _, rrel_eq_refl _⟩, rrel_eq_refl _, rrel_eq_refl _⟩
  case consV =>
    intro k v w r r' _ _ ih ihs
    rw [resolveDropsVals, resolveDropsVals, sprintKVs, sprintKVs, sprintKVs, sprintKVs, sprintItems, sprintItems, sprintItems,
      sprintItems]
    exact ⟨⟨rrel_true_bind_soft (rrel_eq_refl _) fun _ => rrel_true_bind_soft ih.1 fun _ => same _ ihs.1.1,
        rrel_true_bind_soft (rrel_eq_refl _) fun _ => rrel_true_bind_soft ih.1 fun _ => same _ ihs.1.2⟩,
      rrel_true_bind_soft (rrel_eq_refl _) fun _ => rrel_true_bind_soft ih.2 fun _ => same _ ihs.2.1,
      rrel_true_bind_soft (rrel_eq_refl _) fun _ => rrel_true_bind_soft ih.2 fun _ => same _ ihs.2.2⟩
  case nilF => exact ⟨rrel_eq_refl _, rrel_eq_refl _⟩
  case consF =>
    intro k v w r r' _ _ ih ihs
    rw [resolveDropsFields, resolveDropsFields, sprintFields, sprintFields, sprintFields, sprintFields]
    exact ⟨rrel_true_bind_soft ih.1 (fun _ => same _ ihs.1), rrel_true_bind_soft ih.2 (fun _ => same _ ihs.2)⟩

theorem sprint_mp : ∀ {a b : GoVal}, MP a b → RRel true Eq (sprint a) (sprint b) :=
  fun h => (sprint_mp_all.1 h).1
theorem sprintAll_mp : ∀ {xs ys : List GoVal}, MPL xs ys → RRel true Eq (sprintAll xs) (sprintAll ys) :=
  fun h => (sprint_mp_all.2.1 h).1
theorem sprintKVs_mpv : ∀ {kvs kvs' : List (GoVal × GoVal)}, MPV kvs kvs' → RRel true Eq (sprintKVs kvs) (sprintKVs kvs') :=
  fun h => (sprint_mp_all.2.2.1 h).1.1
theorem sprintItems_mpv : ∀ {kvs kvs' : List (GoVal × GoVal)}, MPV kvs kvs' → RRel true Eq (sprintItems kvs) (sprintItems kvs') :=
  fun h => (sprint_mp_all.2.2.1 h).1.2
theorem sprintFields_mpf : ∀ {fs fs' : List (Bytes × GoVal)}, MPF fs fs' → RRel true Eq (sprintFields fs) (sprintFields fs') :=
  fun h => (sprint_mp_all.2.2.2 h).1

theorem sprintR_mp : ∀ {a b : GoVal}, MP a b → RRel true Eq (sprint a.resolveDrops) (sprint b.resolveDrops) :=
  fun h => (sprint_mp_all.1 h).2
theorem sprintAllR_mp : ∀ {xs ys : List GoVal}, MPL xs ys →
    RRel true Eq (sprintAll (resolveDropsList xs)) (sprintAll (resolveDropsList ys)) :=
  fun h => (sprint_mp_all.2.1 h).2
theorem sprintKVsR_mpv : ∀ {kvs kvs' : List (GoVal × GoVal)}, MPV kvs kvs' →
    RRel true Eq (sprintKVs (resolveDropsVals kvs)) (sprintKVs (resolveDropsVals kvs')) :=
  fun h => (sprint_mp_all.2.2.1 h).2.1
theorem sprintItemsR_mpv : ∀ {kvs kvs' : List (GoVal × GoVal)}, MPV kvs kvs' →
    RRel true Eq (sprintItems (resolveDropsVals kvs)) (sprintItems (resolveDropsVals kvs')) :=
  fun h => (sprint_mp_all.2.2.1 h).2.2
theorem sprintFieldsR_mpf : ∀ {fs fs' : List (Bytes × GoVal)}, MPF fs fs' →
    RRel true Eq (sprintFields (resolveDropsFields fs)) (sprintFields (resolveDropsFields fs')) :=
  fun h => (sprint_mp_all.2.2.2 h).2

theorem sprintRR_mp {a b : GoVal} (h : MP a b) : RRel true Eq (sprintR a) (sprintR b) := sprintR_mp h

theorem writeChunks_of_object {a b : GoVal} (ha : writeChunksL a = (writeObjectL a).bind fun x => .ok [x])
    (hb : writeChunksL b = (writeObjectL b).bind fun x => .ok [x]) (h : RRel true Eq (writeObjectL a) (writeObjectL b)) :
    RRel true Eq (writeChunksL a) (writeChunksL b) := by
  rw [ha, hb]
  exact rrel_true_bind_soft h (fun _ => rrel_eq_refl _)

/-- `writeObject` (after its `ToLiquid` step, which `writeObjectL` absorbs) and the writes it makes, of related values
    and of their elements -/
theorem write_mp_all :
    (∀ {a b : GoVal}, MP a b →
      RRel true Eq (writeObjectL a) (writeObjectL b) ∧ RRel true Eq (writeChunksL a) (writeChunksL b)) ∧
    (∀ {xs ys : List GoVal}, MPL xs ys →
      RRel true Eq (writeObjects xs) (writeObjects ys) ∧ RRel true Eq (writeChunksList xs) (writeChunksList ys)) ∧
    (∀ {kvs kvs' : List (GoVal × GoVal)}, MPV kvs kvs' → True) ∧ (∀ {fs fs' : List (Bytes × GoVal)}, MPF fs fs' → True) := by
  -- a map, a keyed map and a struct are printed by `fmt.Sprint` after `values.ResolveDrops`, in one piece
  have printed : ∀ {a b : GoVal}, MP a b → writeObjectL a = sprintR a → writeObjectL b = sprintR b →
      writeChunksL a = (writeObjectL a).bind (fun x => .ok [x]) → writeChunksL b = (writeObjectL b).bind (fun x => .ok [x]) →
      RRel true Eq (writeObjectL a) (writeObjectL b) ∧ RRel true Eq (writeChunksL a) (writeChunksL b) := by
    intro a b h ea eb ca cb
    have := sprintRR_mp h
    rw [← ea, ← eb] at this
    exact ⟨this, writeChunks_of_object ca cb this⟩
  apply MP.induction
  case refl => exact fun _ => ⟨rrel_eq_refl _, rrel_eq_refl _⟩
  case slice | array => intro t xs ys _ ih; simp only [writeObjectL, writeChunksL]; exact ih
  case map => intro kt vt kvs mid kvs' h1 h2 h3 h4 h5 h6 _; exact printed (.map kt vt h1 h2 h3 h4 h5 h6) rfl rfl rfl rfl
  case mapVals => intro kt vt kvs kvs' h1 h2 h3 _; exact printed (.mapVals kt vt h1 h2 h3) rfl rfl rfl rfl
  case mapSlice =>
    intro kvs kvs' hm _
    simp only [writeObjectL, writeChunksL]
    exact ⟨rrel_true_bind_soft (sprintItemsR_mpv hm) (fun _ => rrel_eq_refl _), sprintItemsR_mpv hm⟩
  case keyedMap => intro fs fs' hn hf _; exact printed (.keyedMap hn hf) rfl rfl rfl rfl
  case struct => intro fs fs' hf _; exact printed (.struct hf) rfl rfl rfl rfl
  case ptr =>
    intro v w h ih
    -- a pointer: to a drop (the drop's value), to a pointer (outside the model), else `Sprint` of the value it holds
    have hs := sprint_mp h
    cases h using MP.elim with
    | refl => exact ⟨rrel_eq_refl _, rrel_eq_refl _⟩
    | drop => simpa only [writeObjectL_ptr_drop, writeChunksL_ptr_drop, writeObjectL_drop, writeChunksL_drop] using ih
    | ptr => exact ⟨RRel.unmL rfl _ _, RRel.unmL rfl _ _⟩
    | _ => exact ⟨hs, writeChunks_of_object rfl rfl hs⟩
  case drop => intro v w _ ih; rw [writeObjectL_drop, writeObjectL_drop, writeChunksL_drop, writeChunksL_drop]; exact ih
  case nilL => exact ⟨rrel_eq_refl _, rrel_eq_refl _⟩
  case consL =>
    intro x y xs ys _ _ ih ihs
    rw [writeObjects_cons, writeObjects_cons, writeChunksList_cons, writeChunksList_cons]
    exact ⟨rrel_true_bind_soft ih.1 (fun _ => rrel_true_bind_soft ihs.1 (fun _ => rrel_eq_refl _)),
      rrel_true_bind_soft ih.2 (fun _ => rrel_true_bind_soft ihs.2 (fun _ => rrel_eq_refl _))⟩
  case nilV | nilF => trivial
  case consV | consF => intros; trivial

theorem writeChunksL_mp {a b : GoVal} (h : MP a b) : RRel true Eq (writeChunksL a) (writeChunksL b) :=
  (write_mp_all.1 h).2

theorem writeObjectL_mp {a b : GoVal} (h : MP a b) : RRel true Eq (writeObjectL a) (writeObjectL b) :=
  (write_mp_all.1 h).1

theorem stdChunks_mp {a b : GoVal} (h : MP a b) : RRel true Eq (stdChunks a) (stdChunks b) :=
  writeChunksL_mp h.toLiquid

/-- the standard output layer prints values that differ in the order of map entries alike (up to the
    boundary of the model) -/
theorem stdOut_respectsM : OutRespectM true stdOut :=
  { chunks := fun _ _ h => stdChunks_mp h.2.2 }
