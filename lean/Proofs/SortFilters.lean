import Proofs.FilterLogic
import Proofs.ValView
import Proofs.CompareLemmas
/-!
# `sort`, `sort_natural` and `uniq` on two arrays related element by element (shared by C18 and C02)

For any relation `E` on elements that the sort keys do not tell apart (`ArrF.SortRel E` for `sort`; related sort texts for
`sort_natural`), the two runs make the same comparisons with the same answers and move related elements alike:
`SortRel.sortWith`, `sortNaturalWith_all2`. The one place where the two runs can part is the tie test beyond 12
elements, which looks at encodings (`tie_rel`): there the results agree up to `unmodelled` only (`t = true`).
The loop of `uniq` keeps related elements when related elements have the same key (`All2.uniqOn`).
-/

open GoVal Cmp

theorem All2.uniqOn {α κ : Type} [BEq κ] {R : α → α → Prop} {key : α → κ} (hk : ∀ x x', R x x' → key x = key x') :
    ∀ {xs ys : List α}, All2 R xs ys → ∀ seen : List κ, All2 R (ArrF.uniqOn key seen xs) (ArrF.uniqOn key seen ys)
  | _, _, .nil, _ => .nil
  | _, _, .cons hx h, seen => by
    simp only [ArrF.uniqOn, hk _ _ hx]
    split
    · exact All2.uniqOn hk h seen
    · exact .cons hx (All2.uniqOn hk h _)

namespace ArrF

variable {t : Bool} {E W : GoVal → GoVal → Prop}

/-- `values.Less` and the two classifications of sort keys look at a scalar after `ToLiquid`: a relation whose related elements
    are then the same value, or two values with parts, needs no more than the entry under a key to be a `SortRel` -/
theorem SortRel.of_parts
    (parts : ∀ {x x' : GoVal}, E x x' → toLiq x' = toLiq x ∨ (rigidM (toLiq x) = false ∧ rigidM (toLiq x') = false))
    (keyIndex : ∀ (key : Bytes) {x x' : GoVal}, E x x' → E (ArrF.keyIndex key x) (ArrF.keyIndex key x'))
    (keyIsNil : ∀ (key : Bytes) {x x' : GoVal}, E x x' → (ArrF.keyIndex key x).isNil = (ArrF.keyIndex key x').isNil) : SortRel E :=
  have congr {α : Type} {f : GoVal → α} {c : α} (hf : ∀ u, rigidM u = false → f u = c) {x x' : GoVal} (h : E x x') :
      f (toLiq x) = f (toLiq x') := by
    rcases parts h with e | ⟨h1, h2⟩
    · rw [e]
    · rw [hf _ h1, hf _ h2]
  { less := fun {a a' b b'} ha hb => by
      have sc : ∀ {x x'}, E x x' → scalar (toLiq x) = scalar (toLiq x') :=
        congr (f := scalar) (c := none) fun u hu => by cases u <;> first | rfl | cases hu
      show lessTL (toLiq a) (toLiq b) = lessTL (toLiq a') (toLiq b')
      rw [lessTL_eq, lessTL_eq, sc ha, sc hb]
    kclass := congr (c := KClass.other)
      (f := fun u => match u with
        | .nil => .nil | .bool _ => .bool | .int _ _ => .int | .flt _ _ => .flt | .str _ => .str | _ => .other)
      fun u hu => by cases u <;> first | rfl | cases hu
    smallNum := congr (c := false)
      (f := fun u => match u with | .int _ n => decide (n.natAbs ≤ 2 ^ 53) | .flt _ _ => true | _ => false)
      fun u hu => by cases u <;> first | rfl | cases hu
    keyIndex := keyIndex
    keyIsNil := keyIsNil }

theorem sortPaths_length {less : GoVal → GoVal → R Bool} {le : GoVal → GoVal → Bool} {c : Bool} {xs ys : List GoVal}
    (h : (if xs.length ≤ maxInsertion then insertionSortM less xs else if c then notSWO else .ok (xs.mergeSort le)) = .ok ys) :
    ys.length = xs.length := by
  split at h
  · exact (insertionSortM_perm h).length_eq
  · split at h
    · cases h
    · injection h with h; subst h; exact (List.mergeSort_perm _ _).length_eq

/-- two answers behind a test that may send either run out of the model: related when the test fails on both sides, and
    in any case up to `unmodelled` -/
theorem tie_rel {α : Type} {S : α → α → Prop} {c c' : Bool} {a a' : α} (hs : S a a') (hc : t = true ∨ (c = false ∧ c' = false)) :
    RRel t S (if c then tieOrder else .ok a) (if c' then tieOrder else .ok a') := by
  rcases hc with ht | ⟨rfl, rfl⟩
  · cases c <;> cases c'
    · exact hs
    · exact RRel.unmR ht _ _
    · exact RRel.unmL ht _ _
    · exact RRel.unmL ht _ _
  · exact hs

/-- `sort`, `sort: key`: exactly (`t = false`) when the array has at most 12 elements, up to the tie test beyond -/
theorem SortRel.sortWith (S : SortRel E) (hW : ∀ {ys ys'}, All2 E ys ys' → W (.slice .any ys) (.slice .any ys')) (strict : Bool)
    {xs xs' : List GoVal} {k k' : GoVal} (hx : All2 E xs xs') (hnil : k = .nil ↔ k' = .nil)
    (hs : RRel t Eq (sprintR k) (sprintR k')) (ht : t = true ∨ xs.length ≤ maxInsertion) :
    RRel t W (sortWith strict [.slice .any xs, k]) (sortWith strict [.slice .any xs', k']) := by
  have fin : ∀ (le : GoVal → GoVal → Bool) {r r' : R (List GoVal)}, RRel t (All2 E) r r' → (∀ ys, r = .ok ys → ys.length = xs.length) →
      RRel t W (r.bind fun ys => if strict && !stableEnough le ys then tieOrder else .ok (.slice .any ys))
        (r'.bind fun ys => if strict && !stableEnough le ys then tieOrder else .ok (.slice .any ys)) := by
    intro le r r' hr hlen
    refine hr.bind_ok fun ys ys' e _ hy => tie_rel (hW hy) (ht.imp_right fun hl => ?_)
    -- up to 12 elements the test passes
    have pass : ∀ zs : List GoVal, zs.length = xs.length → (strict && !stableEnough le zs) = false := fun zs hz => by
      simp only [stableEnough, hz, hl, decide_true, Bool.true_or, Bool.not_true, Bool.and_false]
    exact ⟨pass ys (hlen ys e), pass ys' (hy.length_eq ▸ hlen ys e)⟩
  by_cases hn : k = .nil
  · subst hn
    rw [hnil.mp rfl]
    exact fin ArrF.sortLe (S.sortM hx) fun ys h => sortPaths_length h
  · rw [sortWith.eq_2 _ _ _ hn, sortWith.eq_2 _ _ _ (mt hnil.mpr hn)]
    exact hs.bind fun key _ e => e ▸ fin (ArrF.sortByLe key) (S.sortByM key hx) fun ys h => sortPaths_length h

/-! ## `sort_natural` -/

theorem decorate_all2 {f : GoVal → R Bytes} (hf : ∀ x x', E x x' → RRel t Eq (f x) (f x')) :
    ∀ {xs xs' : List GoVal}, All2 E xs xs' → RRel t (All2 (KV E)) (decorate f xs) (decorate f xs')
  | _, _, .nil => All2.nil
  | _, _, .cons hx hs => by
    simp only [decorate]
    exact (hf _ _ hx).bind fun _ _ e => (decorate_all2 hf hs).bind fun _ _ hr => All2.cons ⟨e, hx⟩ hr

/-- `sort.Sort(keySortable{…})`: exactly related up to 12 elements; beyond, up to the tie test -/
theorem sortNatM_all2 (strict : Bool) {f : GoVal → R Bytes} (hf : ∀ x x', E x x' → RRel t Eq (f x) (f x'))
    {xs xs' : List GoVal} (hx : All2 E xs xs') (ht : t = true ∨ xs.length ≤ maxInsertion) :
    RRel t (All2 E) (sortNatM strict f xs) (sortNatM strict f xs') := by
  unfold sortNatM
  rw [← hx.length_eq]
  split
  · exact insertionSortM_all2 (fun a a' b b' ha hb =>
      (hf a a' ha).bind fun _ _ e => e ▸ (hf b b' hb).bind fun _ _ e' => e' ▸ rrel_eq_refl _) hx
  · next hlen =>
    refine (decorate_all2 hf hx).bind fun ds ds' hd => ?_
    have hm : All2 (KV E) (ds.mergeSort textLe) (ds'.mergeSort textLe) :=
      hd.mergeSort fun a a' b b' ha hb => by simp only [textLe, textLt, ha.1, hb.1]
    exact tie_rel (hm.vals fun _ _ h => h) (.inl (ht.resolve_right hlen))

theorem sortNaturalWith_all2 (hW : ∀ {ys ys'}, All2 E ys ys' → W (.slice .any ys) (.slice .any ys')) (strict : Bool)
    (hkey : ∀ x x', E x x' → RRel t Eq (natKey x) (natKey x')) (hkeyBy : ∀ nm x x', E x x' → RRel t Eq (natKeyBy nm x) (natKeyBy nm x'))
    {xs xs' : List GoVal} {k k' : GoVal} (hx : All2 E xs xs') (hnil : k = .nil ↔ k' = .nil)
    (hs : RRel t Eq (sprintR k) (sprintR k')) (ht : t = true ∨ xs.length ≤ maxInsertion) :
    RRel t W (sortNaturalWith strict [.slice .any xs, k]) (sortNaturalWith strict [.slice .any xs', k']) := by
  have fin : ∀ f : GoVal → R Bytes, (∀ x x', E x x' → RRel t Eq (f x) (f x')) →
      RRel t W ((sortNatM strict f xs).bind fun ys => .ok (.slice .any ys)) ((sortNatM strict f xs').bind fun ys => .ok (.slice .any ys)) :=
    fun f hf => (sortNatM_all2 strict hf hx ht).bind fun _ _ hy => hW hy
  by_cases hn : k = .nil
  · subst hn
    rw [hnil.mp rfl]
    exact fin natKey hkey
  · rw [sortNaturalWith.eq_2 _ _ _ hn, sortNaturalWith.eq_2 _ _ _ (mt hnil.mpr hn)]
    exact (hs.bind (S := fun f f' => f = f' ∧ ∀ x x', E x x' → RRel t Eq (f x) (f x')) fun nm _ e => e ▸ ⟨rfl, hkeyBy nm⟩).bind
      fun f _ h => h.1 ▸ fin f h.2

end ArrF
