import Proofs.RenderSteps
/-!
# A loop execution as a left fold over its items

On a writer that does not fail, `iterateM` is `List.foldl` of one-iteration steps over the
selected items, with an accumulator that records the bytes written so far, the index and cycle
counters of the next iteration, and whether the loop is still running, was ended by `break`, or
was abandoned by a failure.
-/

/-- how an abandoned render ended -/
inductive Halt where
  | err (e : RawErr)
  | panic (w : String)
  | unmodelled (w : String)

inductive LoopSt where
  /-- ready for the next item, in this render state -/
  | running (s : RS)
  /-- a `break` ended the loop in this state: the remaining items are not visited -/
  | broke (s : RS)
  /-- the body failed: the render is abandoned -/
  | halted (h : Halt)

structure LoopAcc where
  /-- everything the caller's writer has received from the iterations so far -/
  out : Bytes
  /-- 0-based index of the next iteration (`forloop.index0`) -/
  i : Nat
  /-- the cycle counters of this loop execution -/
  cyc : List (GoVal × GoVal)
  st : LoopSt

def LoopAcc.start (s : RS) : LoopAcc := ⟨[], 0, [], .running s⟩

/-- what the iterations return: `done` in both normal cases (the sentinel is consumed) -/
def LoopAcc.outcome (a : LoopAcc) : Prog.Outcome (Status × RS) :=
  match a.st with
  | .running s => .ok (.done, s)
  | .broke s => .ok (.done, s)
  | .halted (.err e) => .err e
  | .halted (.panic w) => .panic w
  | .halted (.unmodelled w) => .unmodelled w

/-- one iteration's rendering: the body, for a `tablerow` between its cell decorations (the cell
    is closed also when the body ends with `break` or `continue`) -/
def iterBody (cols : Option Nat) (body : M Status) (i n : Nat) : M Status := do
  (match cols with
   | some c => tablerowBefore c i
   | none => pure ())
  let st ← body
  (match cols with
   | some c => tablerowAfter c i n
   | none => pure ())
  pure st

/-- the cycle counters after an iteration: those in the record bound to `forloop` (the `cycle`
    tag updates them there) -/
def nextCyc (cyc : List (GoVal × GoVal)) (s' : RS) : List (GoVal × GoVal) :=
  match cyclesOf (s'.env.get nmForloop) with
  | some (c, _) => c
  | none => cyc

/-- the state in which the body of iteration `i` of `n` over item `x` starts -/
def iterStart (var : Bytes) (s : RS) (x : GoVal) (i n : Nat) (cyc : List (GoVal × GoVal)) : RS :=
  { s with env := (s.env.set var x).set nmForloop (forloopRec i n cyc) }

/-- one step of the fold: bind the loop variable and `forloop` (by the formulas of `forloopRec`),
    render the body; `break` ends the loop, `continue` and a normal end go on with index `i+1`, a
    failure abandons the render; once the loop has ended further items change nothing. -/
def iterStep (var : Bytes) (cols : Option Nat) (body : M Status) (n : Nat) (acc : LoopAcc) (x : GoVal) : LoopAcc :=
  match acc.st with
  | .running s =>
    match (iterBody cols body acc.i n (iterStart var s x acc.i n acc.cyc)).runPure with
    | (o, .ok (.brk _, s')) => { acc with out := acc.out ++ o, st := .broke s' }
    | (o, .ok (_, s')) => { out := acc.out ++ o, i := acc.i + 1, cyc := nextCyc acc.cyc s', st := .running s' }
    | (o, .err e) => { acc with out := acc.out ++ o, st := .halted (.err e) }
    | (o, .panic w) => { acc with out := acc.out ++ o, st := .halted (.panic w) }
    | (o, .unmodelled w) => { acc with out := acc.out ++ o, st := .halted (.unmodelled w) }
  | _ => acc

theorem iterStep_foldl_broke (var : Bytes) (cols : Option Nat) (body : M Status) (n : Nat) (xs : List GoVal)
    (out : Bytes) (i : Nat) (cyc) (s : RS) :
    xs.foldl (iterStep var cols body n) ⟨out, i, cyc, .broke s⟩ = ⟨out, i, cyc, .broke s⟩ := by
  induction xs with
  | nil => rfl
  | cons x xs ih => simpa [List.foldl_cons, iterStep] using ih

theorem iterStep_foldl_halted (var : Bytes) (cols : Option Nat) (body : M Status) (n : Nat) (xs : List GoVal)
    (out : Bytes) (i : Nat) (cyc) (h : Halt) :
    xs.foldl (iterStep var cols body n) ⟨out, i, cyc, .halted h⟩ = ⟨out, i, cyc, .halted h⟩ := by
  induction xs with
  | nil => rfl
  | cons x xs ih => simpa [List.foldl_cons, iterStep] using ih

theorem iterateM_cons (var : Bytes) (cols : Option Nat) (body : M Status) (n : Nat) (x : GoVal) (xs : List GoVal)
    (i : Nat) (cyc) (s : RS) :
    iterateM var cols body n (x :: xs) i cyc s =
      (iterBody cols body i n (iterStart var s x i n cyc)).bind fun r =>
        match r.1 with
        | .brk _ => .ret (.done, r.2)
        | _ => iterateM var cols body n xs (i + 1) (nextCyc cyc r.2) r.2 := by
  conv => lhs; unfold iterateM
  simp only [iterBody, iterStart, bind, M.bind, M.setVar, M.getVar, Prog.bind, pure, M.pure, Prog.bind_assoc, nextCyc]
  congr 1
  funext r1
  congr 1
  funext r2
  congr 1
  funext r3
  obtain ⟨st, s3⟩ := r2
  cases st <;> rfl

/-- **The iterations are a left fold.** -/
theorem iterate_fold (var : Bytes) (cols : Option Nat) (body : M Status) (n : Nat) :
    ∀ (xs : List GoVal) (i : Nat) (cyc : List (GoVal × GoVal)) (s : RS) (pre : Bytes),
      (pre ++ (iterateM var cols body n xs i cyc s).runPure.1, (iterateM var cols body n xs i cyc s).runPure.2) =
        ((xs.foldl (iterStep var cols body n) ⟨pre, i, cyc, .running s⟩).out,
         (xs.foldl (iterStep var cols body n) ⟨pre, i, cyc, .running s⟩).outcome) := by
  intro xs
  induction xs with
  | nil =>
    intro i cyc s pre
    simp [iterateM, pure, M.pure, Prog.runPure, LoopAcc.outcome]
  | cons x xs ih =>
    intro i cyc s pre
    rw [iterateM_cons, Prog.runPure_bind, List.foldl_cons]
    simp only [iterStep]
    rcases h : (iterBody cols body i n (iterStart var s x i n cyc)).runPure with ⟨o, r⟩
    cases r with
    | ok r =>
      obtain ⟨st, s'⟩ := r
      cases st with
      | brk e => simp only [iterStep_foldl_broke, LoopAcc.outcome, Prog.runPure, List.append_nil]
      | _ =>
        simp only
        rw [← ih (i + 1) (nextCyc cyc s') s' (pre ++ o), List.append_assoc]
    | _ => simp only [iterStep_foldl_halted, LoopAcc.outcome]

theorem iterate_fold_start (var : Bytes) (cols : Option Nat) (body : M Status) (n : Nat) (xs : List GoVal) (s : RS) :
    (iterateM var cols body n xs 0 [] s).runPure =
      ((xs.foldl (iterStep var cols body n) (LoopAcc.start s)).out,
       (xs.foldl (iterStep var cols body n) (LoopAcc.start s)).outcome) := by
  have := iterate_fold var cols body n xs 0 [] s []
  simp only [List.nil_append] at this
  exact this

/-- the deferred restore: `forloop` and the loop variable get back the values they had in `s` -/
def restoreFrom (var : Bytes) (s s' : RS) : RS :=
  { s' with env := (s'.env.set nmForloop (s.env.get nmForloop)).set var (s.env.get var) }

/-- the run of a whole loop execution read off the final accumulator of the fold: the bytes, and
    `done` with the loop variables restored — or the failure, as wrapped by `g` (`id` for `loopIterate`, the tag's
    `WrapError` for the loop node: `loop_denotation`, C11) -/
def loopResult (g : RawErr → RawErr) (var : Bytes) (s : RS) (acc : LoopAcc) : Bytes × Prog.Outcome (Status × RS) :=
  (acc.out,
   match acc.st with
   | .running s' => .ok (.done, restoreFrom var s s')
   | .broke s' => .ok (.done, restoreFrom var s s')
   | .halted (.err e) => .err (g e)
   | .halted (.panic w) => .panic w
   | .halted (.unmodelled w) => .unmodelled w)

theorem loopIterate_run (P : Prims) (loc : Loc) (tr : Bool) (var : Bytes) (colsE : Option Expr) (bodyM : M Status)
    (items : List GoVal) (s : RS) (cols : Option Nat)
    (hcols : tablerowCols P tr colsE loc s = .ret (cols, s)) :
    (loopIterate P loc tr var colsE bodyM items s).runPure =
      loopResult id var s (items.foldl (iterStep var cols bodyM items.length) (LoopAcc.start s)) := by
  unfold loopIterate
  simp only [bind, M.bind, hcols, Prog.bind, M.getVar]
  rw [Prog.runPure_bind, iterate_fold_start]
  simp only [loopResult, LoopAcc.outcome]
  rcases (items.foldl (iterStep var cols bodyM items.length) (LoopAcc.start s)) with ⟨out, i, cyc, st⟩
  cases st with
  | halted h => cases h <;> rfl
  | _ => simp [restoreLoopVars, bind, M.bind, M.setVar, Prog.bind, pure, M.pure, Prog.runPure, restoreFrom]

theorem runPure_wrapAt (path : Bytes) (loc : Loc) (m : M Status) (s : RS) :
    (wrapAt path loc m s).runPure =
      match (m s).runPure with
      | (o, .ok (st, s')) => (o, .ok (st.wrap path loc, s'))
      | (o, .err e) => (o, .err (.located (wrapError path e loc)))
      | (o, .panic w) => (o, .panic w)
      | (o, .unmodelled w) => (o, .unmodelled w) := by
  unfold wrapAt
  rw [Prog.runPure_bind, Prog.runPure_mapFail]
  rcases (m s).runPure with ⟨o, r⟩
  cases r with
  | ok r => obtain ⟨st, s'⟩ := r; simp [Prog.runPure]
  | _ => rfl

theorem loopRun_eq {budget : Int} (P : Prims) (path : Bytes) (loc : Loc) (tr : Bool) (var : Bytes) (e : Expr) (mods : LoopMods)
    (bodyM : M Status) (elseM : Option (M Status)) (s : RS) (v : GoVal) (items0 : List GoVal) (off lim : Option Int)
    (hv : evaluate P s.env e = .ok v) (hitems : loopItems budget v = .ok items0)
    (hoff : intModifier P mods.offset loc s = .ret (off, s))
    (hlim : intModifier P mods.limit loc s = .ret (lim, s)) :
    loopRun budget P path loc tr var e mods bodyM false elseM s =
      wrapAt path loc (loopDispatch P loc tr var mods.cols bodyM elseM (selectItems mods.reversed off lim items0)) s := by
  unfold loopRun wrapAt
  simp only [bind, M.bind, M.getEnv, Prog.bind, hv, hitems, M.ofRes, M.pure, hoff, hlim, Bool.false_eq_true, if_false]

theorem intModifier_none (P : Prims) (loc : Loc) (s : RS) : intModifier P none loc s = .ret (none, s) := rfl

theorem intModifier_int (P : Prims) (ex : Expr) (loc : Loc) (s : RS) (k : Int)
    (h : evaluate P s.env ex = .ok (.int .int k)) : intModifier P (some ex) loc s = .ret (some k, s) := by
  simp only [intModifier, bind, M.bind, M.getEnv, Prog.bind, h, M.ofRes, pure, M.pure]

theorem tablerowCols_for (P : Prims) (colsE : Option Expr) (loc : Loc) (s : RS) :
    tablerowCols P false colsE loc s = .ret (none, s) := rfl

/-- `2147483647` is `math.MaxInt32`: the column count `makeLoopDecorator` (`tags/iteration_tags.go`) takes for a `tablerow`
    whose `cols` is absent or not positive -/
theorem tablerowCols_none (P : Prims) (loc : Loc) (s : RS) :
    tablerowCols P true none loc s = .ret (some 2147483647, s) := rfl

theorem tablerowCols_int (P : Prims) (ex : Expr) (loc : Loc) (s : RS) (k : Int)
    (h : evaluate P s.env ex = .ok (.int .int k)) :
    tablerowCols P true (some ex) loc s = .ret (some (if k > 0 then k.toNat else 2147483647), s) := by
  simp only [tablerowCols, if_true, bind, M.bind, intModifier_int P ex loc s k h, Prog.bind, pure, M.pure]

theorem iterateM_done (var : Bytes) (cols : Option Nat) (body : M Status) (n : Nat) :
    ∀ xs i cyc s, AllRet (fun r : Status × RS => r.1 = .done) (iterateM var cols body n xs i cyc s) := by
  intro xs
  induction xs with
  | nil => intro i cyc s; exact .ret _ rfl
  | cons x xs ih =>
    intro i cyc s
    rw [iterateM_cons]
    refine AllRet.bind (AllRet.trivial _) (fun r _ => ?_)
    split
    · exact .ret _ rfl
    · exact ih _ _ _

theorem loopIterate_done (P : Prims) (loc : Loc) (tr : Bool) (var : Bytes) (colsE : Option Expr) (bodyM : M Status)
    (items : List GoVal) (s : RS) :
    AllRet (fun r : Status × RS => r.1 = .done) (loopIterate P loc tr var colsE bodyM items s) := by
  unfold loopIterate
  simp only [bind, M.bind]
  refine AllRet.bind (AllRet.trivial _) (fun _ _ => AllRet.bind (AllRet.trivial _) (fun _ _ =>
    AllRet.bind (AllRet.trivial _) (fun _ _ => ?_)))
  refine AllRet.bind (iterateM_done _ _ _ _ _ _ _ _) (fun ⟨st, s2⟩ h => ?_)
  simp only at h
  subst h
  exact AllRet.bind (AllRet.trivial _) (fun _ _ => .ret _ rfl)
