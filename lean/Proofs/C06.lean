import Proofs.ParseLemmas
import Liquid.Generated.Grammar
/-!
# C06 — a template is accepted iff its block tags are properly nested and closed

All theorems are about `parseTokens g chk` (the model of `parser.Config.parseTokens`) for ANY
grammar table `g` with `g.OK` (the side conditions of the `AddBlock`/`Clause` builder) and ANY
expression checker `chk`; they are instantiated to `stdGrammar`, which translator T1 ties to
`tags/standard_tags.go` (`grammar_is_standard`).

The specification (`Liquid/Nest.lean`) never mentions a stack: `WellNested g` is the declarative
grammar over token lists, `Derives g chk toks ast` additionally names the tree, `unparse` prints a
tree, `canon g` erases from a token list what the tree does not keep (comment blocks; token
boundaries and kinds inside raw blocks; the line/args/source fields of raw/endraw/end tags and of
trim markers). The error theorems are relative to `Viable g chk pre` (the parser consumes `pre`
without error and ends outside comment/raw; `Proofs/ParseLemmas.lean`), which is defined by the
machine, not by the grammar.
-/

/-! ## The table -/

/-- T1: the table extracted from `AddStandardTags` is the table the model uses -/
theorem grammar_is_standard : genGrammar = stdGrammar ∧ genTags = stdTags := by decide +kernel

/-! ## Example tokens (byte literals): `{% if x %}`, `{% else %}`, `{% endif %}`, `{% for %}`,
    `{% comment %}`, `{% endcomment %}`, `{% raw %}`, `{% endraw %}`, text, objects -/

def exIf : Token := { ty := .tag, line := 1, name := [105, 102], args := [120] }
def exElse : Token := { ty := .tag, line := 2, name := [101, 108, 115, 101] }
def exEndif : Token := { ty := .tag, line := 3, name := [101, 110, 100, 105, 102] }
def exFor : Token := { ty := .tag, line := 2, name := [102, 111, 114] }
def exWhen : Token := { ty := .tag, line := 2, name := [119, 104, 101, 110] }
def exComment : Token := { ty := .tag, line := 4, name := commentName }
def exEndcomment : Token := { ty := .tag, line := 5, name := endcommentName }
def exRaw : Token := { ty := .tag, line := 6, name := rawName }
def exEndraw : Token := { ty := .tag, line := 7, name := endrawName }
def exText : Token := { ty := .text, line := 1, source := [97] }
def exObj : Token := { ty := .obj, line := 2, args := [120], source := [123, 123, 120, 125, 125] }
def exBadObj : Token := { ty := .obj, line := 9, args := [124], source := [123, 123, 124, 125, 125] }
/-- a checker that rejects exactly the expression `|` -/
def exChk : Bytes → Option Cause := fun a => if a = [124] then some .syntax else none

/-! ## Acceptance is derivability -/

/-- The parser accepts `toks` with tree `ast` exactly when the declarative grammar derives `ast`
    from `toks`: the tree mirrors the textual nesting. -/
theorem parse_ok_iff_derives (g : Grammar) (ok : g.OK = true) (chk : Bytes → Option Cause)
    (toks : List Token) (ast : List AST) :
    parseTokens g chk toks = .ok ast ↔ Derives g chk toks ast :=
  ⟨derives_of_parse, parse_of_derives ok⟩

/-- the tree of `{% if x %}a{% else %}{{x}}{% endif %}` is derived, hence returned -/
example : parseTokens stdGrammar exChk [exIf, exText, exElse, exObj, exEndif] =
    .ok [.block exIf [.text exText] [(exElse, [.obj exObj])]] := by
  apply (parse_ok_iff_derives stdGrammar stdGrammar_OK exChk _ _).mpr
  exact Derives.block exIf exEndif [exText] [.text exText] [(exElse, [exObj], [.obj exObj])] [] []
    (by decide +kernel) (.text _ _ _ rfl .nil) (by decide +kernel)
    (by intro sg h; simp only [List.mem_singleton] at h; subst h; exact .obj _ _ _ rfl rfl .nil)
    (by decide +kernel) .nil

/-- `(⇒)` holds for every table, even one that is not `OK` (`derives_of_parse`, restated) -/
theorem parse_derives (g : Grammar) (chk : Bytes → Option Cause) (toks : List Token) (ast : List AST)
    (h : parseTokens g chk toks = .ok ast) : Derives g chk toks ast := derives_of_parse h

example : Derives stdGrammar exChk [exRaw, exObj, exEndraw] [.raw [[123, 123, 120, 125, 125]]] :=
  parse_derives stdGrammar exChk _ _ (by rfl)

/-- **C06, main statement.** A template parses successfully exactly when its tokens are well
    nested and the expression parser accepts every object outside comment/raw interiors. -/
theorem parse_ok_iff (g : Grammar) (ok : g.OK = true) (chk : Bytes → Option Cause) (toks : List Token) :
    (parseTokens g chk toks).isOk = true ↔ WellNested g toks ∧ ObjsOk g chk toks := by
  constructor
  · intro h
    cases hp : parseTokens g chk toks with
    | ok ast => have hd := derives_of_parse hp; exact ⟨hd.wellNested, hd.objsOk⟩
    | err e => rw [hp] at h; cases h
    | panic w => rw [hp] at h; cases h
    | unmodelled w => rw [hp] at h; cases h
  · intro ⟨hw, ho⟩
    obtain ⟨ns, hns⟩ := hw.derives ho
    rw [parse_of_derives ok hns]; rfl

theorem parse_ok_iff_std (chk : Bytes → Option Cause) (toks : List Token) :
    (parseTokens stdGrammar chk toks).isOk = true ↔ WellNested stdGrammar toks ∧ ObjsOk stdGrammar chk toks :=
  parse_ok_iff stdGrammar stdGrammar_OK chk toks

/-- the same, for the table as extracted from `tags/standard_tags.go` by T1 -/
theorem parse_ok_iff_generated (chk : Bytes → Option Cause) (toks : List Token) :
    (parseTokens genGrammar chk toks).isOk = true ↔ WellNested genGrammar toks ∧ ObjsOk genGrammar chk toks := by
  rw [grammar_is_standard.1]; exact parse_ok_iff_std chk toks

theorem parse_ok_iff_derives_std (chk : Bytes → Option Cause) (toks : List Token) (ast : List AST) :
    parseTokens stdGrammar chk toks = .ok ast ↔ Derives stdGrammar chk toks ast :=
  parse_ok_iff_derives stdGrammar stdGrammar_OK chk toks ast

/-- both sides hold: `{% if x %}{% comment %}{% endif %}{{|}}{% endcomment %}{% endif %}` is accepted —
    the stray `endif` and the bad object are inside the comment -/
example : (parseTokens stdGrammar exChk [exIf, exComment, exEndif, exBadObj, exEndcomment, exEndif]).isOk = true := by decide +kernel
example : WellNested stdGrammar [exIf, exComment, exEndif, exBadObj, exEndcomment, exEndif] ∧
    ObjsOk stdGrammar exChk [exIf, exComment, exEndif, exBadObj, exEndcomment, exEndif] :=
  (parse_ok_iff_std exChk _).mp (by decide +kernel)
/-- both sides fail: `{% if x %}{% for %}{% endif %}` is not well nested -/
example : ¬ WellNested stdGrammar [exIf, exFor, exEndif] := by
  intro h
  have := (parse_ok_iff_std (fun _ => none) _).mpr ⟨h, fun t _ _ => rfl⟩
  exact absurd this (by decide +kernel)
/-- well nested, but an object does not parse: rejected -/
example : WellNested stdGrammar [exIf, exBadObj, exEndif] ∧ ¬ ObjsOk stdGrammar exChk [exIf, exBadObj, exEndif] := by
  refine ⟨((parse_ok_iff_std (fun _ => none) _).mp (by decide +kernel)).1, ?_⟩
  intro h
  have := h exBadObj (by decide +kernel) rfl
  exact absurd this (by decide +kernel)

/-! ## Round trips -/

/-- printing a well-formed tree and parsing it again gives the tree back -/
theorem parse_unparse (g : Grammar) (ok : g.OK = true) (chk : Bytes → Option Cause) (ast : List AST)
    (h : wfList g chk ast = true) : parseTokens g chk (unparse ast) = .ok ast :=
  parse_of_derives ok (derives_unparse_list ast h)

theorem parse_unparse_std (chk : Bytes → Option Cause) (ast : List AST) (h : wfList stdGrammar chk ast = true) :
    parseTokens stdGrammar chk (unparse ast) = .ok ast := parse_unparse stdGrammar stdGrammar_OK chk ast h

example : wfList stdGrammar exChk [.block exIf [.raw [[97], [98]], .trim true] [(exElse, [.obj exObj])], .text exText] = true := by
  simp [wfList, AST.wf, wfClauses]; decide +kernel

/-- the accepted tree is well formed: every clause is admitted by its block, every leaf carries a
    token of its kind, every object passed `chk` -/
theorem parse_wf (g : Grammar) (chk : Bytes → Option Cause) (toks : List Token) (ast : List AST)
    (h : parseTokens g chk toks = .ok ast) : wfList g chk ast = true := (derives_of_parse h).wf

example : wfList stdGrammar exChk [.block exIf [.text exText] [(exElse, [.obj exObj])]] = true :=
  parse_wf stdGrammar exChk [exIf, exText, exElse, exObj, exEndif] _ (by rfl)

/-- in particular (`WFList g` = `wfList g` with the accept-all checker): every clause of the accepted
    tree is admitted by its block -/
theorem parse_WF (g : Grammar) (chk : Bytes → Option Cause) (toks : List Token) (ast : List AST)
    (h : parseTokens g chk toks = .ok ast) : WFList g ast = true := (derives_of_parse h).weaken.wf

example : WFList stdGrammar [.block exIf [.text exText] [(exElse, [.obj exObj])]] = true :=
  parse_WF stdGrammar exChk [exIf, exText, exElse, exObj, exEndif] _ (by rfl)

/-- **The tree mirrors the textual nesting**: printing the accepted tree gives back the token list,
    up to what the tree does not keep (`canon`: comment blocks dropped, raw interiors as text tokens
    of the same sources, end tags and trim markers reduced to their name/direction). -/
theorem unparse_parse (g : Grammar) (ok : g.OK = true) (chk : Bytes → Option Cause) (toks : List Token)
    (ast : List AST) (h : parseTokens g chk toks = .ok ast) : unparse ast = canon g toks :=
  (derives_of_parse h).unparse_canon ok

/-- `{% if x %}a{% comment %}{{|}}{% endcomment %}{% else %}{{x}}{% endif %}`: the comment block is the
    only thing that disappears; `endif` loses its line -/
example : canon stdGrammar [exIf, exText, exComment, exBadObj, exEndcomment, exElse, exObj, exEndif] =
    [exIf, exText, exElse, exObj, bareTag [101, 110, 100, 105, 102]] := by decide +kernel

/-- on this list (no comment, no raw, the end tag already bare) `canon` is the identity, so the
    round trip is exact -/
theorem canon_id_example : canon stdGrammar [exIf, exText, exElse, exObj, bareTag [101, 110, 100, 105, 102]] =
    [exIf, exText, exElse, exObj, bareTag [101, 110, 100, 105, 102]] := by decide +kernel

/-! ## No panic; the errors -/

/-- the pop of the block stack is always guarded (for every table and checker) -/
theorem parseTokens_no_panic (g : Grammar) (chk : Bytes → Option Cause) (toks : List Token) :
    (parseTokens g chk toks).isPanic = false := by
  have hc := parseTokens_end g chk toks
  generalize parseTokens g chk toks = r at hc
  cases hc <;> rfl

example : (parseTokens stdGrammar exChk [exEndif, exElse, exEndraw, exEndcomment]).isPanic = false :=
  parseTokens_no_panic _ _ _

/-- the result is a tree, or one of exactly three errors (never `panic`, never `unmodelled`, never a
    compile-phase error): when parsing fails, no tree exists and nothing can be rendered -/
theorem parse_result_cases (g : Grammar) (chk : Bytes → Option Cause) (toks : List Token) :
    (∃ ast, parseTokens g chk toks = .ok ast) ∨
    (∃ c l, parseTokens g chk toks = .err ⟨.objSyntax c, l⟩) ∨
    (∃ l, parseTokens g chk toks = .err ⟨.notInside, l⟩) ∨
    (∃ l, parseTokens g chk toks = .err ⟨.unterminated, l⟩) := by
  have hc := parseTokens_end g chk toks
  generalize parseTokens g chk toks = r at hc
  cases hc with
  | done => exact .inl ⟨_, rfl⟩
  | inBlock | inComment | inRaw => exact .inr (.inr (.inr ⟨_, rfl⟩))
  | @stepErr _ _ _ _ e _ _ h3 =>
    obtain ⟨_, _, ⟨_, c, _, hk⟩ | ⟨_, hk⟩⟩ := step_err_cases h3
    · exact .inr (.inl ⟨c, e.line, by rw [← hk]⟩)
    · exact .inr (.inr (.inl ⟨e.line, by rw [← hk]⟩))

/-- **first error, object**: after a viable prefix, an object that `chk` rejects is the error,
    located at the object -/
theorem first_error_obj (g : Grammar) (chk : Bytes → Option Cause) (pre rest : List Token) (t : Token) (c : Cause)
    (hv : Viable g chk pre) (ht : t.ty = .obj) (hc : chk t.args = some c) :
    parseTokens g chk (pre ++ t :: rest) = .err ⟨.objSyntax c, t.line⟩ := by
  obtain ⟨⟨cur, st, mode⟩, hs, hm⟩ := hv
  simp only at hm; subst hm
  unfold parseTokens
  rw [loop_append _ hs]
  simp only [parseLoop, step_obj_err ht hc]

example : parseTokens stdGrammar exChk [exIf, exText, exBadObj, exEndif] = .err ⟨.objSyntax .syntax, 9⟩ :=
  first_error_obj stdGrammar exChk [exIf, exText] [exEndif] exBadObj .syntax ⟨_, rfl, rfl⟩ rfl rfl

/-- **first error, nesting**: after a viable prefix, a clause or end tag that the innermost open
    block does not admit (or that stands alone) is the error, located at that tag -/
theorem first_error_notInside (g : Grammar) (chk : Bytes → Option Cause) (pre rest : List Token) (t : Token) (s : PState)
    (hs : parseLoop g chk {} pre = .ok s) (hm : s.mode = .normal)
    (ht : t.ty = .tag) (hk : g.known t.name = true) (hb : g.isBlock t.name = false)
    (hc : t.name ≠ commentName) (hr : t.name ≠ rawName)
    (htop : ∀ f ∈ s.stack.head?, g.isClauseOf f.tok t = false ∧ isEndOf f.tok t = false) :
    parseTokens g chk (pre ++ t :: rest) = .err ⟨.notInside, t.line⟩ := by
  obtain ⟨cur, st, mode⟩ := s
  simp only at hm htop; subst hm
  have hstep : parseStep g chk ⟨cur, st, .normal⟩ t = .err ⟨.notInside, t.line⟩ := by
    have hr := parseStep_case (g := g) (chk := chk) ⟨cur, st, .normal⟩ t
    generalize parseStep g chk ⟨cur, st, .normal⟩ t = r at hr
    cases hr with
    | notInside => rfl
    | text h | trimL h | trimR h | obj h | objErr _ h => rw [ht] at h; cases h
    | plain h => rw [(isPlain_iff.mp h).2] at hk; cases hk
    | commentOpen h => exact absurd (isCommentOpen_iff.mp h).2.1 hc
    | rawOpen h => exact absurd (isRawOpen_iff.mp h).2.1 hr
    | open_ h => rw [(isOpen_iff.mp h).2.1] at hb; cases hb
    | clause h => rw [(htop _ rfl).1] at h; cases h
    | end_ h => rw [(htop _ rfl).2] at h; cases h
  unfold parseTokens
  rw [loop_append _ hs]
  simp only [parseLoop, hstep]

/-- `{% if x %}{% for %}{% endif %}`: `endif` directly inside `for` -/
example : parseTokens stdGrammar exChk [exIf, exFor, exEndif] = .err ⟨.notInside, 3⟩ :=
  first_error_notInside stdGrammar exChk [exIf, exFor] [] exEndif _ rfl rfl rfl (by decide +kernel) (by decide +kernel) (by decide +kernel) (by decide +kernel)
    (by intro f hf; cases hf; decide +kernel)
/-- a clause tag standing alone -/
example : parseTokens stdGrammar exChk [exText, exWhen] = .err ⟨.notInside, 2⟩ := by rfl

/-! ## End of input inside a block / comment / raw -/

/-- end of input inside a comment: `unterminated`, at the `comment` tag -/
theorem unterminated_comment (g : Grammar) (chk : Bytes → Option Cause) (pre interior : List Token) (o : Token)
    (hv : Viable g chk pre) (ho : g.isCommentOpen o = true) (hi : ∀ t ∈ interior, isEndComment t = false) :
    parseTokens g chk (pre ++ o :: interior) = .err ⟨.unterminated, o.line⟩ := by
  obtain ⟨⟨cur, st, mode⟩, hs, hm⟩ := hv
  simp only at hm; subst hm
  unfold parseTokens
  rw [loop_append _ hs, loop_cons_ok (step_commentOpen ho)]
  have := loop_comment_interior (g := g) (chk := chk) (cur := cur) (st := st) (o := o) [] interior hi
  simp only [List.append_nil] at this
  rw [this]; rfl

example : parseTokens stdGrammar exChk [exIf, exComment, exEndif, exEndraw] = .err ⟨.unterminated, 4⟩ :=
  unterminated_comment stdGrammar exChk [exIf] [exEndif, exEndraw] exComment ⟨_, rfl, rfl⟩ (by decide +kernel) (by decide +kernel)

/-- end of input inside raw: `unterminated`, at the `raw` tag -/
theorem unterminated_raw (g : Grammar) (chk : Bytes → Option Cause) (pre interior : List Token) (o : Token)
    (hv : Viable g chk pre) (ho : g.isRawOpen o = true) (hi : ∀ t ∈ interior, isEndRaw t = false) :
    parseTokens g chk (pre ++ o :: interior) = .err ⟨.unterminated, o.line⟩ := by
  obtain ⟨⟨cur, st, mode⟩, hs, hm⟩ := hv
  simp only at hm; subst hm
  unfold parseTokens
  rw [loop_append _ hs, loop_cons_ok (step_rawOpen ho)]
  have := loop_raw_interior (g := g) (chk := chk) (cur := cur) (st := st) (o := o) [] interior [] hi
  simp only [List.append_nil] at this
  rw [this]; rfl

example : parseTokens stdGrammar exChk [exText, exRaw, exEndcomment, exEndif] = .err ⟨.unterminated, 6⟩ :=
  unterminated_raw stdGrammar exChk [exText] [exEndcomment, exEndif] exRaw ⟨_, rfl, rfl⟩ (by decide +kernel) (by decide +kernel)

/-- end of input inside a block whose interior (body and clauses) is itself well nested:
    `unterminated`, at the line of that — innermost — open tag -/
theorem unterminated_block (g : Grammar) (ok : g.OK = true) (chk : Bytes → Option Cause) (pre inner : List Token) (o : Token)
    (hv : Viable g chk pre) (ho : g.isOpen o = true) (hin : BlockInterior g chk o inner) :
    parseTokens g chk (pre ++ o :: inner) = .err ⟨.unterminated, o.line⟩ := by
  obtain ⟨⟨cur, st, mode⟩, hs, hm⟩ := hv
  simp only at hm; subst hm
  obtain ⟨f, cur', hf, hl⟩ := loop_blockInterior ok ho hin cur st
  unfold parseTokens
  rw [loop_append _ hs, hl]
  simp only [hf]

/-- `{% if x %}{% for %}a{% else %}{{x}}`: the innermost open block is the `for` (line 2) -/
example : parseTokens stdGrammar exChk [exIf, exFor, exText, exElse, exObj] = .err ⟨.unterminated, 2⟩ :=
  unterminated_block stdGrammar stdGrammar_OK exChk [exIf] [exText, exElse, exObj] exFor ⟨_, rfl, rfl⟩ (by decide +kernel)
    ⟨[exText], [.text exText], [(exElse, [exObj], [.obj exObj])], .text _ _ _ rfl .nil, by decide +kernel,
      by intro sg h; simp only [List.mem_singleton] at h; subst h; exact .obj _ _ _ rfl rfl .nil, rfl⟩

/-- Conversely, an `unterminated` error at line `l` means the token list ends inside a comment, a
    raw block or a block whose open tag `o` is on line `l`: the parser reaches `o` without error
    (`Viable pre`), and what follows `o` is comment/raw interior, respectively a well-nested block
    interior (so `o` is the innermost open tag). -/
theorem unterminated_decompose (g : Grammar) (chk : Bytes → Option Cause) (toks : List Token) (l : Nat)
    (h : parseTokens g chk toks = .err ⟨.unterminated, l⟩) :
    ∃ pre o rest, toks = pre ++ o :: rest ∧ l = o.line ∧ Viable g chk pre ∧
      ((g.isCommentOpen o = true ∧ ∀ t ∈ rest, isEndComment t = false) ∨
       (g.isRawOpen o = true ∧ ∀ t ∈ rest, isEndRaw t = false) ∨
       (g.isOpen o = true ∧ BlockInterior g chk o rest)) := by
  have hc := parseTokens_end g chk toks
  rw [h] at hc
  cases hc with
  | stepErr _ _ h3 => obtain ⟨_, _, ⟨_, _, _, hk⟩ | ⟨_, hk⟩⟩ := step_err_cases h3 <;> cases hk
  | inComment hl =>
    obtain ⟨pre, interior, rfl, _, hrun, ho, hint⟩ := inv_of_loop hl
    exact ⟨pre, _, interior, rfl, rfl, ⟨_, hrun, rfl⟩, .inl ⟨ho, hint⟩⟩
  | inRaw hl =>
    obtain ⟨pre, interior, rfl, _, hrun, ho, hint, _⟩ := inv_of_loop hl
    exact ⟨pre, _, interior, rfl, rfl, ⟨_, hrun, rfl⟩, .inr (.inl ⟨ho, hint⟩)⟩
  | @inBlock cur f fs hl =>
    obtain ⟨pre, hdr, t2, rfl, _, hrun, hf, hd⟩ := inv_of_loop hl
    obtain ⟨body, bns, segs, hbd, hsc, hsd, heq, _⟩ := hf.interior hd
    exact ⟨pre, f.tok, body ++ segToks segs, by rw [heq], rfl, ⟨_, hrun, rfl⟩,
      .inr (.inr ⟨hf.isOpen, body, bns, segs, hbd, hsc, hsd, rfl⟩)⟩

example : ∃ pre o rest, [exIf, exFor, exText, exElse, exObj] = pre ++ o :: rest ∧ 2 = o.line ∧ Viable stdGrammar exChk pre ∧
    ((stdGrammar.isCommentOpen o = true ∧ ∀ t ∈ rest, isEndComment t = false) ∨
     (stdGrammar.isRawOpen o = true ∧ ∀ t ∈ rest, isEndRaw t = false) ∨
     (stdGrammar.isOpen o = true ∧ BlockInterior stdGrammar exChk o rest)) :=
  unterminated_decompose stdGrammar exChk _ 2 (by rfl)

/-- **End of input inside a block / comment / raw, both directions.** The parser reports
    `unterminated` at line `l` exactly when the token list is a prefix the parser consumes without
    error, followed by an open tag on line `l` (of a comment, a raw block or a block) that is never
    closed: the rest is comment/raw interior, respectively a well-nested block interior — so that
    tag is the innermost open one. -/
theorem unterminated_iff (g : Grammar) (ok : g.OK = true) (chk : Bytes → Option Cause) (toks : List Token) (l : Nat) :
    parseTokens g chk toks = .err ⟨.unterminated, l⟩ ↔
    ∃ pre o rest, toks = pre ++ o :: rest ∧ l = o.line ∧ Viable g chk pre ∧
      ((g.isCommentOpen o = true ∧ ∀ t ∈ rest, isEndComment t = false) ∨
       (g.isRawOpen o = true ∧ ∀ t ∈ rest, isEndRaw t = false) ∨
       (g.isOpen o = true ∧ BlockInterior g chk o rest)) := by
  constructor
  · exact unterminated_decompose g chk toks l
  · rintro ⟨pre, o, rest, rfl, rfl, hv, h | h | h⟩
    · exact unterminated_comment g chk pre rest o hv h.1 h.2
    · exact unterminated_raw g chk pre rest o hv h.1 h.2
    · exact unterminated_block g ok chk pre rest o hv h.1 h.2

theorem unterminated_iff_std (chk : Bytes → Option Cause) (toks : List Token) (l : Nat) :
    parseTokens stdGrammar chk toks = .err ⟨.unterminated, l⟩ ↔
    ∃ pre o rest, toks = pre ++ o :: rest ∧ l = o.line ∧ Viable stdGrammar chk pre ∧
      ((stdGrammar.isCommentOpen o = true ∧ ∀ t ∈ rest, isEndComment t = false) ∨
       (stdGrammar.isRawOpen o = true ∧ ∀ t ∈ rest, isEndRaw t = false) ∨
       (stdGrammar.isOpen o = true ∧ BlockInterior stdGrammar chk o rest)) :=
  unterminated_iff stdGrammar stdGrammar_OK chk toks l

example : parseTokens stdGrammar exChk [exIf, exRaw, exEndif] = .err ⟨.unterminated, 6⟩ :=
  (unterminated_iff_std exChk _ 6).mpr ⟨[exIf], exRaw, [exEndif], rfl, rfl, ⟨_, rfl, rfl⟩, .inr (.inl ⟨by decide +kernel, by decide +kernel⟩)⟩

/-- **Every other error is the first offending token.** If parsing fails with an error that is not
    `unterminated`, the token list splits into a prefix the parser consumes without error (ending
    outside comment/raw), and a token `t` at whose line the error is located: an object whose
    expression `chk` rejects (`objSyntax` with that cause), or a tag (`notInside`). -/
theorem error_at_first_bad_token (g : Grammar) (chk : Bytes → Option Cause) (toks : List Token) (e : PErr)
    (h : parseTokens g chk toks = .err e) :
    e.kind = .unterminated ∨
    ∃ pre t rest, toks = pre ++ t :: rest ∧ Viable g chk pre ∧ e.line = t.line ∧
      ((t.ty = .obj ∧ ∃ c, chk t.args = some c ∧ e.kind = .objSyntax c) ∨ (t.ty = .tag ∧ e.kind = .notInside)) := by
  have hc := parseTokens_end g chk toks
  rw [h] at hc
  cases hc with
  | inBlock | inComment | inRaw => exact .inl rfl
  | stepErr h1 h2 h3 =>
    obtain ⟨hm, hline, hk⟩ := step_err_cases h3
    exact .inr ⟨_, _, _, h1, ⟨_, h2, hm⟩, hline, hk⟩

example : ∃ pre t rest, [exIf, exFor, exEndif] = pre ++ t :: rest ∧ Viable stdGrammar exChk pre ∧ 3 = t.line ∧
    ((t.ty = .obj ∧ ∃ c, exChk t.args = some c ∧ PErrKind.notInside = .objSyntax c) ∨ (t.ty = .tag ∧ PErrKind.notInside = .notInside)) := by
  have := error_at_first_bad_token stdGrammar exChk [exIf, exFor, exEndif] ⟨.notInside, 3⟩ (by rfl)
  rcases this with h | h
  · cases h
  · exact h
