import Liquid.Conc
/-!
# Lemmas for the interleaving machine (helpers of `Proofs/C04.lean`)

One invariant `Inv ts σ₀ c`, preserved by every step of every thread when the ownership
discipline holds, carries the results of C04 that need the discipline: each thread's state is the state of a
*sequential* run of a prefix of its own steps from the initial store; the store agrees with
that sequential run on everything the thread can see; every recorded access is an access of
a step of the recording thread; the shared region is unchanged.
-/

namespace Conc

def Step.Confined (i : Tid) : Step → Prop
  | .read l => Visible i l
  | .write l _ => l.owner = some i
  | .pure _ => True

@[reducible] def Confined (ts : List Thread) : Prop :=
  ∀ i t, ts[i]? = some t → ∀ s, s ∈ t → Step.Confined i s

theorem confined_of (ts : List Thread) (hw : WritesOwned ts) (hr : ReadsVisible ts) : Confined ts := by
  intro i t ht s hs
  cases s with
  | read l => exact hr i t ht l hs
  | write l f => exact hw i t ht l f hs
  | pure f => trivial

theorem confinedB_step {i : Tid} {s : Step} (h : s.confinedB i = true) : s.Confined i := by
  cases s with
  | read l =>
    simp only [Step.confinedB, Bool.or_eq_true, decide_eq_true_eq] at h
    exact h
  | write l f =>
    simp only [Step.confinedB, decide_eq_true_eq] at h
    exact h
  | pure f => trivial

theorem confinedFrom_sound : ∀ (ts : List Thread) (i : Tid), confinedFrom i ts = true →
    ∀ (k : Nat) (t : Thread), ts[k]? = some t → ∀ s, s ∈ t → Step.Confined (i + k) s := by
  intro ts
  induction ts with
  | nil => intro i _ k t hk; simp at hk
  | cons t0 ts ih =>
    intro i h k t hk s hs
    simp only [confinedFrom, Bool.and_eq_true, List.all_eq_true] at h
    cases k with
    | zero =>
      simp only [List.getElem?_cons_zero, Option.some.injEq] at hk
      subst hk
      exact confinedB_step (h.1 s hs)
    | succ k =>
      simp only [List.getElem?_cons_succ] at hk
      have := ih (i + 1) h.2 k t hk s hs
      have e : i + 1 + k = i + (k + 1) := by rw [Nat.add_assoc, Nat.add_comm 1 k]
      rw [e] at this
      exact this

theorem confinedB_confined (ts : List Thread) (h : confinedB ts = true) : Confined ts := by
  intro i t ht s hs
  have := confinedFrom_sound ts 0 h i t ht s hs
  simpa using this

theorem confined_writesOwned (ts : List Thread) (h : Confined ts) : WritesOwned ts := by
  intro i t ht l f hs
  exact h i t ht _ hs

theorem confined_readsVisible (ts : List Thread) (h : Confined ts) : ReadsVisible ts := by
  intro i t ht l hs
  exact h i t ht _ hs

theorem seqRun_append (a b : List Step) (σ : Store) (out : List Val) :
    seqRun (a ++ b) σ out = seqRun b (seqRun a σ out).1 (seqRun a σ out).2 := by
  induction a generalizing σ out with
  | nil => rfl
  | cons s a ih => simp only [List.cons_append, seqRun, ih]

theorem seqRun_snoc (a : List Step) (s : Step) (σ : Store) (out : List Val) :
    seqRun (a ++ [s]) σ out = s.exec (seqRun a σ out).1 (seqRun a σ out).2 := by
  rw [seqRun_append]; rfl

theorem exec_agree {i : Tid} {s : Step} {σ σ' : Store} (out : List Val) (hc : s.Confined i)
    (h : ∀ l, Visible i l → σ l = σ' l) :
    (s.exec σ out).2 = (s.exec σ' out).2 ∧ ∀ l, Visible i l → (s.exec σ out).1 l = (s.exec σ' out).1 l := by
  cases s with
  | read l =>
    refine ⟨?_, ?_⟩
    · simp only [Step.exec]; rw [h l hc]
    · intro l' hl'; exact h l' hl'
  | write l f =>
    refine ⟨rfl, ?_⟩
    intro l' hl'
    simp only [Step.exec, Store.set]
    by_cases e : l' = l
    · simp [e]
    · simp [e, h l' hl']
  | pure f => exact ⟨rfl, fun l' hl' => h l' hl'⟩

theorem Visible.eq_of_owner {i j : Tid} {l : Loc} (v : Visible i l) (h : l.owner = some j) : j = i := by
  rcases v with v | v <;> rw [v] at h
  · cases h
  · exact (Option.some.inj h).symm

/-- frame: a step confined to `j` changes no location that `j` does not own -/
theorem exec_frame {j : Tid} {s : Step} (σ : Store) (out : List Val) (hc : s.Confined j) {l : Loc}
    (hl : l.owner ≠ some j) : (s.exec σ out).1 l = σ l := by
  cases s with
  | read l0 => rfl
  | pure f => rfl
  | write l0 f =>
    have e : l ≠ l0 := fun e => hl (e ▸ hc)
    simp [Step.exec, Store.set, e]

/-- the access a confined step records: its own, of a location it sees, and owned if written -/
theorem Step.Confined.event {i : Tid} {s : Step} {e : Event} (hs : s.Confined i) (hev : s.event i = some e) :
    e.tid = i ∧ Visible i e.loc ∧ (e.isWrite = true → e.loc.owner = some i) := by
  cases s with
  | read l => cases hev; exact ⟨rfl, hs, nofun⟩
  | write l f => cases hev; exact ⟨rfl, Or.inr hs, fun _ => hs⟩
  | pure f => cases hev

structure Inv (ts : List Thread) (σ₀ : Store) (c : Config) : Prop where
  thr : ∀ i st, c.threads[i]? = some st →
    ∃ done, ts[i]? = some (done ++ st.rest) ∧ st.out = (seqRun done σ₀ []).2 ∧
      ∀ l, Visible i l → c.store l = (seqRun done σ₀ []).1 l
  tr : ∀ e ∈ c.trace, ∃ t s, ts[e.tid]? = some t ∧ s ∈ t ∧ s.event e.tid = some e
  shared : ∀ l, l.owner = none → c.store l = σ₀ l

theorem inv_init (ts : List Thread) (σ₀ : Store) : Inv ts σ₀ (init σ₀ ts) := by
  refine ⟨?_, ?_, ?_⟩
  · intro i st h
    simp only [init, List.getElem?_map] at h
    cases ht : ts[i]? with
    | none => simp [ht] at h
    | some t =>
      simp only [ht, Option.map_some, Option.some.injEq] at h
      subst h
      exact ⟨[], by simp, rfl, fun _ _ => rfl⟩
  · intro e he
    simp [init] at he
  · intro l _; rfl

theorem step_none {c : Config} {j : Tid} (h : c.threads[j]? = none) : step c j = c := by
  simp [step, h]

theorem step_done {c : Config} {j : Tid} {t : TState} (h : c.threads[j]? = some t) (hr : t.rest = []) :
    step c j = c := by
  simp [step, h, hr]

theorem step_cons {c : Config} {j : Tid} {t : TState} {s : Step} {rest : List Step}
    (h : c.threads[j]? = some t) (hr : t.rest = s :: rest) :
    step c j = { store := (s.exec c.store t.out).1
                 threads := c.threads.set j ⟨rest, (s.exec c.store t.out).2⟩
                 trace := c.trace ++ (s.event j).toList } := by
  simp [step, h, hr]

theorem inv_step {ts : List Thread} {σ₀ : Store} (hc : Confined ts) {c : Config} (hi : Inv ts σ₀ c)
    (j : Tid) : Inv ts σ₀ (step c j) := by
  cases hj : c.threads[j]? with
  | none => rw [step_none hj]; exact hi
  | some tj =>
    cases hrest : tj.rest with
    | nil => rw [step_done hj hrest]; exact hi
    | cons s rest =>
      rw [step_cons hj hrest]
      obtain ⟨donej, htsj, houtj, hstj⟩ := hi.thr j tj hj
      rw [hrest] at htsj
      have hsc : s.Confined j := hc j _ htsj s (by simp)
      refine ⟨?_, ?_, ?_⟩
      · intro i st hist
        by_cases hij : j = i
        · subst hij
          simp only [List.getElem?_set_self (List.getElem?_eq_some_iff.mp hj).1, Option.some.injEq] at hist
          subst hist
          have ha := exec_agree (i := j) tj.out hsc hstj
          refine ⟨donej ++ [s], by simpa using htsj, ?_, ?_⟩
          · rw [seqRun_snoc, ← houtj]; exact ha.1
          · rw [seqRun_snoc, ← houtj]; exact ha.2
        · simp only [List.getElem?_set_ne hij] at hist
          obtain ⟨done, h1, h2, h3⟩ := hi.thr i st hist
          refine ⟨done, h1, h2, fun l hl => ?_⟩
          exact (exec_frame c.store tj.out hsc fun h => hij (hl.eq_of_owner h)).trans (h3 l hl)
      · intro e he
        rcases List.mem_append.mp he with he | he
        · exact hi.tr e he
        · have hev : s.event j = some e := by
            cases h : s.event j with
            | none => rw [h] at he; cases he
            | some ev => rw [h] at he; rw [List.mem_singleton.mp he]
          rw [(hsc.event hev).1]
          exact ⟨_, s, htsj, by simp, hev⟩
      · intro l hl
        exact (exec_frame c.store tj.out hsc fun h => by rw [hl] at h; cases h).trans (hi.shared l hl)

theorem inv_run {ts : List Thread} (σ₀ : Store) (hc : Confined ts) (sched : Schedule) :
    Inv ts σ₀ (run sched σ₀ ts) :=
  List.foldlRecOn (motive := Inv ts σ₀) sched step (inv_init ts σ₀) fun _ h j _ => inv_step hc h j

theorem hasRace_iff (tr : List Event) : hasRace tr = true ↔ HasRace tr := by
  simp only [hasRace, List.any_eq_true, Event.conflicts, Bool.and_eq_true, Bool.or_eq_true,
    decide_eq_true_eq, HasRace]
  constructor
  · rintro ⟨a, ha, b, hb, ⟨h1, h2⟩, h3⟩
    exact ⟨a, ha, b, hb, h1, h2, h3⟩
  · rintro ⟨a, ha, b, hb, h1, h2, h3⟩
    exact ⟨a, ha, b, hb, ⟨h1, h2⟩, h3⟩

theorem no_race_of_inv {ts : List Thread} {σ₀ : Store} (hc : Confined ts) {c : Config} (hi : Inv ts σ₀ c) :
    ¬ HasRace c.trace := by
  rintro ⟨a, ha, b, hb, hne, hloc, hw⟩
  obtain ⟨ta, sa, hta, hsa, hea⟩ := hi.tr a ha
  obtain ⟨tb, sb, htb, hsb, heb⟩ := hi.tr b hb
  obtain ⟨_, va, wa⟩ := (hc _ _ hta sa hsa).event hea
  obtain ⟨_, vb, wb⟩ := (hc _ _ htb sb hsb).event heb
  rcases hw with h | h
  · exact hne (vb.eq_of_owner (hloc ▸ wa h))
  · exact hne (va.eq_of_owner (by rw [hloc]; exact wb h)).symm

/-- what thread `i` still has to do -/
def Config.rest (c : Config) (i : Tid) : Option (List Step) := c.threads[i]?.map (·.rest)

theorem finished_iff (c : Config) (i : Tid) : c.finished i = true ↔ c.rest i = some [] := by
  unfold Config.finished Config.rest
  cases c.threads[i]? with
  | none => exact ⟨nofun, nofun⟩
  | some t => exact List.isEmpty_iff.trans ⟨congrArg some, Option.some.inj⟩

theorem rest_step (c : Config) (i j : Tid) :
    (step c j).rest i = (c.rest i).map (List.drop (if j = i then 1 else 0)) := by
  have hid : ∀ o : Option (List Step), o = o.map (List.drop 0) := fun o => by cases o <;> rfl
  cases hj : c.threads[j]? with
  | none =>
    rw [step_none hj]
    by_cases e : j = i
    · subst e; simp [Config.rest, hj]
    · rw [if_neg e]; exact hid _
  | some tj =>
    cases hrest : tj.rest with
    | nil =>
      rw [step_done hj hrest]
      by_cases e : j = i
      · subst e; simp [Config.rest, hj, hrest]
      · rw [if_neg e]; exact hid _
    | cons s rest =>
      rw [step_cons hj hrest]
      by_cases e : j = i
      · subst e
        simp [Config.rest, hj, hrest, List.getElem?_set_self (List.getElem?_eq_some_iff.mp hj).1]
      · rw [if_neg e]; simp only [Config.rest, List.getElem?_set_ne e]; exact hid _

/-- after any schedule a thread has dropped as many steps as it had turns -/
theorem rest_runFrom (sched : Schedule) (i : Tid) :
    ∀ c : Config, (runFrom sched c).rest i = (c.rest i).map (List.drop (sched.count i)) := by
  induction sched with
  | nil => intro c; cases h : c.rest i <;> simp [runFrom, h]
  | cons j sched ih =>
    intro c
    show (runFrom sched (step c j)).rest i = _
    rw [ih, rest_step, List.count_cons]
    cases c.rest i with
    | none => rfl
    | some r => simp only [Option.map_some, List.drop_drop, beq_iff_eq]; rw [Nat.add_comm]

end Conc
