import Proofs.ProgSim
import Proofs.RenderTreeDefs
import Proofs.PostLemmas
import Proofs.RenderFile
import Proofs.RenderLogic
/-!
# Two renders in lock step

`ValSim.renderNodeRel`: the renders of `n.rel g` in a context `c` and of `n.rel g'` in a context `c'`, from related variables,
make the same calls on the writer and end alike (`MSim`). Parameters: which side may leave the model (`T`), how two failures (`F`),
two loop sentinels (`St`), two variable maps (`ER`) and the values in them (`E V I`) are related, at which pairs of locations the error
wrappers keep failures related (`LR`), and what the two contexts must agree on (`CtxSim`, `IncSimF`). `ValSim.renderNode … frender` are the
case of one tree and equal failures. Representation equivalence (C18), the order of map entries (C02), the budgets of the executable
model (Proofs/Budget.lean), the layers that answer nothing (Proofs/Oracles.lean: the one tolerance in which a failure of the left run
stands for no answer) and the independence of line numbers (Proofs/SrcRelRender.lean) are instances.
-/

variable {T : Tol} {F : RawErr → RawErr → Prop} {St : Status → Status → Prop} {LR : Loc → Loc → Prop}
  {ER : Env → Env → Prop} {E V I : GoVal → GoVal → Prop}

structure SSim (ER : Env → Env → Prop) (s s' : RS) : Prop where
  env : ER s.env s'.env
  tw : s.tw = s'.tw

/-- from states with related variables and the same trim writer, `m` and `m'` run in lock step and return `S`-related results in
    states that are related again -/
def MSim (T : Tol) (F : RawErr → RawErr → Prop) (ER : Env → Env → Prop) {α} (S : α → α → Prop) (m m' : M α) : Prop :=
  ∀ s s', SSim ER s s' → PSim T F (fun r r' : α × RS => S r.1 r'.1 ∧ SSim ER r.2 r'.2) (m s) (m' s')

/-- reading and assigning a variable respect the relation between the variable maps -/
structure EnvSim (ER : Env → Env → Prop) (E : GoVal → GoVal → Prop) : Prop where
  get {env env' : Env} (x : Bytes) : ER env env' → E (env.get x) (env'.get x)
  set {env env' : Env} {v v' : GoVal} (x : Bytes) : ER env env' → E v v' → ER (env.set x v) (env'.set x v')

def EnvRelG (E : GoVal → GoVal → Prop) (env env' : Env) : Prop := ∀ x, E (env.get x) (env'.get x)

theorem envSim_pointwise : EnvSim (EnvRelG E) E where
  get x h := h x
  set x h hv y := by
    rw [Env.get_set, Env.get_set]
    split
    · exact hv
    · exact h y

theorem envRelG_single {E : GoVal → GoVal → Prop} (hr : ∀ v, E v v) (x : Bytes) {v v' : GoVal} (h : E v v') :
    EnvRelG E [(x, v)] [(x, v')] := by
  intro y
  unfold Env.get
  simp only [List.find?_cons]
  cases x == y
  · exact hr _
  · exact h

/-- how the failures (`F`) and the loop sentinels (`St`) of the two runs are related, and at which pairs of locations (`LR`) the
    error wrappers keep them related -/
structure WrapSim (F : RawErr → RawErr → Prop) (St : Status → Status → Prop) (LR : Loc → Loc → Prop) : Prop where
  reflF (e : RawErr) : F e e
  done : St .done .done
  kind {st st' : Status} : St st st' → st.kind = st'.kind
  brk {e e' : SErr} : F (.located e) (.located e') → St (.brk e) (.brk e')
  cont {e e' : SErr} : F (.located e) (.located e') → St (.cont e) (.cont e')
  wrapF {loc loc' : Loc} {e e' : RawErr} (path : Bytes) : LR loc loc' → F e e' →
    F (.located (wrapError path e loc)) (.located (wrapError path e' loc'))
  wrapSt {loc loc' : Loc} {st st' : Status} (path : Bytes) : LR loc loc' → St st st' → St (st.wrap path loc) (st'.wrap path loc')
  errorf {loc loc' : Loc} (m : Msg) : LR loc loc' → F (.located (errorfAt loc m)) (.located (errorfAt loc' m))
  invalid : LR invalidLoc invalidLoc

namespace MSim

theorem bind {α β} {S : α → α → Prop} {S' : β → β → Prop} {m m' : M α} {f f' : α → M β}
    (hm : MSim T F ER S m m') (hf : ∀ a a', S a a' → MSim T F ER S' (f a) (f' a')) :
    MSim T F ER S' (m >>= f) (m' >>= f') :=
  fun s s' hs => PSim.bind (hm s s' hs) (fun ⟨a, s1⟩ ⟨a', s1'⟩ h => hf a a' h.1 s1 s1' h.2)

theorem pure {α} {S : α → α → Prop} {a a' : α} (h : S a a') : MSim T F ER S (pure a : M α) (pure a') :=
  fun _ _ hs => .ret ⟨h, hs⟩

theorem fail {α} {S : α → α → Prop} {e e' : RawErr} (h : F e e') : MSim T F ER S (M.fail e : M α) (M.fail e') :=
  fun _ _ _ => .fail h

theorem getEnv : MSim T F ER ER M.getEnv M.getEnv := fun _ _ hs => .ret ⟨hs.env, hs⟩

theorem getVar (hE : EnvSim ER E) (x : Bytes) : MSim T F ER E (M.getVar x) (M.getVar x) :=
  fun _ _ hs => .ret ⟨hE.get x hs.env, hs⟩

theorem setVar (hE : EnvSim ER E) (x : Bytes) {v v' : GoVal} (h : E v v') :
    MSim T F ER (fun _ _ => True) (M.setVar x v) (M.setVar x v') :=
  fun _ _ hs => .ret ⟨trivial, ⟨hE.set x hs.env h, hs.tw⟩⟩

theorem capture {α} {S : α → α → Prop} {m m' : M α} (hm : MSim T F ER S m m') :
    MSim T F ER (fun r r' : α × Bytes => S r.1 r'.1 ∧ r.2 = r'.2) (captureM m) (captureM m') := by
  intro s s' hs
  rw [captureM_eq, captureM_eq]
  refine (hm { env := s.env, tw := {} } { env := s'.env, tw := {} } ⟨hs.env, rfl⟩).runPure_elim (fun out ⟨a, s1⟩ ⟨a', s1'⟩ hr => ?_)
    (fun _ _ _ he => .fail he) (fun _ w => .panic w) (fun _ w => .unmodelled w) (fun ht _ w _ => .unmL ht w _)
    (fun ht _ _ w => .unmR ht _ w) (fun _ _ _ he => .failL he _)
  exact .ret ⟨⟨hr.1, congrArg (out ++ ·.buf) hr.2.tw⟩, ⟨hr.2.env, hs.tw⟩⟩

variable (W : WrapSim F St LR)
include W

theorem ofRes {α} {S : α → α → Prop} {r r' : Res Cause α} (h : RSim T S r r') : MSim T F ER S (M.ofRes r) (M.ofRes r') := by
  intro s s' hs
  have e : ∀ (r : Res Cause α) (s : RS), M.ofRes r s = r.prog.bind fun a => .ret (a, s) := fun r s => by cases r <;> rfl
  rw [e, e]
  exact (PSim.imp h (fun _ _ he => he ▸ W.reflF _) fun _ _ ha => ha).bind fun a a' ha => .ret ⟨ha, hs⟩

theorem wrapFailAt {α} {S : α → α → Prop} (path : Bytes) {loc loc' : Loc} (hl : LR loc loc') {m m' : M α}
    (hm : MSim T F ER S m m') : MSim T F ER S (wrapFailAt path loc m) (wrapFailAt path loc' m') :=
  fun s s' hs => PSim.mapFail _ _ (fun _ _ h => W.wrapF path hl h) (T.wrap path loc) (hm s s' hs)

theorem wrapAt (path : Bytes) {loc loc' : Loc} (hl : LR loc loc') {m m' : M Status}
    (hm : MSim T F ER St m m') : MSim T F ER St (wrapAt path loc m) (wrapAt path loc' m') := by
  rw [wrapAt_eq, wrapAt_eq]
  exact (wrapFailAt W path hl hm).bind fun a a' h => pure (W.wrapSt path hl h)

theorem op (o : WOp) : MSim T F ER Eq (opM o) (opM o) := by
  intro s s' hs
  simp only [opM, ← hs.tw]
  split
  · exact .ret ⟨trivial, hs.env, rfl⟩
  · exact .call _ fun r => by
      cases r
      · exact .ret ⟨trivial, hs.env, rfl⟩
      · exact .fail (W.reflF _)

/-- the same writes on both sides are in lock step: `(writer W).write`, `.writeAll`, `.tablerowBefore` … (Proofs/RenderLogic.lean) -/
theorem writer : WriterClosed (fun {α} (m : M α) => MSim T F ER Eq m m) where
  pure := pure rfl
  bind hm hf := hm.bind fun a _ h => h ▸ hf a
  op := op W

/-- what a node does with the status of what it ran: hand a sentinel on, go on after `done`. The two sides are the `match` of
    `renderList` as it stands after unfolding, so that the lemma applies to it as it is; `generalizing := false` keeps `h`, which
    speaks of `st`, out of the motive (with it the term is another one and does not unify) -/
theorem seq {st st' : Status} (h : St st st') {m m' : M Status} (hm : MSim T F ER St m m') :
    MSim T F ER St (match (generalizing := false) st with | .done => m | st => Pure.pure st)
      (match (generalizing := false) st' with | .done => m' | st => Pure.pure st) := by
  have hk := W.kind h
  cases st <;> cases st' <;> first | exact hm | exact pure h | cases hk

/-- …and what a loop does with it: `break` ends the loop, anything else goes on -/
theorem brkSeq {st st' : Status} (h : St st st') {m m' : M Status} (hm : MSim T F ER St m m') :
    MSim T F ER St (match (generalizing := false) st with | .brk _ => Pure.pure .done | _ => m)
      (match (generalizing := false) st' with | .brk _ => Pure.pure .done | _ => m') := by
  have hk := W.kind h
  cases st <;> cases st' <;> first | exact hm | exact pure W.done | cases hk

end MSim


/-- neither an `int` nor a string, the two shapes the renderer matches an evaluated value on -/
def NoLit (v : GoVal) : Prop := (∀ n, v ≠ .int .int n) ∧ ∀ b, v ≠ .str b

/-- what the congruence needs of the four relations: `ER` between the two variable maps, `E` between the values bound to a variable,
    `V` between the values an expression evaluates to, `I` between the items of a loop -/
structure ValSim (ER : Env → Env → Prop) (E V I : GoVal → GoVal → Prop) : Prop extends EnvSim ER E where
  refl (v : GoVal) : E v v
  ofVal {v v' : GoVal} : V v v' → E v v'
  ofItem {v v' : GoVal} : I v v' → E v v'
  isNil {v v' : GoVal} : V v v' → v.isNil = v'.isNil
  test {v v' : GoVal} : V v v' → v.test = v'.test
  shape {v v' : GoVal} : V v v' → v' = v ∨ (NoLit v ∧ NoLit v')
  cyclesOf {v v' : GoVal} : E v v' → v = v' ∨ (cyclesOf v = none ∧ cyclesOf v' = none)

/-- two value layers that answer alike on related variables -/
def EvalSim (T : Tol) (ER : Env → Env → Prop) (V : GoVal → GoVal → Prop) (P P' : Prims) : Prop :=
  ∀ {env env' : Env}, ER env env' → ∀ e, RSim T V (evaluate P env e) (evaluate P' env' e)

/-- two contexts that answer alike (without the include handler, which only include nodes consult) -/
structure CtxSim (T : Tol) (ER : Env → Env → Prop) (V I : GoVal → GoVal → Prop) (c c' : RCtx) : Prop where
  path : c'.cfg.path = c.cfg.path
  strict : c'.cfg.strict = c.cfg.strict
  evaluate : EvalSim T ER V c.P c'.P
  equalFn {a a' b b' : GoVal} : V a a' → V b b' → RSim T Eq (c.P.equalFn a b) (c'.P.equalFn a' b')
  chunks {v v' : GoVal} : V v v' → RSim T Eq (c.O.chunks v) (c'.O.chunks v')
  loopItems {v v' : GoVal} : V v v' → RSim T (All2 I) (loopItems c.cfg.budget v) (loopItems c'.cfg.budget v')

/-- the include handlers, called for include tags at related lines with related variables, answer alike -/
def IncSimF (T : Tol) (F : RawErr → RawErr → Prop) (St : Status → Status → Prop) (LR : Loc → Loc → Prop) (ER : Env → Env → Prop)
    (inc inc' : Nat → Bytes → Env → Prog (Status × Bytes)) : Prop :=
  ∀ (l l' : Nat) (f : Bytes) {env env' : Env}, LR ⟨l, true⟩ ⟨l', true⟩ → ER env env' →
    PSim T F (fun r r' : Status × Bytes => St r.1 r'.1 ∧ r.2 = r'.2) (inc l f env) (inc' l' f env')

namespace ValSim
variable (L : ValSim ER E V I) (W : WrapSim F St LR) {P P' : Prims} (hP : EvalSim T ER V P P')
include L W hP
set_option linter.unusedSectionVars false

theorem evaluate (e : Expr) {β} {S : β → β → Prop} {f f' : GoVal → M β}
    (hf : ∀ v v', V v v' → MSim T F ER S (f v) (f' v')) :
    MSim T F ER S (do let env ← M.getEnv; let v ← M.ofRes (evaluate P env e); f v)
           (do let env ← M.getEnv; let v ← M.ofRes (_root_.evaluate P' env e); f' v) :=
  (MSim.getEnv).bind fun _ _ he => (MSim.ofRes W (hP he e)).bind hf

theorem evalCond (path : Bytes) {g g' : Nat → Nat} (hg : ∀ l, LR ⟨g l, true⟩ ⟨g' l, true⟩) (ct : CondT) :
    MSim T F ER Eq (evalCond P path (ct.rel g)) (evalCond P' path (ct.rel g')) := by
  unfold _root_.evalCond
  refine (MSim.getEnv).bind fun env env' he => ?_
  cases ct with
  | always => exact .pure rfl
  | expr line e =>
    exact .wrapFailAt W _ (hg line) ((MSim.ofRes W (hP he e)).bind fun v v' hv => .pure (L.test hv))
  | notExpr line e =>
    exact .wrapFailAt W _ (hg line) ((MSim.ofRes W (hP he e)).bind fun v v' hv => .pure (by rw [L.test hv]))

theorem intModifier (e : Option Expr) {loc loc' : Loc} (hl : LR loc loc') :
    MSim T F ER Eq (intModifier P e loc) (intModifier P' e loc') := by
  unfold _root_.intModifier
  cases e with
  | none => exact .pure rfl
  | some ex =>
    refine evaluate L W hP ex fun v v' hv => ?_
    rcases L.shape hv with rfl | ⟨h1, h2⟩
    · split
      · exact .pure rfl
      · exact .fail (W.errorf _ hl)
    · split
      · exact absurd rfl (h1.1 _)
      · split
        · exact absurd rfl (h2.1 _)
        · exact .fail (W.errorf _ hl)

theorem tablerowCols (tb : Bool) (cols : Option Expr) {loc loc' : Loc} (hl : LR loc loc') :
    MSim T F ER Eq (tablerowCols P tb cols loc) (tablerowCols P' tb cols loc') := by
  unfold _root_.tablerowCols
  split
  · refine (intModifier L W hP _ hl).bind fun cv cv' h => ?_
    subst h
    cases cv <;> exact .pure rfl
  · exact .pure rfl

omit hP in
theorem iterate (var : Bytes) (cols : Option Nat) {body body' : M Status} (hb : MSim T F ER St body body') (n : Nat) :
    ∀ {xs xs' : List GoVal}, All2 I xs xs' → ∀ i cyc,
      MSim T F ER St (iterateM var cols body n xs i cyc) (iterateM var cols body' n xs' i cyc) := by
  intro xs xs' h
  induction h with
  | nil => intro i cyc; exact .pure W.done
  | @cons x x' ys ys' hx _ ih =>
    intro i cyc
    unfold iterateM
    refine (MSim.setVar L.toEnvSim _ (L.ofItem hx)).bind fun _ _ _ =>
      (MSim.setVar L.toEnvSim _ (L.refl _)).bind fun _ _ _ =>
      MSim.bind (S := Eq) ?_ fun _ _ _ => hb.bind fun st st' hst => MSim.bind (S := Eq) ?_ fun _ _ _ =>
      (MSim.getVar L.toEnvSim _).bind fun cur cur' hc => ?_
    · cases cols with
      | none => exact .pure rfl
      | some c => exact (MSim.writer W).tablerowBefore c i
    · cases cols with
      | none => exact .pure rfl
      | some c => exact (MSim.writer W).tablerowAfter c i n
    · -- the cycle counters read back from `forloop`: equal records, or no record on either side
      rcases L.cyclesOf hc with rfl | ⟨h1, h2⟩
      · exact MSim.brkSeq W hst (ih _ _)
      · simp only [h1, h2]
        exact MSim.brkSeq W hst (ih _ _)

theorem loopIterate {loc loc' : Loc} (hl : LR loc loc') (tb : Bool) (var : Bytes) (colsE : Option Expr) {bodyM bodyM' : M Status}
    (hb : MSim T F ER St bodyM bodyM') {items items' : List GoVal} (h : All2 I items items') :
    MSim T F ER St (loopIterate P loc tb var colsE bodyM items) (loopIterate P' loc' tb var colsE bodyM' items') := by
  unfold _root_.loopIterate restoreLoopVars
  refine (tablerowCols L W hP _ _ hl).bind fun cols cols' hc => ?_
  subst hc
  rw [h.length_eq]
  exact (MSim.getVar L.toEnvSim _).bind fun pl pl' hpl => (MSim.getVar L.toEnvSim _).bind fun pv pv' hpv =>
    (iterate L W var cols hb _ h 0 []).bind fun st st' hst =>
    ((MSim.setVar L.toEnvSim _ hpl).bind fun _ _ _ => MSim.setVar L.toEnvSim _ hpv).bind fun _ _ _ => .pure hst

def ElseSim (T : Tol) (F : RawErr → RawErr → Prop) (St : Status → Status → Prop) (ER : Env → Env → Prop) :
    Option (M Status) → Option (M Status) → Prop
  | none, none => True
  | some m, some m' => MSim T F ER St m m'
  | _, _ => False

theorem loopDispatch {loc loc' : Loc} (hl : LR loc loc') (tb : Bool) (var : Bytes) (colsE : Option Expr) {bodyM bodyM' : M Status}
    (hb : MSim T F ER St bodyM bodyM') {elseM elseM' : Option (M Status)} (he : ElseSim T F St ER elseM elseM')
    {items items' : List GoVal} (h : All2 I items items') :
    MSim T F ER St (loopDispatch P loc tb var colsE bodyM elseM items) (loopDispatch P' loc' tb var colsE bodyM' elseM' items') := by
  unfold _root_.loopDispatch
  cases h with
  | nil =>
    cases elseM <;> cases elseM' <;> first | exact he.elim | exact he | exact loopIterate L W hP hl tb var colsE hb .nil
  | cons hx hxs => exact loopIterate L W hP hl tb var colsE hb (.cons hx hxs)

theorem loopRun {budget budget' : Int}
    (hli : ∀ {v v' : GoVal}, V v v' → RSim T (All2 I) (loopItems budget v) (loopItems budget' v'))
    (path : Bytes) {loc loc' : Loc} (hl : LR loc loc') (tb : Bool) (var : Bytes) (e : Expr) (mods : LoopMods)
    {bodyM bodyM' : M Status} (hb : MSim T F ER St bodyM bodyM') (tooMany : Bool) {elseM elseM' : Option (M Status)}
    (he : ElseSim T F St ER elseM elseM') :
    MSim T F ER St (loopRun budget P path loc tb var e mods bodyM tooMany elseM)
      (loopRun budget' P' path loc' tb var e mods bodyM' tooMany elseM') := by
  unfold _root_.loopRun
  refine .wrapAt W _ hl (evaluate L W hP e fun v v' hv => (MSim.ofRes W (hli hv)).bind fun items items' hi =>
    (intModifier L W hP _ hl).bind fun off off' ho => (intModifier L W hP _ hl).bind fun lim lim' hlm => ?_)
  subst ho hlm
  split
  · exact .fail (W.reflF _)
  · exact loopDispatch L W hP hl tb var mods.cols hb he (hi.selectItems _ _ _)

end ValSim

namespace ValSim
variable (L : ValSim ER E V I) (W : WrapSim F St LR) {c c' : RCtx} (hc : CtxSim T ER V I c c')
  {g g' : Nat → Nat} (hg : ∀ l, LR ⟨g l, true⟩ ⟨g' l, true⟩)
include L W hc hg
set_option linter.unusedSectionVars false

omit L hg in
theorem blockBody {body body' : List Node} (h : MSim T F ER St (renderList c body) (renderList c' body')) :
    MSim T F ER St (renderBlockBody c body) (renderBlockBody c' body') := by
  unfold renderBlockBody
  rw [hc.path]
  exact h.bind fun st st' h => MSim.seq W h (((MSim.writer W).flush.wrapFailAt W _ W.invalid).bind fun _ _ _ => .pure W.done)

omit hg in
theorem whenMatches {sel sel' : GoVal} (hs : V sel sel') :
    ∀ es : List Expr, MSim T F ER Eq (whenMatches c sel es) (whenMatches c' sel' es)
  | [] => by unfold _root_.whenMatches; exact .pure rfl
  | e :: es => by
    unfold _root_.whenMatches
    refine evaluate L W hc.evaluate e fun v v' hv => (MSim.ofRes W (hc.equalFn hs hv)).bind fun eq eq' h => ?_
    subst h
    split
    · exact .pure rfl
    · exact whenMatches hs es


mutual
theorem renderNodeRel : ∀ n : Node, IncSimF T F St LR ER c.inc c'.inc ∨ n.noIncl = true →
    MSim T F ER St (renderNode c (n.rel g)) (renderNode c' (n.rel g'))
  | .text line src, _ => by
    simp only [Node.rel]
    unfold _root_.renderNode
    rw [hc.path]
    exact .wrapFailAt W _ (hg line) ((MSim.writer W).write.bind fun _ _ _ => .pure W.done)
  | .obj line e, _ => by
    simp only [Node.rel]
    unfold _root_.renderNode
    rw [hc.path, hc.strict]
    refine .wrapFailAt W _ (hg line) (evaluate L W hc.evaluate e fun v v' hv => ?_)
    rw [L.isNil hv]
    split
    · exact .fail (W.reflF _)
    · exact (MSim.ofRes W (hc.chunks hv)).bind fun cs cs' h => by
        subst h; exact ((MSim.writer W).writeAll _).bind fun _ _ _ => .pure W.done
  | .raw slices, _ => by
    simp only [Node.rel]
    unfold _root_.renderNode
    rw [hc.path]
    exact .wrapFailAt W _ W.invalid (((MSim.writer W).writeAll _).bind fun _ _ _ => .pure W.done)
  | .trim true, _ => by
    simp only [Node.rel]
    unfold _root_.renderNode
    rw [hc.path]
    exact .wrapFailAt W _ W.invalid ((MSim.writer W).trimLeft.bind fun _ _ _ => .pure W.done)
  | .trim false, _ => by
    simp only [Node.rel]
    unfold _root_.renderNode
    exact (MSim.writer W).trimRight.bind fun _ _ _ => .pure W.done
  | .assign line x e, _ => by
    simp only [Node.rel]
    unfold _root_.renderNode
    rw [hc.path]
    exact .wrapFailAt W _ (hg line) (evaluate L W hc.evaluate e fun v v' hv =>
      (MSim.setVar L.toEnvSim _ (L.ofVal hv)).bind fun _ _ _ => .pure W.done)
  | .capture line x body, h => by
    simp only [Node.rel]
    unfold _root_.renderNode
    rw [hc.path]
    refine .wrapAt W _ (hg line) ((renderListRel body h).capture.bind fun r r' h => ?_)
    obtain ⟨st, out⟩ := r
    obtain ⟨st', out'⟩ := r'
    obtain ⟨h1, h2⟩ := h
    simp only at h1 h2
    subst h2
    exact MSim.seq W h1 ((MSim.setVar L.toEnvSim _ (L.refl _)).bind fun _ _ _ => .pure W.done)
  | .ifB line branches, h => by
    simp only [Node.rel]
    unfold _root_.renderNode
    rw [hc.path]
    exact .wrapAt W _ (hg line) (renderBranchesRel branches h)
  | .caseB line subject cases, h => by
    simp only [Node.rel]
    unfold _root_.renderNode
    rw [hc.path]
    exact .wrapAt W _ (hg line) (evaluate L W hc.evaluate subject fun sel sel' hs => renderCasesRel hs cases h)
  | .loop line tablerow var e mods body [], h => by
    simp only [Node.rel, relNClauses]
    unfold _root_.renderNode
    rw [hc.path]
    exact loopRun L W hc.evaluate hc.loopItems _ (hg line) _ _ _ _ (blockBody W hc (renderListRel body (orAnd_left h))) _
      (elseM := none) (elseM' := none) trivial
  | .loop line tablerow var e mods body [els], h => by
    simp only [Node.rel, relNClauses]
    unfold _root_.renderNode
    rw [hc.path]
    exact loopRun L W hc.evaluate hc.loopItems _ (hg line) _ _ _ _ (blockBody W hc (renderListRel body (orAnd_left h))) _
      (elseM := some _) (elseM' := some _) (blockBody W hc (renderListRel els (orAnd_left (orAnd_right h))))
  | .loop line tablerow var e mods body (_ :: _ :: _), h => by
    simp only [Node.rel, relNClauses]
    unfold _root_.renderNode
    rw [hc.path]
    exact loopRun L W hc.evaluate hc.loopItems _ (hg line) _ _ _ _ (blockBody W hc (renderListRel body (orAnd_left h))) _
      (elseM := none) (elseM' := none) trivial
  | .cycle line group v0 rest, _ => by
    simp only [Node.rel]
    unfold _root_.renderNode
    rw [hc.path]
    refine .wrapFailAt W _ (hg line) ((MSim.getVar L.toEnvSim _).bind fun lv lv' hl => ?_)
    rcases L.cyclesOf hl with rfl | ⟨h1, h2⟩
    · split
      · exact .fail (W.errorf _ (hg line))
      · exact (MSim.setVar L.toEnvSim _ (L.refl _)).bind fun _ _ _ =>
          (MSim.writer W).writeVerbatim.bind fun _ _ _ => .pure W.done
    · simp only [h1, h2]
      exact .fail (W.errorf _ (hg line))
  | .brk line, _ => by
    simp only [Node.rel]
    unfold _root_.renderNode
    rw [hc.path]
    exact .pure (W.brk (W.wrapF _ (hg line) (W.wrapF _ (hg line) (W.reflF _))))
  | .cont line, _ => by
    simp only [Node.rel]
    unfold _root_.renderNode
    rw [hc.path]
    exact .pure (W.cont (W.wrapF _ (hg line) (W.wrapF _ (hg line) (W.reflF _))))
  | .incl line args, h => by
    simp only [Node.rel]
    unfold _root_.renderNode
    rw [hc.path]
    refine .wrapAt W _ (hg line) ((MSim.getEnv).bind fun env env' he =>
      (MSim.ofRes W RSim.refl).bind fun e e' hee => ?_)
    subst hee
    refine (MSim.ofRes W (hc.evaluate he e)).bind fun v v' hv => ?_
    rcases L.shape hv with rfl | ⟨h1, h2⟩
    · split
      · next rel =>
        have hinc : MSim T F ER (fun r r' : Status × Bytes => St r.1 r'.1 ∧ r.2 = r'.2)
            (fun s => (c.inc (g line) (joinPath (dirPath c.cfg.path) rel) env).bind fun r => .ret (r, s))
            (fun s => (c'.inc (g' line) (joinPath (dirPath c.cfg.path) rel) env').bind fun r => .ret (r, s)) :=
          fun _ _ hs => PSim.bind (h.elim id (fun hn => nomatch hn) _ _ _ (hg line) he) fun _ _ h => .ret ⟨h, hs⟩
        refine hinc.bind fun r r' h => ?_
        obtain ⟨st, out⟩ := r
        obtain ⟨st', out'⟩ := r'
        obtain ⟨h1, h2⟩ := h
        simp only at h1 h2
        subst h2
        exact MSim.seq W h1 ((MSim.writer W).writeVerbatim.bind fun _ _ _ => .pure W.done)
      · exact .fail (W.errorf _ (hg line))
    · split
      · exact absurd rfl (h1.2 _)
      · split
        · exact absurd rfl (h2.2 _)
        · exact .fail (W.errorf _ (hg line))
theorem renderListRel : ∀ ns : List Node, IncSimF T F St LR ER c.inc c'.inc ∨ noInclList ns = true →
    MSim T F ER St (renderList c (relNodes g ns)) (renderList c' (relNodes g' ns))
  | [], _ => by simp only [relNodes, _root_.renderList]; exact .pure W.done
  | n :: ns, h => by
    simp only [relNodes]
    unfold _root_.renderList
    exact (renderNodeRel n (orAnd_left h)).bind fun st st' hst => MSim.seq W hst (renderListRel ns (orAnd_right h))
theorem renderBranchesRel : ∀ bs : List (CondT × List Node), IncSimF T F St LR ER c.inc c'.inc ∨ noInclBranches bs = true →
    MSim T F ER St (renderBranches c (relBranches g bs)) (renderBranches c' (relBranches g' bs))
  | [], _ => by simp only [relBranches, _root_.renderBranches]; exact .pure W.done
  | (ct, body) :: rest, h => by
    simp only [relBranches]
    unfold _root_.renderBranches
    rw [hc.path]
    refine (evalCond L W hc.evaluate _ hg ct).bind fun b b' hb => ?_
    subst hb
    split
    · exact blockBody W hc (renderListRel body (orAnd_left h))
    · exact renderBranchesRel rest (orAnd_right h)
theorem renderCasesRel {sel sel' : GoVal} (hs : V sel sel') :
    ∀ cs : List (Option (Nat × List Expr) × List Node), IncSimF T F St LR ER c.inc c'.inc ∨ noInclCases cs = true →
      MSim T F ER St (renderCases c sel (relCases g cs)) (renderCases c' sel' (relCases g' cs))
  | [], _ => by simp only [relCases, _root_.renderCases]; exact .pure W.done
  | (none, body) :: rest, h => by
    simp only [relCases]
    unfold _root_.renderCases
    exact blockBody W hc (renderListRel body (orAnd_left h))
  | (some (line, es), body) :: rest, h => by
    simp only [relCases]
    unfold _root_.renderCases
    rw [hc.path]
    refine ((whenMatches L W hc hs es).wrapFailAt W _ (hg line)).bind fun hit hit' hh => ?_
    subst hh
    split
    · exact blockBody W hc (renderListRel body (orAnd_left h))
    · exact renderCasesRel hs rest (orAnd_right h)
end

end ValSim

namespace ValSim
variable (L : ValSim ER E V I) (W : WrapSim F St LR) {c c' : RCtx} (hc : CtxSim T ER V I c c')
  {g g' : Nat → Nat} (hg : ∀ l, LR ⟨g l, true⟩ ⟨g' l, true⟩)
include L W hc hg

theorem renderBlockBodyRel (body : List Node) (h : IncSimF T F St LR ER c.inc c'.inc ∨ noInclList body = true) :
    MSim T F ER St (renderBlockBody c (relNodes g body)) (renderBlockBody c' (relNodes g' body)) :=
  blockBody W hc (renderListRel L W hc hg body h)

theorem renderRootRel (root : List Node) (h : IncSimF T F St LR ER c.inc c'.inc ∨ noInclList root = true) {env env' : Env}
    (he : ER env env') : PSim T F St (renderRoot c (relNodes g root) env) (renderRoot c' (relNodes g' root) env') := by
  unfold _root_.renderRoot
  rw [hc.path]
  refine PSim.bind (renderListRel L W hc hg root h _ _ ⟨he, rfl⟩) (fun ⟨st, s⟩ ⟨st', s'⟩ h => ?_)
  obtain ⟨h1, h2⟩ := h
  have hk := W.kind h1
  cases st <;> cases st' <;> first
    | exact PSim.bind ((MSim.writer W).flush.wrapFailAt W _ W.invalid s s' h2) (fun _ _ _ => .ret W.done)
    | exact .ret h1
    | cases hk

end ValSim

theorem wrapSim_eq : WrapSim Eq Eq Eq where
  reflF _ := rfl
  done := rfl
  kind h := by rw [h]
  brk h := by rw [RawErr.located.inj h]
  cont h := by rw [RawErr.located.inj h]
  wrapF _ hl h := by rw [hl, h]
  wrapSt _ hl h := by rw [hl, h]
  errorf _ hl := by rw [hl]
  invalid := rfl

theorem valSim_eq : ValSim Eq Eq Eq Eq where
  get _ h := by rw [h]
  set _ h hv := by rw [h, hv]
  refl _ := rfl
  ofVal := id
  ofItem := id
  isNil h := by rw [h]
  test h := by rw [h]
  shape h := .inl h.symm
  cyclesOf := .inl

theorem ctxSim_refl (c : RCtx) : CtxSim T Eq Eq Eq c c where
  path := rfl
  strict := rfl
  evaluate he _ := he ▸ RSim.refl
  equalFn ha hb := ha ▸ hb ▸ RSim.refl
  chunks hv := hv ▸ RSim.refl
  loopItems hv := hv ▸ RSim.of_eq (All2.refl fun _ => rfl) rfl

theorem SSim.eq {s s' : RS} (h : SSim Eq s s') : s = s' := by
  obtain ⟨env, tw⟩ := s
  obtain ⟨env', tw'⟩ := s'
  obtain ⟨h1, h2⟩ := h
  simp only at h1 h2
  rw [h1, h2]

/-- two include handlers that answer alike on related variables -/
def IncSim (T : Tol) (ER : Env → Env → Prop) (inner inner' : Nat → Bytes → Env → Prog (Status × Bytes)) : Prop :=
  ∀ (line : Nat) (f : Bytes) {env env' : Env}, ER env env' → PSim T Eq Eq (inner line f env) (inner' line f env')

theorem IncSim.toF {inner inner' : Nat → Bytes → Env → Prog (Status × Bytes)} (h : IncSim T ER inner inner') :
    IncSimF T Eq Eq Eq ER inner inner' := fun l l' f _ _ hl he => by
  cases hl
  exact (h l f he).mono (fun _ _ h => ⟨congrArg Prod.fst h, congrArg Prod.snd h⟩)

namespace ValSim
variable (L : ValSim ER E V I) {c c' : RCtx} (hc : CtxSim T ER V I c c') (hI : IncSim T ER c.inc c'.inc)
include L hc hI

theorem renderNode (n : Node) : MSim T Eq ER Eq (renderNode c n) (renderNode c' n) := by
  have h := ValSim.renderNodeRel (g := id) (g' := id) L wrapSim_eq hc (fun _ => rfl) n (.inl hI.toF)
  rwa [Node.rel_id] at h
theorem renderList (ns : List Node) : MSim T Eq ER Eq (renderList c ns) (renderList c' ns) := by
  have h := ValSim.renderListRel (g := id) (g' := id) L wrapSim_eq hc (fun _ => rfl) ns (.inl hI.toF)
  rwa [relNodes_id] at h
theorem renderBranches (bs : List (CondT × List Node)) : MSim T Eq ER Eq (renderBranches c bs) (renderBranches c' bs) := by
  have h := ValSim.renderBranchesRel (g := id) (g' := id) L wrapSim_eq hc (fun _ => rfl) bs (.inl hI.toF)
  rwa [relBranches_id] at h
theorem renderCases {sel sel' : GoVal} (hs : V sel sel') (cs : List (Option (Nat × List Expr) × List Node)) :
    MSim T Eq ER Eq (renderCases c sel cs) (renderCases c' sel' cs) := by
  have h := ValSim.renderCasesRel (g := id) (g' := id) L wrapSim_eq hc (fun _ => rfl) hs cs (.inl hI.toF)
  rwa [relCases_id] at h
theorem renderBlockBody (body : List Node) : MSim T Eq ER Eq (renderBlockBody c body) (renderBlockBody c' body) := by
  have h := ValSim.renderBlockBodyRel (g := id) (g' := id) L wrapSim_eq hc (fun _ => rfl) body (.inl hI.toF)
  rwa [relNodes_id] at h
theorem renderRoot (root : List Node) {env env' : Env} (he : ER env env') :
    PSim T Eq Eq (renderRoot c root env) (renderRoot c' root env') := by
  have h := ValSim.renderRootRel (g := id) (g' := id) L wrapSim_eq hc (fun _ => rfl) root (.inl hI.toF) he
  rwa [relNodes_id] at h

end ValSim

namespace ValSim
variable (L : ValSim ER E V I) {P P' : Prims} {O O' : OutPrims} {cfg cfg' : Cfg} (fs : FS)
  (hd : cfg'.delims = cfg.delims)
  (hc : ∀ inner inner', CtxSim T ER V I { P := P, O := O, cfg := cfg, inc := inner } { P := P', O := O', cfg := cfg', inc := inner' })
include L hd hc

theorem renderFileWith {inner inner' : Nat → Bytes → Env → Prog (Status × Bytes)} (hi : IncSim T ER inner inner') :
    IncSim T ER (renderFileWith P O cfg fs inner) (renderFileWith P' O' cfg' fs inner') := by
  intro line filename env env' he
  refine renderFileWith_cases fs filename (fun _ _ => .fail rfl) fun src _ => ?_
  unfold renderSrcWith
  rw [hd]
  dsimp only
  split
  · exact .fail rfl
  · exact .panic _
  · exact .unmodelled _
  · next root _ =>
    refine (L.renderRoot (hc inner inner') hi root he).runPure_elim
      (fun out st st' hr => ?_) (fun _ _ _ h => .fail h) (fun _ w => .panic w) (fun _ w => .unmodelled w)
      (fun ht _ w _ => .unmL ht w _) (fun ht _ _ w => .unmR ht _ w) (fun _ _ _ he => .failL he _)
    subst hr
    cases st <;> exact .ret rfl

theorem incFuel : ∀ fuel, IncSim T ER (incFuel P O cfg fs fuel) (incFuel P' O' cfg' fs fuel)
  | 0 => fun _ _ _ _ _ => .fail rfl
  | n + 1 => L.renderFileWith fs hd hc (incFuel n)

theorem frender (fuel : Nat) (root : List Node) {env env' : Env} (he : ER env env') :
    PSim T Eq Eq (frender P O cfg fs fuel root env) (frender P' O' cfg' fs fuel root env') := by
  unfold _root_.frender
  exact PSim.bind (L.renderRoot (c := mkCtx P O cfg fs fuel) (c' := mkCtx P' O' cfg' fs fuel) (hc _ _) (L.incFuel fs hd hc fuel) root he)
    (fun st st' h => by subst h; exact PSim.refl (fun _ => rfl) (fun _ => rfl) _)

end ValSim
