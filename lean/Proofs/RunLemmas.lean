import Proofs.RenderStops
import Proofs.PostLemmas
import Proofs.TwBridge
import Proofs.RenderFile
/-!
# Runs on a fault-free writer, and independence of the trim-writer state

`Prog.runPure` is the run of an interaction tree against a writer that never fails, `Prog.runLog` (Proofs/ProgLemmas.lean) the same
run with the list of underlying `Write` calls in place of their bytes. The variables and the control flow of
a render never depend on the state of the trim writer: from given variables a render performs a fixed list
of trim-writer operations (`WOp`), issues exactly the calls of those operations, and ends with a fixed
result, whatever text is pending and whether the trim flag is set (`TracedAtL`, `TracedL`; `TracedAt`, `Traced` for
the bytes alone). This is what makes "the text a body renders" a well-defined notion, used by the capture
equivalence (C12) and the hyphens at template level (C13). What `Render` puts out and how it
ends is a function of the trace of its root sequence (`rootResult`, `renderRoot_of_traced`, `rootResult_done`); the traces of a text node, of a
verbatim write and of a raw node are given with it, so that the output of a root made of such nodes is computed on `TW.run`.
-/

theorem Prog.runPure_noCalls_fst {α} (p : Prog α) (h : NoCalls p) : p.runPure.1 = [] := by
  cases p with
  | call b k => exact absurd h (by simp [NoCalls])
  | _ => rfl

/-- the result of a run without the trim-writer part of the state -/
inductive EOut (α : Type) where
  | ok (a : α) (env : Env)
  | err (e : RawErr)
  | panic (w : String)
  | unmodelled (w : String)

def EOut.withTw {α} (tw : TW) : EOut α → Prog.Outcome (α × RS)
  | .ok a env => .ok (a, ⟨env, tw⟩)
  | .err e => .err e
  | .panic w => .panic w
  | .unmodelled w => .unmodelled w

def EOut.mapErr {α} (g : RawErr → RawErr) : EOut α → EOut α
  | .err e => .err (g e)
  | o => o

/-- from the variables `env`, `m` performs exactly the trim-writer operations `ops`, issuing
    exactly their underlying calls, and ends with `o` — whatever the state of the trim writer -/
def TracedAtL {α} (m : M α) (env : Env) (ops : List WOp) (o : EOut α) : Prop :=
  ∀ tw, (m ⟨env, tw⟩).runLog = ((TW.run tw ops).2, o.withTw (TW.run tw ops).1)

/-- from the variables `env`, `m` performs exactly the trim-writer operations `ops` and ends with
    `o` — whatever the state of the trim writer -/
def TracedAt {α} (m : M α) (env : Env) (ops : List WOp) (o : EOut α) : Prop :=
  ∀ tw, (m ⟨env, tw⟩).runPure = ((TW.run tw ops).2.flatten, o.withTw (TW.run tw ops).1)

def Traced {α} (m : M α) : Prop := ∀ env, ∃ ops o, TracedAt m env ops o

theorem TracedAtL.toTracedAt {α} {m : M α} {env : Env} {ops : List WOp} {o : EOut α} (h : TracedAtL m env ops o) :
    TracedAt m env ops o := by
  intro tw
  rw [Prog.runPure_eq_runLog, h tw]

theorem tracedAtL_bind_ok {α β} {m : M α} {f : α → M β} {env env1 : Env} {ops1 ops2 : List WOp} {a : α} {o : EOut β}
    (h1 : TracedAtL m env ops1 (.ok a env1)) (h2 : TracedAtL (f a) env1 ops2 o) :
    TracedAtL (m >>= f) env (ops1 ++ ops2) o := by
  intro tw
  show ((m ⟨env, tw⟩).bind (fun (a, s') => f a s')).runLog = _
  rw [Prog.runLog_bind, h1 tw]
  simp only [EOut.withTw]
  rw [h2 (TW.run tw ops1).1, tw_run_append]
  simp
  cases o <;> rfl

theorem tracedAtL_bind_err {α β} {m : M α} {f : α → M β} {env : Env} {ops : List WOp} {e : RawErr}
    (h : TracedAtL m env ops (.err e)) : TracedAtL (m >>= f) env ops (.err e) := by
  intro tw
  show ((m ⟨env, tw⟩).bind (fun (a, s') => f a s')).runLog = _
  rw [Prog.runLog_bind, h tw]; rfl

theorem tracedAtL_bind_panic {α β} {m : M α} {f : α → M β} {env : Env} {ops : List WOp} {w : String}
    (h : TracedAtL m env ops (.panic w)) : TracedAtL (m >>= f) env ops (.panic w) := by
  intro tw
  show ((m ⟨env, tw⟩).bind (fun (a, s') => f a s')).runLog = _
  rw [Prog.runLog_bind, h tw]; rfl

theorem tracedAtL_bind_unmodelled {α β} {m : M α} {f : α → M β} {env : Env} {ops : List WOp} {w : String}
    (h : TracedAtL m env ops (.unmodelled w)) : TracedAtL (m >>= f) env ops (.unmodelled w) := by
  intro tw
  show ((m ⟨env, tw⟩).bind (fun (a, s') => f a s')).runLog = _
  rw [Prog.runLog_bind, h tw]; rfl

theorem tracedAtL_mapFail {α} {m : M α} {env : Env} {ops : List WOp} {o : EOut α} (g : RawErr → RawErr)
    (h : TracedAtL m env ops o) : TracedAtL (M.mapFail g m) env ops (o.mapErr g) := by
  intro tw
  show ((m ⟨env, tw⟩).mapFail g).runLog = _
  rw [Prog.runLog_mapFail, h tw]
  cases o <;> rfl

theorem tracedAtL_op (op : WOp) (env : Env) : TracedAtL (opM op) env [op] (.ok () env) := by
  intro ⟨buf, trim⟩
  cases op <;> cases buf <;> simp [opM, TW.step, TW.run, Prog.runLog, ioK, EOut.withTw]

theorem tracedAtL_flush (env : Env) : TracedAtL flushM env [.flush] (.ok () env) := flushM_eq ▸ tracedAtL_op .flush env
theorem tracedAtL_write (b : Bytes) (env : Env) : TracedAtL (writeM b) env [.write b] (.ok () env) := writeM_eq b ▸ tracedAtL_op (.write b) env
theorem tracedAtL_trimLeft (env : Env) : TracedAtL trimLeftM env [.trimLeft] (.ok () env) := trimLeftM_eq ▸ tracedAtL_op .trimLeft env
theorem tracedAtL_trimRight (env : Env) : TracedAtL trimRightM env [.trimRight] (.ok () env) := tracedAtL_op .trimRight env

theorem tracedAt_bind_ok {α β} {m : M α} {f : α → M β} {env env1 : Env} {ops1 ops2 : List WOp} {a : α} {o : EOut β}
    (h1 : TracedAt m env ops1 (.ok a env1)) (h2 : TracedAt (f a) env1 ops2 o) :
    TracedAt (m >>= f) env (ops1 ++ ops2) o := by
  intro tw
  show ((m ⟨env, tw⟩).bind (fun (a, s') => f a s')).runPure = _
  rw [Prog.runPure_bind, h1 tw]
  simp only [EOut.withTw]
  rw [h2 (TW.run tw ops1).1, tw_run_append]
  simp
  cases o <;> rfl

theorem tracedAt_mapFail {α} {m : M α} {env : Env} {ops : List WOp} {o : EOut α} (g : RawErr → RawErr)
    (h : TracedAt m env ops o) : TracedAt (M.mapFail g m) env ops (o.mapErr g) := by
  intro tw
  show ((m ⟨env, tw⟩).mapFail g).runPure = _
  rw [Prog.runPure_mapFail, h tw]
  cases o <;> rfl

/-- `m` performs no trim-writer operation, whatever the variables -/
def Quiet {α} (m : M α) : Prop := ∀ env, ∃ o, TracedAtL m env [] o

/-- from every variable map `m` performs a fixed operation list, with exactly the calls of those operations -/
def TracedL {α} (m : M α) : Prop := ∀ env, ∃ ops o, TracedAtL m env ops o

theorem TracedL.traced {α} {m : M α} (h : TracedL m) : Traced m := fun env =>
  let ⟨ops, o, ho⟩ := h env
  ⟨ops, o, ho.toTracedAt⟩

theorem Quiet.tracedL {α} {m : M α} (h : Quiet m) : TracedL m := fun env =>
  let ⟨o, ho⟩ := h env
  ⟨[], o, ho⟩

theorem tracedL_bind {α β} {m : M α} {f : α → M β} (hm : TracedL m) (hf : ∀ a, TracedL (f a)) : TracedL (m >>= f) := by
  intro env
  obtain ⟨ops1, o1, h1⟩ := hm env
  cases o1 with
  | ok a env1 =>
    obtain ⟨ops2, o2, h2⟩ := hf a env1
    exact ⟨ops1 ++ ops2, o2, tracedAtL_bind_ok h1 h2⟩
  | err e => exact ⟨ops1, .err e, tracedAtL_bind_err h1⟩
  | panic w => exact ⟨ops1, .panic w, tracedAtL_bind_panic h1⟩
  | unmodelled w => exact ⟨ops1, .unmodelled w, tracedAtL_bind_unmodelled h1⟩

theorem quiet_bind {α β} {m : M α} {f : α → M β} (hm : Quiet m) (hf : ∀ a, Quiet (f a)) : Quiet (m >>= f) := by
  intro env
  obtain ⟨o1, h1⟩ := hm env
  cases o1 with
  | ok a env1 =>
    obtain ⟨o2, h2⟩ := hf a env1
    exact ⟨o2, by simpa using tracedAtL_bind_ok h1 h2⟩
  | err e => exact ⟨.err e, tracedAtL_bind_err h1⟩
  | panic w => exact ⟨.panic w, tracedAtL_bind_panic h1⟩
  | unmodelled w => exact ⟨.unmodelled w, tracedAtL_bind_unmodelled h1⟩

theorem quiet_closed : EvalClosed Quiet (fun _ => True) where
  pure env := ⟨.ok _ env, fun _ => rfl⟩
  bind := quiet_bind
  fail _ _ := ⟨.err _, fun _ => rfl⟩
  plain _ := trivial
  getEnv env := ⟨.ok env env, fun _ => rfl⟩
  getVar env := ⟨.ok (env.get _) env, fun _ => rfl⟩
  panic _ _ := ⟨.panic _, fun _ => rfl⟩
  unmodelled _ := ⟨.unmodelled _, fun _ => rfl⟩
  wrapFailAt hm env :=
    let ⟨o, h⟩ := hm env
    ⟨o.mapErr _, tracedAtL_mapFail _ h⟩

theorem quiet_wrapAt (path : Bytes) (loc : Loc) {m : M Status} (hm : Quiet m) : Quiet (wrapAt path loc m) :=
  quiet_closed.wrapAt hm

theorem quiet_setVar (x : Bytes) (v : GoVal) : Quiet (M.setVar x v) := fun env => ⟨.ok () (env.set x v), fun _ => rfl⟩

theorem quiet_capture {α} (m : M α) : Quiet (captureM m) := by
  intro env
  refine ⟨match (m { env := env, tw := {} }).runPure with
    | (out, .ok (a, s1)) => .ok (a, out ++ s1.tw.buf) s1.env
    | (_, .err e) => .err e
    | (_, .panic w) => .panic w
    | (_, .unmodelled w) => .unmodelled w, fun tw => ?_⟩
  rw [captureM_eq]
  rcases (m { env := env, tw := {} }).runPure with ⟨out, ⟨a, s1⟩ | e | w | w⟩ <;> rfl

/-- the include handler renders into a buffer of its own: no call reaches the caller's writer -/
def IncQuiet (c : RCtx) : Prop := ∀ line f env, NoCalls (c.inc line f env)

theorem IncQuiet.incOk {c : RCtx} (h : IncQuiet c) : IncOk c := fun line f env => Stops.ofNoCalls (h line f env)

theorem quiet_inc (c : RCtx) (hc : IncQuiet c) (line : Nat) (f : Bytes) (env0 : Env) :
    Quiet (fun s => (c.inc line f env0).bind (fun r => .ret (r, s)) : M (Status × Bytes)) := by
  intro env
  have hq := hc line f env0
  cases h : c.inc line f env0 with
  | ret r => exact ⟨.ok r env, fun tw => by simp [Prog.bind, Prog.runLog, TW.run, EOut.withTw]⟩
  | fail e => exact ⟨.err e, fun tw => by simp [Prog.bind, Prog.runLog, TW.run, EOut.withTw]⟩
  | panic w => exact ⟨.panic w, fun tw => by simp [Prog.bind, Prog.runLog, TW.run, EOut.withTw]⟩
  | unmodelled w => exact ⟨.unmodelled w, fun tw => by simp [Prog.bind, Prog.runLog, TW.run, EOut.withTw]⟩
  | call b k => rw [h] at hq; exact absurd hq (by simp [NoCalls])

theorem tracedL_closed : RenderClosed (fun _ => True) TracedL (fun _ => True) :=
  RenderCore.closed (hW := fun _ => trivial) {
    pure := quiet_closed.pure.tracedL
    bind := tracedL_bind
    fail _ := (quiet_closed.fail trivial).tracedL
    plain _ := trivial
    getEnv := quiet_closed.getEnv.tracedL
    getVar := quiet_closed.getVar.tracedL
    panic h := (quiet_closed.panic h).tracedL
    unmodelled := quiet_closed.unmodelled.tracedL
    wrapFailAt hm env :=
      let ⟨ops, o, h⟩ := hm env
      ⟨ops, o.mapErr _, tracedAtL_mapFail _ h⟩
    setVar _ := (quiet_setVar _ _).tracedL
    op o env := ⟨_, _, tracedAtL_op o env⟩
    capture _ := (quiet_capture _).tracedL
    loopItems _ _ := trivial
    parseArgs _ := trivial }

theorem tracedL_ctx {c : RCtx} (hc : IncQuiet c) : CtxClosed TracedL (fun _ => True) c where
  evaluate _ _ := trivial
  equalFn _ _ := trivial
  chunks _ := trivial
  inc line f env := (quiet_inc c hc line f env).tracedL

theorem traced_renderNode (c : RCtx) (hc : IncQuiet c) : ∀ n : Node, Traced (renderNode c n) :=
  fun n => (tracedL_closed.renderNode (tracedL_ctx hc) n fun _ _ => trivial).traced
theorem traced_renderList (c : RCtx) (hc : IncQuiet c) : ∀ ns : List Node, Traced (renderList c ns) :=
  fun ns => (tracedL_closed.renderList (tracedL_ctx hc) ns fun _ _ => trivial).traced
theorem traced_renderBlockBody (c : RCtx) (hc : IncQuiet c) (body : List Node) : Traced (renderBlockBody c body) :=
  (tracedL_closed.renderBlockBody (tracedL_ctx hc) body fun _ _ => trivial).traced
theorem traced_renderBranches (c : RCtx) (hc : IncQuiet c) : ∀ bs : List (CondT × List Node), Traced (renderBranches c bs) :=
  fun bs => (tracedL_closed.renderBranches (tracedL_ctx hc) bs fun _ _ => trivial).traced
theorem traced_renderCases (c : RCtx) (hc : IncQuiet c) (sel : GoVal) :
    ∀ cs : List (Option (Nat × List Expr) × List Node), Traced (renderCases c sel cs) :=
  fun cs => (tracedL_closed.renderCases (tracedL_ctx hc) sel cs fun _ _ => trivial).traced
theorem traced_whenMatches (c : RCtx) (sel : GoVal) : ∀ es : List Expr, Traced (whenMatches c sel es) :=
  fun es => (tracedL_closed.whenMatches (fun _ _ => trivial) (fun _ _ => trivial) sel es).traced

theorem tracedAt_done (env : Env) : TracedAt (pure Status.done : M Status) env [] (.ok .done env) := fun _ => rfl

theorem tracedAt_blockBody_done (c : RCtx) (body : List Node) (env env' : Env) (ops : List WOp)
    (h : TracedAt (renderList c body) env ops (.ok .done env')) :
    TracedAt (renderBlockBody c body) env (ops ++ [.flush]) (.ok .done env') := by
  unfold renderBlockBody
  refine tracedAt_bind_ok h ?_
  have h1 : TracedAt (wrapFailAt c.cfg.path invalidLoc flushM) env' [.flush] (.ok () env') :=
    tracedAt_mapFail _ (tracedAtL_flush env').toTracedAt
  exact tracedAt_bind_ok h1 (tracedAt_done env')

theorem tracedAt_blockBody_other (c : RCtx) (body : List Node) (env : Env) (ops : List WOp) (o : EOut Status)
    (h : TracedAt (renderList c body) env ops o) (hnd : ∀ env', o ≠ .ok .done env') :
    TracedAt (renderBlockBody c body) env ops o := by
  intro tw
  unfold renderBlockBody
  show ((renderList c body ⟨env, tw⟩).bind _).runPure = _
  rw [Prog.runPure_bind, h tw]
  cases o with
  | ok st env' =>
    cases st with
    | done => exact absurd rfl (hnd env')
    | _ => simp [EOut.withTw, pure, M.pure, Prog.runPure]
  | _ => rfl

/-- the output and outcome of `Render` when the root sequence performs `ops` and ends with `o`:
    after a normal end comes the final flush; any other end leaves the pending text unwritten -/
def rootResult (ops : List WOp) : EOut Status → Bytes × Prog.Outcome Status
  | .ok .done _ => (runOps ops, .ok .done)
  | .ok st _ => ((TW.run {} ops).2.flatten, .ok st)
  | .err e => ((TW.run {} ops).2.flatten, .err e)
  | .panic w => ((TW.run {} ops).2.flatten, .panic w)
  | .unmodelled w => ((TW.run {} ops).2.flatten, .unmodelled w)

theorem renderRoot_of_traced (c : RCtx) (root : List Node) (env : Env) (ops : List WOp) (o : EOut Status)
    (h : TracedAt (renderList c root) env ops o) : (renderRoot c root env).runPure = rootResult ops o := by
  rw [renderRoot_eq_blockBody, Prog.runPure_bind]
  cases o with
  | ok st env' =>
    cases st with
    | done =>
      rw [tracedAt_blockBody_done c root env env' ops h {}]
      simp [EOut.withTw, Prog.runPure, rootResult, runOps]
    | _ =>
      rw [tracedAt_blockBody_other c root env ops _ h (by intro _ h; cases h) {}]
      simp [EOut.withTw, Prog.runPure, rootResult]
  | _ =>
    rw [tracedAt_blockBody_other c root env ops _ h (by intro _ h; cases h) {}]
    simp [EOut.withTw, rootResult]

theorem rootResult_snd (ops ops' : List WOp) (o : EOut Status) : (rootResult ops o).2 = (rootResult ops' o).2 := by
  cases o with
  | ok st env => cases st <;> rfl
  | _ => rfl

theorem rootResult_done (ops : List WOp) (o : EOut Status) (out : Bytes) (h : rootResult ops o = (out, .ok .done)) :
    (∃ env', o = .ok .done env') ∧ out = runOps ops := by
  cases o with
  | ok st env =>
    cases st with
    | done => simp only [rootResult, Prod.mk.injEq] at h; exact ⟨⟨env, rfl⟩, h.1.symm⟩
    | _ => simp [rootResult] at h
  | _ => simp [rootResult] at h

theorem tracedAtL_textNode (c : RCtx) (l : Nat) (u : Bytes) (env : Env) :
    TracedAtL (renderNode c (.text l u)) env [.write u] (.ok .done env) := by
  have hp : TracedAtL (pure Status.done : M Status) env [] (.ok .done env) := fun _ => rfl
  unfold renderNode
  have := tracedAtL_mapFail (fun e => RawErr.located (wrapError c.cfg.path e ⟨l, true⟩))
    (tracedAtL_bind_ok (f := fun _ => (pure Status.done : M Status)) (tracedAtL_write u env) hp)
  simpa [wrapFailAt, EOut.mapErr] using this

theorem tracedAt_verbatim (b : Bytes) (env : Env) : TracedAt (writeVerbatimM b) env (verbatimOps b) (.ok () env) :=
  tracedAt_bind_ok (tracedAtL_write [] env).toTracedAt
    (tracedAt_bind_ok (tracedAtL_write b env).toTracedAt (tracedAtL_flush env).toTracedAt)

theorem writeVerbatim_runPure (c : Bytes) (env : Env) (buf : Bytes) (t : Bool) :
    (writeVerbatimM c { env := env, tw := { buf := buf, trim := t } }).runPure =
      (buf ++ c, .ok ((), { env := env, tw := { buf := [], trim := false } })) := by
  rw [tracedAt_verbatim c env]
  simp only [verbatimOps, TW.run, TW.step, EOut.withTw, List.append_nil, List.flatten_append, Gen.flatten_flushCalls,
    trimLeftSpace_nil, ite_self, List.isEmpty_nil, if_true, List.nil_append, Bool.false_eq_true, if_false]

theorem tracedAt_writeAll (env : Env) : ∀ cs : List Bytes, TracedAt (writeAllM cs) env (cs.flatMap verbatimOps) (.ok () env)
  | [] => fun _ => rfl
  | c :: cs => by
    rw [writeAllM, List.flatMap_cons]
    exact tracedAt_bind_ok (tracedAt_verbatim c env) (tracedAt_writeAll env cs)

/-- a run of verbatim writes from an empty trim writer puts out the chunks, and nothing is pending -/
theorem twTotal_verbatims (ops : List WOp) : ∀ cs : List Bytes, twTotal {} (cs.flatMap verbatimOps ++ ops) = cs.flatten ++ twTotal {} ops
  | [] => rfl
  | c :: cs => by
    rw [List.flatMap_cons, List.append_assoc]
    simp only [verbatimOps, List.cons_append, List.nil_append, twTotal_cons, TW.step, Gen.flatten_flushCalls, List.flatten_cons,
      List.append_assoc, Bool.false_eq_true, if_false]
    exact congrArg _ (twTotal_verbatims ops cs)

theorem tracedAt_rawNode (c : RCtx) (slices : List Bytes) (env : Env) :
    TracedAt (renderNode c (.raw slices)) env (slices.flatMap verbatimOps) (.ok .done env) := by
  rw [renderNode]
  have := tracedAt_mapFail (fun e => RawErr.located (wrapError c.cfg.path e invalidLoc))
    (tracedAt_bind_ok (f := fun _ => (pure Status.done : M Status)) (tracedAt_writeAll env slices) (tracedAt_done env))
  simpa [wrapFailAt, EOut.mapErr] using this

theorem tracedAt_list_nil (c : RCtx) (env : Env) : TracedAt (renderList c []) env [] (.ok .done env) := by
  rw [renderList]
  exact tracedAt_done env

theorem tracedAt_list_cons {c : RCtx} {n : Node} {ns : List Node} {env env1 : Env} {ops1 ops2 : List WOp} {o : EOut Status}
    (h1 : TracedAt (renderNode c n) env ops1 (.ok .done env1)) (h2 : TracedAt (renderList c ns) env1 ops2 o) :
    TracedAt (renderList c (n :: ns)) env (ops1 ++ ops2) o := by
  rw [renderList]
  exact tracedAt_bind_ok h1 h2

theorem captureM_eq_of_traced {α} (m : M α) (env : Env) (ops : List WOp) (o : EOut α) (h : TracedAt m env ops o) (tw : TW) :
    captureM m ⟨env, tw⟩ =
      match o with
      | .ok a env' => .ret ((a, twTotal {} ops), ⟨env', tw⟩)
      | .err e => .fail e
      | .panic w => .panic w
      | .unmodelled w => .unmodelled w := by
  rw [captureM_eq, h {}]
  cases o <;> rfl

theorem captureM_of_traced {α} (m : M α) (env env' : Env) (ops : List WOp) (a : α)
    (h : TracedAt m env ops (.ok a env')) (tw : TW) :
    captureM m ⟨env, tw⟩ = .ret ((a, twTotal {} ops), ⟨env', tw⟩) :=
  captureM_eq_of_traced m env ops _ h tw

theorem captureM_of_traced_err {α} (m : M α) (env : Env) (ops : List WOp) (e : RawErr)
    (h : TracedAt m env ops (.err e)) (tw : TW) : captureM m ⟨env, tw⟩ = .fail e :=
  captureM_eq_of_traced m env ops _ h tw

theorem captureM_of_traced_panic {α} (m : M α) (env : Env) (ops : List WOp) (w : String)
    (h : TracedAt m env ops (.panic w)) (tw : TW) : captureM m ⟨env, tw⟩ = .panic w :=
  captureM_eq_of_traced m env ops _ h tw

theorem captureM_of_traced_unmodelled {α} (m : M α) (env : Env) (ops : List WOp) (w : String)
    (h : TracedAt m env ops (.unmodelled w)) (tw : TW) : captureM m ⟨env, tw⟩ = .unmodelled w :=
  captureM_eq_of_traced m env ops _ h tw

theorem noCalls_renderFileWith (P : Prims) (O : OutPrims) (cfg : Cfg) (fs : FS)
    (inner : Nat → Bytes → Env → Prog (Status × Bytes)) (line : Nat) (f : Bytes) (env : Env) :
    NoCalls (renderFileWith P O cfg fs inner line f env) := by
  refine renderFileWith_ind fs f (fun _ _ => trivial) fun src _ => ?_
  unfold renderSrcWith
  split
  · trivial
  · trivial
  · trivial
  · simp only
    split <;> trivial

theorem incQuiet_mkCtx (P : Prims) (O : OutPrims) (cfg : Cfg) (fs : FS) (fuel : Nat) :
    IncQuiet (mkCtx P O cfg fs fuel) := by
  intro line f env
  cases fuel with
  | zero => trivial
  | succ n => exact noCalls_renderFileWith P O cfg fs _ line f env
