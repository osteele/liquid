import Liquid.Render
/-!
# Two interaction trees in lock step

`PSim T F R p q`: `p` and `q` make the same calls on the writer, whatever it answers, and end alike: with `R`-related
results, with `F`-related failures, with the same panic, or outside the model at the same point. `T` says where one of them may
stop short of the other: the left (right) tree may leave the model where the other goes on (`T.l`, `T.r`), and the left tree may
fail with an error that stands for "no answer" (`T.bl`). `RSim` is the same for results of the value layer.
-/

/-- where one of two runs may stop short of the other -/
structure Tol where
  l : Bool
  r : Bool
  /-- the failures of the left run that stand for "no answer": the undefined filter of a value layer that knows none
      (`Tol.oracle`, Proofs/Oracles.lean); no failure for the other tolerances -/
  bl : RawErr → Prop
  /-- the error wrappers keep such a failure one -/
  wrap : ∀ path loc e, bl e → bl (.located (wrapError path e loc))

/-- either run may leave the model (when `t`), no failure stands for "no answer" -/
def Tol.both (t : Bool) : Tol := ⟨t, t, fun _ => False, nofun⟩
/-- the left run may leave the model where the right one answers -/
def Tol.left : Tol := ⟨true, false, fun _ => False, nofun⟩
def Tol.none : Tol := ⟨false, false, fun _ => False, nofun⟩

inductive PSim (T : Tol) (F : RawErr → RawErr → Prop) {α : Type} (R : α → α → Prop) : Prog α → Prog α → Prop where
  | ret {a a' : α} : R a a' → PSim T F R (.ret a) (.ret a')
  | fail {e e' : RawErr} : F e e' → PSim T F R (.fail e) (.fail e')
  | panic (w : String) : PSim T F R (.panic w) (.panic w)
  | unmodelled (w : String) : PSim T F R (.unmodelled w) (.unmodelled w)
  | call (b : Bytes) {k k' : WriteRes → Prog α} : (∀ r, PSim T F R (k r) (k' r)) → PSim T F R (.call b k) (.call b k')
  | unmL (ht : T.l = true) (w : String) (p' : Prog α) : PSim T F R (.unmodelled w) p'
  | unmR (ht : T.r = true) (p : Prog α) (w : String) : PSim T F R p (.unmodelled w)
  | failL {e : RawErr} (he : T.bl e) (p' : Prog α) : PSim T F R (.fail e) p'

variable {T : Tol} {F : RawErr → RawErr → Prop}

namespace PSim

theorem bind {α β} {R : α → α → Prop} {S : β → β → Prop} {p p' : Prog α} {f f' : α → Prog β}
    (hp : PSim T F R p p') (hf : ∀ a a', R a a' → PSim T F S (f a) (f' a')) : PSim T F S (p.bind f) (p'.bind f') := by
  induction hp with
  | ret h => exact hf _ _ h
  | fail he => exact .fail he
  | panic w => exact .panic w
  | unmodelled w => exact .unmodelled w
  | call b _ ih => exact .call b (fun r => ih r)
  | unmL ht w p' => exact .unmL ht w _
  | unmR ht p w => exact .unmR ht _ w
  | failL he p' => exact .failL he _

theorem mapFail {α} {R : α → α → Prop} {p p' : Prog α} (g g' : RawErr → RawErr) (hg : ∀ e e', F e e' → F (g e) (g' e'))
    (hb : ∀ e, T.bl e → T.bl (g e)) (hp : PSim T F R p p') : PSim T F R (p.mapFail g) (p'.mapFail g') := by
  induction hp with
  | ret h => exact .ret h
  | fail he => exact .fail (hg _ _ he)
  | panic w => exact .panic w
  | unmodelled w => exact .unmodelled w
  | call b _ ih => exact .call b (fun r => ih r)
  | unmL ht w p' => exact .unmL ht w _
  | unmR ht p w => exact .unmR ht _ w
  | failL he p' => exact .failL (hb _ he) _

theorem imp {F' : RawErr → RawErr → Prop} {α} {R S : α → α → Prop} {p p' : Prog α} (hp : PSim T F R p p')
    (hF : ∀ e e', F e e' → F' e e') (h : ∀ a a', R a a' → S a a') : PSim T F' S p p' := by
  induction hp with
  | ret hr => exact .ret (h _ _ hr)
  | fail he => exact .fail (hF _ _ he)
  | panic w => exact .panic w
  | unmodelled w => exact .unmodelled w
  | call b _ ih => exact .call b (fun r => ih r)
  | unmL ht w p' => exact .unmL ht w _
  | unmR ht p w => exact .unmR ht _ w
  | failL he p' => exact .failL he _

theorem mono {α} {R S : α → α → Prop} {p p' : Prog α} (hp : PSim T F R p p') (h : ∀ a a', R a a' → S a a') : PSim T F S p p' :=
  hp.imp (fun _ _ he => he) h

theorem refl {α} {R : α → α → Prop} (hF : ∀ e, F e e) (hR : ∀ a, R a a) (p : Prog α) : PSim T F R p p := by
  induction p with
  | ret a => exact .ret (hR a)
  | fail e => exact .fail (hF e)
  | panic w => exact .panic w
  | unmodelled w => exact .unmodelled w
  | call b k ih => exact .call b ih

/-- How two runs in lock step end on a fault-free writer: with the same text in every case, and with related results, related
    failures, the same panic, or outside the model (both at the same point; where tolerated, either of them earlier, or the left one
    with a failure that stands for no answer). What holds in these cases holds of the two ends. -/
@[elab_as_elim]
theorem runPure_elim {α} {R : α → α → Prop} {C : Bytes × Prog.Outcome α → Bytes × Prog.Outcome α → Prop}
    {p p' : Prog α} (hp : PSim T F R p p')
    (ok : ∀ out a a', R a a' → C (out, .ok a) (out, .ok a'))
    (err : ∀ out e e', F e e' → C (out, .err e) (out, .err e'))
    (panic : ∀ out w, C (out, .panic w) (out, .panic w))
    (unm : ∀ out w, C (out, .unmodelled w) (out, .unmodelled w))
    (unmL : T.l = true → ∀ out w q, C (out, .unmodelled w) q)
    (unmR : T.r = true → ∀ q out w, C q (out, .unmodelled w))
    (failL : ∀ out e q, T.bl e → C (out, .err e) q) : C p.runPure p'.runPure := by
  induction hp generalizing C with
  | ret h => exact ok [] _ _ h
  | fail he => exact err [] _ _ he
  | panic w => exact panic [] w
  | unmodelled w => exact unm [] w
  | call b _ ih =>
    -- the text written so far goes in front of what the two continuations write
    exact ih .ok (C := fun q q' => C (b ++ q.1, q.2) (b ++ q'.1, q'.2)) (fun _ _ _ h => ok _ _ _ h) (fun _ _ _ he => err _ _ _ he)
      (fun _ w => panic _ w) (fun _ w => unm _ w) (fun ht _ w _ => unmL ht _ w _) (fun ht _ _ w => unmR ht _ _ w)
      (fun _ _ _ he => failL _ _ _ he)
  | unmL ht w p' => exact unmL ht [] w _
  | unmR ht p w => exact unmR ht _ [] w
  | failL he p' => exact failL [] _ _ he

end PSim

/-- a result of the value layer as an interaction tree without calls -/
def Res.prog {α} : Res Cause α → Prog α
  | .ok a => .ret a
  | .err c => .fail (.plain c)
  | .panic w => .panic w
  | .unmodelled w => .unmodelled w

theorem Res.prog_bind {α β} (r : Res Cause α) (f : α → Res Cause β) : (r.bind f).prog = r.prog.bind fun a => (f a).prog := by
  cases r <;> rfl

/-- results of the value layer, with equal causes of failure -/
def RSim (T : Tol) {α} (R : α → α → Prop) (r r' : Res Cause α) : Prop := PSim T Eq R r.prog r'.prog

theorem RSim.of_eq {α} {R : α → α → Prop} (hR : ∀ a, R a a) {r r' : Res Cause α} (h : r = r') : RSim T R r r' :=
  h ▸ PSim.refl (fun _ => rfl) hR _

theorem RSim.refl {α} {r : Res Cause α} : RSim T Eq r r := .of_eq (fun _ => rfl) rfl

theorem RSim.bind {α β} {R : α → α → Prop} {S : β → β → Prop} {r r' : Res Cause α} {f f' : α → Res Cause β}
    (h : RSim T R r r') (hf : ∀ a a', R a a' → RSim T S (f a) (f' a')) : RSim T S (r.bind f) (r'.bind f') := by
  unfold RSim
  rw [Res.prog_bind, Res.prog_bind]
  exact PSim.bind h hf

theorem RSim.bindEq {α β} {S : β → β → Prop} {r r' : Res Cause α} {f g : α → Res Cause β} (h : RSim T Eq r r')
    (hf : ∀ a, RSim T S (f a) (g a)) : RSim T S (r.bind f) (r'.bind g) :=
  h.bind fun a _ e => e ▸ hf a
