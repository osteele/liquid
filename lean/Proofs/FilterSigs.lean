import Liquid.Generated.Filters
import Proofs.FilterSigsLemmas
/-!
# Obligation of translator T2: the filter registry of the model is the registry of the source

`translate/filters` (go/types, nothing executed) writes `generatedFilterSigs`: one `FilterSig` per
`AddFilter(name, fn)` reachable from `filters.AddStandardFilters`, with the parameter types and the
result shape of `fn`. `filter_sigs_are_standard` re-checks on every run (kernel evaluation) that this
table and `stdFilters` — the table `lookupSig`, hence `applyFilter`, is defined on — are the same
registry: no name occurs twice in either, and each entry of one is an entry of the other (evaluated as: the
two tables are permutations of each other and the extracted one repeats no name, `sameRegistry_of_perm`). The order of
the registrations is irrelevant (in Go the dictionary is a map), so re-ordering the `AddFilter` calls
raises no alarm; a changed parameter type, a changed result shape, a new and a removed filter do.

`lookupSig_is_source` is the consequence the other theorems can use: looking a name up in the model's
table is looking it up in the extracted one. `sameRegistry`, `findSig` and the lemma that equal registries
answer every lookup alike (`sameRegistry_findSig`) are in `Proofs/FilterSigsLemmas.lean`.
-/

/-- **T2 obligation.** The signatures extracted from the `AddFilter` calls of `AddStandardFilters`
and the table of the model's call layer are the same registry. -/
theorem filter_sigs_are_standard : sameRegistry generatedFilterSigs stdFilters = true :=
  sameRegistry_of_perm (List.isPerm_iff.mp (by decide +kernel)) (by decide +kernel)

theorem lookupSig_is_source (name : Bytes) : lookupSig name = findSig generatedFilterSigs name :=
  (sameRegistry_findSig _ _ filter_sigs_are_standard name).symm

/-- a filter is defined for the model's evaluator exactly when the source registers it -/
theorem hasFilter_iff_registered (name : Bytes) :
    (lookupSig name).isSome = generatedFilterSigs.any (·.name == name) := by
  rw [lookupSig_is_source, findSig]
  induction generatedFilterSigs with
  | nil => rfl
  | cons x xs ih => cases hx : x.name == name <;> simp [List.find?, hx, ih]

/-- `slice` as extracted: `func(string, int, func(int) int) string` -/
example : lookupSig [115, 108, 105, 99, 101] = some ⟨[115, 108, 105, 99, 101], [.val .str, .val .int, .fn .int], false⟩ := by
  rw [lookupSig_is_source]; decide +kernel

/-- a name the source does not register is undefined in the model: `nope` -/
example : lookupSig [110, 111, 112, 101] = none := by rw [lookupSig_is_source]; decide +kernel

/-- `sameRegistry` does see a changed parameter type (`slice` with a float64 start), a removed entry and a changed result shape -/
example : sameRegistry [⟨[115], [.val .str, .val .f64], false⟩] [⟨[115], [.val .str, .val .int], false⟩] = false := by decide
example : sameRegistry [⟨[115], [.val .str], false⟩] [⟨[115], [.val .str], false⟩, ⟨[116], [.val .str], false⟩] = false := by decide
example : sameRegistry [⟨[115], [.val .str], true⟩] [⟨[115], [.val .str], false⟩] = false := by decide
example : sameRegistry [⟨[115], [.val .str], false⟩, ⟨[116], [.val .any], false⟩]
    [⟨[116], [.val .any], false⟩, ⟨[115], [.val .str], false⟩] = true := by decide
