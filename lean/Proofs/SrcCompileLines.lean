import Proofs.Marks
import Proofs.SrcItems
/-!
# From the token list to the tree, for the nodes that can fail

The lines of the compiled nodes other than texts, raw blocks and trim markers (`elinesList`) are lines of
TAG or OBJECT tokens of the source; a compile-time error carries such a line and the template's path; a
token list without a tag named `include` compiles to an include-free tree.
-/

section
-- reducible, `CPost` makes elaboration evaluate the compiler: Proofs/C07Lines.lean, at the same attribute
attribute [local irreducible] CPost

theorem elines_compileNode (L : List Nat) :
    ∀ a : AST, (∀ x, x ∈ a.etokLines → x ∈ L) →
      CPost (ELoc L) (fun ns => (∀ x, x ∈ elinesList ns → x ∈ L) ∧ (a.noInc = true → noInclList ns = true)) (compileNode a) :=
  fun a hL => (marks_compileNode _ a (List.Subset.refl _)).mono (fun _ he => ⟨hL _ (he.eloc a.proj).1, (he.eloc a.proj).2⟩)
    (fun ns hr => ⟨fun x hx => hL x (((projList ns).sub a.proj hr).2.1 hx), ((projList ns).sub a.proj hr).2.2.2⟩)

theorem elines_compileList (L : List Nat) :
    ∀ as : List AST, (∀ x, x ∈ etokLinesList as → x ∈ L) →
      CPost (ELoc L) (fun ns => (∀ x, x ∈ elinesList ns → x ∈ L) ∧ (noIncList as = true → noInclList ns = true)) (compileList as) :=
  fun as hL => (marks_compileList _ as (List.Subset.refl _)).mono
    (fun _ he => ⟨hL _ (he.eloc (aprojList as)).1, (he.eloc (aprojList as)).2⟩)
    (fun ns hr => ⟨fun x hx => hL x (((projList ns).sub (aprojList as) hr).2.1 hx), ((projList ns).sub (aprojList as) hr).2.2.2⟩)

theorem elines_compileClauses (L : List Nat) :
    ∀ cs : List (Token × List AST), (∀ x, x ∈ etokLinesClauses cs → x ∈ L) →
      CPost (ELoc L) (fun r => (∀ x, x ∈ elinesCClauses r → x ∈ L) ∧ (noIncClauses cs = true → noInclCClauses r = true))
        (compileClauses cs) :=
  fun cs hL => (marks_compileClauses _ cs (List.Subset.refl _)).mono
    (fun _ he => ⟨hL _ (he.eloc (aprojClauses cs)).1, (he.eloc (aprojClauses cs)).2⟩)
    (fun r hr => ⟨fun x hx => hL x (((projCClauses r).sub (aprojClauses cs) hr).2.1 hx),
      ((projCClauses r).sub (aprojClauses cs) hr).2.2.2⟩)

theorem epost_compileClauses (L : List Nat) :
    ∀ cs : List (Token × List AST), (∀ x, x ∈ etokLinesClauses cs → x ∈ L) → noIncClauses cs = true →
      CPost (ELoc L) (fun r => (∀ x, x ∈ elinesCClauses r → x ∈ L) ∧ noInclCClauses r = true) (compileClauses cs) :=
  fun cs hL hn => (elines_compileClauses L cs hL).mono (fun _ h => h) (fun _ h => ⟨h.1, h.2 hn⟩)

end

def TagObjLine (toks : List Token) (x : Nat) : Prop := ∃ t ∈ toks, t.line = x ∧ (t.ty = .tag ∨ t.ty = .obj)

theorem Derives.etokLines {g : Grammar} {chk : Bytes → Option Cause} {toks : List Token} {ast : List AST}
    (h : Derives g chk toks ast) : ∀ x, x ∈ etokLinesList ast → TagObjLine toks x := by
  intro x hx
  obtain ⟨m, hm, hk, rfl⟩ := mem_elinesOf.mp ((aprojList ast).elines ▸ hx)
  obtain ⟨t, ht, hl, hty⟩ := h.marks m hm
  refine ⟨t, ht, hl, ?_⟩
  cases hkind : m.kind with
  | text => exact absurd hkind hk
  | plain => rw [hkind] at hty; exact hty
  | incl a => rw [hkind] at hty; exact .inl hty.1

theorem Derives.noInc {g : Grammar} {chk : Bytes → Option Cause} {toks : List Token} {ast : List AST}
    (h : Derives g chk toks ast) : (∀ t ∈ toks, ¬ (t.ty = .tag ∧ t.name = nmInclude)) → noIncList ast = true := by
  intro hni
  rw [(aprojList ast).noIncl]
  simp only [noInclOf, List.all_eq_true, Option.isNone_iff_eq_none]
  intro m hm
  obtain ⟨t, ht, _, hty⟩ := h.marks m hm
  cases hkind : m.kind with
  | incl a => rw [hkind] at hty; exact absurd ⟨hty.1, hty.2.1⟩ (hni t ht)
  | _ => simp [Mark.inclArg, hkind]

def NoIncludeTag (toks : List Token) : Prop := ∀ t ∈ toks, ¬ (t.ty = .tag ∧ t.name = nmInclude)

instance (toks : List Token) : Decidable (NoIncludeTag toks) := by unfold NoIncludeTag; infer_instance

def NoIncludeItem (items : List Item) : Prop := ∀ it ∈ items, it.tagName ≠ some nmInclude

instance (items : List Item) : Decidable (NoIncludeItem items) := by unfold NoIncludeItem; infer_instance

theorem noIncludeTag_tokensOf (d : Delims) (items : List Item) (line : Nat) (hni : NoIncludeItem items) :
    NoIncludeTag (tokensOf d items line) := by
  refine tokensOf_forall _ (fun t => ¬ (t.ty = .tag ∧ t.name = nmInclude)) (by intro h; cases h.1) (by intro h; cases h.1) items line ?_
  intro it hit l hh
  cases it with
  | text s => cases hh.1
  | obj args hl hr wl wr => cases hh.1
  | tag name args hl hr wl wm wr => exact hni _ hit (by simp only [Item.mainTok] at hh; simp [Item.tagName, hh.2])

theorem compiles_noIncl (d : Delims) (items : List Item) (line : Nat) (ns : List Node)
    (h : compileTokens (tokensOf d items line) = .ok ns) (hni : NoIncludeItem items) : noInclList ns = true := by
  obtain ⟨_, ast, hd, hc⟩ := compileTokens_ok h
  have := elines_compileList (etokLinesList ast) ast (fun _ hx => hx)
  rw [hc] at this
  exact this.2 (hd.noInc (noIncludeTag_tokensOf d items line hni))
