import Proofs.E2ERun
import Proofs.Marks
import Proofs.C06
import Proofs.ResLemmas
/-!
# End-to-end helpers for C06 and C07: the block parser inside `compileSource` / `run`

* compile-phase errors never carry the messages of the block parser (`notInside`, `unterminated`);
* the block parser with an expression checker follows the parser that accepts every object until
  the first object the checker rejects;
* a parser error is located at a token of the scanned source whose line is the start line plus
  the newlines before it;
* objects accepted by `objChk` are inside the lexer model (`firstUnmodelledObj_none_of_objChk`);
* two evaluated sources for `Proofs/C06E2E.lean`.
-/

/-- the message is neither `notInside` nor `unterminated` (the two messages of the block parser) -/
def NotNestMsg (e : SErr) : Prop := e.msg ≠ .notInside ∧ e.msg ≠ .unterminated

theorem cmsg_compileNode : ∀ a : AST, CPost NotNestMsg (fun _ => True) (compileNode a) :=
  fun a => (marks_compileNode _ a (List.Subset.refl _)).mono (fun _ ⟨_, _, _, he⟩ => he.2.2) (fun _ _ => True.intro)

theorem cmsg_compileList : ∀ as : List AST, CPost NotNestMsg (fun _ => True) (compileList as) :=
  fun as => (marks_compileList _ as (List.Subset.refl _)).mono (fun _ ⟨_, _, _, he⟩ => he.2.2) (fun _ _ => True.intro)

theorem cmsg_compileClauses : ∀ cs : List (Token × List AST), CPost NotNestMsg (fun _ => True) (compileClauses cs) :=
  fun cs => (marks_compileClauses _ cs (List.Subset.refl _)).mono (fun _ ⟨_, _, _, he⟩ => he.2.2) (fun _ _ => True.intro)

theorem compileList_err_not_nest {ast : List AST} {e : SErr} (h : compileList ast = .err e) : NotNestMsg e := by
  have := cmsg_compileList ast
  rw [h] at this
  exact this

def acceptAll : Bytes → Option Cause := fun _ => none

section sim
variable {g : Grammar} {chk : Bytes → Option Cause}

theorem parseStep_sim (s : PState) (t : Token) :
    parseStep g chk s t = parseStep g acceptAll s t ∨
      (t.ty = .obj ∧ ∃ c, chk t.args = some c ∧ parseStep g chk s t = .err ⟨.objSyntax c, t.line⟩) := by
  obtain ⟨cur, st, mode⟩ := s
  cases mode with
  | comment o => exact .inl rfl
  | raw o sl => exact .inl rfl
  | normal =>
    cases ht : t.ty with
    | obj =>
      cases hc : chk t.args with
      | none => left; rw [step_obj ht hc, step_obj ht (by rfl)]
      | some c => right; exact ⟨rfl, c, rfl, step_obj_err ht hc⟩
    | text => left; rw [step_text ht, step_text ht]
    | trimL => left; rw [step_trimL ht, step_trimL ht]
    | trimR => left; rw [step_trimR ht, step_trimR ht]
    | tag => left; simp only [parseStep, ht]

theorem parseLoop_sim (ts : List Token) (s : PState) :
    parseLoop g chk s ts = parseLoop g acceptAll s ts ∨ ∃ c l, parseLoop g chk s ts = .err ⟨.objSyntax c, l⟩ := by
  induction ts generalizing s with
  | nil => exact .inl rfl
  | cons t ts ih =>
    rw [parseLoop, parseLoop]
    rcases parseStep_sim (g := g) (chk := chk) s t with h | ⟨_, c, _, h⟩
    · rw [h]
      cases parseStep g acceptAll s t with
      | ok s1 => exact ih s1
      | err e => exact .inl rfl
      | panic w => exact .inl rfl
      | unmodelled w => exact .inl rfl
    · rw [h]; exact .inr ⟨c, _, rfl⟩

theorem parseTokens_sim (toks : List Token) :
    parseTokens g chk toks = parseTokens g acceptAll toks ∨ ∃ c l, parseTokens g chk toks = .err ⟨.objSyntax c, l⟩ := by
  unfold parseTokens
  rcases parseLoop_sim (g := g) (chk := chk) toks {} with h | ⟨c, l, h⟩
  · rw [h]; exact .inl rfl
  · rw [h]; exact .inr ⟨c, l, rfl⟩

theorem parseTokens_all_ok (toks : List Token) (h : ∀ t ∈ toks, t.ty = .obj → chk t.args = none) :
    parseTokens g chk toks = parseTokens g acceptAll toks := by
  rcases parseTokens_sim (g := g) (chk := chk) toks with h1 | ⟨c, l, h1⟩
  · exact h1
  · rcases error_at_first_bad_token g chk toks _ h1 with hk | ⟨pre, t, rest, rfl, _, _, ⟨ht, c', hc', _⟩ | ⟨_, hk⟩⟩
    · cases hk
    · rw [h t (by simp) ht] at hc'; cases hc'
    · cases hk

theorem wellNested_iff_acceptAll (ok : g.OK = true) (toks : List Token) :
    WellNested g toks ↔ (parseTokens g acceptAll toks).isOk = true := by
  rw [parse_ok_iff g ok acceptAll toks]
  exact ⟨fun h => ⟨h, fun _ _ _ => rfl⟩, fun h => h.1⟩
end sim

theorem firstUnmodelledObj_none_of_objChk (toks : List Token) (h : ∀ t ∈ toks, t.ty = .obj → objChk t.args = none) :
    firstUnmodelledObj toks = none :=
  firstUnmodelledObj_eq_none_iff.mpr fun t ht hty w hw => by
    have := h t ht hty
    rw [objChk, hw] at this
    cases this

theorem scan_split_located (delims : List Bytes) (src : Bytes) (line : Nat) (pre rest : List Token) (t : Token)
    (h : scan delims src line = pre ++ t :: rest) (ht : t.isTrim = false) :
    t.line = line + countNL (srcs pre) ∧ src = srcs pre ++ (t.source ++ srcs rest) := by
  constructor
  · have := scan_line_at delims src line pre.length t (by rw [h]; simp) ht
    rw [this, h]; simp
  · have := scan_partition delims src line
    rw [h] at this
    rw [← this]; simp [srcs]

theorem parse_error_token (g : Grammar) (chk : Bytes → Option Cause) (toks : List Token) (e : PErr)
    (h : parseTokens g chk toks = .err e) :
    ∃ pre t rest, toks = pre ++ t :: rest ∧ e.line = t.line ∧ (t.ty = .tag ∨ t.ty = .obj) := by
  rcases error_at_first_bad_token g chk toks e h with hk | ⟨pre, t, rest, h1, _, h2, h3⟩
  · obtain ⟨k, l⟩ := e
    simp only at hk; subst hk
    obtain ⟨pre, o, rest, h1, h2, _, h3⟩ := unterminated_decompose g chk toks l h
    refine ⟨pre, o, rest, h1, h2, .inl ?_⟩
    rcases h3 with ⟨h3, _⟩ | ⟨h3, _⟩ | ⟨h3, _⟩
    · exact (isCommentOpen_iff.mp h3).1
    · exact (isRawOpen_iff.mp h3).1
    · exact (isOpen_iff.mp h3).1
  · refine ⟨pre, t, rest, h1, h2, ?_⟩
    rcases h3 with ⟨h3, _⟩ | ⟨h3, _⟩
    · exact .inr h3
    · exact .inl h3

/-! ## Example sources for `Proofs/C06E2E.lean`: `a\n{% if x %}\n{% endfor %}` and `{% if x %}\nb` -/
def exSrcBad : Bytes := [97, 10, 123, 37, 32, 105, 102, 32, 120, 32, 37, 125, 10, 123, 37, 32, 101, 110, 100, 102, 111, 114, 32, 37, 125]
def exSrcOpen : Bytes := [123, 37, 32, 105, 102, 32, 120, 32, 37, 125, 10, 98]

theorem exSrcBad_parse : parseTokens stdGrammar objChk (scan ({} : Cfg).delims exSrcBad 1) = .err ⟨.notInside, 3⟩ :=
  Res.err_of_decide (by decide +kernel)
theorem exSrcOpen_parse : parseTokens stdGrammar objChk (scan ({} : Cfg).delims exSrcOpen 1) = .err ⟨.unterminated, 1⟩ :=
  Res.err_of_decide (by decide +kernel)

