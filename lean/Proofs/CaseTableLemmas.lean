import Liquid.Unicode
import Proofs.Utf8Lemmas
/-!
# Range tables of the case mapping: the lookup and the checkers over ranges, proved sound for every table

The checkers are evaluated on the generated tables in `Proofs/CaseTables.lean`; their soundness lemmas are applied to
`toUpperRune` / `toLowerRune` in `Proofs/CaseLemmas.lean`.
-/

/-! ## loops and connectives spelled with the recursors

The kernel evaluates the checkers below on the generated tables (`decide +kernel`). The compiled forms of `List.all`,
`&&`, `||` (`brecOn`, matchers) cost it several times more steps than the bare recursors, so the loops over pairs of ranges
of the two quadratic checkers (`caseIdemCheck`, evaluated through `imgMissesSorted`, and `caseRoundTripCheck`, evaluated through
`invertedBy`: some 40 000 pairs) are written with these; each is the usual function (`allK_eq`, …). The rune-by-rune branch of
`caseRoundTripCheck` (a few ranges) and the linear checker `caseTableWf` use the usual functions. -/

noncomputable def andK (x y : Bool) : Bool := @Bool.rec (fun _ => Bool) false y x
noncomputable def orK (x y : Bool) : Bool := @Bool.rec (fun _ => Bool) y true x
noncomputable def allK {α : Type} (p : α → Bool) (l : List α) : Bool :=
  @List.rec α (fun _ => Bool) true (fun b _ ih => @Bool.rec (fun _ => Bool) false ih (p b)) l
noncomputable def anyK {α : Type} (p : α → Bool) (l : List α) : Bool :=
  @List.rec α (fun _ => Bool) false (fun b _ ih => @Bool.rec (fun _ => Bool) ih true (p b)) l

@[simp] theorem andK_eq (x y : Bool) : andK x y = (x && y) := by cases x <;> rfl
@[simp] theorem orK_eq (x y : Bool) : orK x y = (x || y) := by cases x <;> rfl
@[simp] theorem allK_eq {α : Type} (p : α → Bool) (l : List α) : allK p l = l.all p := by
  induction l with
  | nil => rfl
  | cons b t ih =>
    show @Bool.rec (fun _ => Bool) false (allK p t) (p b) = _
    rw [ih, List.all_cons]; cases p b <;> rfl
@[simp] theorem anyK_eq {α : Type} (p : α → Bool) (l : List α) : anyK p l = l.any p := by
  induction l with
  | nil => rfl
  | cons b t ih =>
    show @Bool.rec (fun _ => Bool) (anyK p t) true (p b) = _
    rw [ih, List.any_cons]; cases p b <;> rfl

theorem CaseRange.hits_iff (e : CaseRange) (r : Nat) :
    e.hits r = true ↔ (e.lo ≤ r ∧ r ≤ e.hi ∧ (e.alt = true → (r - e.lo) % 2 = 0)) := by
  unfold CaseRange.hits
  cases e.alt <;> simp [and_assoc, Nat.ble_eq]

theorem CaseRange.hits_plain_iff (lo hi img r : Nat) : CaseRange.hits ⟨lo, hi, false, img⟩ r = true ↔ (lo ≤ r ∧ r ≤ hi) := by
  simp [CaseRange.hits_iff]

theorem CaseRange.hits_outside {e : CaseRange} {r : Nat} (h : r < e.lo ∨ e.hi < r) : e.hits r = false := by
  cases hh : e.hits r with
  | false => rfl
  | true => rw [CaseRange.hits_iff] at hh; omega

theorem caseLookup_of_no_hit : ∀ (tbl : List CaseRange) (r : Nat), (∀ e ∈ tbl, e.hits r = false) → caseLookup tbl r = r
  | [], _, _ => rfl
  | e :: es, r, h => by
    simp only [caseLookup]
    obtain ⟨he, hes⟩ := List.forall_mem_cons.1 h
    rw [he, if_neg Bool.false_ne_true]
    exact caseLookup_of_no_hit es r hes

theorem caseLookup_cases (tbl : List CaseRange) (r : Nat) :
    (caseLookup tbl r = r ∧ ∀ e ∈ tbl, e.hits r = false) ∨ ∃ e ∈ tbl, e.hits r = true ∧ caseLookup tbl r = e.image r := by
  fun_induction caseLookup tbl r with
  | case1 r => exact .inl ⟨rfl, nofun⟩
  | case2 e es r h => exact .inr ⟨e, List.mem_cons_self .., h, rfl⟩
  | case3 e es r h ih =>
    rcases ih with ⟨h1, h2⟩ | ⟨x, hx, h1, h2⟩
    · exact .inl ⟨h1, List.forall_mem_cons.2 ⟨Bool.eq_false_iff.2 h, h2⟩⟩
    · exact .inr ⟨x, List.mem_cons_of_mem _ hx, h1, h2⟩

def CaseRange.imgHi (e : CaseRange) : Nat := e.img + (e.hi - e.lo)

/-- one range: non-empty, inside the code space, really moves its runes, an alternating range ends on a rune it moves.
    A check on what translator T6 writes, not a premise: no soundness lemma below uses it (`caseTableWf_parts` keeps the
    other two conjuncts of `caseTableWf`) -/
def CaseRange.wf (e : CaseRange) : Bool :=
  Nat.ble e.lo e.hi && Nat.ble e.hi 0x10FFFF && !Nat.beq e.img e.lo && (!e.alt || Nat.beq ((e.hi - e.lo) % 2) 0)

/-- every image of the range is a scalar value: the interval `[img, imgHi]` lies below the surrogates, or above them
and below U+110000 -/
def CaseRange.imgScalar (e : CaseRange) : Bool :=
  Nat.blt e.imgHi 0xD800 || (Nat.blt 0xDFFF e.img && Nat.ble e.imgHi 0x10FFFF)

/-- non-empty intervals, ascending and disjoint -/
def caseSorted : List CaseRange → Bool
  | [] => true
  | [a] => Nat.ble a.lo a.hi
  | a :: b :: rest => Nat.ble a.lo a.hi && Nat.blt a.hi b.lo && caseSorted (b :: rest)

def caseTableWf (tbl : List CaseRange) : Bool :=
  tbl.all CaseRange.wf && tbl.all CaseRange.imgScalar && caseSorted tbl

theorem CaseRange.image_scalar {e : CaseRange} (h : e.imgScalar = true) {r : Nat} (hr : e.hits r = true) :
    isScalar (e.image r) = true := by
  rw [CaseRange.hits_iff] at hr
  simp only [CaseRange.imgScalar, CaseRange.imgHi, Bool.and_eq_true, Bool.or_eq_true, Nat.blt_eq, Nat.ble_eq] at h
  rw [isScalar_iff]
  unfold CaseRange.image
  omega

theorem caseTableWf_parts {tbl : List CaseRange} (h : caseTableWf tbl = true) :
    tbl.all CaseRange.imgScalar = true ∧ caseSorted tbl = true := by
  simp only [caseTableWf, Bool.and_eq_true] at h
  exact ⟨h.1.2, h.2⟩

theorem caseLookup_scalar {tbl : List CaseRange} (h : tbl.all CaseRange.imgScalar = true) {r : Nat}
    (hr : isScalar r = true) : isScalar (caseLookup tbl r) = true := by
  rcases caseLookup_cases tbl r with ⟨h1, _⟩ | ⟨e, he, h1, h2⟩
  · rw [h1]; exact hr
  · rw [h2]; exact CaseRange.image_scalar (List.all_eq_true.mp h e he) h1

theorem caseSorted_tail : ∀ {tbl : List CaseRange} {a : CaseRange}, caseSorted (a :: tbl) = true → caseSorted tbl = true
  | [], _, _ => rfl
  | _ :: _, _, h => by
    simp only [caseSorted, Bool.and_eq_true] at h
    exact h.2

theorem caseSorted_head : ∀ {tbl : List CaseRange} {a : CaseRange}, caseSorted (a :: tbl) = true → a.lo ≤ a.hi
  | [], _, h => by simpa [caseSorted, Nat.ble_eq] using h
  | _ :: _, _, h => by
    simp only [caseSorted, Bool.and_eq_true, Nat.ble_eq] at h
    exact h.1.1

theorem caseSorted_above : ∀ {tbl : List CaseRange} {a : CaseRange}, caseSorted (a :: tbl) = true → ∀ e ∈ tbl, a.hi < e.lo
  | [], _, _, e, he => by cases he
  | b :: rest, a, hs, e, he => by
    have hs' := hs
    simp only [caseSorted, Bool.and_eq_true, Nat.ble_eq, Nat.blt_eq] at hs'
    rcases List.mem_cons.mp he with rfl | he
    · exact hs'.1.2
    · have h1 := caseSorted_above hs'.2 e he
      have h2 := caseSorted_head hs'.2
      omega

theorem caseLookup_of_hit : ∀ {tbl : List CaseRange}, caseSorted tbl = true → ∀ {e : CaseRange}, e ∈ tbl →
    ∀ {r : Nat}, e.hits r = true → caseLookup tbl r = e.image r
  | [], _, _, he, _, _ => by cases he
  | a :: tbl, hs, e, he, r, hr => by
    rcases List.mem_cons.mp he with rfl | he'
    · simp [caseLookup, hr]
    · have hlt := caseSorted_above hs e he'
      have hlo := ((CaseRange.hits_iff e r).1 hr).1
      simp only [caseLookup, CaseRange.hits_outside (.inr (Nat.lt_of_lt_of_le hlt hlo))]
      exact caseLookup_of_hit (caseSorted_tail hs) he' hr

theorem caseLookup_below {a : CaseRange} {tbl : List CaseRange} (hs : caseSorted (a :: tbl) = true) {r : Nat}
    (hr : r < a.lo) : caseLookup (a :: tbl) r = r := by
  apply caseLookup_of_no_hit
  intro e he
  refine CaseRange.hits_outside (.inl ?_)
  rcases List.mem_cons.mp he with rfl | he
  · exact hr
  · have h1 := caseSorted_above hs e he
    have h2 := caseSorted_head hs
    omega

theorem caseLookup_first {lo hi img : Nat} {b : CaseRange} {tbl : List CaseRange}
    (hs : caseSorted (⟨lo, hi, false, img⟩ :: b :: tbl) = true) {r : Nat} (hr : r < b.lo) :
    caseLookup (⟨lo, hi, false, img⟩ :: b :: tbl) r = if lo ≤ r ∧ r ≤ hi then img + (r - lo) else r := by
  by_cases hh : lo ≤ r ∧ r ≤ hi
  · rw [if_pos hh]; exact if_pos ((CaseRange.hits_plain_iff ..).mpr hh)
  · rw [if_neg hh]
    exact (if_neg (mt (CaseRange.hits_plain_iff ..).mp hh)).trans (caseLookup_below (caseSorted_tail hs) hr)

/-- no rune of `a`'s image is hit by `b`: the image interval lies beside `b`, or `b` alternates and `a`'s image
(alternating as well, or a single rune) is out of step with it -/
noncomputable def CaseRange.imgMisses (a b : CaseRange) : Bool :=
  orK (Nat.blt a.imgHi b.lo) (orK (Nat.blt b.hi a.img)
    (andK (orK a.alt (Nat.beq a.lo a.hi)) (andK b.alt (Nat.beq ((a.img + b.lo) % 2) 1))))

noncomputable def caseIdemCheck (tbl : List CaseRange) : Bool := allK (fun a => allK (fun b => a.imgMisses b) tbl) tbl

theorem CaseRange.hits_even {a : CaseRange} {r : Nat} (hr : a.hits r = true) (ha : a.alt = true ∨ a.lo = a.hi) :
    (r - a.lo) % 2 = 0 := by
  rw [CaseRange.hits_iff] at hr
  rcases ha with ha | ha
  · exact hr.2.2 ha
  · omega

theorem CaseRange.imgMisses_sound {a b : CaseRange} (h : a.imgMisses b = true) {r : Nat} (hr : a.hits r = true) :
    b.hits (a.image r) = false := by
  cases hb : b.hits (a.image r) with
  | false => rfl
  | true =>
    exfalso
    simp only [CaseRange.imgMisses, CaseRange.imgHi, orK_eq, andK_eq, Bool.or_eq_true, Bool.and_eq_true, Nat.blt_eq,
      Nat.beq_eq] at h
    rw [CaseRange.hits_iff, CaseRange.image] at hb
    have hr' := (CaseRange.hits_iff a r).1 hr
    rcases h with h | h | ⟨ha, hb', h⟩
    · omega
    · omega
    · have h1 := CaseRange.hits_even hr ha
      have h2 := hb.2.2 hb'
      omega

theorem caseLookup_idem {tbl : List CaseRange} (h : caseIdemCheck tbl = true) (r : Nat) :
    caseLookup tbl (caseLookup tbl r) = caseLookup tbl r := by
  rcases caseLookup_cases tbl r with ⟨h1, _⟩ | ⟨a, ha, h1, h2⟩
  · rw [h1, h1]
  · rw [h2]
    apply caseLookup_of_no_hit
    intro b hb
    simp only [caseIdemCheck, allK_eq] at h
    have := List.all_eq_true.mp (List.all_eq_true.mp h a ha) b hb
    exact CaseRange.imgMisses_sound this h1

/-- `fun b => a.imgMisses b` over a sorted table, one comparison for each range below `a`'s image and none for the
    ranges above it: the form the kernel evaluates on the generated tables -/
noncomputable def CaseRange.imgMissesSorted (a : CaseRange) (tbl : List CaseRange) : Bool :=
  @List.rec CaseRange (fun _ => Bool) true (fun b _ ih => @Bool.rec (fun _ => Bool)
    (@Bool.rec (fun _ => Bool) (andK (a.imgMisses b) ih) true (Nat.blt a.imgHi b.lo)) ih (Nat.blt b.hi a.img)) tbl

theorem CaseRange.imgMissesSorted_sound {a : CaseRange} : ∀ {tbl : List CaseRange}, caseSorted tbl = true →
    a.imgMissesSorted tbl = true → ∀ b ∈ tbl, a.imgMisses b = true
  | [], _, _, _, hb => by cases hb
  | c :: tbl, hs, h, b, hb => by
    change @Bool.rec (fun _ => Bool) (@Bool.rec (fun _ => Bool) (andK (a.imgMisses c) (a.imgMissesSorted tbl)) true
      (Nat.blt a.imgHi c.lo)) (a.imgMissesSorted tbl) (Nat.blt c.hi a.img) = true at h
    cases h1 : Nat.blt c.hi a.img with
    | true =>
      rw [h1] at h
      rcases List.mem_cons.mp hb with rfl | hb
      · simp [CaseRange.imgMisses, h1]
      · exact imgMissesSorted_sound (caseSorted_tail hs) h b hb
    | false =>
      rw [h1] at h
      cases h2 : Nat.blt a.imgHi c.lo with
      | true =>
        have hlo : a.imgHi < b.lo := by
          rw [Nat.blt_eq] at h2
          rcases List.mem_cons.mp hb with rfl | hb
          · exact h2
          · have := caseSorted_above hs b hb
            have := caseSorted_head hs
            omega
        simp [CaseRange.imgMisses, Nat.blt_eq, hlo]
      | false =>
        rw [h2, andK_eq, Bool.and_eq_true] at h
        rcases List.mem_cons.mp hb with rfl | hb
        · exact h.1
        · exact imgMissesSorted_sound (caseSorted_tail hs) h.2 b hb

theorem caseIdemCheck_of_sorted {tbl : List CaseRange} (hs : caseSorted tbl = true)
    (h : allK (fun a => a.imgMissesSorted tbl) tbl = true) : caseIdemCheck tbl = true := by
  rw [allK_eq, List.all_eq_true] at h
  simp only [caseIdemCheck, allK_eq, List.all_eq_true]
  exact fun a ha => CaseRange.imgMissesSorted_sound hs (h a ha)

/-- `u` undoes `l`: it hits the whole image of `l` and moves it back -/
noncomputable def CaseRange.inverts (l u : CaseRange) : Bool :=
  andK (Nat.ble u.lo l.img) (andK (Nat.ble l.imgHi u.hi) (andK (Nat.beq (u.img + (l.img - u.lo)) l.lo)
    (orK (!u.alt) (andK (orK l.alt (Nat.beq l.lo l.hi)) (Nat.beq ((l.img + u.lo) % 2) 0)))))

theorem CaseRange.inverts_sound {l u : CaseRange} (h : l.inverts u = true) {r : Nat} (hr : l.hits r = true) :
    u.hits (l.image r) = true ∧ u.image (l.image r) = r := by
  simp only [CaseRange.inverts, CaseRange.imgHi, orK_eq, andK_eq, Bool.or_eq_true, Bool.and_eq_true, Nat.ble_eq,
    Nat.beq_eq, Bool.not_eq_true'] at h
  obtain ⟨hlo, hhi, hd, halt⟩ := h
  have hr' := (CaseRange.hits_iff l r).1 hr
  rw [CaseRange.hits_iff]
  unfold CaseRange.image
  refine ⟨⟨by omega, by omega, fun hu => ?_⟩, by omega⟩
  rcases halt with halt | ⟨ha, hp⟩
  · rw [hu] at halt; cases halt
  · have h1 := CaseRange.hits_even hr ha
    omega

/-- `anyK l.inverts tbl` over a sorted table: the ranges that end below `l`'s image are passed with one comparison each, and
    the first that does not is the only one that can undo `l`: the form the kernel evaluates on the generated tables -/
noncomputable def CaseRange.invertedBy (l : CaseRange) (tbl : List CaseRange) : Bool :=
  @List.rec CaseRange (fun _ => Bool) false (fun u _ ih => @Bool.rec (fun _ => Bool) (l.inverts u) ih (Nat.blt u.hi l.img)) tbl

theorem CaseRange.invertedBy_sound {l : CaseRange} : ∀ {tbl : List CaseRange}, l.invertedBy tbl = true → anyK l.inverts tbl = true
  | [], h => by cases h
  | u :: tbl, h => by
    change @Bool.rec (fun _ => Bool) (l.inverts u) (l.invertedBy tbl) (Nat.blt u.hi l.img) = true at h
    rw [anyK_eq, List.any_cons, Bool.or_eq_true, ← anyK_eq]
    cases h1 : Nat.blt u.hi l.img with
    | true => rw [h1] at h; exact .inr (invertedBy_sound h)
    | false => rw [h1] at h; exact .inl h

/-- the runes of a range, one by one (used only for the ranges of `ToLower` no single range of `ToUpper` undoes:
the title-case digraphs and the exceptions) -/
def CaseRange.runes (e : CaseRange) : List Nat :=
  ((List.range (e.hi + 1 - e.lo)).map (e.lo + ·)).filter e.hits

theorem CaseRange.mem_runes {e : CaseRange} {r : Nat} (h : e.hits r = true) : r ∈ e.runes := by
  have h' := (CaseRange.hits_iff e r).mp h
  unfold CaseRange.runes
  rw [List.mem_filter]
  refine ⟨List.mem_map.mpr ⟨r - e.lo, List.mem_range.mpr (by omega), by omega⟩, h⟩

/-- upper-casing what lower-casing gives returns to `u`, for every rune `u` that `ToLower` moves, `ToUpper` keeps and
that is not a listed exception: range by range, a range of `upper` undoes the range of `lower`, or its runes are tried
one by one -/
noncomputable def caseRoundTripCheck (upper lower : List CaseRange) (exceptions : List Nat) : Bool :=
  allK (fun l => orK (anyK l.inverts upper) (l.runes.all fun u =>
    !Nat.beq (caseLookup upper u) u || exceptions.any (Nat.beq u) || Nat.beq (caseLookup upper (l.image u)) u)) lower

theorem allK_orK_mono {α : Type} {p q r : α → Bool} (hpq : ∀ a, p a = true → q a = true) {l : List α}
    (h : allK (fun a => orK (p a) (r a)) l = true) : allK (fun a => orK (q a) (r a)) l = true := by
  simp only [allK_eq, orK_eq, List.all_eq_true, Bool.or_eq_true] at h ⊢
  exact fun a ha => (h a ha).imp_left (hpq a)

theorem caseRoundTrip_sound {upper lower : List CaseRange} {exceptions : List Nat} (hsu : caseSorted upper = true)
    (hsl : caseSorted lower = true) (h : caseRoundTripCheck upper lower exceptions = true) {u : Nat}
    (hu : caseLookup upper u = u) (hx : u ∉ exceptions) : caseLookup upper (caseLookup lower u) = u := by
  rcases caseLookup_cases lower u with ⟨h1, _⟩ | ⟨l, hl, h1, _⟩
  · rw [h1]; exact hu
  · rw [caseLookup_of_hit hsl hl h1]
    simp only [caseRoundTripCheck, allK_eq, anyK_eq, orK_eq] at h
    have := List.all_eq_true.mp h l hl
    rcases Bool.or_eq_true _ _ |>.mp this with hinv | hall
    · obtain ⟨e, he, hinv⟩ := List.any_eq_true.mp hinv
      obtain ⟨a, b⟩ := CaseRange.inverts_sound hinv h1
      rw [caseLookup_of_hit hsu he a, b]
    · have := List.all_eq_true.mp hall u (CaseRange.mem_runes h1)
      simp only [Bool.or_eq_true, Bool.not_eq_true', Nat.beq_eq, List.any_eq_true] at this
      rcases this with (h | ⟨x, hx', h⟩) | h
      · rw [hu] at h; simp at h
      · exact absurd (h ▸ hx') hx
      · exact h
