import Proofs.MapPermCmp
import Proofs.MapPermOps
/-!
# `values.Equal` and the order of map entries (helper lemmas for C02)

`equalMaps` loops over the entries of its first operand and stops at the first entry that has no equal
partner; the model runs the loop in the order of the entry list (`Cmp.mapAll`). On two related pairs of
operands the two runs agree (`RRel true Eq`: the same answer, or one of the two is `unmodelled` — which
entry is compared first, and so whether a comparison outside the model is reached before the loop stops,
depends on the order of the entry list).
-/

open GoVal MapOrder Cmp

def Res.isErr {ε α : Type} : Res ε α → Bool
  | .err _ => true
  | _ => false

namespace Cmp

@[simp] theorem isErr_ok {α} (x : α) : (Res.ok x : R α).isErr = false := rfl
@[simp] theorem isErr_unmodelled {α} (w : String) : (Res.unmodelled w : R α).isErr = false := rfl
@[simp] theorem isErr_panic {α} (w : String) : (Res.panic w : R α).isErr = false := rfl
@[simp] theorem isErr_err {α} (e) : (Res.err e : R α).isErr = true := rfl

theorem equal_noErr (a b : GoVal) : (equal a b).isErr = false := by
  have h := equal_soft a b
  cases he : equal a b <;> first | rfl | exact (he ▸ h).elim

end Cmp

/-- Two conjunctions over outcomes that correspond to each other (in any order), each outcome agreeing
    with its partner: the conjunctions agree. -/
theorem andSeq_agree {os os' : List (R Bool)} (s : Soft (andSeq os)) (s' : Soft (andSeq os'))
    (h1 : ∀ o ∈ os, ∃ o' ∈ os', RRel true Eq o o') (h2 : ∀ o' ∈ os', ∃ o ∈ os, RRel true Eq o o') :
    RRel true Eq (andSeq os) (andSeq os') := by
  obtain ⟨x, hx⟩ | ⟨w, hx⟩ := s.ok_or_unmodelled
  · obtain ⟨z, hz⟩ | ⟨w, hz⟩ := s'.ok_or_unmodelled
    · rw [hx, hz]
      show x = z
      cases x <;> cases z
      · rfl
      · obtain ⟨o, ho, e⟩ := andSeq_false hx
        obtain ⟨o', ho', hr⟩ := h1 o ho
        rw [e, andSeq_true_iff.1 hz o' ho'] at hr
        cases hr
      · obtain ⟨o', ho', e⟩ := andSeq_false hz
        obtain ⟨o, ho, hr⟩ := h2 o' ho'
        rw [e, andSeq_true_iff.1 hx o ho] at hr
        cases hr
      · rfl
    · rw [hz]; exact RRel.unmR rfl _ _
  · rw [hx]; exact RRel.unmL rfl _ _

theorem toKey_goodKey {g : GoVal} (hg : GoodKey g) (k' : GoVal) (h : toKey k' = toKey g) : k' = g := by
  cases g <;> simp [GoodKey, goodKey] at hg <;> cases k' <;> simp_all [toKey]

theorem EntRel.lookupKey {R : GoVal → GoVal → Prop} {kvs kvs' : List (GoVal × GoVal)} (h : EntRel R kvs kvs') (kk : Key) :
    OptRel R (Cmp.lookupKey kk kvs) (Cmp.lookupKey kk kvs') := by
  rw [lookupKey_eq_find, lookupKey_eq_find]
  exact h.findP (toKey · == some kk) fun a b hb pa pb =>
    toKey_goodKey hb a ((eq_of_beq pa).trans (eq_of_beq pb).symm)

theorem mapAll_mp {kvs kvs' bs bs' : List (GoVal × GoVal)} (ha : EntRel MP kvs kvs') (hb : EntRel MP bs bs')
    (ih : ∀ e ∈ kvs, ∀ x' y y', MP e.2 x' → MP y y' → RRel true Eq (equal e.2 y) (equal x' y')) :
    RRel true Eq (mapAll kvs bs) (mapAll kvs' bs') := by
  rw [mapAll_eq_andSeq, mapAll_eq_andSeq]
  have pair : ∀ e ∈ kvs, ∀ e' : GoVal × GoVal, e'.1 = e.1 → MP e.2 e'.2 → RRel true Eq (entryOut bs e) (entryOut bs' e') := by
    intro e he e' hk hv
    obtain ⟨k, v⟩ := e
    obtain ⟨k', v'⟩ := e'
    simp only at hk hv
    subst hk
    unfold entryOut mapIndex
    simp only
    cases hkk : toKey k' with
    | none => exact RRel.unmL rfl _ _
    | some kk =>
      simp only [Res.bind_ok]
      have := hb.lookupKey kk
      cases h1 : lookupKey kk bs <;> cases h2 : lookupKey kk bs' <;> rw [h1, h2] at this <;> simp only [OptRel] at this
      · exact rrel_eq_refl _
      · exact ih (k', v) he v' _ _ hv this
  refine andSeq_agree (mapAll_eq_andSeq kvs bs ▸ mapAll_soft kvs bs fun _ _ _ => equal_soft _ _)
    (mapAll_eq_andSeq kvs' bs' ▸ mapAll_soft kvs' bs' fun _ _ _ => equal_soft _ _) ?_ ?_
  · intro o ho
    obtain ⟨e, he, rfl⟩ := List.mem_map.mp ho
    obtain ⟨e', he', hk, hv⟩ := ha.mem_left e he
    exact ⟨_, List.mem_map_of_mem he', pair e he e' hk hv⟩
  · intro o' ho'
    obtain ⟨e', he', rfl⟩ := List.mem_map.mp ho'
    obtain ⟨e, he, hk, hv⟩ := ha.mem_right e' he'
    exact ⟨_, List.mem_map_of_mem he, pair e he e' hk hv⟩

theorem equalList_mp : ∀ {xs xs' : List GoVal}, MPL xs xs' → ∀ {ys ys' : List GoVal}, MPL ys ys' →
    (∀ x ∈ xs, ∀ x' y y', MP x x' → MP y y' → RRel true Eq (equal x y) (equal x' y')) →
    RRel true Eq (equalList xs ys) (equalList xs' ys')
  | _, _, .nil, _, _, _, _ => by simp; exact rrel_eq_refl _
  | _, _, .cons _ _, _, _, .nil, _ => by simp; exact rrel_eq_refl _
  | _, _, .cons hx hxs, _, _, .cons hy hys, ih => by
    rw [equalList_cons, equalList_cons]
    refine RRel.bind (ih _ List.mem_cons_self _ _ _ hx hy) (fun r r' e => ?_)
    subst e
    cases r
    · exact rrel_eq_refl _
    · exact equalList_mp hxs hys (fun x hx' => ih x (List.mem_cons_of_mem _ hx'))

theorem flatItems_mp : ∀ {kvs kvs' : List (GoVal × GoVal)}, MPV kvs kvs' → MPL (flatItems kvs) (flatItems kvs')
  | _, _, .nil => .nil
  | _, _, .cons k hv h => .cons (.refl k) (.cons hv (flatItems_mp h))

def SVRel : SeqView → SeqView → Prop
  | .vals xs, .vals ys => MPL xs ys
  | .items kvs, .items kvs' => MPV kvs kvs'
  | _, _ => False

theorem seqView_mp {b b' : GoVal} (h : MP b b') : RRel true SVRel (seqView b) (seqView b') := by
  cases h with
  | refl => exact RRel.of_eq (fun sv => by cases sv <;> simp [SVRel, MPL.refl, MPV.refl]) rfl
  | slice t hl => exact hl
  | array t hl => exact hl
  | mapSlice hm => exact hm
  | _ => simp [seqView, RRel]

theorem mapView_mp {b b' : GoVal} (h : MP b b') :
    RRel true (fun p p' : Ty × List (GoVal × GoVal) => p'.1 = p.1 ∧ EntRel MP p.2 p'.2) (mapView b) (mapView b') := by
  cases h with
  | refl => exact RRel.of_eq (fun p => ⟨rfl, _, All2.refl (fun _ => ⟨rfl, MP.refl _⟩) _, .inl rfl⟩) rfl
  | map kt vt hv hk hn hm hp ht => exact ⟨rfl, (MP.map kt vt hv hk hn hm hp ht).entRel.2.2⟩
  | mapVals kt vt hv hn hm => exact ⟨rfl, (MP.mapVals kt vt hv hn hm).entRel.2.2⟩
  | _ => simp [mapView, RRel]

/-- `safeEqual` does not look into a first operand that has parts -/
theorem safeEqual_mp_left {a a' : GoVal} (ha : MP a a') (b : GoVal) : safeEqual a b = safeEqual a' b := by
  cases ha with
  | refl => rfl
  | ptr _ => cases b <;> rfl
  | _ => rfl

theorem structTag_mp {a b : GoVal} (h : MP a b) : structTag a = structTag b := by cases h <;> rfl

/-- nor, beside a pointer or a struct, into the second -/
theorem safeEqual_mp_right {a b b' : GoVal} (ha : kindOfR (rkind a) = .other) (hb : MP b b') :
    safeEqual a b = safeEqual a b' := by
  have hg : goEq a b = goEq a b' := by cases a <;> cases ha <;> cases hb <;> rfl
  unfold safeEqual
  rw [isNil_mp hb, rkind_mp hb, structTag_mp hb, hg]

theorem toLiq_mp {a b : GoVal} (h : MP a b) : MP (toLiq a) (toLiq b) := by
  rw [toLiq_eq_toLiquid, toLiq_eq_toLiquid]; exact h.toLiquid

theorem equalTL_mp : ∀ (a : GoVal) {a' b b' : GoVal}, MP a a' → MP b b' →
    RRel true Eq (equalTL a b) (equalTL a' b') := by
  refine sizeInduction fun a ih a' b b' ha hb => ?_
  have elem : ∀ x : GoVal, sizeOf x < sizeOf a → ∀ x' y y', MP x x' → MP y y' → RRel true Eq (equal x y) (equal x' y') := by
    intro x hx x' y y' h1 h2
    rw [equal_eq, equal_eq]
    exact ih (toLiq x) (by have := sizeOf_toLiq_le x; omega) (toLiq_mp h1) (toLiq_mp h2)
  have same : RRel true Eq (Res.ok false : R Bool) (Res.ok false) := rrel_eq_refl _
  have hka := rkind_mp ha
  -- related operands are of one class; the equation of that class on both sides
  rcases head_cases a with rfl | ⟨x, hx⟩ | hs | hm | ho
  · cases ha
    rw [equalTL_nil_left, equalTL_nil_left, isNil_mp hb]
    exact rrel_eq_refl _
  · rw [equalTL_of_scalar hx, equalTL_of_scalar ((scalar_mp ha).symm.trans hx), scalar_mp hb]
    exact rrel_eq_refl _
  · rw [equalTL_of_array hs, equalTL_of_array (hka ▸ hs), ← rkind_mp hb]
    split
    rotate_left
    · exact same
    -- the Array/Slice loop
    refine RRel.bind (seqView_mp hb) (fun sv sv' hsv => ?_)
    obtain ⟨xs, hx⟩ | ⟨kvs, rfl⟩ | ⟨s, rfl⟩ := array_cases hs
    · obtain ⟨xs', hx', hl⟩ := ha.seq_inv hx
      rw [(seq_vals hx).2, (seq_vals hx').2]
      cases sv <;> cases sv' <;> simp only [SVRel] at hsv <;> simp only [seqVals] <;>
        rw [← hl.length_eq, hsv.length_eq]
      · split
        · exact same
        · exact equalList_mp hl hsv (fun x hx'' => elem x (sizeOf_lt_of_mem_seq hx hx''))
      · exact rrel_eq_refl _
    · obtain ⟨kvs', rfl, hm⟩ := ha.mapSlice_inv
      cases sv <;> cases sv' <;> simp only [SVRel] at hsv <;> simp only [seqK, seqItems] <;>
        rw [← hm.length_eq, hsv.length_eq]
      · exact rrel_eq_refl _
      · split
        · exact same
        · rw [equalItems_eq, equalItems_eq]
          exact equalList_mp (flatItems_mp hm) (flatItems_mp hsv) (fun x hx => elem x (sizeOf_lt_of_mem_flatItems hx))
    · cases ha
      exact rrel_eq_refl _
  · rw [equalTL_of_map hm, equalTL_of_map (hka ▸ hm), ← rkind_mp hb]
    split
    rotate_left
    · exact same
    -- `equalMaps`
    refine RRel.bind (mapView_mp hb) (fun p p' h => ?_)
    obtain ⟨kt2, bs⟩ := p
    obtain ⟨kt2', bs'⟩ := p'
    obtain ⟨e, hbe⟩ := h
    simp only at e hbe ⊢
    subst e
    cases a with
    | map kt vt kvs =>
      obtain ⟨kvs', rfl⟩ : ∃ kvs', a' = .map kt vt kvs' := by cases ha <;> exact ⟨_, rfl⟩
      have hae := ha.entRel.2.2
      simp only [mapK, mapEntries]
      rw [← hae.length_eq, ← hbe.length_eq]
      split
      · exact same
      · exact mapAll_mp hae hbe (fun e he => elem e.2 (sizeOf_lt_of_mem_map he).2)
    | _ => cases ha <;> exact rrel_eq_refl _
  · rw [equalTL_of_other ho, equalTL_of_other (hka ▸ ho), safeEqual_mp_left ha, safeEqual_mp_right (hka ▸ ho) hb]
    exact rrel_eq_refl _

theorem equal_mp {a a' b b' : GoVal} (ha : MP a a') (hb : MP b b') : RRel true Eq (equal a b) (equal a' b') := by
  rw [equal_eq, equal_eq]
  exact equalTL_mp _ (toLiq_mp ha) (toLiq_mp hb)

/-- `a == b` on related operands (`stdPrims.equal`) -/
theorem opEq_prep_mp {a a' b b' : GoVal} (ha : MP a a') (hb : MP b b') :
    RRel true Eq (opEq (prep a) (prep b)) (opEq (prep a') (prep b')) := by
  rw [opEq_prep, opEq_prep, equalAux_false, equalAux_false]
  exact equalTL_mp _ (prep_mp ha.unwrap) (toLiq_mp (prep_mp hb.unwrap))

theorem containsList_mp : ∀ {xs xs' : List GoVal}, MPL xs xs' → ∀ {e e' : GoVal}, MP e e' →
    RRel true Eq (containsList xs e) (containsList xs' e')
  | _, _, .nil, _, _, _ => rrel_eq_refl _
  | _, _, .cons hx h, _, _, he => by
    simp only [containsList, bind]
    refine RRel.bind (equal_mp hx he) (fun r r' e => ?_)
    subst e
    cases r
    · exact containsList_mp h he
    · exact rrel_eq_refl _

theorem mapSliceContains_mp : ∀ {kvs kvs' : List (GoVal × GoVal)}, MPV kvs kvs' → ∀ {e e' : GoVal}, MP e e' →
    mapSliceContains kvs e = mapSliceContains kvs' e'
  | _, _, .nil, _, _, _ => rfl
  | _, _, .cons k hv h, _, _, he => by
    simp only [mapSliceContains, bind]
    rw [safeEqual_mp_left he, mapSliceContains_mp h he]

theorem convertKey_mp (kt : Ty) {e e' : GoVal} (h : MP e e') : convertKey kt e = convertKey kt e' := by
  rcases h.cases_rigid with rfl | ⟨r1, r2⟩
  · rfl
  · rw [convertKey_container r1, convertKey_container r2]

theorem sprintNeedle_mp {e e' : GoVal} (h : MP e e') : sprintNeedle e = sprintNeedle e' := by
  cases h <;> rfl

theorem containsW_array_mp {v v' e e' : GoVal} (hv : MP v v') (he : MP e e') :
    RRel true Eq (containsW (.array v) e) (containsW (.array v') e') := by
  simp only [containsW, bind]
  refine RRel.bind (seqView_mp hv) (fun sv sv' h => ?_)
  cases sv <;> cases sv' <;> simp only [SVRel] at h
  · exact containsList_mp h he
  · exact rrel_eq_refl _

theorem containsW_map_mp {v v' e e' : GoVal} (hv : MP v v') (he : MP e e') :
    RRel true Eq (containsW (.map v) e) (containsW (.map v') e') := by
  simp only [containsW, bind]
  refine RRel.bind (mapView_mp hv) (fun p p' h => ?_)
  obtain ⟨kt, kvs⟩ := p
  obtain ⟨kt', kvs'⟩ := p'
  obtain ⟨rfl, hent⟩ := h
  simp only
  rw [isNil_mp he, convertKey_mp kt' he]
  split
  · exact rrel_eq_refl _
  · split
    · exact rrel_eq_refl _
    · exact rrel_eq_refl _
    · next k _ =>
      show RRel true Eq (Res.ok _) (Res.ok _)
      exact OptRel.isSome_eq (hent.find k)

theorem containsW_struct_mp (v v' : GoVal) {e e' : GoVal} (he : MP e e') :
    RRel true Eq (containsW (.struct v) e) (containsW (.struct v') e') := by
  rcases he.cases_rigid with rfl | ⟨r1, r2⟩
  · cases e' <;> exact rrel_eq_refl _
  · cases he <;> simp [rigidM] at r1 r2 <;> exact rrel_eq_refl _

theorem containsW_mp_right (w : Wrapper) {e e' : GoVal} (he : MP e e') : RRel true Eq (containsW w e) (containsW w e') := by
  cases w with
  | wrapper v => exact rrel_eq_refl _
  | array v => exact containsW_array_mp (.refl v) he
  | map v => exact containsW_map_mp (.refl v) he
  | string v =>
    rcases he.cases_rigid with rfl | ⟨r1, r2⟩
    · exact rrel_eq_refl _
    · cases v <;> simp only [containsW] <;> first
        | exact rrel_eq_refl _
        | (cases he <;> simp [rigidM] at r1 r2 <;> exact rrel_eq_refl _)
  | struct v => exact containsW_struct_mp v v he
  | mapSlice kvs =>
    simp only [containsW]
    rw [mapSliceContains_mp (MPV.refl kvs) he]
    exact rrel_eq_refl _
  | drop d => exact rrel_eq_refl _

theorem containsW_mp {u u' e e' : GoVal} (hu : MP u u') (he : MP e e') :
    RRel true Eq (containsW (wrapOf u) e) (containsW (wrapOf u') e') := by
  cases hu with
  | refl => exact containsW_mp_right _ he
  | slice t hl => exact containsW_array_mp (.slice t hl) he
  | array t hl => exact containsW_array_mp (.array t hl) he
  | map kt vt hv hk hn hm hp ht => exact containsW_map_mp (MP.map kt vt hv hk hn hm hp ht) he
  | mapVals kt vt hv hn hm => exact containsW_map_mp (MP.mapVals kt vt hv hn hm) he
  | mapSlice hm =>
    simp only [wrapOf, valueOf, containsW]
    rw [mapSliceContains_mp hm he]
    exact rrel_eq_refl _
  | keyedMap hn hf => exact RRel.unmL rfl _ _
  | struct hf => exact containsW_struct_mp _ _ he
  | ptr h' => exact containsW_struct_mp _ _ he
  | drop h' => exact RRel.unmL rfl _ _

/-- `a contains b` on related operands (`stdPrims.contains`) -/
theorem opContains_prep_mp {a a' b b' : GoVal} (ha : MP a a') (hb : MP b b') :
    RRel true Eq (opContains (prep a) (prep b)) (opContains (prep a') (prep b')) := by
  rw [opContains_prep, opContains_prep]
  exact containsW_mp (prep_mp ha.unwrap) (prep_mp hb.unwrap)
