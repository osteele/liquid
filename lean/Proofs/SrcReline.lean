import Proofs.SrcItems
/-!
# Moving a template piece to other lines

Tokens, syntax trees and compiled nodes carry the line numbers of the source. `relTok g` moves a token to
line `g line`: a token map (`tokMap_rel`; `TokMap`: Proofs/TokMap.lean), so the block parser and the compiler commute with it, errors
included (`compileNode_rel`, `compileTokens_rel_all`): a piece placed elsewhere compiles to the same tree with its lines moved.
In particular whether a piece compiles does not depend on where it stands (`compiles_any_line`).
-/

/-- `relTok g` on the members of a token list: trim markers (which carry no line) stay as they are -/
def relTokC (g : Nat → Nat) (t : Token) : Token := if t.isTrim then t else relTok g t

theorem relTokC_of_not_trim {g : Nat → Nat} {t : Token} (h : t.isTrim = false) : relTokC g t = relTok g t := by
  simp [relTokC, h]

theorem relTokC_ty (g : Nat → Nat) (t : Token) : (relTokC g t).ty = t.ty := by unfold relTokC; split <;> rfl
theorem relTokC_name (g : Nat → Nat) (t : Token) : (relTokC g t).name = t.name := by unfold relTokC; split <;> rfl
theorem relTokC_args (g : Nat → Nat) (t : Token) : (relTokC g t).args = t.args := by unfold relTokC; split <;> rfl
theorem relTokC_source (g : Nat → Nat) (t : Token) : (relTokC g t).source = t.source := by unfold relTokC; split <;> rfl

mutual
def AST.rel (g : Nat → Nat) : AST → AST
  | .text t => .text (relTok g t)
  | .obj t => .obj (relTok g t)
  | .tag t => .tag (relTok g t)
  | .trim l => .trim l
  | .raw sl => .raw sl
  | .block t body cls => .block (relTok g t) (relList g body) (relClauses g cls)
def relList (g : Nat → Nat) : List AST → List AST
  | [] => []
  | n :: ns => n.rel g :: relList g ns
def relClauses (g : Nat → Nat) : List (Token × List AST) → List (Token × List AST)
  | [] => []
  | (t, body) :: cs => (relTok g t, relList g body) :: relClauses g cs
end

theorem relList_append (g : Nat → Nat) : ∀ (a b : List AST), relList g (a ++ b) = relList g a ++ relList g b
  | [], _ => rfl
  | n :: ns, b => by simp [relList, relList_append g ns b]


theorem isTrim_false_of_ty {t : Token} (h : t.ty = .text ∨ t.ty = .obj ∨ t.ty = .tag) : t.isTrim = false := by
  rcases h with h | h | h <;> simp [Token.isTrim, h]

theorem tokMap_rel (g : Nat → Nat) : TokMap (relTokC g) (relTok g) g where
  ty := relTokC_ty g
  name := relTokC_name g
  args := relTokC_args g
  text _ h := relTokC_of_not_trim (isTrim_false_of_ty (.inl h))
  held _ h := relTokC_of_not_trim (isTrim_false_of_ty (.inr h))
  shape t := ⟨t.ty, t.source, rfl⟩

mutual
theorem AST.rel_eq_mapTok (g : Nat → Nat) : ∀ a : AST, a.rel g = a.mapTok (relTok g) g
  | .text _ | .obj _ | .tag _ | .trim _ | .raw _ => rfl
  | .block t b c => by rw [AST.rel, AST.mapTok, relList_eq_mapList g b, relClauses_eq_mapClauses g c]
theorem relList_eq_mapList (g : Nat → Nat) : ∀ l : List AST, relList g l = mapList (relTok g) g l
  | [] => rfl
  | a :: l => by rw [relList, mapList, AST.rel_eq_mapTok g a, relList_eq_mapList g l]
theorem relClauses_eq_mapClauses (g : Nat → Nat) : ∀ c : List (Token × List AST), relClauses g c = mapClauses (relTok g) g c
  | [] => rfl
  | (t, b) :: c => by rw [relClauses, mapClauses, relList_eq_mapList g b, relClauses_eq_mapClauses g c]
end

def relCl (g : Nat → Nat) (cs : List (Token × List Node)) : List (Token × List Node) :=
  cs.map (fun p => (relTok g p.1, relNodes g p.2))

/-- **the compiler commutes with moving lines** -/
theorem compileNode_rel (g : Nat → Nat) : ∀ a : AST, compileNode (a.rel g) = CRes.rel g (relNodes g) (compileNode a) := fun a => by
  rw [AST.rel_eq_mapTok]
  exact compileNode_map (tokMap_rel g) a

theorem compileClauses_rel (g : Nat → Nat) : ∀ cs : List (Token × List AST),
    compileClauses (relClauses g cs) = CRes.rel g (relCl g) (compileClauses cs) := fun cs => by
  rw [relClauses_eq_mapClauses]
  exact compileClauses_map (tokMap_rel g) cs

/-- **compiling a token list commutes with moving its lines**, errors included -/
theorem compileTokens_rel_all (g : Nat → Nat) (toks : List Token) :
    compileTokens (toks.map (relTokC g)) = CRes.rel g (relNodes g) (compileTokens toks) :=
  compileTokens_map (tokMap_rel g) toks (.of_forall (relTokC_source g) _ _ toks {})

theorem Item.tokens_rel (d : Delims) (g : Nat → Nat) (it : Item) (l : Nat) :
    (it.tokens d l).map (relTokC g) = it.tokens d (g l) := by
  cases it with
  | text s => rfl
  | obj args hl hr wl wr => cases hl <;> cases hr <;> rfl
  | tag name args hl hr wl wm wr => cases hl <;> cases hr <;> rfl

theorem tokensOf_shift (d : Delims) (δ : Nat) : ∀ (items : List Item) (l : Nat),
    tokensOf d items (l + δ) = (tokensOf d items l).map (relTokC (· + δ))
  | [], _ => rfl
  | it :: r, l => by
    simp only [tokensOf, List.map_append, Item.tokens_rel]
    rw [← tokensOf_shift d δ r (l + countNL (it.spell d))]
    congr 2
    omega

/-- **whether a piece compiles does not depend on the line where it stands**; the nodes are those of the
    piece placed at line 0, moved down -/
theorem compiles_any_line (d : Delims) (items : List Item) (l : Nat) {ns : List Node}
    (h : compileTokens (tokensOf d items 0) = .ok ns) :
    compileTokens (tokensOf d items l) = .ok (relNodes (· + l) ns) := by
  have := tokensOf_shift d l items 0
  rw [Nat.zero_add] at this
  rw [this, compileTokens_rel_all, h]
  rfl

theorem compiles_line_iff (d : Delims) (items : List Item) (l : Nat) : Compiles d items l ↔ Compiles d items 0 := by
  have hs := tokensOf_shift d l items 0
  rw [Nat.zero_add] at hs
  unfold Compiles
  rw [hs, compileTokens_rel_all]
  cases compileTokens (tokensOf d items 0) <;> exact Iff.rfl

theorem Compiles.any_line {d : Delims} {items : List Item} (h : Compiles d items 0) (l : Nat) : Compiles d items l :=
  (compiles_line_iff d items l).mpr h

theorem Compiles.line_zero {d : Delims} {items : List Item} {line : Nat} (h : Compiles d items line) : Compiles d items 0 :=
  (compiles_line_iff d items line).mp h
