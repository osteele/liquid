import Proofs.DecEq
import Proofs.SrcChain
import Proofs.SrcCondErr
import Proofs.SrcRelInclude
import Proofs.SrcRelRender
import Proofs.SrcCompileLines
import Proofs.C10
/-!
# C10, from source bytes — conditional blocks (`if`, `unless`, `case`) as whole templates

The theorems of `Proofs/C10.lean` are about compiled trees. Here they are lifted through the tokenizer
(`scan_spell`), the block parser and the compiler to statements about `run` on template SOURCE TEXT:
`spell d items` is the text of the template `items` written with the delimiter set `d` (any good one);
`tg name args w` is the tag `{% name args %}` written with white space `w`, `A`, `B` are arbitrary item
lists (texts, objects, tags — nested blocks included) that are self-contained templates (`Compiles`,
decidable: well nested on their own, every object an expression, every tag compiles).

Contents: the `if`/`unless` duality (equal results on one line, equal up to the error line on several; both side
conditions shown necessary); `chainK_first` / `chainK_clause` / `chainK_none`, the three cases of
`{% nm c0 %}A0 clauses… {% endnm %}` for `nm` = `if` or `unless`, and their instances (`{% if c %}A{% endif %}`, the chains);
a condition that fails; `case` with any number of clauses.
-/

/-- `{% if c %}A{% else %}B{% endif %}` -/
def ifElseSrc (c : Bytes) (A B : List Item) (w1 w2 w3 : Ws) : List Item :=
  tg nmIf c w1 :: (A ++ tg nmElse [] w2 :: (B ++ [tg (endPrefix ++ nmIf) [] w3]))

/-- `{% unless c %}B{% else %}A{% endunless %}` -/
def unlessElseSrc (c : Bytes) (B A : List Item) (w1 w2 w3 : Ws) : List Item :=
  tg nmUnless c w1 :: (B ++ tg nmElse [] w2 :: (A ++ [tg (endPrefix ++ nmUnless) [] w3]))

/-- `{% if c %}A{% endif %}` -/
def ifSrc (c : Bytes) (A : List Item) (w1 w3 : Ws) : List Item :=
  tg nmIf c w1 :: (A ++ [tg (endPrefix ++ nmIf) [] w3])

/-- `{% unless c %}A{% endunless %}` -/
def unlessSrc (c : Bytes) (A : List Item) (w1 w3 : Ws) : List Item :=
  tg nmUnless c w1 :: (A ++ [tg (endPrefix ++ nmUnless) [] w3])

theorem ifElse_eq_blockSrcK (nm c : Bytes) (A B : List Item) (w1 w2 w3 : Ws) :
    tg nm c w1 :: (A ++ tg nmElse [] w2 :: (B ++ [tg (endPrefix ++ nm) [] w3])) = blockSrcK nmElsif nm c w1 A [⟨none, w2, B⟩] w3 := by
  simp [blockSrcK, clauseItemsK, Clause.tagK]

theorem block_oneLine (d : Delims) (nm c : Bytes) (A B : List Item) (w1 w2 : Ws) (rest : List Item)
    (h : countNL (spell d (tg nm c w1 :: (A ++ tg nmElse [] w2 :: (B ++ rest)))) = 0) :
    countNL ((tg nm c w1).spell d) = 0 ∧ countNL (spell d A) = 0 ∧ countNL ((tg nmElse [] w2).spell d) = 0 := by
  simp only [spell_cons, spell_append, countNL_append] at h
  omega

theorem countNL_upto (d : Delims) (line : Nat) (t : Item) (B X : List Item) :
    line + countNL (spell d (t :: (B ++ X))) = line + countNL (t.spell d) + countNL (spell d B) + countNL (spell d X) := by
  simp only [spell_cons, spell_append, countNL_append, Nat.add_assoc]

theorem countNL_upto_tag (d : Delims) (line : Nat) (t : Item) (B X : List Item) (t' : Item) :
    line + countNL (spell d (t :: (B ++ (X ++ [t'])))) =
      line + countNL (t.spell d) + countNL (spell d B) + countNL (spell d X) + countNL (t'.spell d) := by
  rw [countNL_upto, spell_append, countNL_append, spell_single, ← Nat.add_assoc]

theorem nodesOf_shift {d : Delims} {items : List Item} (h : Compiles d items 0) (l : Nat) :
    nodesOf d items l = relNodes (· + l) (nodesOf d items 0) :=
  Res.ok.inj ((nodesOf_spec h l).symm.trans (compiles_any_line d items l (nodesOf_spec h 0)))

theorem lineRel_nodesOf (P : Prims) (O : OutPrims) (cfg : Cfg) (fs : FS) (fuel : Nat) {d : Delims} {items : List Item}
    (h : Compiles d items 0) (l l' : Nat) (hl : l = 0 ↔ l' = 0) :
    LineMRel StatusRel (renderBlockBody (mkCtx P O cfg fs fuel) (nodesOf d items l))
      (renderBlockBody (mkCtx P O cfg fs fuel) (nodesOf d items l')) := by
  rw [nodesOf_shift h l, nodesOf_shift h l']
  exact lineRel_renderBlockBody_engine P O cfg fs fuel (fun x => by omega) _

/-- **C10 (`unless` is the dual of `if`), from source bytes.** For every condition text `c` — whether or
    not it parses as an expression, whatever it evaluates to, erroring conditions included — and all
    self-contained bodies `A`, `B`, the one-line templates

    `{% if c %}A{% else %}B{% endif %}`   and   `{% unless c %}B{% else %}A{% endunless %}`

    give the same result of the whole pipeline (same output, or same located error), for every value
    layer, configuration (good delimiters), file system and environment.

    Side condition `h1`, `h2`: the two sources contain no newline. Errors carry the line of the token they
    come from, and `A` stands after `B` in the second source: when `B` contains a newline an error inside
    `A` is reported one line further down by the `unless` form (`dual_lines_differ` below). -/
theorem if_else_unless_dual_source (P : Prims) (O : OutPrims) (cfg : Cfg) (fs : FS) (fuel : Nat) (line : Nat) (env : Env)
    (c : Bytes) (A B : List Item) (w1 w2 w3 w4 w5 w6 : Ws)
    (hg : GoodDelims (Delims.ofList cfg.delims))
    (hc1 : Clean (Delims.ofList cfg.delims) (ifElseSrc c A B w1 w2 w3))
    (hc2 : Clean (Delims.ofList cfg.delims) (unlessElseSrc c B A w4 w5 w6))
    (h1 : countNL (spell (Delims.ofList cfg.delims) (ifElseSrc c A B w1 w2 w3)) = 0)
    (h2 : countNL (spell (Delims.ofList cfg.delims) (unlessElseSrc c B A w4 w5 w6)) = 0)
    (hA : Compiles (Delims.ofList cfg.delims) A line) (hB : Compiles (Delims.ofList cfg.delims) B line) :
    run P O cfg fs fuel (spell (Delims.ofList cfg.delims) (ifElseSrc c A B w1 w2 w3)) line env =
      run P O cfg fs fuel (spell (Delims.ofList cfg.delims) (unlessElseSrc c B A w4 w5 w6)) line env := by
  obtain ⟨e1, e2, e3⟩ := block_oneLine _ _ _ _ _ _ _ _ h1
  obtain ⟨e4, e5, e6⟩ := block_oneLine _ _ _ _ _ _ _ _ h2
  rw [ifElseSrc, ifElse_eq_blockSrcK] at hc1 ⊢
  rw [unlessElseSrc, ifElse_eq_blockSrcK] at hc2 ⊢
  rw [run_chainK_shape P O cfg fs fuel line env nmIf (.inl rfl) c w1 A [⟨none, w2, B⟩] w3 hg hc1 (by rw [e1]; exact hA)
      (List.forall_mem_singleton.mpr ⟨rfl, hB.line_zero⟩) (fun h => by cases h),
    run_chainK_shape P O cfg fs fuel line env nmUnless (.inr rfl) c w4 B [⟨none, w5, A⟩] w6 hg hc2 (by rw [e4]; exact hB)
      (List.forall_mem_singleton.mpr ⟨rfl, hA.line_zero⟩) (fun _ => List.forall_mem_singleton.mpr rfl)]
  simp only [ifBrs, Clause.tagK, e1, e2, e3, e4, e5, e6, Nat.add_zero]
  cases liftParse line true (parseExprSource c) with
  | ok ex => exact runRoot_single_congr P O cfg fs fuel _ _ env (unless_dual _ line ex _ _ _)
  | _ => rfl

/-! ## The duality on any number of lines

Without the one-line condition an error may be reported at different lines by the two forms, and nothing else differs. Compiling a
source text at another start line moves its lines and changes nothing else, errors included (`compileSource_shift`,
Proofs/SrcShiftSource.lean: the tokenizer, the stack machine of the block parser and the compiler commute with the move), hence the
engine's include handler is line-independent at every depth (`incRel_mkCtx`, by induction on the include fuel) and
`lineRelI_renderNode` (Proofs/SrcRelInclude.lean) relates the renderings of every compiled tree placed at two lines, so bodies with
`include` tags are covered. -/

/-- one branch more, with the same test and bodies that render alike up to the line of an error -/
theorem lineRel_branch {c : RCtx} (t : CondT) {A A' : List Node} {bs bs' : List (CondT × List Node)}
    (hA : LineMRel StatusRel (renderBlockBody c A) (renderBlockBody c A'))
    (hbs : LineMRel StatusRel (renderBranches c bs) (renderBranches c bs')) :
    LineMRel StatusRel (renderBranches c ((t, A) :: bs)) (renderBranches c ((t, A') :: bs')) := by
  simp only [renderBranches]
  refine relM_bind (relM_refl (R := fun a b : Bool => a = b) (fun _ => rfl) _) (fun b b' hb => ?_)
  subst hb
  split
  · exact hA
  · exact hbs

/-- **C10 (`unless` is the dual of `if`), from source bytes, on any number of lines, any bodies.** For every condition text `c` and
    ALL self-contained bodies `A`, `B` — `include` tags at any depth, any file system, any include fuel — the sources
    `{% if c %}A{% else %}B{% endif %}` and `{% unless c %}B{% else %}A{% endunless %}` give results that agree up to the line of the
    error (`RunResult.sameUpToLine`): the same output; or errors with the same cause, message and path flag, the lines zero together;
    or the same panic — from any start line ≥ 1 (needed: `dual_up_to_line_needs_start_line`). -/
theorem if_else_unless_dual_up_to_line_incl_source (P : Prims) (O : OutPrims) (cfg : Cfg) (fs : FS) (fuel : Nat) (line : Nat) (env : Env)
    (hline : 1 ≤ line) (c : Bytes) (A B : List Item) (w1 w2 w3 w4 w5 w6 : Ws)
    (hg : GoodDelims (Delims.ofList cfg.delims))
    (hc1 : Clean (Delims.ofList cfg.delims) (ifElseSrc c A B w1 w2 w3))
    (hc2 : Clean (Delims.ofList cfg.delims) (unlessElseSrc c B A w4 w5 w6))
    (hA : Compiles (Delims.ofList cfg.delims) A 0) (hB : Compiles (Delims.ofList cfg.delims) B 0) :
    (run P O cfg fs fuel (spell (Delims.ofList cfg.delims) (ifElseSrc c A B w1 w2 w3)) line env).sameUpToLine
      (run P O cfg fs fuel (spell (Delims.ofList cfg.delims) (unlessElseSrc c B A w4 w5 w6)) line env) := by
  rw [ifElseSrc, ifElse_eq_blockSrcK] at hc1 ⊢
  rw [unlessElseSrc, ifElse_eq_blockSrcK] at hc2 ⊢
  rw [run_chainK_shape P O cfg fs fuel line env nmIf (.inl rfl) c w1 A [⟨none, w2, B⟩] w3 hg hc1 (hA.any_line _)
      (List.forall_mem_singleton.mpr ⟨rfl, hB⟩) (fun h => by cases h),
    run_chainK_shape P O cfg fs fuel line env nmUnless (.inr rfl) c w4 B [⟨none, w5, A⟩] w6 hg hc2 (hB.any_line _)
      (List.forall_mem_singleton.mpr ⟨rfl, hA⟩) (fun _ => List.forall_mem_singleton.mpr rfl)]
  simp only [ifBrs]
  cases liftParse line true (parseExprSource c) with
  | ok ex =>
    show (runRoot P O cfg fs fuel [.ifB line [(.expr line ex, _), (.always, _)]] env).sameUpToLine
      (runRoot P O cfg fs fuel [.ifB line [(.notExpr line ex, _), (.always, _)]] env)
    rw [runRoot_single_congr P O cfg fs fuel _ _ env (unless_dual _ line ex _ _ _)]
    refine runRoot_rel P O cfg fs fuel env (lineRel_renderList_cons _ ?_ (relM_refl StatusRel.refl _))
    rw [renderNode, renderNode]
    exact relM_wrapAt _ ⟨rfl, Iff.rfl⟩ (lineRel_branch _ (lineRel_nodesOf P O cfg fs fuel hB _ _ (by omega))
      (lineRel_branch _ (lineRel_nodesOf P O cfg fs fuel hA _ _ (by omega)) (relM_refl StatusRel.refl _)))
  | _ => exact RunResult.sameUpToLine_refl _

/-- **C10 (`unless` is the dual of `if`), from source bytes, on any number of lines.** The case of bodies `A`, `B` that contain no
    `include` tag (`if_else_unless_dual_up_to_line_incl_source` needs no such condition): wherever their newlines are,
    `{% if c %}A{% else %}B{% endif %}` and `{% unless c %}B{% else %}A{% endunless %}` give results that agree up to the line of the
    error (`RunResult.sameUpToLine`): the same output; or errors with the same cause, message and path flag; or the same panic — for
    every value layer, configuration with good delimiters, file system and environment, from any start line ≥ 1 (Go's lines start
    at 1; from start line 0 it fails: `dual_up_to_line_needs_start_line`). -/
theorem if_else_unless_dual_up_to_line_source (P : Prims) (O : OutPrims) (cfg : Cfg) (fs : FS) (fuel : Nat) (line : Nat) (env : Env)
    (hline : 1 ≤ line) (c : Bytes) (A B : List Item) (w1 w2 w3 w4 w5 w6 : Ws)
    (hg : GoodDelims (Delims.ofList cfg.delims))
    (hc1 : Clean (Delims.ofList cfg.delims) (ifElseSrc c A B w1 w2 w3))
    (hc2 : Clean (Delims.ofList cfg.delims) (unlessElseSrc c B A w4 w5 w6))
    (hA : Compiles (Delims.ofList cfg.delims) A 0) (hB : Compiles (Delims.ofList cfg.delims) B 0)
    (hiA : NoIncludeItem A) (hiB : NoIncludeItem B) :
    (run P O cfg fs fuel (spell (Delims.ofList cfg.delims) (ifElseSrc c A B w1 w2 w3)) line env).sameUpToLine
      (run P O cfg fs fuel (spell (Delims.ofList cfg.delims) (unlessElseSrc c B A w4 w5 w6)) line env) :=
  if_else_unless_dual_up_to_line_incl_source P O cfg fs fuel line env hline c A B w1 w2 w3 w4 w5 w6 hg hc1 hc2 hA hB

section
-- `sameUpToLine` is a `match` on the two results: kept folded here, or the elaborator, looking at the goal for a binder,
-- evaluates `run` on the concrete bytes as far as it goes
attribute [local irreducible] RunResult.sameUpToLine

/-- Non-vacuity of `if_else_unless_dual_up_to_line_source`: the two-line pair of `dual_lines_differ`, in any environment
    and value layer — there (strict variables, `y` unbound) the two results are errors at lines 1 and 2 with the same cause -/
example (P : Prims) (O : OutPrims) (fs : FS) (env : Env) :
    (run P O strictCfg fs 1
      (spell Delims.default (ifElseSrc [116, 114, 117, 101] [ob [121]] [.text [10]] Ws.std Ws.std Ws.std)) 1 env).sameUpToLine
    (run P O strictCfg fs 1
      (spell Delims.default (unlessElseSrc [116, 114, 117, 101] [.text [10]] [ob [121]] Ws.std Ws.std Ws.std)) 1 env) :=
  if_else_unless_dual_up_to_line_source P O strictCfg fs 1 1 env (by decide +kernel) [116, 114, 117, 101] [ob [121]] [.text [10]]
    Ws.std Ws.std Ws.std Ws.std Ws.std Ws.std (by decide +kernel) (by decide +kernel) (by decide +kernel) (by decide +kernel) (by decide +kernel) (by decide +kernel) (by decide +kernel)

/-- Non-vacuity: `{% if x %}{% include "f" %}{% else %}⏎{% endif %}` against `{% unless x %}⏎{% else %}{% include "f" %}{% endunless %}` —
    the include tag stands at line 1 in the first source and at line 2 in the second — whatever `x` is bound to, whatever the file
    `f` contains (or if it does not exist), for every value layer and include depth -/
example (P : Prims) (O : OutPrims) (fs : FS) (fuel : Nat) (env : Env) :
    (run P O {} fs fuel
      (spell Delims.default (ifElseSrc [120] [tg nmInclude [34, 102, 34] Ws.std] [.text [10]] Ws.std Ws.std Ws.std)) 1 env).sameUpToLine
    (run P O {} fs fuel
      (spell Delims.default (unlessElseSrc [120] [.text [10]] [tg nmInclude [34, 102, 34] Ws.std] Ws.std Ws.std Ws.std)) 1 env) :=
  if_else_unless_dual_up_to_line_incl_source P O {} fs fuel 1 env (by decide +kernel) [120] [tg nmInclude [34, 102, 34] Ws.std] [.text [10]]
    Ws.std Ws.std Ws.std Ws.std Ws.std Ws.std (by decide +kernel) (by decide +kernel) (by decide +kernel) (by decide +kernel) (by decide +kernel)

end

/-! ## The one-line side condition of `if_else_unless_dual_source` is needed

`{% if true %}{{ y }}{% else %}⏎{% endif %}` against `{% unless true %}⏎{% else %}{{ y }}{% endunless %}` with strict
variables and `y` unbound: both fail with the same cause, the first at line 1, the second at line 2
(the object stands after the newline of the other body). Every value layer. -/

/-- **C10 (counterexample to the duality without the one-line condition).** The two forms fail at different lines. -/
theorem dual_lines_differ (P : Prims) (O : OutPrims) (fs : FS) :
    run P O strictCfg fs 1
      (spell Delims.default (ifElseSrc [116, 114, 117, 101] [ob [121]] [.text [10]] Ws.std Ws.std Ws.std)) 1 [] =
      .err ⟨1, true, .other "undefinedVariable", .byCause⟩ ∧
    run P O strictCfg fs 1
      (spell Delims.default (unlessElseSrc [116, 114, 117, 101] [.text [10]] [ob [121]] Ws.std Ws.std Ws.std)) 1 [] =
      .err ⟨2, true, .other "undefinedVariable", .byCause⟩ :=
  ⟨run_of_runBot P O _ fs 1 _ _ _ (by decide +kernel) rfl, run_of_runBot P O _ fs 1 _ _ _ (by decide +kernel) rfl⟩

/-- the pair meets every hypothesis of `if_else_unless_dual_source` except the one-line condition `h1` -/
example : Clean Delims.default (ifElseSrc [116, 114, 117, 101] [ob [121]] [.text [10]] Ws.std Ws.std Ws.std) ∧
    Clean Delims.default (unlessElseSrc [116, 114, 117, 101] [.text [10]] [ob [121]] Ws.std Ws.std Ws.std) ∧
    Compiles Delims.default [ob [121]] 1 ∧ Compiles Delims.default [.text [10]] 1 ∧
    countNL (spell Delims.default (ifElseSrc [116, 114, 117, 101] [ob [121]] [.text [10]] Ws.std Ws.std Ws.std)) = 1 := by decide +kernel

/-! ## The start line ≥ 1 of `if_else_unless_dual_up_to_line_source` is needed

`RunResult.sameUpToLine` lets two errors differ in their line only when the two lines are zero together (line 0 is special in
`parser.WrapError`: an error that carries neither path nor line is located anew by the enclosing node). From start line 0 —
`ParseTemplateLocation` accepts it — the pair of `dual_lines_differ` fails at line 0 in the `if` form and at line 1 in the `unless`
form (the real engine: `Liquid error: undefined variable in {{ y }}` with `LineNumber() = 0` against `Liquid error (line 1): …`),
so the two results are not related. The cause, the message and the path flag do agree there; that they do for every pair
started at line 0 is not proved. -/

/-- **C10 (counterexample to the duality up to the line from start line 0).** -/
theorem dual_up_to_line_needs_start_line (P : Prims) (O : OutPrims) (fs : FS) :
    run P O strictCfg fs 1
      (spell Delims.default (ifElseSrc [116, 114, 117, 101] [ob [121]] [.text [10]] Ws.std Ws.std Ws.std)) 0 [] =
      .err ⟨0, true, .other "undefinedVariable", .byCause⟩ ∧
    run P O strictCfg fs 1
      (spell Delims.default (unlessElseSrc [116, 114, 117, 101] [.text [10]] [ob [121]] Ws.std Ws.std Ws.std)) 0 [] =
      .err ⟨1, true, .other "undefinedVariable", .byCause⟩ ∧
    ¬ (run P O strictCfg fs 1
      (spell Delims.default (ifElseSrc [116, 114, 117, 101] [ob [121]] [.text [10]] Ws.std Ws.std Ws.std)) 0 []).sameUpToLine
      (run P O strictCfg fs 1
      (spell Delims.default (unlessElseSrc [116, 114, 117, 101] [.text [10]] [ob [121]] Ws.std Ws.std Ws.std)) 0 []) := by
  rw [run_of_runBot P O _ fs 1 _ 0 _ (r := .err ⟨0, true, .other "undefinedVariable", .byCause⟩) (by decide +kernel) rfl,
    run_of_runBot P O _ fs 1 _ 0 _ (r := .err ⟨1, true, .other "undefinedVariable", .byCause⟩) (by decide +kernel) rfl]
  refine ⟨rfl, rfl, fun h => ?_⟩
  -- the two lines are not zero together
  have := h.2.2.2
  simp at this

/-- **C10 (a condition that is not an expression), from source bytes.** If the condition text of
    `{% if c %}A{% else %}B{% endif %}` or `{% unless c %}A{% else %}B{% endunless %}` does not parse as an
    expression (and the bodies are self-contained templates where they stand), the whole pipeline fails
    with a syntax error located at the line of the `if`/`unless` tag — the start line of the source, the
    tag being its first item — for every value layer, file system and environment: nothing is rendered. -/
theorem if_else_bad_condition_source (P : Prims) (O : OutPrims) (cfg : Cfg) (fs : FS) (fuel : Nat) (line : Nat) (env : Env)
    (nm : Bytes) (hn : nm = nmIf ∨ nm = nmUnless) (c : Bytes) (A B : List Item) (w1 w2 w3 : Ws)
    (hg : GoodDelims (Delims.ofList cfg.delims))
    (hc : Clean (Delims.ofList cfg.delims) (tg nm c w1 :: (A ++ tg nmElse [] w2 :: (B ++ [tg (endPrefix ++ nm) [] w3]))))
    (hA : Compiles (Delims.ofList cfg.delims) A (line + countNL ((tg nm c w1).spell (Delims.ofList cfg.delims))))
    (hB : Compiles (Delims.ofList cfg.delims) B
      (line + countNL ((tg nm c w1).spell (Delims.ofList cfg.delims)) + countNL (spell (Delims.ofList cfg.delims) A)
        + countNL ((tg nmElse [] w2).spell (Delims.ofList cfg.delims))))
    (x : ParseErr) (hbad : parseExprSource c = .err x) :
    run P O cfg fs fuel (spell (Delims.ofList cfg.delims) (tg nm c w1 :: (A ++ tg nmElse [] w2 :: (B ++ [tg (endPrefix ++ nm) [] w3])))) line env =
      .err ⟨line, true, .syntax, .byCause⟩ := by
  rw [ifElse_eq_blockSrcK] at hc ⊢
  rw [run_chainK_shape P O cfg fs fuel line env nm hn c w1 A [⟨none, w2, B⟩] w3 hg hc hA
    (List.forall_mem_singleton.mpr ⟨rfl, hB.line_zero⟩) (fun _ => List.forall_mem_singleton.mpr rfl), hbad]
  rfl

theorem if_else_unless_bad_condition_source (P : Prims) (O : OutPrims) (cfg : Cfg) (fs : FS) (fuel : Nat) (line : Nat) (env : Env)
    (c : Bytes) (A B : List Item) (w1 w2 w3 w4 w5 w6 : Ws)
    (hg : GoodDelims (Delims.ofList cfg.delims))
    (hc1 : Clean (Delims.ofList cfg.delims) (ifElseSrc c A B w1 w2 w3))
    (hc2 : Clean (Delims.ofList cfg.delims) (unlessElseSrc c B A w4 w5 w6))
    (h1 : countNL (spell (Delims.ofList cfg.delims) (ifElseSrc c A B w1 w2 w3)) = 0)
    (h2 : countNL (spell (Delims.ofList cfg.delims) (unlessElseSrc c B A w4 w5 w6)) = 0)
    (hA : Compiles (Delims.ofList cfg.delims) A line) (hB : Compiles (Delims.ofList cfg.delims) B line)
    (x : ParseErr) (hbad : parseExprSource c = .err x) :
    run P O cfg fs fuel (spell (Delims.ofList cfg.delims) (ifElseSrc c A B w1 w2 w3)) line env = .err ⟨line, true, .syntax, .byCause⟩ ∧
    run P O cfg fs fuel (spell (Delims.ofList cfg.delims) (unlessElseSrc c B A w4 w5 w6)) line env = .err ⟨line, true, .syntax, .byCause⟩ := by
  obtain ⟨e1, e2, e3⟩ := block_oneLine _ _ _ _ _ _ _ _ h1
  obtain ⟨e4, e5, e6⟩ := block_oneLine _ _ _ _ _ _ _ _ h2
  exact ⟨if_else_bad_condition_source P O cfg fs fuel line env nmIf (.inl rfl) c A B w1 w2 w3 hg hc1
      (by rw [e1]; exact hA) (by rw [e1, e2, e3]; exact hB) x hbad,
    if_else_bad_condition_source P O cfg fs fuel line env nmUnless (.inr rfl) c B A w4 w5 w6 hg hc2
      (by rw [e4]; exact hB) (by rw [e4, e5, e6]; exact hA) x hbad⟩

/-! ## A block `{% nm c0 %}A0 clauses… {% endnm %}`, `nm` being `if` or `unless`

The block compiles to one `if` node (`CompilesTo.chain`), whose first test is truthy when the truth value of the condition is
`nm == nmIf`; `run_pick_body` / `run_pick_nothing` read the node's choice back on the source. The theorems about `if` and `unless`
sources below are instances of `chainK_first`, `chainK_clause` and `chainK_none`. -/

theorem condRes_head (P : Prims) (env : Env) (nm : Bytes) (l : Nat) (e : Expr) (v : GoVal) (hv : evaluate P env e = .ok v) :
    condRes P env (if nm == nmIf then .expr l e else .notExpr l e) = .ok (v.test == (nm == nmIf)) := by
  split <;> simp [condRes, *]

theorem chainBrs_falsy (P : Prims) (env : Env) (nm : Bytes) (l : Nat) (e0 : Expr) (v0 : GoVal) (hv : evaluate P env e0 = .ok v0)
    (hf : v0.test = !(nm == nmIf)) (d : Delims) (body : List Node) (pre : List Clause) (l' : Nat) (hpre : ∀ c ∈ pre, c.Falsy P env) :
    ∀ b ∈ (if nm == nmIf then CondT.expr l e0 else .notExpr l e0, body) :: ifBrs d pre l', condRes P env b.1 = .ok false := by
  intro b hb
  rcases List.mem_cons.mp hb with rfl | hb
  · rw [condRes_head P env nm l e0 v0 hv, hf, Bool.not_beq_self]
  · exact ifBrs_falsy d P env pre l' hpre b hb

/-- the condition of the opening tag selects its body `A0`: the block succeeds exactly when `A0` does where it stands, with that
    output -/
theorem chainK_first (P : Prims) (O : OutPrims) (cfg : Cfg) (fs : FS) (fuel : Nat) (line : Nat) (env : Env)
    (nm : Bytes) (hn : nm = nmIf ∨ nm = nmUnless) (c0 : Bytes) (w0 : Ws) (A0 : List Item) (rest : List Clause) (wE : Ws)
    (e0 : Expr) (v0 : GoVal)
    (hg : GoodDelims (Delims.ofList cfg.delims)) (hc : Clean (Delims.ofList cfg.delims) (blockSrcK nmElsif nm c0 w0 A0 rest wE))
    (hcA : Clean (Delims.ofList cfg.delims) A0) (hp : parseExprSource c0 = .ok e0)
    (hA : Compiles (Delims.ofList cfg.delims) A0 (line + countNL ((tg nm c0 w0).spell (Delims.ofList cfg.delims))))
    (hrest : ∀ c ∈ rest, c.Good (Delims.ofList cfg.delims)) (hadm : nm = nmUnless → ∀ c ∈ rest, c.cond = none)
    (hv : evaluate P env e0 = .ok v0) (ht : v0.test = (nm == nmIf)) (out : Bytes) :
    run P O cfg fs fuel (spell (Delims.ofList cfg.delims) (blockSrcK nmElsif nm c0 w0 A0 rest wE)) line env = .ok out ↔
    run P O cfg fs fuel (spell (Delims.ofList cfg.delims) A0)
      (line + countNL ((tg nm c0 w0).spell (Delims.ofList cfg.delims))) env = .ok out :=
  run_pick_body P O cfg fs fuel env hg hc (.chain hn hp hA hrest hadm) hcA hA
    (ifB_selects (mkCtx P O cfg fs fuel) line ⟨env, {}⟩ [] _ _ _ nofun
      ((condRes_head P env nm line e0 v0 hv).trans (by rw [ht, beq_self_eq_true]))) out

/-- the test of the opening tag and the conditions of the `elsif` clauses `pre` are falsy, the test of the next clause `sel` is
    truthy: the block succeeds exactly when the body of `sel` does where it stands (`lS`), with that output -/
theorem chainK_clause (P : Prims) (O : OutPrims) (cfg : Cfg) (fs : FS) (fuel : Nat) (line : Nat) (env : Env)
    (nm : Bytes) (hn : nm = nmIf ∨ nm = nmUnless) (c0 : Bytes) (w0 : Ws) (A0 : List Item)
    (pre : List Clause) (sel : Clause) (post : List Clause) (wE : Ws) (e0 : Expr) (v0 : GoVal)
    (hg : GoodDelims (Delims.ofList cfg.delims))
    (hc : Clean (Delims.ofList cfg.delims) (blockSrcK nmElsif nm c0 w0 A0 (pre ++ sel :: post) wE))
    (hcS : Clean (Delims.ofList cfg.delims) sel.body) (hp : parseExprSource c0 = .ok e0)
    (hA : Compiles (Delims.ofList cfg.delims) A0 (line + countNL ((tg nm c0 w0).spell (Delims.ofList cfg.delims))))
    (hrest : ∀ c ∈ pre ++ sel :: post, c.Good (Delims.ofList cfg.delims))
    (hadm : nm = nmUnless → ∀ c ∈ pre ++ sel :: post, c.cond = none)
    (hv : evaluate P env e0 = .ok v0) (hf : v0.test = !(nm == nmIf)) (hpre : ∀ c ∈ pre, c.Falsy P env)
    (hsel : ∀ l, condRes P env (sel.testAt l) = .ok true) (lS : Nat)
    (hl : lS = line + countNL (spell (Delims.ofList cfg.delims)
      (tg nm c0 w0 :: (A0 ++ (clauseItemsK nmElsif pre ++ [sel.tagK nmElsif]))))) (out : Bytes) :
    run P O cfg fs fuel (spell (Delims.ofList cfg.delims) (blockSrcK nmElsif nm c0 w0 A0 (pre ++ sel :: post) wE)) line env = .ok out ↔
    run P O cfg fs fuel (spell (Delims.ofList cfg.delims) sel.body) lS env = .ok out := by
  rw [hl, countNL_upto_tag]
  refine run_pick_body (loc := ⟨line, true⟩) P O cfg fs fuel env hg hc (.chain hn hp hA hrest hadm) hcS
    ((hrest sel (by simp)).2.any_line _) ?_ out
  rw [ifBrs_append]
  exact ifB_selects _ line _ (_ :: ifBrs _ pre _) _ _ _ (chainBrs_falsy P env nm line e0 v0 hv hf _ _ pre _ hpre) (hsel _)

/-- the test of the opening tag is falsy and every clause is an `elsif` whose condition is falsy: nothing is rendered -/
theorem chainK_none (P : Prims) (O : OutPrims) (cfg : Cfg) (fs : FS) (fuel : Nat) (line : Nat) (env : Env)
    (nm : Bytes) (hn : nm = nmIf ∨ nm = nmUnless) (c0 : Bytes) (w0 : Ws) (A0 : List Item) (rest : List Clause) (wE : Ws)
    (e0 : Expr) (v0 : GoVal)
    (hg : GoodDelims (Delims.ofList cfg.delims)) (hc : Clean (Delims.ofList cfg.delims) (blockSrcK nmElsif nm c0 w0 A0 rest wE))
    (hp : parseExprSource c0 = .ok e0)
    (hA : Compiles (Delims.ofList cfg.delims) A0 (line + countNL ((tg nm c0 w0).spell (Delims.ofList cfg.delims))))
    (hrest : ∀ c ∈ rest, c.Good (Delims.ofList cfg.delims)) (hadm : nm = nmUnless → ∀ c ∈ rest, c.cond = none)
    (hv : evaluate P env e0 = .ok v0) (hf : v0.test = !(nm == nmIf)) (hall : ∀ c ∈ rest, c.Falsy P env) :
    run P O cfg fs fuel (spell (Delims.ofList cfg.delims) (blockSrcK nmElsif nm c0 w0 A0 rest wE)) line env = .ok [] :=
  run_pick_nothing P O cfg fs fuel env hg hc (.chain hn hp hA hrest hadm)
    (ifB_none _ line _ _ (chainBrs_falsy P env nm line e0 v0 hv hf _ _ rest _ hall))

/-- **C10 (`if` renders its body exactly when the condition is truthy), from source bytes.** Let the
    condition text `c` parse to the expression `ex` and evaluate, in the environment of the render, to `v`.
    * If `v` is falsy (nil or false) `{% if c %}A{% endif %}` renders to nothing, successfully.
    * If `v` is truthy (anything else: 0, "", empty collections included — `test_truthy_iff`), the template
      succeeds exactly when `A`, as a template of its own starting where it stands, succeeds, and then with
      exactly the output of `A`.
    For `unless` exchange truthy and falsy (`unless_source`). Every value layer, configuration with good
    delimiters, file system, environment; `A` any self-contained item list (`Compiles`). -/
theorem if_source (P : Prims) (O : OutPrims) (cfg : Cfg) (fs : FS) (fuel : Nat) (line : Nat) (env : Env)
    (c : Bytes) (A : List Item) (w1 w3 : Ws)
    (hg : GoodDelims (Delims.ofList cfg.delims))
    (hc : Clean (Delims.ofList cfg.delims) (ifSrc c A w1 w3)) (hcA : Clean (Delims.ofList cfg.delims) A)
    (hA : Compiles (Delims.ofList cfg.delims) A (line + countNL ((tg nmIf c w1).spell (Delims.ofList cfg.delims))))
    (ex : Expr) (v : GoVal) (hp : parseExprSource c = .ok ex) (hv : evaluate P env ex = .ok v) :
    (v.test = false → run P O cfg fs fuel (spell (Delims.ofList cfg.delims) (ifSrc c A w1 w3)) line env = .ok []) ∧
    (v.test = true → ∀ out,
      run P O cfg fs fuel (spell (Delims.ofList cfg.delims) (ifSrc c A w1 w3)) line env = .ok out ↔
      run P O cfg fs fuel (spell (Delims.ofList cfg.delims) A)
        (line + countNL ((tg nmIf c w1).spell (Delims.ofList cfg.delims))) env = .ok out) := by
  exact ⟨fun hf => chainK_none P O cfg fs fuel line env nmIf (.inl rfl) c w1 A [] w3 ex v hg hc hp hA (fun _ h => by cases h)
      (fun h => by cases h) hv hf (fun _ h => by cases h),
    fun ht out => chainK_first P O cfg fs fuel line env nmIf (.inl rfl) c w1 A [] w3 ex v hg hc hcA hp hA (fun _ h => by cases h)
      (fun h => by cases h) hv ht out⟩

/-- **C10 (`unless` renders its body exactly when the condition is falsy), from source bytes.** -/
theorem unless_source (P : Prims) (O : OutPrims) (cfg : Cfg) (fs : FS) (fuel : Nat) (line : Nat) (env : Env)
    (c : Bytes) (A : List Item) (w1 w3 : Ws)
    (hg : GoodDelims (Delims.ofList cfg.delims))
    (hc : Clean (Delims.ofList cfg.delims) (unlessSrc c A w1 w3)) (hcA : Clean (Delims.ofList cfg.delims) A)
    (hA : Compiles (Delims.ofList cfg.delims) A (line + countNL ((tg nmUnless c w1).spell (Delims.ofList cfg.delims))))
    (ex : Expr) (v : GoVal) (hp : parseExprSource c = .ok ex) (hv : evaluate P env ex = .ok v) :
    (v.test = true → run P O cfg fs fuel (spell (Delims.ofList cfg.delims) (unlessSrc c A w1 w3)) line env = .ok []) ∧
    (v.test = false → ∀ out,
      run P O cfg fs fuel (spell (Delims.ofList cfg.delims) (unlessSrc c A w1 w3)) line env = .ok out ↔
      run P O cfg fs fuel (spell (Delims.ofList cfg.delims) A)
        (line + countNL ((tg nmUnless c w1).spell (Delims.ofList cfg.delims))) env = .ok out) := by
  exact ⟨fun ht => chainK_none P O cfg fs fuel line env nmUnless (.inr rfl) c w1 A [] w3 ex v hg hc hp hA (fun _ h => by cases h)
      (fun _ _ h => by cases h) hv ht (fun _ h => by cases h),
    fun hf out => chainK_first P O cfg fs fuel line env nmUnless (.inr rfl) c w1 A [] w3 ex v hg hc hcA hp hA (fun _ h => by cases h)
      (fun _ _ h => by cases h) hv hf out⟩

/-! ## The whole chain: `{% if c0 %}A0{% elsif c1 %}A1 … {% else %}E{% endif %}`

`chainSrc c0 w0 A0 rest wE` (Proofs/SrcChain.lean) is the source of an `if` block with any number of
`elsif`/`else` clauses (`Clause`: the condition text, or `none` for `else`; the white space of the tag; the
body). The three theorems below are `if_denotation` (Proofs/C10.lean) read on source text: the block renders
exactly the body of the first clause whose condition is truthy. `Clause.Good` (decidable): the condition
is an expression and the body a self-contained template; `Clause.Falsy`: the clause is an `elsif` whose
condition evaluates, in the environment of the render, to nil or false. -/

/-- **C10 (the first branch), from source bytes.** If the condition of the `if` tag evaluates truthy, the
    block — whatever clauses follow, as long as they compile — succeeds exactly when its first body `A0`
    does (as a template of its own, where it stands), with exactly that output: later conditions are not
    evaluated, later bodies not rendered. -/
theorem if_chain_first_source (P : Prims) (O : OutPrims) (cfg : Cfg) (fs : FS) (fuel : Nat) (line : Nat) (env : Env)
    (c0 : Bytes) (w0 : Ws) (A0 : List Item) (rest : List Clause) (wE : Ws) (e0 : Expr) (v0 : GoVal)
    (hg : GoodDelims (Delims.ofList cfg.delims)) (hc : Clean (Delims.ofList cfg.delims) (chainSrc c0 w0 A0 rest wE))
    (hcA : Clean (Delims.ofList cfg.delims) A0)
    (hp : parseExprSource c0 = .ok e0) (hA : Compiles (Delims.ofList cfg.delims) A0 0)
    (hrest : ∀ c ∈ rest, c.Good (Delims.ofList cfg.delims))
    (hv : evaluate P env e0 = .ok v0) (ht : v0.test = true) (out : Bytes) :
    run P O cfg fs fuel (spell (Delims.ofList cfg.delims) (chainSrc c0 w0 A0 rest wE)) line env = .ok out ↔
    run P O cfg fs fuel (spell (Delims.ofList cfg.delims) A0)
      (line + countNL ((tg nmIf c0 w0).spell (Delims.ofList cfg.delims))) env = .ok out := by
  rw [chainSrc_eq_blockSrcK] at hc ⊢
  exact chainK_first P O cfg fs fuel line env nmIf (.inl rfl) c0 w0 A0 rest wE e0 v0 hg hc hcA hp (hA.any_line _) hrest
    (fun h => by cases h) hv ht out

/-- **C10 (the first truthy clause), from source bytes.** If the condition of the `if` tag and the conditions
    of the `elsif` clauses `pre` all evaluate falsy, and the next clause `sel` is an `else` or an `elsif` whose
    condition evaluates truthy, then the block — whatever clauses `post` follow — succeeds exactly when the
    body of `sel` does (as a template of its own, at the line where it stands), with exactly that output. -/
theorem if_chain_clause_source (P : Prims) (O : OutPrims) (cfg : Cfg) (fs : FS) (fuel : Nat) (line : Nat) (env : Env)
    (c0 : Bytes) (w0 : Ws) (A0 : List Item) (pre : List Clause) (sel : Clause) (post : List Clause) (wE : Ws) (e0 : Expr) (v0 : GoVal)
    (hg : GoodDelims (Delims.ofList cfg.delims))
    (hc : Clean (Delims.ofList cfg.delims) (chainSrc c0 w0 A0 (pre ++ sel :: post) wE))
    (hcS : Clean (Delims.ofList cfg.delims) sel.body)
    (hp : parseExprSource c0 = .ok e0) (hA : Compiles (Delims.ofList cfg.delims) A0 0)
    (hrest : ∀ c ∈ pre ++ sel :: post, c.Good (Delims.ofList cfg.delims))
    (hv : evaluate P env e0 = .ok v0) (hf : v0.test = false)
    (hpre : ∀ c ∈ pre, c.Falsy P env)
    (hsel : sel.cond = none ∨ ∃ t e v, sel.cond = some t ∧ parseExprSource t = .ok e ∧ evaluate P env e = .ok v ∧ v.test = true)
    (out : Bytes) :
    run P O cfg fs fuel (spell (Delims.ofList cfg.delims) (chainSrc c0 w0 A0 (pre ++ sel :: post) wE)) line env = .ok out ↔
    run P O cfg fs fuel (spell (Delims.ofList cfg.delims) sel.body)
      (line + countNL (spell (Delims.ofList cfg.delims) (tg nmIf c0 w0 :: (A0 ++ (clauseItems pre ++ [sel.tag]))))) env = .ok out := by
  rw [chainSrc_eq_blockSrcK] at hc ⊢
  refine chainK_clause P O cfg fs fuel line env nmIf (.inl rfl) c0 w0 A0 pre sel post wE e0 v0 hg hc hcS hp (hA.any_line _) hrest
    (fun h => by cases h) hv hf hpre (fun l => ?_) _ (by rw [clauseItemsK_elsif, Clause.tagK_elsif]) out
  rcases hsel with hn | ⟨tt, e, v, hcnd, hpe, hve, hvt⟩
  · simp only [Clause.testAt, hn, condRes]
  · simp only [Clause.testAt, hcnd, hpe, condRes, hve, hvt]

/-- **C10 (no truthy clause), from source bytes.** If the condition of the `if` tag and of every clause —
    all of them `elsif` clauses — evaluates falsy, the block renders nothing, successfully. -/
theorem if_chain_none_source (P : Prims) (O : OutPrims) (cfg : Cfg) (fs : FS) (fuel : Nat) (line : Nat) (env : Env)
    (c0 : Bytes) (w0 : Ws) (A0 : List Item) (rest : List Clause) (wE : Ws) (e0 : Expr) (v0 : GoVal)
    (hg : GoodDelims (Delims.ofList cfg.delims)) (hc : Clean (Delims.ofList cfg.delims) (chainSrc c0 w0 A0 rest wE))
    (hp : parseExprSource c0 = .ok e0) (hA : Compiles (Delims.ofList cfg.delims) A0 0)
    (hrest : ∀ c ∈ rest, c.Good (Delims.ofList cfg.delims))
    (hv : evaluate P env e0 = .ok v0) (hf : v0.test = false) (hall : ∀ c ∈ rest, c.Falsy P env) :
    run P O cfg fs fuel (spell (Delims.ofList cfg.delims) (chainSrc c0 w0 A0 rest wE)) line env = .ok [] := by
  rw [chainSrc_eq_blockSrcK] at hc ⊢
  exact chainK_none P O cfg fs fuel line env nmIf (.inl rfl) c0 w0 A0 rest wE e0 v0 hg hc hp (hA.any_line _) hrest
    (fun h => by cases h) hv hf hall

/-! ## Non-vacuity, on concrete bytes (default delimiters `{{ }} {% %}`) -/

/-- `a{{ y }}` and `b` -/
def c10A : List Item := [.text [97], ob [121]]
def c10B : List Item := [.text [98]]

theorem c10_gd : GoodDelims (Delims.ofList ({} : Cfg).delims) := by decide +kernel
theorem c10A_clean : Clean (Delims.ofList ({} : Cfg).delims) c10A := by decide +kernel
theorem c10A_compiles : Compiles (Delims.ofList ({} : Cfg).delims) c10A 0 := by decide +kernel
theorem c10_nil_compiles : Compiles (Delims.ofList ({} : Cfg).delims) [] 0 := by decide +kernel
theorem c10_a_compiles : Compiles (Delims.ofList ({} : Cfg).delims) [.text [97]] 0 := by decide +kernel
theorem c10_parse_one : parseExprSource [49] = .ok (.lit (.int .int 1)) := by decide +kernel
theorem c10_parse_zero : parseExprSource [48] = .ok (.lit (.int .int 0)) := by decide +kernel
theorem c10_parse_nil : parseExprSource [110, 105, 108] = .ok (.lit .nil) := by decide +kernel
theorem c10_parse_false : parseExprSource [102, 97, 108, 115, 101] = .ok (.lit (.bool false)) := by decide +kernel
theorem c10_parse_when_two : parseStatement kwWhen [50] = .ok (.when [.lit (.int .int 2)]) := by decide +kernel

example : spell Delims.default (ifElseSrc [120] c10A c10B Ws.std Ws.std Ws.std) =
    [123, 37, 32, 105, 102, 32, 120, 32, 37, 125, 97, 123, 123, 32, 121, 32, 125, 125, 123, 37, 32, 101, 108, 115, 101, 32, 37, 125,
     98, 123, 37, 32, 101, 110, 100, 105, 102, 32, 37, 125] := by decide +kernel
example : spell Delims.default (unlessElseSrc [120] c10B c10A Ws.std Ws.std Ws.std) =
    [123, 37, 32, 117, 110, 108, 101, 115, 115, 32, 120, 32, 37, 125, 98, 123, 37, 32, 101, 108, 115, 101, 32, 37, 125,
     97, 123, 123, 32, 121, 32, 125, 125, 123, 37, 32, 101, 110, 100, 117, 110, 108, 101, 115, 115, 32, 37, 125] := by decide +kernel

/-- `{% if x %}a{{ y }}{% else %}b{% endif %}` and `{% unless x %}b{% else %}a{{ y }}{% endunless %}` give the same
    result, whatever `x` and `y` are bound to, in every value layer -/
example (P : Prims) (O : OutPrims) (fs : FS) (env : Env) :
    run P O {} fs 1 [123, 37, 32, 105, 102, 32, 120, 32, 37, 125, 97, 123, 123, 32, 121, 32, 125, 125, 123, 37, 32, 101, 108, 115,
      101, 32, 37, 125, 98, 123, 37, 32, 101, 110, 100, 105, 102, 32, 37, 125] 1 env =
    run P O {} fs 1 [123, 37, 32, 117, 110, 108, 101, 115, 115, 32, 120, 32, 37, 125, 98, 123, 37, 32, 101, 108, 115, 101, 32, 37,
      125, 97, 123, 123, 32, 121, 32, 125, 125, 123, 37, 32, 101, 110, 100, 117, 110, 108, 101, 115, 115, 32, 37, 125] 1 env :=
  if_else_unless_dual_source P O {} fs 1 1 env [120] c10A c10B Ws.std Ws.std Ws.std Ws.std Ws.std Ws.std
    c10_gd (by decide +kernel) (by decide +kernel) (by decide +kernel) (by decide +kernel) (by decide +kernel) (by decide +kernel)

/-- `{% if | %}a{{ y }}{% else %}b{% endif %}` (the condition is not an expression), started at line 7: a syntax
    error at line 7, in every value layer and environment -/
example (P : Prims) (O : OutPrims) (fs : FS) (env : Env) :
    run P O {} fs 1 (spell Delims.default (ifElseSrc [124] c10A c10B Ws.std Ws.std Ws.std)) 7 env =
      .err ⟨7, true, .syntax, .byCause⟩ :=
  if_else_bad_condition_source P O {} fs 1 7 env nmIf (.inl rfl) [124] c10A c10B Ws.std Ws.std Ws.std
    c10_gd (by decide +kernel) (by decide +kernel) (by decide +kernel) .syntax (by decide +kernel)

/-- `{% if 0 %}a{{ y }}{% endif %}` renders what `a{{ y }}` renders: 0 is truthy -/
example (P : Prims) (O : OutPrims) (fs : FS) (env : Env) (out : Bytes) :
    run P O {} fs 1 (spell Delims.default (ifSrc [48] c10A Ws.std Ws.std)) 1 env = .ok out ↔
    run P O {} fs 1 (spell Delims.default c10A) 1 env = .ok out :=
  (if_source P O {} fs 1 1 env [48] c10A Ws.std Ws.std c10_gd (by decide +kernel) c10A_clean (by decide +kernel)
    (.lit (.int .int 0)) (.int .int 0) c10_parse_zero rfl).2 rfl out

/-- `{% if nil %}a{{ y }}{% endif %}` renders nothing -/
example (P : Prims) (O : OutPrims) (fs : FS) (env : Env) :
    run P O {} fs 1 (spell Delims.default (ifSrc [110, 105, 108] c10A Ws.std Ws.std)) 1 env = .ok [] :=
  (if_source P O {} fs 1 1 env [110, 105, 108] c10A Ws.std Ws.std c10_gd (by decide +kernel) c10A_clean (by decide +kernel)
    (.lit .nil) .nil c10_parse_nil rfl).1 rfl

/-! ### Non-vacuity of the chain theorems

`{% if false %}a{% elsif nil %}b{% elsif 0 %}c{{ y }}{% else %}d{% endif %}`: the conditions `false` and `nil` are falsy,
`0` is truthy — the block renders what `c{{ y }}` renders, for every value layer and environment. -/
def c10Pre : List Clause := [⟨some [110, 105, 108], Ws.std, [.text [98]]⟩]
def c10Sel : Clause := ⟨some [48], Ws.std, [.text [99], ob [121]]⟩
def c10Post : List Clause := [⟨none, Ws.std, [.text [100]]⟩]

example : spell Delims.default (chainSrc [102, 97, 108, 115, 101] Ws.std [.text [97]] (c10Pre ++ c10Sel :: c10Post) Ws.std) =
    [123, 37, 32, 105, 102, 32, 102, 97, 108, 115, 101, 32, 37, 125, 97,
     123, 37, 32, 101, 108, 115, 105, 102, 32, 110, 105, 108, 32, 37, 125, 98,
     123, 37, 32, 101, 108, 115, 105, 102, 32, 48, 32, 37, 125, 99, 123, 123, 32, 121, 32, 125, 125,
     123, 37, 32, 101, 108, 115, 101, 32, 37, 125, 100, 123, 37, 32, 101, 110, 100, 105, 102, 32, 37, 125] := by decide +kernel

example (P : Prims) (O : OutPrims) (fs : FS) (env : Env) (out : Bytes) :
    run P O {} fs 1 (spell Delims.default (chainSrc [102, 97, 108, 115, 101] Ws.std [.text [97]] (c10Pre ++ c10Sel :: c10Post) Ws.std))
      1 env = .ok out ↔
    run P O {} fs 1 (spell Delims.default [.text [99], ob [121]]) 1 env = .ok out :=
  if_chain_clause_source P O {} fs 1 1 env [102, 97, 108, 115, 101] Ws.std [.text [97]] c10Pre c10Sel c10Post Ws.std
    (.lit (.bool false)) (.bool false) c10_gd (by decide +kernel) (by decide +kernel) c10_parse_false c10_a_compiles (by decide +kernel) rfl rfl
    (List.forall_mem_singleton.mpr ⟨[110, 105, 108], .lit .nil, .nil, rfl, c10_parse_nil, rfl, rfl⟩)
    (.inr ⟨[48], .lit (.int .int 0), .int .int 0, rfl, c10_parse_zero, rfl, rfl⟩) out

/-- `{% if nil %}a{% elsif false %}b{% endif %}` renders nothing -/
example (P : Prims) (O : OutPrims) (fs : FS) (env : Env) :
    run P O {} fs 1 (spell Delims.default (chainSrc [110, 105, 108] Ws.std [.text [97]]
      [⟨some [102, 97, 108, 115, 101], Ws.std, [.text [98]]⟩] Ws.std)) 1 env = .ok [] :=
  if_chain_none_source P O {} fs 1 1 env [110, 105, 108] Ws.std [.text [97]] [⟨some [102, 97, 108, 115, 101], Ws.std, [.text [98]]⟩]
    Ws.std (.lit .nil) .nil c10_gd (by decide +kernel) c10_parse_nil c10_a_compiles (by decide +kernel) rfl rfl
    (List.forall_mem_singleton.mpr ⟨[102, 97, 108, 115, 101], .lit (.bool false), .bool false, rfl, c10_parse_false, rfl, rfl⟩)

/-- `{% if 0 %}a{{ y }}{% elsif x %}b{% endif %}` renders what `a{{ y }}` renders, whatever `x` is -/
example (P : Prims) (O : OutPrims) (fs : FS) (env : Env) (out : Bytes) :
    run P O {} fs 1 (spell Delims.default (chainSrc [48] Ws.std c10A [⟨some [120], Ws.std, [.text [98]]⟩] Ws.std)) 1 env = .ok out ↔
    run P O {} fs 1 (spell Delims.default c10A) 1 env = .ok out :=
  if_chain_first_source P O {} fs 1 1 env [48] Ws.std c10A [⟨some [120], Ws.std, [.text [98]]⟩] Ws.std (.lit (.int .int 0))
    (.int .int 0) c10_gd (by decide +kernel) c10A_clean c10_parse_zero c10A_compiles (by decide +kernel) rfl rfl out

/-! ## A condition that FAILS: `{% if c0 %}A0{% elsif c1 %}A1 … {% else %}E{% endif %}`

`if_chain_first_source` / `if_chain_clause_source` / `if_chain_none_source` need every condition up to the selected clause
to evaluate. The two theorems below are the remaining case of `if_denotation`, read on source text: the first condition
that is not falsy FAILS with the cause `x` (an evaluation error: an undefined filter, a filter error, a range bound that
is not an integer …). The render then fails with that cause, located — as `ifTagCompiler` does with
`parser.WrapError(err, b.body)` — at the line of the tag the condition stands in: the `if` tag for `c0`, the `elsif` tag
for a later one (not the line of the `if` tag). Neither that body nor any later one is rendered, later conditions are not
evaluated (they need not evaluate): `written`, the bytes the writer has received when `FRender` returns, is empty. -/

/-- **C10 (the condition of the `if` tag fails), from source bytes.** If `c0` is an expression whose evaluation fails with
    cause `x`, the block — whatever clauses follow, as long as they compile — fails with `x` at the line of the `if` tag, and
    nothing has been written. -/
theorem if_chain_first_cond_err_source (P : Prims) (O : OutPrims) (cfg : Cfg) (fs : FS) (fuel : Nat) (line : Nat) (env : Env)
    (c0 : Bytes) (w0 : Ws) (A0 : List Item) (rest : List Clause) (wE : Ws) (e0 : Expr) (x : Cause)
    (hg : GoodDelims (Delims.ofList cfg.delims)) (hc : Clean (Delims.ofList cfg.delims) (chainSrc c0 w0 A0 rest wE))
    (hp : parseExprSource c0 = .ok e0) (hA : Compiles (Delims.ofList cfg.delims) A0 0)
    (hrest : ∀ c ∈ rest, c.Good (Delims.ofList cfg.delims))
    (hv : evaluate P env e0 = .err x) :
    run P O cfg fs fuel (spell (Delims.ofList cfg.delims) (chainSrc c0 w0 A0 rest wE)) line env = .err ⟨line, true, x, .byCause⟩ ∧
    written P O cfg fs fuel (spell (Delims.ofList cfg.delims) (chainSrc c0 w0 A0 rest wE)) line env = [] := by
  rw [chainSrc_eq_blockSrcK] at hc ⊢
  exact chainK_first_cond_err P O cfg fs fuel line env nmIf (.inl rfl) c0 w0 A0 rest wE e0 x hg hc hp (hA.any_line _) hrest
    (fun h => by cases h) hv

/-- **C10 (the condition of an `elsif` clause fails), from source bytes.** If the condition of the `if` tag and the conditions
    of the `elsif` clauses `pre` all evaluate falsy, and the next clause `sel` is an `elsif` whose condition `t` is an expression
    whose evaluation fails with cause `x`, then the block — whatever clauses `post` follow, as long as they compile — fails with
    `x` located at the line of THAT `elsif` tag (the start line plus the newlines of everything before the tag), and nothing has
    been written. -/
theorem if_chain_cond_err_source (P : Prims) (O : OutPrims) (cfg : Cfg) (fs : FS) (fuel : Nat) (line : Nat) (env : Env)
    (c0 : Bytes) (w0 : Ws) (A0 : List Item) (pre : List Clause) (sel : Clause) (post : List Clause) (wE : Ws) (e0 : Expr) (v0 : GoVal)
    (t : Bytes) (e : Expr) (x : Cause)
    (hg : GoodDelims (Delims.ofList cfg.delims))
    (hc : Clean (Delims.ofList cfg.delims) (chainSrc c0 w0 A0 (pre ++ sel :: post) wE))
    (hp : parseExprSource c0 = .ok e0) (hA : Compiles (Delims.ofList cfg.delims) A0 0)
    (hrest : ∀ c ∈ pre ++ sel :: post, c.Good (Delims.ofList cfg.delims))
    (hv : evaluate P env e0 = .ok v0) (hf : v0.test = false)
    (hpre : ∀ c ∈ pre, c.Falsy P env)
    (hsel : sel.cond = some t) (hpe : parseExprSource t = .ok e) (hve : evaluate P env e = .err x) :
    run P O cfg fs fuel (spell (Delims.ofList cfg.delims) (chainSrc c0 w0 A0 (pre ++ sel :: post) wE)) line env =
      .err ⟨line + countNL (spell (Delims.ofList cfg.delims) (tg nmIf c0 w0 :: (A0 ++ clauseItems pre))), true, x, .byCause⟩ ∧
    written P O cfg fs fuel (spell (Delims.ofList cfg.delims) (chainSrc c0 w0 A0 (pre ++ sel :: post) wE)) line env = [] := by
  rw [chainSrc_eq_blockSrcK] at hc ⊢
  rw [← clauseItemsK_elsif, countNL_upto]
  apply run_written_single_fail P O cfg fs fuel env hg hc
    (CompilesTo.chain (.inl rfl) hp (hA.any_line _) hrest nofun)
  rw [ifBrs_append]
  simp only [ifBrs, Clause.testAt, hsel, hpe]
  exact ifB_cond_err (mkCtx P O cfg fs fuel) line ⟨env, {}⟩ (_ :: ifBrs _ pre _) (.expr _ e) _ _ x
    (chainBrs_falsy P env nmIf line e0 v0 hv hf _ _ pre _ hpre) (by show condRes P env (.expr _ e) = .err x; simp only [condRes, hve])
    (by simp only [CondT.line]; omega)

/-! ### Non-vacuity of the failing-condition theorems

`(1.."a")` is a range whose upper bound is not an integer: its evaluation fails with a type error in every value layer
(the real engine: `can't convert string(a) to type int`, a `values.TypeError`).
`{% if false %}a⏎{% elsif (1.."a") %}b{% else %}c{% endif %}` from line 1: the `elsif` tag stands at line 2, the render fails
there — not at line 1, the line of the `if` tag — and nothing is written. -/
def c10Poison : Bytes := [40, 49, 46, 46, 34, 97, 34, 41]
theorem c10_parse_poison : parseExprSource c10Poison = .ok (.range (.lit (.int .int 1)) (.lit (.str [97]))) := by decide +kernel

example : spell Delims.default (chainSrc [102, 97, 108, 115, 101] Ws.std [.text [97, 10]]
      ([] ++ (⟨some c10Poison, Ws.std, [.text [98]]⟩ : Clause) :: [⟨none, Ws.std, [.text [99]]⟩]) Ws.std) =
    [123, 37, 32, 105, 102, 32, 102, 97, 108, 115, 101, 32, 37, 125, 97, 10,
     123, 37, 32, 101, 108, 115, 105, 102, 32, 40, 49, 46, 46, 34, 97, 34, 41, 32, 37, 125, 98,
     123, 37, 32, 101, 108, 115, 101, 32, 37, 125, 99, 123, 37, 32, 101, 110, 100, 105, 102, 32, 37, 125] := by decide +kernel

example (P : Prims) (O : OutPrims) (fs : FS) (env : Env) :
    run P O {} fs 1 (spell Delims.default (chainSrc [102, 97, 108, 115, 101] Ws.std [.text [97, 10]]
      ([] ++ (⟨some c10Poison, Ws.std, [.text [98]]⟩ : Clause) :: [⟨none, Ws.std, [.text [99]]⟩]) Ws.std)) 1 env =
      .err ⟨2, true, .typeErr, .byCause⟩ ∧
    written P O {} fs 1 (spell Delims.default (chainSrc [102, 97, 108, 115, 101] Ws.std [.text [97, 10]]
      ([] ++ (⟨some c10Poison, Ws.std, [.text [98]]⟩ : Clause) :: [⟨none, Ws.std, [.text [99]]⟩]) Ws.std)) 1 env = [] :=
  if_chain_cond_err_source P O {} fs 1 1 env [102, 97, 108, 115, 101] Ws.std [.text [97, 10]] [] ⟨some c10Poison, Ws.std, [.text [98]]⟩
    [⟨none, Ws.std, [.text [99]]⟩] Ws.std (.lit (.bool false)) (.bool false) c10Poison
    (.range (.lit (.int .int 1)) (.lit (.str [97]))) .typeErr c10_gd (by decide +kernel) c10_parse_false (by decide +kernel) (by decide +kernel) rfl rfl
    (fun _ h => by cases h) rfl c10_parse_poison rfl

/-- `{% if (1.."a") %}a{% elsif x %}b{% endif %}` started at line 5: the type error at line 5, whatever `x` is -/
example (P : Prims) (O : OutPrims) (fs : FS) (env : Env) :
    run P O {} fs 1 (spell Delims.default (chainSrc c10Poison Ws.std [.text [97]] [⟨some [120], Ws.std, [.text [98]]⟩] Ws.std)) 5 env =
      .err ⟨5, true, .typeErr, .byCause⟩ :=
  (if_chain_first_cond_err_source P O {} fs 1 5 env c10Poison Ws.std [.text [97]] [⟨some [120], Ws.std, [.text [98]]⟩] Ws.std
    (.range (.lit (.int .int 1)) (.lit (.str [97]))) .typeErr c10_gd (by decide +kernel) c10_parse_poison c10_a_compiles (by decide +kernel) rfl).1

/-! ## `unless` chains: `{% unless c0 %}A0{% else %}E1{% else %}E2 … {% endunless %}`

What `ifTagCompiler(false)` and the grammar (`AddBlock("unless").Clause("else")`) do: the condition of the `unless` tag is negated
(`e.Not`), an `unless` block admits `else` clauses only — any number of them, each compiled to the constant `true` — and an
`elsif` tag inside `unless` is rejected by the block parser. So the chain is: `A0` when `c0` evaluates falsy; otherwise the FIRST
`else` clause (later `else` clauses are never rendered); otherwise nothing (`unless_source`); the error of `c0`, at the line of
the `unless` tag, when its evaluation fails. `unlessChainSrc c0 w0 A0 rest wE` (Proofs/SrcCondErr.lean) is the source; in the
first three theorems every clause of `rest` is an `else` clause (`cond = none`). -/

/-- **C10 (`unless`, condition falsy), from source bytes.** If `c0` evaluates to nil or false, the block — whatever `else` clauses
    follow, as long as they compile — succeeds exactly when `A0` does (as a template of its own, where it stands), with exactly that
    output. -/
theorem unless_chain_body_source (P : Prims) (O : OutPrims) (cfg : Cfg) (fs : FS) (fuel : Nat) (line : Nat) (env : Env)
    (c0 : Bytes) (w0 : Ws) (A0 : List Item) (rest : List Clause) (wE : Ws) (e0 : Expr) (v0 : GoVal)
    (hg : GoodDelims (Delims.ofList cfg.delims)) (hc : Clean (Delims.ofList cfg.delims) (unlessChainSrc c0 w0 A0 rest wE))
    (hcA : Clean (Delims.ofList cfg.delims) A0)
    (hp : parseExprSource c0 = .ok e0) (hA : Compiles (Delims.ofList cfg.delims) A0 0)
    (hrest : ∀ c ∈ rest, c.Good (Delims.ofList cfg.delims)) (helse : ∀ c ∈ rest, c.cond = none)
    (hv : evaluate P env e0 = .ok v0) (hf : v0.test = false) (out : Bytes) :
    run P O cfg fs fuel (spell (Delims.ofList cfg.delims) (unlessChainSrc c0 w0 A0 rest wE)) line env = .ok out ↔
    run P O cfg fs fuel (spell (Delims.ofList cfg.delims) A0)
      (line + countNL ((tg nmUnless c0 w0).spell (Delims.ofList cfg.delims))) env = .ok out := by
  rw [unlessChainSrc_eq_blockSrcK] at hc ⊢
  exact chainK_first P O cfg fs fuel line env nmUnless (.inr rfl) c0 w0 A0 rest wE e0 v0 hg hc hcA hp (hA.any_line _) hrest
    (fun _ => helse) hv hf out

/-- **C10 (`unless`, condition truthy: the first `else`), from source bytes.** If `c0` evaluates truthy and the block has at least
    one `else` clause, it succeeds exactly when the body of the FIRST `else` clause does (as a template of its own, at the line where
    it stands), with exactly that output; the `else` clauses after it are not rendered. -/
theorem unless_chain_else_source (P : Prims) (O : OutPrims) (cfg : Cfg) (fs : FS) (fuel : Nat) (line : Nat) (env : Env)
    (c0 : Bytes) (w0 : Ws) (A0 : List Item) (first : Clause) (more : List Clause) (wE : Ws) (e0 : Expr) (v0 : GoVal)
    (hg : GoodDelims (Delims.ofList cfg.delims))
    (hc : Clean (Delims.ofList cfg.delims) (unlessChainSrc c0 w0 A0 (first :: more) wE))
    (hcF : Clean (Delims.ofList cfg.delims) first.body)
    (hp : parseExprSource c0 = .ok e0) (hA : Compiles (Delims.ofList cfg.delims) A0 0)
    (hrest : ∀ c ∈ first :: more, c.Good (Delims.ofList cfg.delims)) (helse : ∀ c ∈ first :: more, c.cond = none)
    (hv : evaluate P env e0 = .ok v0) (ht : v0.test = true) (out : Bytes) :
    run P O cfg fs fuel (spell (Delims.ofList cfg.delims) (unlessChainSrc c0 w0 A0 (first :: more) wE)) line env = .ok out ↔
    run P O cfg fs fuel (spell (Delims.ofList cfg.delims) first.body)
      (line + countNL (spell (Delims.ofList cfg.delims) (tg nmUnless c0 w0 :: (A0 ++ [first.tag])))) env = .ok out := by
  rw [unlessChainSrc_eq_blockSrcK] at hc ⊢
  refine chainK_clause P O cfg fs fuel line env nmUnless (.inr rfl) c0 w0 A0 [] first more wE e0 v0 hg hc hcF hp (hA.any_line _) hrest
    (fun _ => helse) hv ht (fun _ h => by cases h) (fun l => ?_) _ (by rw [Clause.tagK_elsif]; rfl) out
  simp only [Clause.testAt, helse first (List.mem_cons_self ..), condRes]

/-- **C10 (`unless`, the condition fails), from source bytes.** If `c0` is an expression whose evaluation fails with cause `x`,
    the block fails with `x` at the line of the `unless` tag, and nothing has been written. -/
theorem unless_chain_cond_err_source (P : Prims) (O : OutPrims) (cfg : Cfg) (fs : FS) (fuel : Nat) (line : Nat) (env : Env)
    (c0 : Bytes) (w0 : Ws) (A0 : List Item) (rest : List Clause) (wE : Ws) (e0 : Expr) (x : Cause)
    (hg : GoodDelims (Delims.ofList cfg.delims)) (hc : Clean (Delims.ofList cfg.delims) (unlessChainSrc c0 w0 A0 rest wE))
    (hp : parseExprSource c0 = .ok e0) (hA : Compiles (Delims.ofList cfg.delims) A0 0)
    (hrest : ∀ c ∈ rest, c.Good (Delims.ofList cfg.delims)) (helse : ∀ c ∈ rest, c.cond = none)
    (hv : evaluate P env e0 = .err x) :
    run P O cfg fs fuel (spell (Delims.ofList cfg.delims) (unlessChainSrc c0 w0 A0 rest wE)) line env = .err ⟨line, true, x, .byCause⟩ ∧
    written P O cfg fs fuel (spell (Delims.ofList cfg.delims) (unlessChainSrc c0 w0 A0 rest wE)) line env = [] := by
  rw [unlessChainSrc_eq_blockSrcK] at hc ⊢
  exact chainK_first_cond_err P O cfg fs fuel line env nmUnless (.inr rfl) c0 w0 A0 rest wE e0 x hg hc hp (hA.any_line _) hrest
    (fun _ => helse) hv

/-- **C10 (`elsif` inside `unless` is rejected), from source bytes.** `{% unless c0 %}A0{% else %}… {% elsif t %}…{% endunless %}`:
    whatever `c0` and `t` are (expressions or not) and whatever clauses follow, as long as the bodies are self-contained templates,
    the template is not accepted: the block parser fails at the line of the first `elsif` tag with the cause-less error
    `elsif not inside if` (`Msg.notInside`), for every value layer and environment. -/
theorem unless_elsif_rejected_source (P : Prims) (O : OutPrims) (cfg : Cfg) (fs : FS) (fuel : Nat) (line : Nat) (env : Env)
    (c0 : Bytes) (w0 : Ws) (A0 : List Item) (pre : List Clause) (sel : Clause) (post : List Clause) (wE : Ws) (t : Bytes)
    (hg : GoodDelims (Delims.ofList cfg.delims))
    (hc : Clean (Delims.ofList cfg.delims) (unlessChainSrc c0 w0 A0 (pre ++ sel :: post) wE))
    (hA : Compiles (Delims.ofList cfg.delims) A0 0)
    (hbodies : ∀ c ∈ pre ++ sel :: post, Compiles (Delims.ofList cfg.delims) c.body 0)
    (helse : ∀ c ∈ pre, c.cond = none) (hsel : sel.cond = some t) :
    run P O cfg fs fuel (spell (Delims.ofList cfg.delims) (unlessChainSrc c0 w0 A0 (pre ++ sel :: post) wE)) line env =
      .err ⟨line + countNL (spell (Delims.ofList cfg.delims) (tg nmUnless c0 w0 :: (A0 ++ clauseItems pre))), true, .none, .notInside⟩ := by
  rw [unlessChainSrc_eq_blockSrcK] at hc ⊢
  rw [run_spell P O cfg fs fuel _ line env hg hc,
    unlessChain_elsif_compile _ line c0 w0 A0 pre sel post wE t hA hbodies helse hsel, ← clauseItemsK_elsif, countNL_upto]
  rfl

/-! ### Non-vacuity of the `unless` chain theorems -/

/-- `{% unless nil %}a{{ y }}{% else %}b{% else %}c{% endunless %}` renders what `a{{ y }}` renders -/
example (P : Prims) (O : OutPrims) (fs : FS) (env : Env) (out : Bytes) :
    run P O {} fs 1 (spell Delims.default (unlessChainSrc [110, 105, 108] Ws.std c10A
      [⟨none, Ws.std, [.text [98]]⟩, ⟨none, Ws.std, [.text [99]]⟩] Ws.std)) 1 env = .ok out ↔
    run P O {} fs 1 (spell Delims.default c10A) 1 env = .ok out :=
  unless_chain_body_source P O {} fs 1 1 env [110, 105, 108] Ws.std c10A [⟨none, Ws.std, [.text [98]]⟩, ⟨none, Ws.std, [.text [99]]⟩]
    Ws.std (.lit .nil) .nil c10_gd (by decide +kernel) c10A_clean c10_parse_nil c10A_compiles (by decide +kernel) (by decide +kernel) rfl rfl out

example : spell Delims.default (unlessChainSrc [48] Ws.std [.text [98]]
      [⟨none, Ws.std, c10A⟩, ⟨none, Ws.std, [.text [99]]⟩] Ws.std) =
    [123, 37, 32, 117, 110, 108, 101, 115, 115, 32, 48, 32, 37, 125, 98, 123, 37, 32, 101, 108, 115, 101, 32, 37, 125,
     97, 123, 123, 32, 121, 32, 125, 125, 123, 37, 32, 101, 108, 115, 101, 32, 37, 125, 99,
     123, 37, 32, 101, 110, 100, 117, 110, 108, 101, 115, 115, 32, 37, 125] := by decide +kernel

/-- `{% unless 0 %}b{% else %}a{{ y }}{% else %}c{% endunless %}` renders what `a{{ y }}` renders: 0 is truthy, the first `else` is
    taken, the second never -/
example (P : Prims) (O : OutPrims) (fs : FS) (env : Env) (out : Bytes) :
    run P O {} fs 1 (spell Delims.default (unlessChainSrc [48] Ws.std [.text [98]]
      [⟨none, Ws.std, c10A⟩, ⟨none, Ws.std, [.text [99]]⟩] Ws.std)) 1 env = .ok out ↔
    run P O {} fs 1 (spell Delims.default c10A) 1 env = .ok out :=
  unless_chain_else_source P O {} fs 1 1 env [48] Ws.std [.text [98]] ⟨none, Ws.std, c10A⟩ [⟨none, Ws.std, [.text [99]]⟩]
    Ws.std (.lit (.int .int 0)) (.int .int 0) c10_gd (by decide +kernel) (by decide +kernel) c10_parse_zero (by decide +kernel) (by decide +kernel) (by decide +kernel) rfl rfl out

/-- `{% unless (1.."a") %}a{% else %}b{% endunless %}` started at line 3: the type error at line 3 -/
example (P : Prims) (O : OutPrims) (fs : FS) (env : Env) :
    run P O {} fs 1 (spell Delims.default (unlessChainSrc c10Poison Ws.std [.text [97]] [⟨none, Ws.std, [.text [98]]⟩] Ws.std)) 3 env =
      .err ⟨3, true, .typeErr, .byCause⟩ :=
  (unless_chain_cond_err_source P O {} fs 1 3 env c10Poison Ws.std [.text [97]] [⟨none, Ws.std, [.text [98]]⟩] Ws.std
    (.range (.lit (.int .int 1)) (.lit (.str [97]))) .typeErr c10_gd (by decide +kernel) c10_parse_poison c10_a_compiles (by decide +kernel) (by decide +kernel) rfl).1

/-- `{% unless x %}a{% else %}b⏎{% elsif y %}c{% endunless %}`: not accepted, `elsif not inside if` at line 2 -/
example (P : Prims) (O : OutPrims) (fs : FS) (env : Env) :
    run P O {} fs 1 (spell Delims.default (unlessChainSrc [120] Ws.std [.text [97]]
      ([⟨none, Ws.std, [.text [98, 10]]⟩] ++ (⟨some [121], Ws.std, [.text [99]]⟩ : Clause) :: []) Ws.std)) 1 env =
      .err ⟨2, true, .none, .notInside⟩ :=
  unless_elsif_rejected_source P O {} fs 1 1 env [120] Ws.std [.text [97]] [⟨none, Ws.std, [.text [98, 10]]⟩]
    ⟨some [121], Ws.std, [.text [99]]⟩ [] Ws.std [121] c10_gd (by decide +kernel) c10_a_compiles (by decide +kernel) (by decide +kernel) rfl

/-! ## `case` with any number of clauses: `{% case s %}J{% when vs1 %}B1{% when vs2 %}B2 … {% else %}E … {% endcase %}`

`caseChainSrc s w0 J rest wE` (Proofs/SrcClauses.lean) is the source: the `case` tag, whatever stands between it and the first
clause (`J`: compiled, never rendered — `caseTagCompiler` ignores `node.Body`), then any number of clauses in any order — a clause
with `cond = some vs` is `{% when vs %}body`, one with `cond = none` is `{% else %}body` — and `{% endcase %}`. The value list `vs` of
a `when` tag is what the grammar rule `WHEN exprs` accepts: expressions WITHOUT filters separated by commas (`parseStatement kwWhen`);
`or` is not a separator in this implementation (`case_bad_when_source`, and the example after it). `Clause.GoodWhen` (decidable): the
values parse and the body is a self-contained template. `whenRes P env v es` (Proofs/RenderSteps.lean) evaluates the values in order and
compares each with the subject by `P.equalFn` (`values.Equal` in the standard layer), stopping at the first that is equal
(`when_matches_iff`, `when_misses_iff`); `Clause.Miss`: a `when` clause all of whose values evaluate and are unequal to the subject.

As `caseTagCompiler` does: the subject is evaluated once, first; the clauses are tried in source order; the first clause that is an
`else` or lists a value equal to the subject is rendered and nothing after it is looked at — so of several matching clauses the first
wins, and an `else` that is not last hides every clause after it. -/

/-- **C10 (`case`: the first clause that matches), from source bytes.** Let the subject `s` parse and evaluate to `v`, let every
    clause of `pre` be a `when` clause none of whose values equals `v`, and let the next clause `sel` be an `else`, or a `when` one
    of whose values equals `v` (the values before it in the list evaluating unequal). Then the block — whatever clauses `post`
    follow, as long as they compile — succeeds exactly when the body of `sel` does (as a template of its own, at the line where it
    stands), with exactly that output. -/
theorem case_clause_source (P : Prims) (O : OutPrims) (cfg : Cfg) (fs : FS) (fuel : Nat) (line : Nat) (env : Env)
    (s : Bytes) (w0 : Ws) (J : List Item) (pre : List Clause) (sel : Clause) (post : List Clause) (wE : Ws) (subj : Expr) (v : GoVal)
    (hg : GoodDelims (Delims.ofList cfg.delims))
    (hc : Clean (Delims.ofList cfg.delims) (caseChainSrc s w0 J (pre ++ sel :: post) wE))
    (hcS : Clean (Delims.ofList cfg.delims) sel.body)
    (hps : parseExprSource s = .ok subj) (hJ : Compiles (Delims.ofList cfg.delims) J 0)
    (hrest : ∀ c ∈ pre ++ sel :: post, c.GoodWhen (Delims.ofList cfg.delims))
    (hv : evaluate P env subj = .ok v)
    (hpre : ∀ c ∈ pre, c.Miss P env v)
    (hsel : sel.cond = none ∨ ∃ t es, sel.cond = some t ∧ parseStatement kwWhen t = .ok (.when es) ∧ whenRes P env v es = .ok true)
    (out : Bytes) :
    run P O cfg fs fuel (spell (Delims.ofList cfg.delims) (caseChainSrc s w0 J (pre ++ sel :: post) wE)) line env = .ok out ↔
    run P O cfg fs fuel (spell (Delims.ofList cfg.delims) sel.body)
      (line + countNL (spell (Delims.ofList cfg.delims) (tg nmCase s w0 :: (J ++ (clauseItemsK nmWhen pre ++ [sel.tagK nmWhen]))))) env
      = .ok out := by
  rw [countNL_upto_tag]
  refine run_pick_body (loc := ⟨line, true⟩) P O cfg fs fuel env hg hc (caseK_compile _ line s w0 J _ wE subj hps hJ hrest) hcS
    ((hrest sel (by simp)).2.any_line _) ?_ out
  rw [case_node_denotation (mkCtx P O cfg fs fuel) line subj _ ⟨env, {}⟩ v hv, caseCls_append]
  obtain ⟨ws, hws, hmiss⟩ := caseCls_miss (Delims.ofList cfg.delims) P env v pre
    (line + countNL ((tg nmCase s w0).spell (Delims.ofList cfg.delims)) + countNL (spell (Delims.ofList cfg.delims) J)) hpre
  rw [hws]
  simp only [caseCls]
  rcases hsel with hn | ⟨t, es, hcnd, hpw, hw⟩
  · have hwa : ∀ l, sel.whenAt l = none := fun l => by simp only [Clause.whenAt, hn]
    simp only [wrapAt, hwa, case_else (mkCtx P O cfg fs fuel) v ⟨env, {}⟩ ws _ _ hmiss]
    rfl
  · have hwa : ∀ l, sel.whenAt l = some (l, es) := fun l => by simp only [Clause.whenAt, hcnd, hpw]
    simp only [wrapAt, hwa, case_first_equal (mkCtx P O cfg fs fuel) v ⟨env, {}⟩ ws _ es _ _ hmiss hw]
    rfl

/-- **C10 (`case`: no clause matches), from source bytes.** If every clause is a `when` clause none of whose values equals the value
    of the subject (no `else`), the block renders nothing, successfully. -/
theorem case_none_source (P : Prims) (O : OutPrims) (cfg : Cfg) (fs : FS) (fuel : Nat) (line : Nat) (env : Env)
    (s : Bytes) (w0 : Ws) (J : List Item) (rest : List Clause) (wE : Ws) (subj : Expr) (v : GoVal)
    (hg : GoodDelims (Delims.ofList cfg.delims)) (hc : Clean (Delims.ofList cfg.delims) (caseChainSrc s w0 J rest wE))
    (hps : parseExprSource s = .ok subj) (hJ : Compiles (Delims.ofList cfg.delims) J 0)
    (hrest : ∀ c ∈ rest, c.GoodWhen (Delims.ofList cfg.delims))
    (hv : evaluate P env subj = .ok v) (hall : ∀ c ∈ rest, c.Miss P env v) :
    run P O cfg fs fuel (spell (Delims.ofList cfg.delims) (caseChainSrc s w0 J rest wE)) line env = .ok [] := by
  refine run_pick_nothing P O cfg fs fuel env hg hc (caseK_compile _ line s w0 J rest wE subj hps hJ hrest) ?_
  rw [case_node_denotation (mkCtx P O cfg fs fuel) line subj _ ⟨env, {}⟩ v hv]
  obtain ⟨ws, hws, hmiss⟩ := caseCls_miss (Delims.ofList cfg.delims) P env v rest
    (line + countNL ((tg nmCase s w0).spell (Delims.ofList cfg.delims)) + countNL (spell (Delims.ofList cfg.delims) J)) hall
  rw [hws]
  simp only [wrapAt, case_none (mkCtx P O cfg fs fuel) v ⟨env, {}⟩ ws hmiss]
  rfl

/-- **C10 (`case`: a `when` value fails), from source bytes.** If the clauses `pre` are `when` clauses that miss and the next clause
    `sel` is a `when` whose value list fails with cause `x` — the evaluation of a value, or its comparison with the subject, the
    values before it in the list being unequal to the subject — the block fails with `x` located at the line of THAT `when` tag
    (`parser.WrapError(err, clause.body())`), and nothing has been written: later clauses, an `else` included, are not reached. -/
theorem case_when_err_source (P : Prims) (O : OutPrims) (cfg : Cfg) (fs : FS) (fuel : Nat) (line : Nat) (env : Env)
    (s : Bytes) (w0 : Ws) (J : List Item) (pre : List Clause) (sel : Clause) (post : List Clause) (wE : Ws) (subj : Expr) (v : GoVal)
    (t : Bytes) (es : List Expr) (x : Cause)
    (hg : GoodDelims (Delims.ofList cfg.delims))
    (hc : Clean (Delims.ofList cfg.delims) (caseChainSrc s w0 J (pre ++ sel :: post) wE))
    (hps : parseExprSource s = .ok subj) (hJ : Compiles (Delims.ofList cfg.delims) J 0)
    (hrest : ∀ c ∈ pre ++ sel :: post, c.GoodWhen (Delims.ofList cfg.delims))
    (hv : evaluate P env subj = .ok v)
    (hpre : ∀ c ∈ pre, c.Miss P env v)
    (hsel : sel.cond = some t) (hpw : parseStatement kwWhen t = .ok (.when es)) (hw : whenRes P env v es = .err x) :
    run P O cfg fs fuel (spell (Delims.ofList cfg.delims) (caseChainSrc s w0 J (pre ++ sel :: post) wE)) line env =
      .err ⟨line + countNL (spell (Delims.ofList cfg.delims) (tg nmCase s w0 :: (J ++ clauseItemsK nmWhen pre))), true, x, .byCause⟩ ∧
    written P O cfg fs fuel (spell (Delims.ofList cfg.delims) (caseChainSrc s w0 J (pre ++ sel :: post) wE)) line env = [] := by
  rw [countNL_upto]
  apply run_written_single_fail P O cfg fs fuel env hg hc
    (caseK_compile _ line s w0 J (pre ++ sel :: post) wE subj hps hJ hrest)
  rw [caseCls_append]
  obtain ⟨ws, hws, hmiss⟩ := caseCls_miss (Delims.ofList cfg.delims) P env v pre
    (line + countNL ((tg nmCase s w0).spell (Delims.ofList cfg.delims)) + countNL (spell (Delims.ofList cfg.delims) J)) hpre
  rw [hws]
  have hwa : ∀ l, sel.whenAt l = some (l, es) := fun l => by simp only [Clause.whenAt, hsel, hpw]
  simp only [caseCls, hwa]
  exact caseB_when_err (mkCtx P O cfg fs fuel) line subj ⟨env, {}⟩ v hv ws _ es _ _ x hmiss hw (by omega)

/-- **C10 (`case`: the subject fails), from source bytes.** If the subject is an expression whose evaluation fails with cause `x`,
    the block fails with `x` at the line of the `case` tag, and nothing has been written: no `when` value is evaluated. -/
theorem case_subject_err_source (P : Prims) (O : OutPrims) (cfg : Cfg) (fs : FS) (fuel : Nat) (line : Nat) (env : Env)
    (s : Bytes) (w0 : Ws) (J : List Item) (rest : List Clause) (wE : Ws) (subj : Expr) (x : Cause)
    (hg : GoodDelims (Delims.ofList cfg.delims)) (hc : Clean (Delims.ofList cfg.delims) (caseChainSrc s w0 J rest wE))
    (hps : parseExprSource s = .ok subj) (hJ : Compiles (Delims.ofList cfg.delims) J 0)
    (hrest : ∀ c ∈ rest, c.GoodWhen (Delims.ofList cfg.delims))
    (hv : evaluate P env subj = .err x) :
    run P O cfg fs fuel (spell (Delims.ofList cfg.delims) (caseChainSrc s w0 J rest wE)) line env = .err ⟨line, true, x, .byCause⟩ ∧
    written P O cfg fs fuel (spell (Delims.ofList cfg.delims) (caseChainSrc s w0 J rest wE)) line env = [] := by
  apply run_written_single_fail P O cfg fs fuel env hg hc
    (caseK_compile _ line s w0 J rest wE subj hps hJ hrest)
  exact caseB_subject_err (mkCtx P O cfg fs fuel) line subj _ ⟨env, {}⟩ x hv

/-- **C10 (`case`: a `when` tag whose arguments are not a value list), from source bytes.** If the subject is an expression, the
    `when` clauses `pre` have value lists and the arguments `t` of the next `when` tag do not parse as `WHEN exprs` — `2 or 1`,
    a value with a filter, nothing at all — the template is not accepted: a syntax error at the line of that `when` tag. -/
theorem case_bad_when_source (P : Prims) (O : OutPrims) (cfg : Cfg) (fs : FS) (fuel : Nat) (line : Nat) (env : Env)
    (s : Bytes) (w0 : Ws) (J : List Item) (pre : List Clause) (sel : Clause) (post : List Clause) (wE : Ws) (subj : Expr)
    (t : Bytes) (x : ParseErr)
    (hg : GoodDelims (Delims.ofList cfg.delims))
    (hc : Clean (Delims.ofList cfg.delims) (caseChainSrc s w0 J (pre ++ sel :: post) wE))
    (hps : parseExprSource s = .ok subj) (hJ : Compiles (Delims.ofList cfg.delims) J 0)
    (hbodies : ∀ c ∈ pre ++ sel :: post, Compiles (Delims.ofList cfg.delims) c.body 0)
    (hpre : ∀ c ∈ pre, c.whenOk = true) (hsel : sel.cond = some t) (hbad : parseStatement kwWhen t = .err x) :
    run P O cfg fs fuel (spell (Delims.ofList cfg.delims) (caseChainSrc s w0 J (pre ++ sel :: post) wE)) line env =
      .err ⟨line + countNL (spell (Delims.ofList cfg.delims) (tg nmCase s w0 :: (J ++ clauseItemsK nmWhen pre))), true, .syntax, .byCause⟩ := by
  rw [run_spell P O cfg fs fuel _ line env hg hc,
    caseK_compile_bad _ line s w0 J pre sel post wE subj t x hps hJ hbodies hpre hsel hbad, countNL_upto]
  rfl

/-- **C10 (a `when` list matches), for every value layer.** `whenRes … = .ok true` says: some value of the list evaluates to a value
    equal to the subject (`P.equalFn`), and every value before it in the list evaluates, without error, to a value that is not. -/
theorem when_matches_iff (P : Prims) (env : Env) (sel : GoVal) (es : List Expr) :
    whenRes P env sel es = .ok true ↔
      ∃ pre e post u, es = pre ++ e :: post ∧ (∀ y ∈ pre, ∃ w, evaluate P env y = .ok w ∧ P.equalFn sel w = .ok false) ∧
        evaluate P env e = .ok u ∧ P.equalFn sel u = .ok true := by
  induction es with
  | nil =>
    constructor
    · intro h; cases h
    · rintro ⟨pre, e, post, u, h, -⟩
      cases pre <;> cases h
  | cons a r ih =>
    constructor
    · intro h
      rw [whenRes] at h
      split at h
      · next w ha =>
        split at h
        · next hq => exact ⟨[], a, r, w, rfl, (fun _ h => by cases h), ha, hq⟩
        · next hq =>
          obtain ⟨pre, e, post, u, h1, h2, h3, h4⟩ := ih.mp h
          exact ⟨a :: pre, e, post, u, by rw [h1]; rfl, List.forall_mem_cons.mpr ⟨⟨w, ha, hq⟩, h2⟩, h3, h4⟩
        all_goals cases h
      all_goals cases h
    · rintro ⟨pre, e, post, u, h1, h2, h3, h4⟩
      cases pre with
      | nil =>
        obtain ⟨rfl, rfl⟩ := List.cons.inj h1
        simp only [whenRes, h3, h4]
      | cons p pre =>
        obtain ⟨rfl, rfl⟩ := List.cons.inj h1
        obtain ⟨w, hw1, hw2⟩ := h2 a (List.mem_cons_self ..)
        simp only [whenRes, hw1, hw2]
        exact ih.mpr ⟨pre, e, post, u, rfl, fun y hy => h2 y (List.mem_cons_of_mem _ hy), h3, h4⟩

/-- **C10 (a `when` list misses), for every value layer.** `whenRes … = .ok false` says: every value of the list evaluates, without
    error, to a value that is not equal to the subject. -/
theorem when_misses_iff (P : Prims) (env : Env) (sel : GoVal) (es : List Expr) :
    whenRes P env sel es = .ok false ↔ ∀ y ∈ es, ∃ w, evaluate P env y = .ok w ∧ P.equalFn sel w = .ok false := by
  induction es with
  | nil => simp [whenRes]
  | cons a r ih =>
    rw [whenRes, List.forall_mem_cons, ← ih]
    cases evaluate P env a with
    | ok w =>
      cases hq : P.equalFn sel w with
      | ok b => cases b <;> simp [hq]
      | _ => simp [hq]
    | _ => simp

/-! ### One `when` clause and an `else` -/

/-- **C10 (`case` renders the clause whose value equals the subject), from source bytes.** Let the subject text `s`
    parse to `subj` and evaluate to `sel`, and the arguments of the `when` tag parse to the value list `es`.
    The instance `J = []`, `rest = [when vs, else]` of `case_clause_source`. For the source `{% case s %}{% when vs %}A{% else %}E{% endcase %}`:
    * if some value equals the subject, the block succeeds exactly when `A` does (as a template of its own where
      it stands), with exactly that output;
    * if none does, the same with the `else` body `E`. -/
theorem case_when_else_source (P : Prims) (O : OutPrims) (cfg : Cfg) (fs : FS) (fuel : Nat) (line : Nat) (env : Env)
    (s vs : Bytes) (A E : List Item) (w1 w2 w3 w4 : Ws) (subj : Expr) (es : List Expr) (sel : GoVal)
    (hg : GoodDelims (Delims.ofList cfg.delims)) (hc : Clean (Delims.ofList cfg.delims) (caseSrc s vs A E w1 w2 w3 w4))
    (hcA : Clean (Delims.ofList cfg.delims) A) (hcE : Clean (Delims.ofList cfg.delims) E)
    (hps : parseExprSource s = .ok subj) (hpw : parseStatement kwWhen vs = .ok (.when es))
    (hA : Compiles (Delims.ofList cfg.delims) A 0) (hE : Compiles (Delims.ofList cfg.delims) E 0)
    (hsel : evaluate P env subj = .ok sel) :
    (whenRes P env sel es = .ok true → ∀ out,
      run P O cfg fs fuel (spell (Delims.ofList cfg.delims) (caseSrc s vs A E w1 w2 w3 w4)) line env = .ok out ↔
      run P O cfg fs fuel (spell (Delims.ofList cfg.delims) A)
        (line + countNL ((tg nmCase s w1).spell (Delims.ofList cfg.delims)) + countNL ((tg nmWhen vs w2).spell (Delims.ofList cfg.delims)))
        env = .ok out) ∧
    (whenRes P env sel es = .ok false → ∀ out,
      run P O cfg fs fuel (spell (Delims.ofList cfg.delims) (caseSrc s vs A E w1 w2 w3 w4)) line env = .ok out ↔
      run P O cfg fs fuel (spell (Delims.ofList cfg.delims) E)
        (line + countNL ((tg nmCase s w1).spell (Delims.ofList cfg.delims)) + countNL ((tg nmWhen vs w2).spell (Delims.ofList cfg.delims))
          + countNL (spell (Delims.ofList cfg.delims) A) + countNL ((tg nmElse [] w3).spell (Delims.ofList cfg.delims)))
        env = .ok out) := by
  have hsrc : caseSrc s vs A E w1 w2 w3 w4 = caseChainSrc s w1 [] [⟨some vs, w2, A⟩, ⟨none, w3, E⟩] w4 := by
    simp [caseSrc, caseChainSrc, blockSrcK, clauseItemsK, Clause.tagK, nmEndcase]
  have h0 : countNL (spell (Delims.ofList cfg.delims) []) = 0 := rfl
  have hgood : ∀ c ∈ [(⟨some vs, w2, A⟩ : Clause), ⟨none, w3, E⟩], c.GoodWhen (Delims.ofList cfg.delims) :=
    List.forall_mem_cons.mpr ⟨⟨by simp only [Clause.whenOk, hpw], hA⟩, List.forall_mem_singleton.mpr ⟨rfl, hE⟩⟩
  rw [hsrc] at hc ⊢
  constructor
  · intro hw out
    have h := case_clause_source P O cfg fs fuel line env s w1 [] [] ⟨some vs, w2, A⟩ [⟨none, w3, E⟩] w4 subj sel hg hc hcA hps
      rfl hgood hsel (fun _ h => by cases h) (.inr ⟨vs, es, rfl, hpw, hw⟩) out
    simpa only [List.nil_append, clauseItemsK, Clause.tagK, spell_cons, countNL_append, h0, Nat.add_zero, Nat.add_assoc] using h
  · intro hw out
    have h := case_clause_source P O cfg fs fuel line env s w1 [] [⟨some vs, w2, A⟩] ⟨none, w3, E⟩ [] w4 subj sel hg hc hcE hps
      rfl hgood hsel (List.forall_mem_singleton.mpr ⟨vs, es, rfl, hpw, hw⟩) (.inl rfl) out
    simpa only [List.nil_append, List.cons_append, clauseItemsK, Clause.tagK, spell_cons, spell_append, countNL_append, h0,
      Nat.add_zero, Nat.add_assoc] using h

/-! ### Non-vacuity of `case_when_else_source`

A value layer in which two Go `int`s are equal when they are the same number. `{% case 1 %}{% when 2, 1 %}a{{ y }}{% else %}b{% endcase %}`:
the second value equals the subject, so the block renders what `a{{ y }}` renders. -/
def c10Prims : Prims :=
  { equal := fun _ _ => .ok false, less := fun _ _ => .ok false, contains := fun _ _ => .ok false,
    equalFn := fun a b => match a, b with | .int _ x, .int _ y => .ok (x == y) | _, _ => .ok false,
    applyFilter := fun _ v _ => .ok v, hasFilter := fun _ => false }

example : spell Delims.default (caseSrc [49] [50, 44, 32, 49] c10A c10B Ws.std Ws.std Ws.std Ws.std) =
    [123, 37, 32, 99, 97, 115, 101, 32, 49, 32, 37, 125, 123, 37, 32, 119, 104, 101, 110, 32, 50, 44, 32, 49, 32, 37, 125,
     97, 123, 123, 32, 121, 32, 125, 125, 123, 37, 32, 101, 108, 115, 101, 32, 37, 125, 98,
     123, 37, 32, 101, 110, 100, 99, 97, 115, 101, 32, 37, 125] := by decide +kernel

example (O : OutPrims) (fs : FS) (env : Env) (out : Bytes) :
    run c10Prims O {} fs 1 (spell Delims.default (caseSrc [49] [50, 44, 32, 49] c10A c10B Ws.std Ws.std Ws.std Ws.std)) 1 env = .ok out ↔
    run c10Prims O {} fs 1 (spell Delims.default c10A) 1 env = .ok out :=
  (case_when_else_source c10Prims O {} fs 1 1 env [49] [50, 44, 32, 49] c10A c10B Ws.std Ws.std Ws.std Ws.std
    (.lit (.int .int 1)) [.lit (.int .int 2), .lit (.int .int 1)] (.int .int 1) c10_gd (by decide +kernel) c10A_clean (by decide +kernel)
    c10_parse_one (by decide +kernel) c10A_compiles (by decide +kernel) rfl).1 rfl out

/-! ### Non-vacuity of the `case` theorems (value layer `c10Prims`)

`{% case 1 %}junk{% when 2, 3 %}a{% when 4, 1 %}b{{ y }}{% when 1 %}c{% else %}d{% endcase %}`: the first clause misses, the second lists a
value equal to the subject — the block renders what `b{{ y }}` renders; the third clause (which matches too) and the `else` are not
looked at; `junk` is not rendered. -/
def c10CasePre : List Clause := [⟨some [50, 44, 32, 51], Ws.std, [.text [97]]⟩]
def c10CaseSel : Clause := ⟨some [52, 44, 32, 49], Ws.std, [.text [98], ob [121]]⟩
def c10CasePost : List Clause := [⟨some [49], Ws.std, [.text [99]]⟩, ⟨none, Ws.std, [.text [100]]⟩]

example : spell Delims.default (caseChainSrc [49] Ws.std [.text [106, 117, 110, 107]] (c10CasePre ++ c10CaseSel :: c10CasePost) Ws.std) =
    [123, 37, 32, 99, 97, 115, 101, 32, 49, 32, 37, 125, 106, 117, 110, 107,
     123, 37, 32, 119, 104, 101, 110, 32, 50, 44, 32, 51, 32, 37, 125, 97,
     123, 37, 32, 119, 104, 101, 110, 32, 52, 44, 32, 49, 32, 37, 125, 98, 123, 123, 32, 121, 32, 125, 125,
     123, 37, 32, 119, 104, 101, 110, 32, 49, 32, 37, 125, 99,
     123, 37, 32, 101, 108, 115, 101, 32, 37, 125, 100, 123, 37, 32, 101, 110, 100, 99, 97, 115, 101, 32, 37, 125] := by decide +kernel

example (O : OutPrims) (fs : FS) (env : Env) (out : Bytes) :
    run c10Prims O {} fs 1 (spell Delims.default (caseChainSrc [49] Ws.std [.text [106, 117, 110, 107]]
      (c10CasePre ++ c10CaseSel :: c10CasePost) Ws.std)) 1 env = .ok out ↔
    run c10Prims O {} fs 1 (spell Delims.default [.text [98], ob [121]]) 1 env = .ok out :=
  case_clause_source c10Prims O {} fs 1 1 env [49] Ws.std [.text [106, 117, 110, 107]] c10CasePre c10CaseSel c10CasePost Ws.std
    (.lit (.int .int 1)) (.int .int 1) c10_gd (by decide +kernel) (by decide +kernel) c10_parse_one (by decide +kernel) (by decide +kernel) rfl
    (List.forall_mem_singleton.mpr ⟨[50, 44, 32, 51], [.lit (.int .int 2), .lit (.int .int 3)], rfl, (by decide +kernel), rfl⟩)
    (.inr ⟨[52, 44, 32, 49], [.lit (.int .int 4), .lit (.int .int 1)], rfl, (by decide +kernel), rfl⟩) out

/-- `{% case 1 %}{% when 2 %}a{% else %}b{{ y }}{% when 1 %}c{% endcase %}`: an `else` that is not last hides the matching `when` after it -/
example (O : OutPrims) (fs : FS) (env : Env) (out : Bytes) :
    run c10Prims O {} fs 1 (spell Delims.default (caseChainSrc [49] Ws.std []
      ([⟨some [50], Ws.std, [.text [97]]⟩] ++ (⟨none, Ws.std, [.text [98], ob [121]]⟩ : Clause) :: [⟨some [49], Ws.std, [.text [99]]⟩]) Ws.std)) 1 env
      = .ok out ↔
    run c10Prims O {} fs 1 (spell Delims.default [.text [98], ob [121]]) 1 env = .ok out :=
  case_clause_source c10Prims O {} fs 1 1 env [49] Ws.std [] [⟨some [50], Ws.std, [.text [97]]⟩] ⟨none, Ws.std, [.text [98], ob [121]]⟩
    [⟨some [49], Ws.std, [.text [99]]⟩] Ws.std
    (.lit (.int .int 1)) (.int .int 1) c10_gd (by decide +kernel) (by decide +kernel) c10_parse_one c10_nil_compiles (by decide +kernel) rfl
    (List.forall_mem_singleton.mpr ⟨[50], [.lit (.int .int 2)], rfl, c10_parse_when_two, rfl⟩)
    (.inl rfl) out

/-- `{% case 1 %}{% when 2 %}a{% when 3, 4 %}b{% endcase %}` renders nothing -/
example (O : OutPrims) (fs : FS) (env : Env) :
    run c10Prims O {} fs 1 (spell Delims.default (caseChainSrc [49] Ws.std []
      [⟨some [50], Ws.std, [.text [97]]⟩, ⟨some [51, 44, 32, 52], Ws.std, [.text [98]]⟩] Ws.std)) 1 env = .ok [] :=
  case_none_source c10Prims O {} fs 1 1 env [49] Ws.std [] [⟨some [50], Ws.std, [.text [97]]⟩, ⟨some [51, 44, 32, 52], Ws.std, [.text [98]]⟩]
    Ws.std (.lit (.int .int 1)) (.int .int 1) c10_gd (by decide +kernel) c10_parse_one c10_nil_compiles (by decide +kernel) rfl
    (List.forall_mem_cons.mpr ⟨⟨[50], [.lit (.int .int 2)], rfl, c10_parse_when_two, rfl⟩,
      List.forall_mem_singleton.mpr ⟨[51, 44, 32, 52], [.lit (.int .int 3), .lit (.int .int 4)], rfl, (by decide +kernel), rfl⟩⟩)

/-- `{% case 1 %}{% when 2 %}a⏎{% when 3, (1.."a") %}b{% else %}c{% endcase %}`: the second value of the second clause fails — the type
    error at line 2, the line of that `when` tag, nothing written; the `else` is not reached -/
example (O : OutPrims) (fs : FS) (env : Env) :
    run c10Prims O {} fs 1 (spell Delims.default (caseChainSrc [49] Ws.std []
      ([⟨some [50], Ws.std, [.text [97, 10]]⟩] ++ (⟨some ([51, 44, 32] ++ c10Poison), Ws.std, [.text [98]]⟩ : Clause) ::
        [⟨none, Ws.std, [.text [99]]⟩]) Ws.std)) 1 env = .err ⟨2, true, .typeErr, .byCause⟩ :=
  (case_when_err_source c10Prims O {} fs 1 1 env [49] Ws.std [] [⟨some [50], Ws.std, [.text [97, 10]]⟩]
    ⟨some ([51, 44, 32] ++ c10Poison), Ws.std, [.text [98]]⟩ [⟨none, Ws.std, [.text [99]]⟩] Ws.std
    (.lit (.int .int 1)) (.int .int 1) ([51, 44, 32] ++ c10Poison)
    [.lit (.int .int 3), .range (.lit (.int .int 1)) (.lit (.str [97]))] .typeErr
    c10_gd (by decide +kernel) c10_parse_one c10_nil_compiles (by decide +kernel) rfl
    (List.forall_mem_singleton.mpr ⟨[50], [.lit (.int .int 2)], rfl, c10_parse_when_two, rfl⟩)
    rfl (by decide +kernel) rfl).1

/-- `{% case (1.."a") %}{% when 2 %}a{% endcase %}` started at line 4: the type error at line 4, in every value layer -/
example (P : Prims) (O : OutPrims) (fs : FS) (env : Env) :
    run P O {} fs 1 (spell Delims.default (caseChainSrc c10Poison Ws.std [] [⟨some [50], Ws.std, [.text [97]]⟩] Ws.std)) 4 env =
      .err ⟨4, true, .typeErr, .byCause⟩ :=
  (case_subject_err_source P O {} fs 1 4 env c10Poison Ws.std [] [⟨some [50], Ws.std, [.text [97]]⟩] Ws.std
    (.range (.lit (.int .int 1)) (.lit (.str [97]))) .typeErr c10_gd (by decide +kernel) c10_parse_poison c10_nil_compiles (by decide +kernel) rfl).1

/-- `{% case 1 %}{% when 2 or 1 %}a{% endcase %}`: `or` does not separate `when` values here — a syntax error at the `when` tag -/
example (P : Prims) (O : OutPrims) (fs : FS) (env : Env) :
    run P O {} fs 1 (spell Delims.default (caseChainSrc [49] Ws.std []
      ([] ++ (⟨some [50, 32, 111, 114, 32, 49], Ws.std, [.text [97]]⟩ : Clause) :: []) Ws.std)) 1 env =
      .err ⟨1, true, .syntax, .byCause⟩ :=
  case_bad_when_source P O {} fs 1 1 env [49] Ws.std [] [] ⟨some [50, 32, 111, 114, 32, 49], Ws.std, [.text [97]]⟩ [] Ws.std
    (.lit (.int .int 1)) [50, 32, 111, 114, 32, 49] .syntax c10_gd (by decide +kernel) c10_parse_one c10_nil_compiles (by decide +kernel)
    (fun _ h => by cases h) rfl (by decide +kernel)
