import Proofs.DecEq
import Proofs.StdNoPanicLemmas
import Proofs.ArrNoPanic
import Proofs.JsonLemmas
import Proofs.FilterLogic
/-!
# The standard value layer never panics (the hypothesis of `run_noPanic`, discharged)

`PrimsNoPanic stdPrims stdOut`: the comparison operators, `values.Equal`, the filter call layer
(`ApplyFilter` + `values.Call` + every modelled filter body) and `writeObject` of the standard
configuration (`Liquid/Std.lean`) never return `Res.panic`.

The `.panic` sites of the model and why none is reachable:

* `Compare.lean` (14 sites: the `reflect` accessors `Bool`, `Int`, `Uint`, `Convert(float64)`, `Len`,
  `Type.Key`; Go's `==` on uncomparable types; the string assertion of `stringValue.Contains`) — by the
  theorems of `Proofs/CompareLemmas.lean` (`Cmp.relW_noPanic` on the operands `Cmp.operand_ok`, `Cmp.equal_noPanic`);
* `Num.badArgs`, `ArrF.badArgs`, `JsonF.badArgs`, `DateF.badArgs` (a body applied to arguments of the wrong Go type) — `values.Call` converts every
  argument to the parameter type of the registered signature first (`convertArgs_ok`), and each
  body's pattern is exactly its signature (`ImplsNoPanic`: a body is only required to be panic-free
  on arguments that are well typed for the signature registered under its name);
* `FilterImpl.ofEager`, `StrGlue.impl` — only propagate a panic of the body (`Str.lean` has none) or
  of a lazily converted default-function constant (`convert_noPanic`).
-/

open Cmp in
theorem cmp_noPanic (a b : GoVal) :
    NoPanicRes (stdPrims.equal a b) ∧ NoPanicRes (stdPrims.less a b) ∧
    NoPanicRes (stdPrims.contains a b) ∧ NoPanicRes (stdPrims.equalFn a b) :=
  ⟨NoPanicRes.of_isPanic (relW_noPanic .eq _ _ (operand_ok _) (operand_ok _)),
   NoPanicRes.of_isPanic (relW_noPanic .lt _ _ (operand_ok _) (operand_ok _)),
   NoPanicRes.of_isPanic (relW_noPanic .contains _ _ (operand_ok _) (operand_ok _)),
   NoPanicRes.of_isPanic (equal_noPanic _ _)⟩

example : stdPrims.equal (.slice .any [.int .int 1]) (.slice .any [.int .u8 1]) = .ok true := by decide +kernel

theorem stdChunks_noPanic (v : GoVal) : NoPanicRes (stdChunks v) := writeChunksL_noPanic _

example : (stdChunks (.slice .any [.int .int 1, .drop (.str [97])])).isOk = true := by decide +kernel

-- the hypothesis `ArgsOK` of the body lemmas is what `values.Call` produces, e.g. for `x | round: "2"`
example : ArgsOK [.val .f64, .fn .int] [.val (.flt .f64 1), .fn (some (convert (.str [50]) .int))] :=
  .cons ⟨1, rfl⟩ (.cons ⟨convert_noPanic _ _, fun _ h => convert_hasTy h⟩ .nil)

/-- the whole table of `Liquid/Std.lean`: all 48 registered filters, each under the signature registered for its name
    (`std_sweep`) -/
theorem stdFilterImpls_noPanic : ImplsNoPanic stdFilterImpls := fun name f hm sg hs =>
  std_sweep (Good := fun _ ps f => ∀ args, ArgsOK ps args → NoPanicRes (f args))
    Num.abs_noPanic Num.ceil_noPanic Num.floor_noPanic Num.plus_noPanic Num.minus_noPanic Num.times_noPanic Num.modulo_noPanic
    (fun n _ _ args ha => StrGlue.impl_noPanic n args ha.np)
    Num.dividedBy_noPanic Num.round_noPanic Num.default_noPanic Num.size_noPanic
    (ArrF.eager_anys fun _ => trivial)
    (ArrF.eager_anys_val (t := .anys) fun xs v ⟨ys, hv⟩ => by subst hv; trivial)
    (ArrF.eager_anys_fn (t := .str) (fun xs => ArrF.joinF_noPanic xs _) (fun xs v ⟨s, hv⟩ => by subst hv; exact ArrF.joinF_noPanic xs s))
    (ArrF.eager_anys_val (t := .str) fun xs v ⟨k, hv⟩ => by subst hv; exact (ArrF.mapF_noPanic k xs).bind_ok)
    (ArrF.eager_anys fun _ => trivial)
    (ArrF.eager_anys_val (t := .any) fun xs v _ => ArrF.sortWith_noPanic true xs v)
    (ArrF.eager_anys fun _ => trivial) (ArrF.eager_anys fun _ => trivial) (ArrF.eager_anys ArrF.uniq_noPanic)
    (ArrF.eager_anys_val (t := .any) fun xs v _ => ArrF.sortNaturalWith_noPanic true xs v)
    JsonF.json_noPanic JsonF.inspect_noPanic JsonF.typeF_noPanic DateF.date_noPanic (name, f) hm sg hs

theorem ImplsNoPanic.mono {t₁ t₂ : List (Bytes × FilterImpl)} (h : ImplsNoPanic t₂) (hs : ∀ e ∈ t₁, e ∈ t₂) : ImplsNoPanic t₁ :=
  fun name f hm => h name f (hs _ hm)

/-- a call through any part of the standard table (an engine on which only some of the standard filters are registered
    under their names) never panics -/
theorem applyFilter_part_noPanic {t : List (Bytes × FilterImpl)} (ht : ∀ e ∈ t, e ∈ stdFilterImpls)
    (name : Bytes) (recv : GoVal) (args : List GoVal) : NoPanicRes (applyFilter (lookupImpl t) name recv args) :=
  applyFilter_noPanic (stdFilterImpls_noPanic.mono ht) name recv args

theorem jsonImpls_part : ∀ e ∈ JsonF.impls, e ∈ stdFilterImpls :=
  fun _ h => by simp only [stdFilterImpls, List.mem_append]; exact .inl (.inr h)

theorem dateImpls_part : ∀ e ∈ DateF.impls, e ∈ stdFilterImpls :=
  fun _ h => by simp only [stdFilterImpls, List.mem_append]; exact .inr h

/-- `date`: the model of `tuesday.Strftime` and of the calendar has no panic site (`date_noPanic`, `Proofs/StdNoPanicLemmas.lean`);
    the body matches the time receiver and the string default function of its signature, and the lazy
    conversion of the format argument is the recovered `TypeError` of the call layer -/
theorem dateImpls_noPanic : ImplsNoPanic DateF.impls := stdFilterImpls_noPanic.mono dateImpls_part

-- the table is not vacuous: these calls reach a body (`"1.5" | round: 1`, `5 | upcase`, `(1..3) | join: 0`)
example : (applyFilter (lookupImpl stdFilterImpls) (Num.bn "round") (.str [49, 46, 53]) [.int .int 1]).isOk = true := by
  rw [applyFilter_pos 8 (name := Num.bn "round") (by decide +kernel)]
  decide +kernel
example : (applyFilter (lookupImpl stdFilterImpls) (Num.bn "upcase") (.int .int 5) []).isOk = true := by
  rw [applyFilter_pos 15 (name := Num.bn "upcase") (by decide +kernel)]
  decide +kernel
example : (applyFilter (lookupImpl stdFilterImpls) (Num.bn "join") (.range 1 3) [.int .int 0]).isOk = true := by
  rw [applyFilter_pos 36 (name := Num.bn "join") (by decide +kernel)]
  decide +kernel
-- `m | json` for a `map[string]any{"b": [1, nil, "<"]}` is `{"b":[1,null,"\u003c"]}`; `3 | type` is `int`
example : (match applyFilter (lookupImpl stdFilterImpls) (Num.bn "json")
      (.map .str .any [(.str [98], .slice .any [.int .int 1, .nil, .str [60]])]) [] with
    | .ok (.str s) => s == [123, 34, 98, 34, 58, 91, 49, 44, 110, 117, 108, 108, 44, 34, 92, 117, 48, 48, 51, 99, 34, 93, 125]
    | _ => false) = true := by
  rw [applyFilter_pos 44 (name := Num.bn "json") (by decide +kernel)]
  decide +kernel
example : (match applyFilter (lookupImpl stdFilterImpls) (Num.bn "type") (.int .int 3) [] with
    | .ok (.str s) => s == [105, 110, 116]
    | _ => false) = true := by
  rw [applyFilter_pos 46 (name := Num.bn "type") (by decide +kernel)]
  decide +kernel

-- `t | date: "%Y-%m-%d"` for 2000-02-29 is `2000-02-29`; `"2020-01-02" | date` is `Thu, Jan 02, 20`
example : (match applyFilter (lookupImpl stdFilterImpls) [100, 97, 116, 101] (.time 951782400) [.str [37, 89, 45, 37, 109, 45, 37, 100]] with
    | .ok (.str s) => s == [50, 48, 48, 48, 45, 48, 50, 45, 50, 57]
    | _ => false) = true := by
  rw [applyFilter_pos 47 (name := [100, 97, 116, 101]) (by decide +kernel)]
  decide +kernel
example : (match applyFilter (lookupImpl stdFilterImpls) [100, 97, 116, 101] (.str [50, 48, 50, 48, 45, 48, 49, 45, 48, 50]) [] with
    | .ok (.str s) => s == [84, 104, 117, 44, 32, 74, 97, 110, 32, 48, 50, 44, 32, 50, 48]
    | _ => false) = true := by
  rw [applyFilter_pos 47 (name := [100, 97, 116, 101]) (by decide +kernel)]
  decide +kernel

/-- **the hypothesis of `run_noPanic` holds for the standard configuration** -/
theorem std_noPanic : PrimsNoPanic stdPrims stdOut :=
  { equal := fun a b => (cmp_noPanic a b).1
    less := fun a b => (cmp_noPanic a b).2.1
    contains := fun a b => (cmp_noPanic a b).2.2.1
    equalFn := fun a b => (cmp_noPanic a b).2.2.2
    applyFilter := applyFilter_noPanic stdFilterImpls_noPanic
    chunks := stdChunks_noPanic }
