import Proofs.TraceLemmas
import Proofs.RenderStops
import Proofs.RunLemmas
import Proofs.LoopLemmas
import Proofs.RenderTreeDefs
/-!
# Who is named by the error of a render: the trace of a node tree

`traceNode` / `traceList` / … walk the compiled tree in render order with the state, exactly as the renderer
does (the same branch is taken, the same items are visited, a sibling is reached only when the one before it
returned `done`), and record

* `calls`: for every `Write` call the fault-free render makes, the location the error carries when that call
  fails — the node that issued (or flushed) the write, seen through the wrapping of the enclosing blocks;
* `fin`: the location of the error (or of the `break`/`continue`) the fault-free render ends with — the
  innermost construct whose own evaluation failed, seen through the same wrapping.

The decisions (which branch, which items, which state comes next) are read off the fault-free run of the
sub-programs (`Prog.pureRet`); the locations are not: they come from the tree. The induction over the tree is done
once, for any relation between programs and traces that the renderer's operations preserve (`TraceRel`,
`TraceRel.renderNode` …); `sp_renderNode` … are its instance for `SpS`: the renderer's interaction tree obeys the trace.
-/

theorem SpS.failed (e : RawErr) : SpS (.fail e) ⟨[], some e.site⟩ :=
  ⟨⟨.fail e, fun e' he => by simp only [Prog.pureFail, Option.some.injEq] at he; rw [he]⟩,
   fun st s hr _ => by simp [Prog.pureRet] at hr⟩

theorem SpS.panicked (w : String) (t : Option Site) : SpS (.panic w) ⟨[], t⟩ :=
  ⟨⟨.panic w, fun e he => by simp [Prog.pureFail] at he⟩, fun st s hr _ => by simp [Prog.pureRet] at hr⟩

theorem SpS.unmodelledP (w : String) (t : Option Site) : SpS (.unmodelled w) ⟨[], t⟩ :=
  ⟨⟨.unmodelled w, fun e he => by simp [Prog.pureFail] at he⟩, fun st s hr _ => by simp [Prog.pureRet] at hr⟩

theorem ownTr_mapFail {α} (loc : Loc) (g : RawErr → RawErr) (p : Prog α) : ownTr loc (p.mapFail g) = ownTr loc p := by
  simp only [ownTr, Prog.calls_mapFail, Prog.pureFail_mapFail, Option.map_map]
  rfl

/-- the body of a leaf node: work of the node's own (`OwnM`) that ends normally when it ends at all -/
def LeafM (loc : Loc) (m : M Status) : Prop := OwnM loc m ∧ ∀ s st s', (m s).pureRet = some (st, s') → st = .done

theorem leafM_bind {loc : Loc} {α} {m : M α} {f : α → M Status} (hm : OwnM loc m) (hf : ∀ a, LeafM loc (f a)) :
    LeafM loc (m >>= f) :=
  ⟨(ownM_core loc).bind hm fun a => (hf a).1, fun _ st s' h =>
    let ⟨a, _, ha⟩ := Prog.pureRet_bind_some h
    (hf a.1).2 a.2 st s' ha⟩

theorem leafM_done {loc : Loc} : LeafM loc (pure Status.done) :=
  ⟨(ownM_core loc).pure, fun _ _ _ h => (Prod.mk.inj (Option.some.inj h)).1.symm⟩

theorem leafM_fail {loc : Loc} {e : RawErr} (he : e.site = none ∨ e.site = some loc) : LeafM loc (M.fail e) :=
  ⟨fun _ => .fail e he, fun _ _ _ h => nomatch h⟩

/-- the iterations of one loop execution: the cells of a tablerow are written by the loop itself (not yet
    located: `pieceTr`), the body says where its own writes and failures are; a `break` ends the loop, a
    `continue` and a normal end go on with the next item -/
def iterTrace (var : Bytes) (cols : Option Nat) (bodyM : M Status) (bodyT : RS → Tr) (n : Nat) :
    List GoVal → Nat → List (GoVal × GoVal) → RS → Tr
  | [], _, _, _ => {}
  | x :: xs, i, cyc, s =>
    (pieceTr (iterPre var cols n x i cyc s)).bind (iterPre var cols n x i cyc s).pureRet fun a =>
    (bodyT a.2).bind (bodyM a.2).pureRet fun b =>
    (pieceTr (iterPost cols n i b.2)).bind (iterPost cols n i b.2).pureRet fun d =>
      match b.1 with
      | .brk _ => {}
      | _ => iterTrace var cols bodyM bodyT n xs (i + 1) (match cyclesOf d.1 with | some (c, _) => c | none => cyc) d.2

/-- one execution of a `for`/`tablerow` block. A failure of the head is located at the loop tag; with nothing
    selected the `else` clause runs; otherwise the columns are read (a failure there: at the tag) and the items
    are visited. Everything below is seen through the wrapping of the loop tag. -/
def loopTrace (budget : Int) (P : Prims) (path : Bytes) (loc : Loc) (tablerow : Bool) (var : Bytes) (e : Expr) (mods : LoopMods)
    (bodyM : M Status) (bodyT : RS → Tr) (tooMany : Bool) (elseT : Option (RS → Tr)) (s : RS) : Tr :=
  (ownTr loc (loopHeader budget P loc e mods tooMany s)).bind (loopHeader budget P loc e mods tooMany s).pureRet fun a =>
    match a.1, elseT with
    | [], some t => (t a.2).wrap path loc
    | items, _ =>
      (ownTr loc (tablerowCols P tablerow mods.cols loc a.2)).bind (tablerowCols P tablerow mods.cols loc a.2).pureRet fun b =>
        (iterTrace var b.1 bodyM bodyT items.length items 0 [] b.2).wrap path loc

theorem iterate_done (var : Bytes) (cols : Option Nat) (body : M Status) (n : Nat) :
    ∀ xs i cyc s st s', (iterateM var cols body n xs i cyc s).pureRet = some (st, s') → st = .done :=
  fun xs i cyc s _ _ h => (iterateM_done var cols body n xs i cyc s).pureRet _ h

def CondT.tagLine : CondT → Nat
  | .expr line _ => line
  | .notExpr line _ => line
  | .always => 0

/-- `{% include %}` below its own wrapping: a failure of the argument is not located (the tag will locate
    it); an argument that is no string is an error made at the tag; the handler's error keeps the location it
    says (a file that cannot be read: none; an error inside the file: the place in that file), a
    `break`/`continue` that comes out of the file likewise; the insertion is a write of the tag's own -/
def inclInner (c : RCtx) (line : Nat) (args : Bytes) (s : RS) : Tr :=
  match parseExprSource args with
  | .ok e =>
    (match evaluate c.P s.env e with
     | .ok (.str rel) =>
       let h := c.inc line (joinPath (dirPath c.cfg.path) rel) s.env
       (Tr.bind ⟨[], h.pureFail.map RawErr.site⟩ h.pureRet fun r =>
         match r.1 with
         | .done => pieceTr (writeVerbatimM r.2 s)
         | st => ⟨[], some st.site⟩)
     | .ok _ => ⟨[], some (some ⟨line, true⟩)⟩
     | .err _ => ⟨[], some none⟩
     | _ => {})
  | .err _ => ⟨[], some none⟩
  | _ => {}

mutual
def traceNode (c : RCtx) : Node → RS → Tr
  | .text line src, s => ownTr ⟨line, true⟩ (renderNode c (.text line src) s)
  | .obj line e, s => ownTr ⟨line, true⟩ (renderNode c (.obj line e) s)
  | .raw slices, s => ownTr invalidLoc (renderNode c (.raw slices) s)
  | .trim l, s => ownTr invalidLoc (renderNode c (.trim l) s)
  | .assign line x e, s => ownTr ⟨line, true⟩ (renderNode c (.assign line x e) s)
  | .cycle line g v0 rest, s => ownTr ⟨line, true⟩ (renderNode c (.cycle line g v0 rest) s)
  | .brk line, _ => ⟨[], some (some ⟨line, true⟩)⟩
  | .cont line, _ => ⟨[], some (some ⟨line, true⟩)⟩
  | .capture line _ body, s =>
    -- the body is rendered into a buffer of its own: no write reaches the caller's writer from inside. The end of the body's
    -- trace stands twice: first for a body that fails (`captureM` does not return), in the continuation for a sentinel it hands out
    Tr.wrap c.cfg.path ⟨line, true⟩
      ((⟨[], (traceList c body { env := s.env, tw := {} }).fin⟩ : Tr).bind (captureM (renderList c body) s).pureRet fun a =>
        match a.1.1 with
        | .done => {}
        | _ => ⟨[], (traceList c body { env := s.env, tw := {} }).fin⟩)
  | .ifB line bs, s => (traceBranches c bs s).wrap c.cfg.path ⟨line, true⟩
  | .caseB line subject cases, s =>
    Tr.wrap c.cfg.path ⟨line, true⟩
      (match evaluate c.P s.env subject with
       | .ok sel => traceCases c sel cases s
       | .err _ => ⟨[], some none⟩
       | _ => {})
  | .loop line tablerow var e mods body clauses, s =>
    match clauses with
    | [] => loopTrace c.cfg.budget c.P c.cfg.path ⟨line, true⟩ tablerow var e mods (renderBlockBody c body) (traceBlockBody c body) false none s
    | [els] => loopTrace c.cfg.budget c.P c.cfg.path ⟨line, true⟩ tablerow var e mods (renderBlockBody c body) (traceBlockBody c body) false
        (some (traceBlockBody c els)) s
    | _ :: _ :: _ => loopTrace c.cfg.budget c.P c.cfg.path ⟨line, true⟩ tablerow var e mods (renderBlockBody c body) (traceBlockBody c body) true none s
  | .incl line args, s => (inclInner c line args s).wrap c.cfg.path ⟨line, true⟩
termination_by x1 => (sizeOf x1, 0)
def traceList (c : RCtx) : List Node → RS → Tr
  | [], _ => {}
  | n :: ns, s =>
    (traceNode c n s).bind (renderNode c n s).pureRet fun a =>
      match a.1 with
      | .done => traceList c ns a.2
      | _ => ⟨[], (traceNode c n s).fin⟩
termination_by x1 => (sizeOf x1, 0)
/-- a block body (and the root): the sequence, then the flush — a write without a location of its own -/
def traceBlockBody (c : RCtx) (body : List Node) (s : RS) : Tr :=
  (traceList c body s).bind (renderList c body s).pureRet fun a =>
    match a.1 with
    | .done => ownTr invalidLoc (flushM a.2)
    | _ => ⟨[], (traceList c body s).fin⟩
termination_by (sizeOf body, 1)
def traceBranches (c : RCtx) : List (CondT × List Node) → RS → Tr
  | [], _ => {}
  | (t, body) :: rest, s =>
    (ownTr ⟨t.tagLine, true⟩ (evalCond c.P c.cfg.path t s)).bind (evalCond c.P c.cfg.path t s).pureRet fun a =>
      if a.1 then traceBlockBody c body a.2 else traceBranches c rest a.2
termination_by x1 => (sizeOf x1, 0)
def traceCases (c : RCtx) (sel : GoVal) : List (Option (Nat × List Expr) × List Node) → RS → Tr
  | [], _ => {}
  | (none, body) :: _, s => traceBlockBody c body s
  | (some (line, es), body) :: rest, s =>
    (ownTr ⟨line, true⟩ (whenMatches c sel es s)).bind (whenMatches c sel es s).pureRet fun a =>
      if a.1 then traceBlockBody c body a.2 else traceCases c sel rest a.2
termination_by x2 => (sizeOf x2, 0)
end

theorem pureFail_flush (s : RS) : (flushM s).pureFail = none := by
  unfold flushM
  split <;> rfl

theorem captureM_pureFail {α} (m : M α) (s : RS) : (captureM m s).pureFail = (m { env := s.env, tw := {} }).pureFail := by
  rw [captureM_eq, Prog.pureFail_eq_runPure (m _)]
  rcases (m { env := s.env, tw := {} }).runPure with ⟨out, ⟨a, s1⟩ | e | w | w⟩ <;> rfl

theorem captureM_pureRet {α} (m : M α) (s : RS) :
    (captureM m s).pureRet = (m { env := s.env, tw := {} }).pureRet.map fun x =>
      ((x.1, (m { env := s.env, tw := {} }).runPure.1 ++ x.2.tw.buf), { s with env := x.2.env }) := by
  rw [captureM_eq, Prog.pureRet_eq_runPure (m _)]
  rcases (m { env := s.env, tw := {} }).runPure with ⟨out, ⟨a, s1⟩ | e | w | w⟩ <;> rfl

theorem sentinel_site (path : Bytes) (loc : Loc) (c : Cause) :
    (RawErr.located (wrapError path (.located (wrapError path (.plain c) loc)) loc)).site = some loc := by
  rw [wrapError_site, wrapError_site]
  exact congrArg some (relocate_self path loc)

/-- `TraceRel R0 R`: the relation `R` between a program that returns a status and a trace (`R0`: a program that
    returns anything) holds of the primitive pieces of the renderer and their traces, and is kept by the ways in
    which the renderer puts programs together (`Tr.bind`, `Tr.wrap` on the side of the trace). -/
structure TraceRel (R0 : {α : Type} → Prog α → Tr → Prop) (R : Prog (Status × RS) → Tr → Prop) : Prop where
  /-- a node's own work, then the rest -/
  bind0 {α} {p : Prog α} {f : α → Prog (Status × RS)} {t1 : Tr} {t2 : α → Tr} :
    R0 p t1 → (∀ a, p.pureRet = some a → R (f a) (t2 a)) → R (p.bind f) (t1.bind p.pureRet t2)
  /-- a node or block, then the rest -/
  bind {p : Prog (Status × RS)} {f : Status × RS → Prog (Status × RS)} {t1 : Tr} {t2 : Status × RS → Tr} :
    R p t1 → (∀ a, p.pureRet = some a → R (f a) (t2 a)) → R (p.bind f) (t1.bind p.pureRet t2)
  /-- a continuation that only hands the status on (and may change the state) leaves the trace as it is -/
  bind_same {p : Prog (Status × RS)} {f : Status × RS → Prog (Status × RS)} {t : Tr} :
    R p t → (∀ x, ∃ s', f x = .ret (x.1, s')) → R (p.bind f) t
  /-- a piece of work followed by `done` -/
  bind_done {α} {p : Prog α} {f : α → Prog (Status × RS)} {t : Tr} :
    R0 p t → (∀ x, ∃ s', f x = .ret (.done, s')) → R (p.bind f) t
  ofDone {p : Prog (Status × RS)} {t : Tr} : R0 p t → (∀ st s, p.pureRet = some (st, s) → st = .done) → R p t
  wrapped {m : M Status} {s : RS} {t : Tr} (path : Bytes) (loc : Loc) : R (m s) t → R (wrapAt path loc m s) (t.wrap path loc)
  /-- a node's own work, wrapped at the node -/
  own {loc : Loc} {α} {p : Prog α} (path : Bytes) :
    Own loc p → R0 (p.mapFail (fun e => .located (wrapError path e loc))) (ownTr loc p)
  /-- the same work before it is wrapped -/
  piece {loc : Loc} {α} {p : Prog α} : Own loc p → R0 p (pieceTr p)
  /-- a body rendered into a buffer of its own, then the rest: no call of the body is seen, its end is -/
  capture {m : M Status} {s : RS} {t : Tr} {f : (Status × Bytes) × RS → Prog (Status × RS)} {t2 : (Status × Bytes) × RS → Tr} :
    R (m { env := s.env, tw := {} }) t → (∀ a, (captureM m s).pureRet = some a → R (f a) (t2 a)) →
    R ((captureM m s).bind f) ((⟨[], t.fin⟩ : Tr).bind (captureM m s).pureRet t2)
  retDone (s : RS) : R (.ret (.done, s)) {}
  sentinel (st : Status) (s : RS) : st ≠ .done → R (.ret (st, s)) ⟨[], some st.site⟩
  /-- a sentinel handed on from a program to what encloses it -/
  handOn {p : Prog (Status × RS)} {t : Tr} {st : Status} {s1 : RS} (s2 : RS) :
    R p t → p.pureRet = some (st, s1) → st ≠ .done → R (.ret (st, s2)) ⟨[], t.fin⟩
  failed (e : RawErr) : R (.fail e) ⟨[], some e.site⟩
  panicked (w : String) : R (.panic w) {}
  unmodelled (w : String) : R (.unmodelled w) {}

/-- what the induction asks of the include handler: its failure is the end of its trace -/
def IncTraced (R0 : {α : Type} → Prog α → Tr → Prop) (c : RCtx) : Prop :=
  ∀ line f env, R0 (c.inc line f env) ⟨[], (c.inc line f env).pureFail.map RawErr.site⟩

namespace TraceRel
variable {R0 : {α : Type} → Prog α → Tr → Prop} {R : Prog (Status × RS) → Tr → Prop} (L : TraceRel R0 R)
include L

theorem bindOwn {loc : Loc} {α} {p : Prog α} {f : α → Prog (Status × RS)} {t2 : α → Tr} (path : Bytes)
    (hp : Own loc p) (hf : ∀ a, p.pureRet = some a → R (f a) (t2 a)) :
    R ((p.mapFail (fun e => .located (wrapError path e loc))).bind f) ((ownTr loc p).bind p.pureRet t2) := by
  have := L.bind0 (f := f) (t2 := t2) (L.own path hp) (fun a ha => hf a (by rwa [Prog.pureRet_mapFail] at ha))
  rwa [Prog.pureRet_mapFail] at this

theorem ownWrapped {loc : Loc} {α} {m : M α} (path : Bytes) (s : RS) (hm : OwnM loc m) :
    R0 (wrapFailAt path loc m s) (ownTr loc (wrapFailAt path loc m s)) := by
  rw [wrapFailAt_apply, ownTr_mapFail]
  exact L.own path (hm s)

theorem leaf {loc : Loc} {m : M Status} (path : Bytes) (s : RS) (hm : LeafM loc m) :
    R (wrapFailAt path loc m s) (ownTr loc (wrapFailAt path loc m s)) :=
  L.ofDone (L.ownWrapped path s hm.1) (fun st s' hr => hm.2 s st s' (by rwa [wrapFailAt_apply, Prog.pureRet_mapFail] at hr))

theorem evalCond (P : Prims) (path : Bytes) (t : CondT) (s : RS) :
    R0 (evalCond P path t s) (ownTr ⟨t.tagLine, true⟩ (evalCond P path t s)) := by
  have hl : t.tagLine = t.line := by cases t <;> rfl
  rw [evalCond_eq, hl]
  cases condRes P s.env t with
  | ok b => exact L.own path (.ret _)
  | err c => exact L.own path (.fail (.plain c) (.inl rfl))
  | panic w => exact L.own path (.panic w)
  | unmodelled w => exact L.own path (.unmodelled w)

theorem iterate (var : Bytes) (cols : Option Nat) (bodyM : M Status) (bodyT : RS → Tr)
    (hb : ∀ s, R (bodyM s) (bodyT s)) (n : Nat) :
    ∀ xs i cyc s, R (iterateM var cols bodyM n xs i cyc s) (iterTrace var cols bodyM bodyT n xs i cyc s) := by
  intro xs
  induction xs with
  | nil =>
    intro i cyc s
    unfold iterateM iterTrace
    exact L.retDone s
  | cons x xs ih =>
    intro i cyc s
    rw [iterateM_cons_pre]
    unfold iterTrace
    simp only [M.bind_apply]
    refine L.bind0 (L.piece ((ownM_writer invalidLoc).iterPre (ownM_setVar _) (ownM_setVar _) cols n x i cyc s)) (fun a _ => ?_)
    refine L.bind (hb a.2) (fun b _ => ?_)
    refine L.bind0 (L.piece ((ownM_writer invalidLoc).iterPost (ownM_core _).getVar cols n i b.2)) (fun d _ => ?_)
    obtain ⟨st, s2⟩ := b
    cases st with
    | brk e => exact L.retDone _
    | done => exact ih _ _ _
    | cont e => exact ih _ _ _

theorem loopRun {budget : Int} (P : Prims) (path : Bytes) (loc : Loc) (tablerow : Bool) (var : Bytes) (e : Expr) (mods : LoopMods)
    (bodyM : M Status) (bodyT : RS → Tr) (hb : ∀ s, R (bodyM s) (bodyT s)) (tooMany : Bool)
    {elseM : Option (M Status)} {elseT : Option (RS → Tr)} (he : Option.Rel (fun m t => ∀ s, R (m s) (t s)) elseM elseT) (s : RS) :
    R (loopRun budget P path loc tablerow var e mods bodyM tooMany elseM s)
      (loopTrace budget P path loc tablerow var e mods bodyM bodyT tooMany elseT s) := by
  rw [loopRun_header, wrapAt_bind]
  unfold loopTrace
  rw [wrapFailAt_apply]
  refine L.bindOwn path ((ownM_core loc).loopHeader (fun _ _ => trivial) (fun _ => trivial) (.inr rfl) s) (fun a _ => ?_)
  obtain ⟨items, s1⟩ := a
  have hiter : R (wrapAt path loc (loopIterate P loc tablerow var mods.cols bodyM items) s1)
      ((ownTr loc (tablerowCols P tablerow mods.cols loc s1)).bind (tablerowCols P tablerow mods.cols loc s1).pureRet fun b =>
        (iterTrace var b.1 bodyM bodyT items.length items 0 [] b.2).wrap path loc) := by
    unfold loopIterate
    rw [wrapAt_bind, wrapFailAt_apply]
    refine L.bindOwn path ((ownM_core loc).tablerowCols (fun _ _ => trivial) (.inr rfl) s1) (fun b _ => ?_)
    obtain ⟨cols, s2⟩ := b
    refine L.wrapped path loc ?_
    simp only [M.bind_apply, M.getVar, Prog.bind]
    exact L.bind_same (L.iterate var cols bodyM bodyT hb items.length items 0 [] s2)
      (fun x => ⟨{ env := (x.2.env.set nmForloop (s2.env.get nmForloop)).set var (s2.env.get var), tw := x.2.tw }, by
        simp only [restoreLoopVars, M.bind_apply, M.setVar, Prog.bind, pure, M.pure]⟩)
  cases he with
  | none =>
    simp only [no_else_clause]
    cases items <;> exact hiter
  | @some m t he =>
    cases items with
    | nil =>
      simp only [else_when_empty]
      exact L.wrapped path loc (he s1)
    | cons x xs =>
      simp only [no_else_when_nonempty]
      exact hiter

theorem blockBody {c : RCtx} {body : List Node} {s : RS} (hl : R (renderList c body s) (traceList c body s)) :
    R (renderBlockBody c body s) (traceBlockBody c body s) := by
  unfold renderBlockBody traceBlockBody
  simp only [M.bind_apply]
  refine L.bind hl (fun a ha => ?_)
  obtain ⟨st, s'⟩ := a
  cases st with
  | done => exact L.bind_done (L.own c.cfg.path ((ownM_writer invalidLoc).flush s')) (fun x => ⟨x.2, rfl⟩)
  | brk e => exact L.handOn _ hl ha (by simp)
  | cont e => exact L.handOn _ hl ha (by simp)

variable {c : RCtx}

/-! The include handler is consulted by include nodes only: the induction asks of each subtree that the handler's failure
be the end of its trace OR that the subtree have no include node, and serves both readings. -/

mutual
theorem renderNode : ∀ n : Node, IncTraced R0 c ∨ n.noIncl = true → ∀ s : RS, R (renderNode c n s) (traceNode c n s)
  | .text line src, _, s => by
    unfold traceNode _root_.renderNode
    exact L.leaf _ s (leafM_bind (ownM_writer _).write fun _ => leafM_done)
  | .obj line e, _, s => by
    unfold traceNode _root_.renderNode
    refine L.leaf _ s (leafM_bind (ownM_core _).getEnv fun env => leafM_bind ((ownM_core _).ofRes trivial) fun v => ?_)
    split
    · exact leafM_fail (.inl rfl)
    · exact leafM_bind ((ownM_core _).ofRes trivial) fun _ => leafM_bind ((ownM_writer _).writeAll _) fun _ => leafM_done
  | .raw slices, _, s => by
    unfold traceNode _root_.renderNode
    exact L.leaf _ s (leafM_bind ((ownM_writer _).writeAll _) fun _ => leafM_done)
  | .trim true, _, s => by
    unfold traceNode _root_.renderNode
    exact L.leaf _ s (leafM_bind (ownM_writer _).trimLeft fun _ => leafM_done)
  | .trim false, _, s => by
    unfold traceNode _root_.renderNode
    exact L.retDone _
  | .assign line x e, _, s => by
    unfold traceNode _root_.renderNode
    exact L.leaf _ s
      (leafM_bind (ownM_core _).getEnv fun env => leafM_bind ((ownM_core _).ofRes trivial) fun v => leafM_bind (ownM_setVar _ _) fun _ => leafM_done)
  | .cycle line group v0 rest, _, s => by
    unfold traceNode _root_.renderNode
    refine L.leaf _ s (leafM_bind (ownM_core _).getVar fun lv => ?_)
    split
    · exact leafM_fail (.inr rfl)
    · exact leafM_bind (ownM_setVar _ _) fun _ => leafM_bind (ownM_writer _).writeVerbatim fun _ => leafM_done
  | .brk line, _, s => by
    unfold traceNode _root_.renderNode
    rw [← sentinel_site c.cfg.path ⟨line, true⟩ .brk]
    exact L.sentinel _ _ (by simp)
  | .cont line, _, s => by
    unfold traceNode _root_.renderNode
    rw [← sentinel_site c.cfg.path ⟨line, true⟩ .cont]
    exact L.sentinel _ _ (by simp)
  | .capture line x body, h, s => by
    unfold traceNode _root_.renderNode
    refine L.wrapped _ _ ?_
    simp only [M.bind_apply]
    have ih := renderList body h { env := s.env, tw := {} }
    refine L.capture ih (fun a ha => ?_)
    rw [captureM_pureRet] at ha
    obtain ⟨⟨st, s1⟩, hb, rfl⟩ := Option.map_eq_some_iff.mp ha
    cases st with
    | done => exact L.retDone _
    | brk e => exact L.handOn _ ih hb (by simp)
    | cont e => exact L.handOn _ ih hb (by simp)
  | .ifB line branches, h, s => by
    unfold traceNode _root_.renderNode
    exact L.wrapped _ _ (renderBranches branches h s)
  | .caseB line subject cases, h, s => by
    unfold traceNode _root_.renderNode
    refine L.wrapped _ _ ?_
    simp only [M.bind_apply, M.getEnv, Prog.bind]
    cases hv : evaluate c.P s.env subject with
    | ok sel =>
      simp only [M.ofRes, M.pure, Prog.bind]
      exact renderCases sel cases h s
    | err cause =>
      simp only [M.ofRes, M.fail, Prog.bind]
      exact L.failed _
    | panic w =>
      simp only [M.ofRes, Prog.bind]
      exact L.panicked _
    | unmodelled w =>
      simp only [M.ofRes, Prog.bind]
      exact L.unmodelled _
  | .loop line tablerow var e mods body [], h, s => by
    unfold traceNode _root_.renderNode
    exact L.loopRun c.P c.cfg.path ⟨line, true⟩ tablerow var e mods _ _ (fun s => L.blockBody (renderList body (orAnd_left h) s))
      false .none s
  | .loop line tablerow var e mods body [els], h, s => by
    unfold traceNode _root_.renderNode
    exact L.loopRun c.P c.cfg.path ⟨line, true⟩ tablerow var e mods _ _ (fun s => L.blockBody (renderList body (orAnd_left h) s))
      false (.some fun s => L.blockBody (renderList els (orAnd_left (orAnd_right h)) s)) s
  | .loop line tablerow var e mods body (_ :: _ :: _), h, s => by
    unfold traceNode _root_.renderNode
    exact L.loopRun c.P c.cfg.path ⟨line, true⟩ tablerow var e mods _ _ (fun s => L.blockBody (renderList body (orAnd_left h) s))
      true .none s
  | .incl line args, h, s => by
    rw [renderNode_incl]
    unfold traceNode inclInner
    refine L.wrapped _ _ ?_
    cases parseExprSource args with
    | ok e =>
      dsimp only
      cases evaluate c.P s.env e with
      | ok v =>
        cases v with
        | str rel =>
          refine L.bind0 (h.elim id (fun hn => nomatch hn) _ _ _) (fun r _ => ?_)
          obtain ⟨st, out⟩ := r
          cases st with
          | done => exact L.bind_done (L.piece ((ownM_writer invalidLoc).writeVerbatim s)) (fun x => ⟨x.2, rfl⟩)
          | brk e => exact L.sentinel _ _ (by simp)
          | cont e => exact L.sentinel _ _ (by simp)
        | _ => exact L.failed _
      | err cause => exact L.failed _
      | panic w => exact L.panicked _
      | unmodelled w => exact L.unmodelled _
    | err pe => exact L.failed _
    | panic w => exact L.panicked _
    | unmodelled w => exact L.unmodelled _
theorem renderList : ∀ ns : List Node, IncTraced R0 c ∨ noInclList ns = true → ∀ s : RS, R (renderList c ns s) (traceList c ns s)
  | [], _, s => by
    unfold _root_.renderList traceList
    exact L.retDone _
  | n :: ns, h, s => by
    unfold _root_.renderList traceList
    simp only [M.bind_apply]
    have hn := renderNode n (orAnd_left h) s
    refine L.bind hn (fun a ha => ?_)
    obtain ⟨st, s'⟩ := a
    cases st with
    | done => exact renderList ns (orAnd_right h) s'
    | brk e => exact L.handOn _ hn ha (by simp)
    | cont e => exact L.handOn _ hn ha (by simp)
theorem renderBranches : ∀ bs : List (CondT × List Node), IncTraced R0 c ∨ noInclBranches bs = true →
    ∀ s : RS, R (renderBranches c bs s) (traceBranches c bs s)
  | [], _, s => by
    unfold _root_.renderBranches traceBranches
    exact L.retDone _
  | (t, body) :: rest, h, s => by
    unfold _root_.renderBranches traceBranches
    simp only [M.bind_apply]
    refine L.bind0 (L.evalCond c.P c.cfg.path t s) (fun a _ => ?_)
    obtain ⟨b, s'⟩ := a
    cases b with
    | true => exact L.blockBody (renderList body (orAnd_left h) s')
    | false => exact renderBranches rest (orAnd_right h) s'
theorem renderCases (sel : GoVal) : ∀ cs : List (Option (Nat × List Expr) × List Node), IncTraced R0 c ∨ noInclCases cs = true →
    ∀ s : RS, R (renderCases c sel cs s) (traceCases c sel cs s)
  | [], _, s => by
    unfold _root_.renderCases traceCases
    exact L.retDone _
  | (none, body) :: _, h, s => by
    unfold _root_.renderCases traceCases
    exact L.blockBody (renderList body (orAnd_left h) s)
  | (some (line, es), body) :: rest, h, s => by
    unfold _root_.renderCases traceCases
    simp only [M.bind_apply, wrapFailAt_apply]
    refine L.bindOwn c.cfg.path ((ownM_core _).whenMatches (fun _ _ => trivial) (fun _ _ => trivial) sel es s) (fun a _ => ?_)
    obtain ⟨b, s'⟩ := a
    cases b with
    | true => exact L.blockBody (renderList body (orAnd_left h) s')
    | false => exact renderCases sel rest (orAnd_right h) s'
end

theorem renderBlockBody (body : List Node) (h : IncTraced R0 c ∨ noInclList body = true) (s : RS) :
    R (renderBlockBody c body s) (traceBlockBody c body s) :=
  L.blockBody (L.renderList body h s)

end TraceRel

theorem spRel : TraceRel @Sp SpS where
  bind0 := SpS.bind
  bind := fun h hf => SpS.bind h.toSp hf
  bind_same := SpS.bind_same
  bind_done := SpS.bind_done
  ofDone := fun h hd => ⟨h, fun st s hr hne => absurd (hd st s hr) hne⟩
  wrapped := SpS.wrapped
  own := Own.sp_wrap
  piece := Own.sp_piece
  capture := fun {m s _ _ _} ih hf =>
    SpS.bind ⟨IoAt.ofNoCalls (captureM_noCalls _ s), fun e he => ih.fin e (captureM_pureFail m s ▸ he)⟩ hf
  retDone := fun s => SpS.retDone s none
  sentinel := fun st s _ => SpS.retStatus st s
  handOn := fun _ h hr hne => by rw [h.sent _ _ hr hne]; exact SpS.retStatus _ _
  failed := SpS.failed
  panicked := fun w => SpS.panicked w none
  unmodelled := fun w => SpS.unmodelledP w none

theorem IncQuiet.sp {c : RCtx} (hc : IncQuiet c) : IncTraced @Sp c :=
  fun _ _ _ => ⟨IoAt.ofNoCalls (hc _ _ _), fun e he => by simp [he]⟩

theorem sp_renderNode (c : RCtx) (hc : IncQuiet c) : ∀ (n : Node) (s : RS), SpS (renderNode c n s) (traceNode c n s) :=
  fun n => spRel.renderNode n (.inl hc.sp)

theorem sp_renderList (c : RCtx) (hc : IncQuiet c) : ∀ (ns : List Node) (s : RS), SpS (renderList c ns s) (traceList c ns s) :=
  fun ns => spRel.renderList ns (.inl hc.sp)

theorem sp_renderBlockBody (c : RCtx) (hc : IncQuiet c) (body : List Node) (s : RS) :
    SpS (renderBlockBody c body s) (traceBlockBody c body s) :=
  spRel.renderBlockBody body (.inl hc.sp) s

theorem sp_renderBranches (c : RCtx) (hc : IncQuiet c) :
    ∀ (bs : List (CondT × List Node)) (s : RS), SpS (renderBranches c bs s) (traceBranches c bs s) :=
  fun bs => spRel.renderBranches bs (.inl hc.sp)

theorem sp_renderCases (c : RCtx) (hc : IncQuiet c) (sel : GoVal) :
    ∀ (cs : List (Option (Nat × List Expr) × List Node)) (s : RS), SpS (renderCases c sel cs s) (traceCases c sel cs s) :=
  fun cs => spRel.renderCases sel cs (.inl hc.sp)

/-- the trace of a whole render (`render.Render`): the root sequence, then the final flush — a write that
    has no location and no enclosing node -/
def traceRoot (c : RCtx) (root : List Node) (env : Env) : Tr := traceBlockBody c root { env := env, tw := {} }

theorem renderRoot_eq (c : RCtx) (root : List Node) (env : Env) :
    renderRoot c root env = (renderBlockBody c root { env := env, tw := {} }).bind (fun x => .ret x.1) :=
  renderRoot_eq_blockBody c root env

theorem sp_renderRoot (c : RCtx) (hc : IncQuiet c) (root : List Node) (env : Env) :
    IoAt (renderRoot c root env) (traceRoot c root env).calls ∧
    (∀ e, (renderRoot c root env).pureFail = some e → (traceRoot c root env).fin = some e.site) ∧
    (∀ st, (renderRoot c root env).pureRet = some st → st ≠ .done → (traceRoot c root env).fin = some st.site) := by
  have h := sp_renderBlockBody c hc root { env := env, tw := {} }
  rw [renderRoot_eq]
  have h2 := Sp.bind_ret (f := fun x => (Prog.ret x.1 : Prog Status)) h.toSp (fun x => ⟨_, rfl⟩)
  refine ⟨h2.io, h2.fin, fun st hr hne => ?_⟩
  obtain ⟨⟨a1, a2⟩, hp, ha⟩ := Prog.pureRet_bind_some hr
  cases ha
  exact h.sent a1 a2 hp hne

/-- `FRender` obeys the trace of the root; a `break`/`continue` that reaches the top is its error -/
theorem sp_frenderOf (c : RCtx) (hc : IncQuiet c) (root : List Node) (env : Env) :
    Sp ((renderRoot c root env).bind statusToProg) (traceRoot c root env) := by
  obtain ⟨h1, h2, h3⟩ := sp_renderRoot c hc root env
  refine ⟨?_, fun e he => ?_⟩
  · have := IoAt.bind (f := statusToProg) (fun _ => []) h1 (fun a _ => by cases a <;> first | exact .ret _ | exact .fail _)
    cases hr : (renderRoot c root env).pureRet <;> rw [hr] at this <;> simpa using this
  · rw [Prog.pureFail_bind] at he
    cases hr : (renderRoot c root env).pureRet with
    | none => rw [hr] at he; exact h2 e he
    | some st =>
      rw [hr] at he
      cases st with
      | done => simp [statusToProg, Prog.pureFail] at he
      | brk e0 =>
        simp only [statusToProg, Prog.pureFail, Option.some.injEq] at he
        subst he
        exact h3 _ hr (by simp)
      | cont e0 =>
        simp only [statusToProg, Prog.pureFail, Option.some.injEq] at he
        subst he
        exact h3 _ hr (by simp)

theorem sp_frender (P : Prims) (O : OutPrims) (cfg : Cfg) (fs : FS) (fuel : Nat) (root : List Node) (env : Env) :
    Sp (frender P O cfg fs fuel root env) (traceRoot (mkCtx P O cfg fs fuel) root env) :=
  sp_frenderOf _ (incQuiet_mkCtx P O cfg fs fuel) root env
