import Liquid.Generated.MapIter
/-!
# Obligation over the map iteration sites regenerated from the Go source (translator T5, C02)
-/

/-- Every place where the library iterates a Go map (regenerated from the source on every run) is one of
the audited sites: its keys are sorted before use, or it copies every entry into a fresh map, or it is a
conjunction over all entries. A new map iteration in the source breaks this obligation. -/
theorem map_iterations_audited : mapIterSites.all MapIterFact.audited = true := by decide +kernel

/-- the table is not empty (the translator found the known sites) -/
theorem map_iterations_found : 3 ≤ mapIterSites.length := by decide

theorem sorted_sites_sort (f : MapIterFact) (hf : f ∈ mapIterSites) : f.audited = true :=
  List.all_eq_true.mp map_iterations_audited f hf
