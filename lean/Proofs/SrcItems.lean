import Proofs.SrcCompile
import Proofs.LoopLemmas
import Proofs.C19E2E
/-!
# Source-level helpers: writing templates as item lists, and running them

`tg name args w` is the tag `{% name args %}` written with the white space `w = (wl, wm, wr)` and no
trim hyphens; `ob args w` the object `{{ args }}` (white space `wl`, `wr`). `run_spell`: `run` on the bytes `spell d items` is the rest of the
pipeline on `tokensOf d items` (by `scan_spell`); the source-level theorems of `Proofs/C*Source.lean` take it with the
compiled root they derive (`run_of_compilesTo`, Proofs/SrcCompilesTo.lean).
`Compiles d items line`: the piece is a self-contained template. `resOfRoot`: `runRoot` read off the run of `renderRoot`
(`runRoot_ok_iff`, `run_ok_iff`: when a root, a source, ends normally).
`runRoot_wrapped_body_ok` /
`runRoot_silent`: a one-node root that renders a body, or nothing. `mem_tokensOf_item`: from a tag or
object token back to its item.
-/

abbrev Ws := Bytes × Bytes × Bytes

def Ws.std : Ws := ([32], [32], [32])

/-- `{% name args %}` with white space `w` and no trim hyphens -/
def tg (name args : Bytes) (w : Ws := Ws.std) : Item := .tag name args false false w.1 w.2.1 w.2.2

/-- `{{ args }}` with white space `(w.1, w.2.2)` and no trim hyphens -/
def ob (args : Bytes) (w : Ws := Ws.std) : Item := .obj args false false w.1 w.2.2

def tgTok (d : Delims) (name args : Bytes) (w : Ws) (line : Nat) : Token :=
  { ty := .tag, line := line, name := name, args := args, source := (tg name args w).spell d }

def obTok (d : Delims) (args : Bytes) (w : Ws) (line : Nat) : Token :=
  { ty := .obj, line := line, args := args, source := (ob args w).spell d }

theorem tokensOf_tg (d : Delims) (name args : Bytes) (w : Ws) (r : List Item) (line : Nat) :
    tokensOf d (tg name args w :: r) line =
      tgTok d name args w line :: tokensOf d r (line + countNL ((tg name args w).spell d)) := by
  simp [tokensOf, tg, tgTok, Item.tokens]

theorem tokensOf_ob (d : Delims) (args : Bytes) (w : Ws) (r : List Item) (line : Nat) :
    tokensOf d (ob args w :: r) line =
      obTok d args w line :: tokensOf d r (line + countNL ((ob args w).spell d)) := by
  simp [tokensOf, ob, obTok, Item.tokens]

theorem spell_single (d : Delims) (it : Item) : spell d [it] = it.spell d := by simp [spell]

/-- a piece of a template, placed at `line`, is a self-contained template: well nested on its own, every
    object an expression, every tag compiles (decidable; `Compiles.nodes` extracts the node list) -/
def Compiles (d : Delims) (items : List Item) (line : Nat) : Prop :=
  (compileTokens (tokensOf d items line)).isOk = true

instance (d : Delims) (items : List Item) (line : Nat) : Decidable (Compiles d items line) := by
  unfold Compiles; infer_instance

theorem Compiles.nodes {d : Delims} {items : List Item} {line : Nat} (h : Compiles d items line) :
    ∃ ns, compileTokens (tokensOf d items line) = .ok ns := by
  unfold Compiles at h
  cases hc : compileTokens (tokensOf d items line) with
  | ok ns => exact ⟨ns, rfl⟩
  | _ => rw [hc] at h; cases h

theorem run_spell (P : Prims) (O : OutPrims) (cfg : Cfg) (fs : FS) (fuel : Nat) (items : List Item) (line : Nat) (env : Env)
    (hg : GoodDelims (Delims.ofList cfg.delims)) (hc : Clean (Delims.ofList cfg.delims) items) :
    run P O cfg fs fuel (spell (Delims.ofList cfg.delims) items) line env =
      runCompiled P O cfg fs fuel (compileTokens (tokensOf (Delims.ofList cfg.delims) items line)) env := by
  rw [run_eq_runTokens, scan_spell cfg.delims items line hg hc]
  rfl

theorem compileSource_spell (delims : List Bytes) (items : List Item) (line : Nat)
    (hg : GoodDelims (Delims.ofList delims)) (hc : Clean (Delims.ofList delims) items) :
    compileSource delims (spell (Delims.ofList delims) items) line = compileTokens (tokensOf (Delims.ofList delims) items line) := by
  rw [compileSource_eq_compileTokens, scan_spell delims items line hg hc]

theorem flush_done_buf (s : RS) (o : Bytes) (s' : RS) (path : Bytes) (loc : Loc)
    (h : (wrapFailAt path loc flushM s).runPure = (o, .ok ((), s'))) : s'.tw.buf = [] ∧ s'.tw.trim = s.tw.trim ∧ s'.env = s.env ∧ o = s.tw.buf := by
  unfold wrapFailAt M.mapFail flushM at h
  simp only at h
  split at h
  · next hb =>
    simp only [Prog.mapFail, Prog.runPure, Prod.mk.injEq, Prog.Outcome.ok.injEq] at h
    obtain ⟨rfl, -, rfl⟩ := h
    have : s.tw.buf = [] := by simpa using hb
    exact ⟨this, rfl, rfl, this.symm⟩
  · simp only [Prog.mapFail, Prog.runPure, List.append_nil, Prod.mk.injEq, Prog.Outcome.ok.injEq] at h
    obtain ⟨rfl, -, rfl⟩ := h
    exact ⟨rfl, rfl, rfl, rfl⟩

/-- a block body that ended normally, read on its sequence: the output is what the sequence wrote plus
    what it left pending, and nothing is pending afterwards -/
theorem blockBody_done_run (c : RCtx) (A : List Node) (s0 s1 : RS) (outA : Bytes)
    (h : (renderBlockBody c A s0).runPure = (outA, .ok (.done, s1))) :
    ∃ o s', (renderList c A s0).runPure = (o, .ok (.done, s')) ∧ outA = o ++ s'.tw.buf ∧ s1.env = s'.env ∧
      s1.tw.buf = [] := by
  unfold renderBlockBody at h
  obtain ⟨o1, ⟨st, s'⟩, o2, hl, h2, rfl⟩ := Prog.runPure_bind_ok h
  cases st with
  | done =>
    obtain ⟨o3, ⟨u, s2⟩, o4, hf, h4, rfl⟩ := Prog.runPure_bind_ok h2
    cases h4
    obtain ⟨hbuf, -, henv, rfl⟩ := flush_done_buf s' o3 s1 _ _ hf
    exact ⟨o1, s', hl, by simp, henv, hbuf⟩
  | brk e => cases h2
  | cont e => cases h2

theorem runRoot_eq_blockBody (P : Prims) (O : OutPrims) (cfg : Cfg) (fs : FS) (fuel : Nat) (root : List Node) (env : Env) :
    runRoot P O cfg fs fuel root env =
      match (renderBlockBody (mkCtx P O cfg fs fuel) root ⟨env, {}⟩).runPure with
      | (o, .ok (.done, _)) => .ok o
      | (_, .ok (.brk e, _)) => .err e
      | (_, .ok (.cont e, _)) => .err e
      | (_, .err (.located e)) => .err e
      | (_, .err (.plain c)) => .err ⟨0, false, c, .byCause⟩
      | (_, .panic w) => .panic w
      | (_, .unmodelled w) => .unmodelled w := by
  unfold runRoot frender
  rw [renderRoot_eq_blockBody, Prog.bind_assoc, Prog.runPure_bind]
  rcases (renderBlockBody (mkCtx P O cfg fs fuel) root ⟨env, {}⟩).runPure with ⟨o, r⟩
  cases r with
  | ok r =>
    obtain ⟨st, s'⟩ := r
    cases st <;> simp [Prog.bind, statusToProg, Prog.runPure]
  | err e => cases e <;> rfl
  | _ => rfl

/-- what `Render` returns, read off the run of `renderRoot` -/
def resOfRoot : Bytes × Prog.Outcome Status → RunResult
  | (out, .ok .done) => .ok out
  | (_, .ok (.brk e)) => .err e
  | (_, .ok (.cont e)) => .err e
  | (_, .err (.located e)) => .err e
  | (_, .err (.plain c)) => .err ⟨0, false, c, .byCause⟩
  | (_, .panic w) => .panic w
  | (_, .unmodelled w) => .unmodelled w

theorem runRoot_eq_resOfRoot (P : Prims) (O : OutPrims) (cfg : Cfg) (fs : FS) (fuel : Nat) (root : List Node) (env : Env) :
    runRoot P O cfg fs fuel root env = resOfRoot (renderRoot (mkCtx P O cfg fs fuel) root env).runPure := by
  unfold runRoot frender
  rw [Prog.runPure_bind]
  rcases (renderRoot (mkCtx P O cfg fs fuel) root env).runPure with ⟨o, r⟩
  cases r with
  | ok st => cases st <;> simp [statusToProg, Prog.runPure, resOfRoot]
  | err e => cases e <;> simp [resOfRoot]
  | panic w => simp [resOfRoot]
  | unmodelled w => simp [resOfRoot]

theorem resOfRoot_ok_iff (x : Bytes × Prog.Outcome Status) (out : Bytes) : resOfRoot x = .ok out ↔ x = (out, .ok .done) := by
  obtain ⟨o, r⟩ := x
  cases r with
  | ok st => cases st <;> simp [resOfRoot]
  | err e => cases e <;> simp [resOfRoot]
  | panic w => simp [resOfRoot]
  | unmodelled w => simp [resOfRoot]

theorem runRoot_ok_iff (P : Prims) (O : OutPrims) (cfg : Cfg) (fs : FS) (fuel : Nat) (root : List Node) (env : Env) (out : Bytes) :
    runRoot P O cfg fs fuel root env = .ok out ↔
      (renderRoot (mkCtx P O cfg fs fuel) root env).runPure = (out, .ok .done) := by
  rw [runRoot_eq_resOfRoot, resOfRoot_ok_iff]

theorem run_ok_iff (P : Prims) (O : OutPrims) (cfg : Cfg) (fs : FS) (fuel : Nat) (src : Bytes) (line : Nat) (env : Env) (out : Bytes) :
    run P O cfg fs fuel src line env = .ok out ↔
      ∃ root, compileSource cfg.delims src line = .ok root ∧
        (renderRoot (mkCtx P O cfg fs fuel) root env).runPure = (out, .ok .done) := by
  rw [run_eq_runCompiled]
  cases hc : compileSource cfg.delims src line with
  | ok root =>
    show runRoot P O cfg fs fuel root env = .ok out ↔ _
    rw [runRoot_ok_iff]
    constructor
    · intro h; exact ⟨root, rfl, h⟩
    · rintro ⟨r, hr, h⟩; cases hr; exact h
  | _ => simp [runCompiled]

theorem runRoot_single_congr (P : Prims) (O : OutPrims) (cfg : Cfg) (fs : FS) (fuel : Nat) (n m : Node) (env : Env)
    (h : renderNode (mkCtx P O cfg fs fuel) n { env := env, tw := {} } =
         renderNode (mkCtx P O cfg fs fuel) m { env := env, tw := {} }) :
    runRoot P O cfg fs fuel [n] env = runRoot P O cfg fs fuel [m] env := by
  unfold runRoot
  rw [frender_single, frender_single, h]

/-- a root that is one node behaving like `wrapAt … (renderBlockBody body)` (a conditional whose selected
    branch is `body`, a loop clause…) succeeds exactly when `body` as a template of its own succeeds, with
    the same output -/
theorem runRoot_wrapped_body_ok (P : Prims) (O : OutPrims) (cfg : Cfg) (fs : FS) (fuel : Nat) (n : Node) (body : List Node)
    (env : Env) (loc : Loc)
    (h : renderNode (mkCtx P O cfg fs fuel) n ⟨env, {}⟩ =
         wrapAt cfg.path loc (renderBlockBody (mkCtx P O cfg fs fuel) body) ⟨env, {}⟩) (out : Bytes) :
    runRoot P O cfg fs fuel [n] env = .ok out ↔ runRoot P O cfg fs fuel body env = .ok out := by
  rw [runRoot_eq_blockBody P O cfg fs fuel body]
  unfold runRoot
  rw [frender_single, h, Prog.runPure_bind, runPure_wrapAt]
  rcases hb : (renderBlockBody (mkCtx P O cfg fs fuel) body ⟨env, {}⟩).runPure with ⟨o, r⟩
  cases r with
  | ok r =>
    obtain ⟨st, s'⟩ := r
    cases st with
    | done =>
      obtain ⟨_, _, _, _, _, hbuf⟩ := blockBody_done_run _ _ _ _ _ hb
      simp only [Status.wrap]
      have hf : (wrapFailAt cfg.path invalidLoc flushM s').runPure = ([], .ok ((), s')) := by
        unfold wrapFailAt M.mapFail flushM
        simp [hbuf, Prog.mapFail, Prog.runPure]
      rw [Prog.runPure_bind, hf]
      simp [Prog.runPure]
    | brk e => simp [Status.wrap, Prog.runPure]
    | cont e => simp [Status.wrap, Prog.runPure]
  | err e => cases e <;> simp
  | _ => simp

theorem runRoot_silent (P : Prims) (O : OutPrims) (cfg : Cfg) (fs : FS) (fuel : Nat) (n : Node) (env : Env)
    (h : renderNode (mkCtx P O cfg fs fuel) n ⟨env, {}⟩ = .ret (.done, ⟨env, {}⟩)) :
    runRoot P O cfg fs fuel [n] env = .ok [] := by
  unfold runRoot
  rw [frender_single, h]
  simp [Prog.bind, wrapFailAt, M.mapFail, flushM, Prog.mapFail, Prog.runPure]

theorem mem_tokensOf_item (d : Delims) : ∀ (items : List Item) (line : Nat) (t : Token), t ∈ tokensOf d items line →
    (t.ty = .tag ∨ t.ty = .obj) →
    ∃ pre it post, items = pre ++ it :: post ∧ it.isText = false ∧ t = it.mainTok d (line + countNL (spell d pre))
  | [], _, t, ht, _ => by simp [tokensOf] at ht
  | it :: r, line, t, ht, hty => by
    simp only [tokensOf, List.mem_append] at ht
    rcases ht with ht | ht
    · rcases Item.tokens_mem d line it t ht with rfl | rfl | rfl
      · rcases hty with h | h <;> cases h
      · rcases hty with h | h <;> cases h
      · refine ⟨[], it, r, rfl, ?_, by simp [spell, countNL]⟩
        cases it with
        | text s => rcases hty with h | h <;> cases h
        | _ => rfl
    · obtain ⟨pre, it', post, h1, h2, h3⟩ := mem_tokensOf_item d r _ t ht hty
      refine ⟨it :: pre, it', post, by rw [h1]; rfl, h2, ?_⟩
      rw [h3, spell_cons, countNL_append, Nat.add_assoc]

theorem Item.mainTok_line (d : Delims) (l : Nat) (it : Item) : (it.mainTok d l).line = l := by
  cases it <;> rfl

def strictCfg : Cfg := { strict := true }

theorem isOpen_tgTok (d : Delims) (n a : Bytes) (w : Ws) (l : Nat) (hb : stdGrammar.isBlock n = true)
    (h1 : n ≠ commentName) (h2 : n ≠ rawName) : stdGrammar.isOpen (tgTok d n a w l) = true :=
  isOpen_iff.mpr ⟨rfl, hb, h1, h2⟩
