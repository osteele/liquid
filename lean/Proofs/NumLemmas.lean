import Liquid.Filters.Num
import Proofs.F64Lemmas
import Proofs.CallLemmas
/-!
# Helper lemmas for C17: `f64Round`/`fltResult` from `roundF64`; `values.Call` on a `float64` receiver; `round` step by
step (`roundTo_steps`, `roundHalfUpE`); truncation and `math.Mod` (`ratMod_*`); the numeric filter table
-/

/-- a `float64` argument as `values.Call` hands it to a filter body -/
abbrev fv (q : Rat) : Arg := .val (.flt .f64 q)

theorem f64Round_of_round {q r : Rat} (h : roundF64 q = some r) (nz : Bool) (hz : r = 0 → nz = false) :
    f64Round q nz = .ok r := by
  unfold f64Round
  rw [h]
  by_cases hr : r = 0
  · simp [hz hr]
  · simp [hr]

theorem fltResult_of_round {q r : Rat} (h : roundF64 q = some r) (nz : Bool) (hz : r = 0 → nz = false) :
    Num.fltResult q nz = ret (.flt .f64 r) := by
  rw [Num.fltResult, f64Round_of_round h nz hz]
  rfl

theorem fltResult_overflow {q : Rat} (h : roundF64 q = none) (nz : Bool) :
    Num.fltResult q nz = .unmodelled "float64: overflow to ±Inf" := by
  rw [Num.fltResult, f64Round, h]
  rfl

theorem signFlag_eq_false {a b : Rat} (h : a < 0 ↔ b < 0) : (decide (a < 0) != decide (b < 0)) = false := by
  by_cases ha : a < 0 <;> simp_all

theorem representable_zero : Representable 0 := roundF64_zero

theorem inInt64_iff {n : Int} : inInt64 n = true ↔ -(2 ^ 63) ≤ n ∧ n ≤ 2 ^ 63 - 1 := by
  simp only [inInt64, minInt64, maxInt64, Bool.and_eq_true]
  constructor
  · intro h; exact ⟨of_decide_eq_true h.1, of_decide_eq_true h.2⟩
  · intro h; exact ⟨decide_eq_true h.1, decide_eq_true h.2⟩

theorem wrapInt64_of_inRange {n : Int} (h : inInt64 n = true) : wrapInt64 n = n := by
  have ⟨h1, h2⟩ := inInt64_iff.mp h
  simp only [wrapInt64]
  split <;> omega

theorem convert_str_f64 {s : Bytes} {q r : Rat} (hn : readNumber s = .num q) (hr : roundF64 q = some r)
    (hz : r = 0 → s.head? ≠ some 45) : convert (.str s) .f64 = .ok (.flt .f64 r) := by
  simp only [convert, GoVal.toLiquid, parseFloatStr, hn, hr]
  by_cases h0 : r = 0
  · simp [h0, hz h0]
  · simp [h0]

theorem convert_str_f64_bad {s : Bytes} (hn : readNumber s = .bad) : convert (.str s) .f64 = .err .typeErr := by
  simp [convert, GoVal.toLiquid, parseFloatStr, hn]

theorem convert_flt_f64 (k : FltKind) (r : Rat) : convert (.flt k r) .f64 = .ok (.flt .f64 r) := by
  simp [convert, GoVal.toLiquid]

theorem zero_converts {z : GoVal} (hz : (∃ k, z = .int k 0) ∨ (∃ k, z = .flt k 0)) :
    Heap.convArgVal .any (some z) = .ok z ∧ Heap.convArgVal .f64 (some z) = .ok (.flt .f64 0) := by
  rcases hz with ⟨k, rfl⟩ | ⟨k, rfl⟩
  · exact ⟨by simp [Heap.convArgVal, convert, convAny, GoVal.toLiquid], by simp [Heap.convArgVal, convert, GoVal.toLiquid, f64Round, roundF64_zero]⟩
  · exact ⟨by simp [Heap.convArgVal, convert, convAny, GoVal.toLiquid], convert_flt_f64 k 0⟩

def numericNames : List Bytes :=
  ["abs", "ceil", "floor", "plus", "minus", "times", "divided_by", "modulo", "round"].map Num.bn

/-- the binary arithmetic filters, whose operand is also a `float64` parameter -/
def binaryNames : List Bytes := ["plus", "minus", "times", "modulo"].map Num.bn

/-- `name` is registered with parameters that satisfy `ok`, read off the table extracted from the source
    (`lookupSig_is_source`) -/
def sigParamsOK (ok : List Param → Bool) (name : Bytes) : Bool :=
  match findSig generatedFilterSigs name with
  | some sg => ok sg.params
  | none => false

theorem sigParamsOK_elim {ok : List Param → Bool} {name : Bytes} (h : sigParamsOK ok name = true) :
    ∃ sg, lookupSig name = some sg ∧ ok sg.params = true := by
  rw [lookupSig_is_source]
  unfold sigParamsOK at h
  split at h
  · next sg hs => exact ⟨sg, hs, h⟩
  · cases h

theorem numeric_sig_head : ∀ name ∈ numericNames, ∃ sg ps, lookupSig name = some sg ∧ sg.params = .val .f64 :: ps := by
  have h : numericNames.all (sigParamsOK fun ps => ps.head? == some (.val .f64)) = true := by decide +kernel
  intro name hn
  obtain ⟨sg, hs, hp⟩ := sigParamsOK_elim (List.all_eq_true.mp h name hn)
  refine ⟨sg, sg.params.tail, hs, ?_⟩
  cases hps : sg.params with
  | nil => simp [hps] at hp
  | cons p ps => simp [hps] at hp; simp [hp]

theorem binary_sig : ∀ name ∈ binaryNames, ∃ sg, lookupSig name = some sg ∧ sg.params = [.val .f64, .val .f64] := by
  have h : binaryNames.all (sigParamsOK (· == [.val .f64, .val .f64])) = true := by decide +kernel
  intro name hn
  obtain ⟨sg, hs, hp⟩ := sigParamsOK_elim (List.all_eq_true.mp h name hn)
  exact ⟨sg, hs, by simpa using hp⟩

def p10 (p : Nat) : Rat := ((10 ^ p : Nat) : Rat)

theorem p10_pos (p : Nat) : 0 < p10 p := Rat.natCast_pos.mpr (Nat.pow_pos (by decide))

def roundHalfUpE (x e : Rat) : Rat := ((x * e + 1 / 2).floor : Rat) / e

theorem pow10Go_small (p : Nat) (hp : p ≤ 22) : Num.pow10Go (p : Int) = .ok (p10 p) := by
  have h1 : (0 : Int) ≤ (p : Int) := by omega
  have h2 : (p : Int) ≤ 22 := by omega
  simp [Num.pow10Go, h1, h2, p10]

theorem pow10Go_out_of_range (p : Int) (hp : p < -323 ∨ 308 < p) :
    Num.pow10Go p = .unmodelled "math.Pow10: +Inf or 0 scale (the filter yields NaN)" := by
  unfold Num.pow10Go
  simp only [Bool.and_eq_true, decide_eq_true_eq]
  rw [if_neg (by omega), if_neg (by omega), if_neg (by omega)]

theorem round_places (x : Rat) (p : Int) : Num.round [fv x, .fn (some (.ok (.int .int p)))] = Num.roundTo x p := rfl

theorem round_no_places (x : Rat) : Num.round [fv x, .fn none] = Num.roundTo x 0 := rfl

theorem roundTo_steps (x : Rat) (p : Int) (e a b c : Rat) (hpow : Num.pow10Go p = .ok e) (he : e ≠ 0)
    (h1 : roundF64 (x * e) = some a) (hz : a = 0 → ¬ x < 0) (h2 : roundF64 (a + 1 / 2) = some b)
    (h3 : roundF64 ((b.floor : Rat) / e) = some c) :
    Num.roundTo x p = ret (.flt .f64 c) := by
  have hhalf : mkRat 1 2 = 1 / 2 := by decide +kernel
  have e1 : f64Round (x * e) (decide (x < 0)) = .ok a :=
    f64Round_of_round h1 _ (fun h0 => by simpa using hz h0)
  have e2 : f64Round (a + 1 / 2) false = .ok b := f64Round_of_round h2 false (fun _ => rfl)
  simp [Num.roundTo, hpow, he, e1, hhalf, e2, fltResult_of_round h3 false (fun _ => rfl), Res.bind]

theorem roundTo_exact (x e : Rat) (p : Int) (hpow : Num.pow10Go p = .ok e) (he : e ≠ 0)
    (h1 : Representable (x * e)) (h2 : Representable (x * e + 1 / 2)) (h3 : Representable (roundHalfUpE x e)) :
    Num.roundTo x p = ret (.flt .f64 (roundHalfUpE x e)) :=
  roundTo_steps x p e _ _ _ hpow he h1
    (fun h0 h => Rat.lt_irrefl ((Rat.mul_eq_zero.mp h0).resolve_right he ▸ h)) h2 h3

theorem roundHalfUpE_err (x e : Rat) (he : 0 < e) :
    roundHalfUpE x e - x ≤ (1 / 2) / e ∧ -(1 / 2) / e < roundHalfUpE x e - x := by
  have hne : e ≠ 0 := Rat.ne_of_gt he
  have hf1 := Rat.floor_le (x * e + 1 / 2)
  have hf2 := Rat.lt_floor_add_one (x * e + 1 / 2)
  rw [Rat.intCast_add] at hf2
  have hmul : (roundHalfUpE x e - x) * e = ((x * e + 1 / 2).floor : Rat) - x * e := by
    unfold roundHalfUpE
    rw [Rat.sub_eq_add_neg, Rat.add_mul, Rat.div_mul_cancel hne, Rat.neg_mul, ← Rat.sub_eq_add_neg]
  generalize ((x * e + 1 / 2).floor : Rat) = f at *
  constructor
  · apply Rat.not_lt.mp
    intro h
    have := (Rat.div_lt_iff he).mp h
    grind
  · apply (Rat.div_lt_iff he).mpr
    grind

theorem ratTrunc_of_nonneg {q : Rat} (h : 0 ≤ q) : ratTrunc q = q.floor := by
  unfold ratTrunc
  rw [Rat.floor_def, Int.tdiv_eq_ediv_of_nonneg (Rat.num_nonneg.mpr h)]

theorem ratTrunc_neg (q : Rat) : ratTrunc (-q) = -ratTrunc q := by
  simp [ratTrunc, Int.neg_tdiv]

theorem rat_inv_neg {b : Rat} (hb : b ≠ 0) : (-b)⁻¹ = -(b⁻¹) := by
  apply Rat.inv_eq_of_mul_eq_one
  rw [Rat.neg_mul, Rat.mul_neg, Rat.neg_neg, Rat.mul_inv_cancel b hb]

theorem ratMod_neg_left (a b : Rat) : Num.ratMod (-a) b = -(Num.ratMod a b) := by
  unfold Num.ratMod
  rw [Rat.div_def, Rat.neg_mul, ← Rat.div_def, ratTrunc_neg, Rat.intCast_neg]
  grind

theorem ratMod_neg_right (a b : Rat) (hb : b ≠ 0) : Num.ratMod a (-b) = Num.ratMod a b := by
  unfold Num.ratMod
  rw [Rat.div_def, rat_inv_neg hb, Rat.mul_neg, ← Rat.div_def, ratTrunc_neg, Rat.intCast_neg]
  grind

theorem ratMod_pos (a b : Rat) (ha : 0 ≤ a) (hb : 0 < b) : 0 ≤ Num.ratMod a b ∧ Num.ratMod a b < b := by
  have hbne : b ≠ 0 := Rat.ne_of_gt hb
  have hq : 0 ≤ a / b := by
    rw [Rat.div_def]
    exact Rat.mul_nonneg ha (Rat.le_of_lt (Rat.inv_pos.mpr hb))
  have hqb : a / b * b = a := Rat.div_mul_cancel hbne
  unfold Num.ratMod
  rw [ratTrunc_of_nonneg hq]
  have h1 := Rat.floor_le (a / b)
  have h2 := Rat.lt_floor_add_one (a / b)
  rw [Rat.intCast_add] at h2
  have h1' := Rat.mul_le_mul_of_nonneg_right h1 (Rat.le_of_lt hb)
  have h2' := Rat.mul_lt_mul_of_pos_right h2 hb
  rw [hqb] at h1' h2'
  generalize ((a / b).floor : Rat) = t at *
  constructor <;> grind

theorem ratMod_abs_right (a b : Rat) (hb : b ≠ 0) : Num.ratMod a b = Num.ratMod a (Num.ratAbs b) := by
  unfold Num.ratAbs
  split
  · exact (ratMod_neg_right a b hb).symm
  · rfl

/-- `math.Abs` of the model is the library's absolute value -/
theorem ratAbs_eq_abs (x : Rat) : Num.ratAbs x = x.abs := by
  unfold Num.ratAbs Rat.abs; split <;> split <;> grind

theorem ratAbs_neg (x : Rat) : Num.ratAbs (-x) = Num.ratAbs x := by
  rw [ratAbs_eq_abs, ratAbs_eq_abs, Rat.abs_neg]

theorem ratAbs_nonneg (x : Rat) : 0 ≤ Num.ratAbs x := ratAbs_eq_abs x ▸ Rat.abs_nonneg

theorem ratAbs_le_of {x y : Rat} (h1 : x ≤ y) (h2 : -x ≤ y) : Num.ratAbs x ≤ Num.ratAbs y := by
  unfold Num.ratAbs; split <;> split <;> grind

theorem ratAbs_le_of_neg {x y : Rat} (h1 : x ≤ -y) (h2 : -x ≤ -y) : Num.ratAbs x ≤ Num.ratAbs y :=
  ratAbs_neg y ▸ ratAbs_le_of h1 h2

theorem ratAbs_pos {b : Rat} (hb : b ≠ 0) : 0 < Num.ratAbs b := ratAbs_eq_abs b ▸ Rat.abs_pos_iff.2 hb

theorem numImpls_nodup : (Num.impls.map (·.1)).Nodup := by
  have h := stdFilterImpls_nodup
  simp only [stdFilterImpls, List.append_assoc, List.map_append] at h
  exact (List.nodup_append.mp h).1

theorem numImpl_divided_by : lookupImpl Num.impls (Num.bn "divided_by") = some Num.dividedBy :=
  lookupImpl_of_mem numImpls_nodup (by simp [Num.impls])

theorem numImpl_modulo : lookupImpl Num.impls (Num.bn "modulo") = some Num.modulo :=
  lookupImpl_of_mem numImpls_nodup (by simp [Num.impls])

theorem sig_divided_by : lookupSig (Num.bn "divided_by") = some ⟨Num.bn "divided_by", [.val .f64, .val .any], true⟩ := by
  rw [lookupSig_is_source]
  decide +kernel

theorem sig_modulo : lookupSig (Num.bn "modulo") = some ⟨Num.bn "modulo", [.val .f64, .val .f64], true⟩ := by
  rw [lookupSig_is_source]
  decide +kernel

theorem num_impls_registered : Num.impls.all (fun p => (lookupSig p.1).isSome) = true := by
  simp only [lookupSig_is_source]
  decide +kernel
