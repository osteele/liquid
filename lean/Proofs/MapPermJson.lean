import Proofs.MapPermFilters
import Proofs.JsonFilter
import Proofs.Numerals
import Proofs.DecEq
/-!
# `type`, `json`, `inspect` and the order of map entries (helper lemmas for C02)

`json.Marshal` of two related values gives the same text or neither marshals (`marshal_jrel`: the members
of an object are sorted by key text, and distinct keys of one key type have distinct texts); `%T` looks at
types and lengths only (`typeName_mp`).
-/

open GoVal MapOrder JsonF

theorem structFieldNames_names : ∀ (i : Nat) {fs fs' : List (Bytes × GoVal)}, fs.map (·.1) = fs'.map (·.1) →
    structFieldNames i fs = structFieldNames i fs'
  | _, [], [], _ => rfl
  | _, [], _ :: _, h => by simp at h
  | _, _ :: _, [], h => by simp at h
  | i, (n, v) :: r, (n', v') :: r', h => by
    simp only [List.map_cons, List.cons.injEq] at h
    obtain ⟨h1, h2⟩ := h
    subst h1
    simp only [structFieldNames, structFieldNames_names (i + 1) h2]

theorem structTypeName_names {fs fs' : List (Bytes × GoVal)} (h : fs.map (·.1) = fs'.map (·.1)) :
    structTypeName fs = structTypeName fs' := by
  cases fs <;> cases fs' <;> simp at h
  · rfl
  · next a r b r' =>
    simp only [structTypeName]
    rw [structFieldNames_names 0 (show (a :: r).map (·.1) = (b :: r').map (·.1) by simp [h])]

theorem typeName_mp : ∀ {a b : GoVal}, MP a b → typeName a = typeName b := by
  intro a b h
  induction h using MP.elim with
  | array t hl => simp only [typeName, hl.length_eq]
  -- the name of a map type says nothing of the entries
  | map kt vt => cases kt <;> first | rfl | cases vt <;> rfl
  | struct hf => simp only [typeName, structTypeName_names hf.names_eq]
  | ptr h ih =>
    -- a pointer to a container: `*` and the name of the container's type
    cases h using MP.elim with
    | refl => rfl
    | _ => exact congrArg (fun r => r.bind fun n => .ok (42 :: n)) ih
  | _ => rfl

theorem typeF_respectsM : ImplRespectsM [.val .any] typeF := by
  intro cs cs' h
  obtain ⟨v, v', rfl, rfl, hv⟩ := Num.argsRelM_any1 h
  simp only [typeF, typeName_mp hv]
  exact exrelM_refl _


/-- both results are answers, related by `S`, or neither is one: unlike `RRel true` it lets no `unmodelled` side
    stand against an answer, which is what carries through the sort of the members; `JRelW.eq_cases` leads back -/
def JRelW {α : Type} (S : α → α → Prop) (r r' : R α) : Prop :=
  (∃ b b', r = .ok b ∧ r' = .ok b' ∧ S b b') ∨ ((∀ b, r ≠ .ok b) ∧ (∀ b, r' ≠ .ok b))

abbrev JRel {α : Type} (r r' : R α) : Prop := JRelW Eq r r'

theorem JRelW.refl {α : Type} {S : α → α → Prop} (hS : ∀ a, S a a) (r : R α) : JRelW S r r := by
  cases hr : r with
  | ok b => exact .inl ⟨b, b, rfl, rfl, hS b⟩
  | _ => exact .inr ⟨by simp, by simp⟩

/-- the continuations need to be related on the two answers only -/
theorem JRelW.bind {α β : Type} {S : α → α → Prop} {T : β → β → Prop} {r r' : R α} {f f' : α → R β}
    (h : JRelW S r r') (hf : ∀ a a', r = .ok a → r' = .ok a' → S a a' → JRelW T (f a) (f' a')) : JRelW T (r.bind f) (r'.bind f') := by
  rcases h with ⟨b, b', rfl, rfl, hs⟩ | ⟨h1, h2⟩
  · exact hf b b' rfl rfl hs
  · refine .inr ⟨fun b hb => ?_, fun b hb => ?_⟩
    · cases r <;> simp [Res.bind] at hb
      exact h1 _ rfl
    · cases r' <;> simp [Res.bind] at hb
      exact h2 _ rfl

theorem JRelW.trans {α : Type} {S T U : α → α → Prop} (hU : ∀ a b c, S a b → T b c → U a c) {r r' r'' : R α}
    (h1 : JRelW S r r') (h2 : JRelW T r' r'') : JRelW U r r'' := by
  rcases h1 with ⟨a, b, rfl, rfl, hs⟩ | ⟨h1, h1'⟩
  · rcases h2 with ⟨b', c, e, rfl, ht⟩ | ⟨h2, _⟩
    · cases e; exact .inl ⟨a, c, rfl, rfl, hU _ _ _ hs ht⟩
    · exact absurd rfl (h2 b)
  · rcases h2 with ⟨b', c, rfl, rfl, ht⟩ | ⟨_, h2'⟩
    · exact absurd rfl (h1' b')
    · exact .inr ⟨h1, h2'⟩

/-- inside `json.Marshal` the non-answers are `unmodelled` or the one error: the two results are the same, or one of them
    is outside the model -/
theorem JRelW.eq_cases {α : Type} {r r' : R α} (h : JRelW Eq r r') (hs : SoftJ r) (hs' : SoftJ r') :
    r = r' ∨ (∃ w, r = .unmodelled w) ∨ ∃ w, r' = .unmodelled w := by
  rcases h with ⟨b, b', rfl, rfl, rfl⟩ | ⟨h1, h2⟩
  · exact .inl rfl
  · cases r with
    | ok b => exact absurd rfl (h1 b)
    | unmodelled w => exact .inr (.inl ⟨w, rfl⟩)
    | panic w => exact hs.elim
    | err e =>
      cases r' with
      | ok b => exact absurd rfl (h2 b)
      | unmodelled w => exact .inr (.inr ⟨w, rfl⟩)
      | panic w => exact hs'.elim
      | err e' => cases hs; cases hs'; exact .inl rfl

theorem travM_jrel {α β : Type} {f g : α → R β} : ∀ {l l' : List α}, Zip2 (fun x y => JRel (f x) (g y)) l l' →
    JRel (travM f l) (travM g l')
  | _, _, .nil => JRelW.refl (fun _ => rfl) _
  | _, _, .cons h hr => by
    simp only [travM]
    exact JRelW.bind h (fun a a' _ _ e => by subst e; exact JRelW.bind (travM_jrel hr) (fun bs bs' _ _ e => by subst e; exact JRelW.refl (fun _ => rfl) _))

theorem keyText_inj_of_typed {kt : Ty} (hs : keySupported kt = true) {a b : GoVal} (ha : keyHasTy kt a = true) (hb : keyHasTy kt b = true)
    (h : keyText a = keyText b) : a = b := by
  cases kt <;> simp [keySupported] at hs
  · -- integer keys of one kind
    next k =>
    cases a <;> simp [keyHasTy] at ha
    cases b <;> simp [keyHasTy] at hb
    subst ha hb
    simp only [keyText, Option.some.injEq] at h
    rw [intDec_inj _ _ h]
  · -- string keys
    cases a <;> simp [keyHasTy] at ha
    cases b <;> simp [keyHasTy] at hb
    simp only [keyText, Option.some.injEq] at h
    rw [h]

theorem byteVals_cons_ne (x : GoVal) (xs : List GoVal) (h : ∀ n, x ≠ .int .u8 n) : byteVals (x :: xs) = none := by
  cases x with
  | int k n => cases k <;> first | rfl | exact absurd rfl (h n)
  | _ => rfl

theorem byteVals_mp : ∀ {xs ys : List GoVal}, MPL xs ys → byteVals xs = byteVals ys
  | _, _, .nil => rfl
  | _, _, @MPL.cons x y xs ys hx h => by
    by_cases hu : ∃ n, x = .int .u8 n
    · obtain ⟨n, rfl⟩ := hu
      have := hx.eq_of_rigid_left rfl
      subst this
      simp only [byteVals, byteVals_mp h]
    · have h1 : ∀ n, x ≠ .int .u8 n := fun n e => hu ⟨n, e⟩
      have h2 : ∀ n, y ≠ .int .u8 n := fun n e => by
        subst e
        exact h1 n (hx.eq_of_rigid_right rfl)
      rw [byteVals_cons_ne x xs h1, byteVals_cons_ne y ys h2]

theorem jrel_refl {α : Type} (r : R α) : JRel r r := JRelW.refl (fun _ => rfl) r

theorem jrel_bind {α β : Type} {r r' : R α} {f : α → R β} (h : JRel r r') : JRel (r.bind f) (r'.bind f) :=
  JRelW.bind h (fun a a' _ _ e => by subst e; exact jrel_refl _)

/-- the members of a JSON object are sorted by key text: a map marshals alike whatever the order of its entries, since
    different keys of its key type have different texts -/
theorem marshalMap_perm {kt vt : Ty} {kvs mid kvs' : List (GoVal × GoVal)} (hsup : keySupported kt = true) (hk : KeysOK kvs)
    (ht : KeysTyped kt kvs) (hAB : JRel (marshalKVs vt kvs) (marshalKVs vt mid)) (hp : mid.Perm kvs') :
    JRel ((marshalKVs vt kvs).bind fun es => .ok (jsonObject es)) ((marshalKVs vt kvs').bind fun es => .ok (jsonObject es)) := by
  have hBC : JRelW List.Perm (marshalKVs vt mid) (marshalKVs vt kvs') := by
    rw [marshalKVs_eq_travM, marshalKVs_eq_travM]; exact travM_perm hp
  refine (JRelW.trans (fun a b c e p => by subst e; exact p) hAB hBC).bind fun as cs h1 _ hpe => .inl ⟨_, _, rfl, rfl, ?_⟩
  exact jsonObject_of_perm ((marshalKVs_eq_travM vt kvs).symm.trans h1) hpe fun a ha b hb ea eb hea heb hab =>
    hk.entry_unique ha hb (keyText_inj_of_typed hsup (ht a ha) (ht b hb) (by rw [entryOf_key hea, entryOf_key heb, hab]))

theorem marshal_jrel_all :
    (∀ {a b : GoVal}, MP a b → JRel (marshal a) (marshal b)) ∧
    (∀ {xs ys : List GoVal}, MPL xs ys → ∀ e, JRel (marshalElems e xs) (marshalElems e ys)) ∧
    (∀ {kvs kvs' : List (GoVal × GoVal)}, MPV kvs kvs' →
      (∀ vt, JRel (marshalKVs vt kvs) (marshalKVs vt kvs')) ∧ JRel (marshalItems kvs) (marshalItems kvs')) ∧
    (∀ {fs fs' : List (Bytes × GoVal)}, MPF fs fs' → JRel (marshalNamed fs) (marshalNamed fs')) := by
  apply MP.induction
  case refl => exact fun _ => jrel_refl _
  case slice =>
    intro e xs ys hl ih
    rw [marshal, marshal, byteVals_mp hl]
    split
    · exact jrel_refl _
    · exact jrel_bind (ih e)
  case array => intro e xs ys _ ih; rw [marshal, marshal]; exact jrel_bind (ih e)
  case map =>
    intro kt vt kvs mid kvs' _ hk _ _ hp ht ih
    rw [marshal, marshal]
    split
    · next hsup => exact marshalMap_perm hsup hk ht (ih.1 vt) hp
    · exact jrel_refl _
  case mapVals =>
    intro kt vt kvs kvs' _ _ _ ih
    rw [marshal, marshal]
    split
    · exact jrel_bind (ih.1 vt)
    · exact jrel_refl _
  case mapSlice => intro kvs kvs' _ ih; rw [marshal, marshal]; exact jrel_bind ih.2
  case keyedMap => intro fs fs' _ _ ih; rw [marshal, marshal]; exact jrel_bind ih
  case struct => intro fs fs' _ ih; rw [marshal, marshal]; exact jrel_bind ih
  case ptr => intro v w _ ih; rw [marshal, marshal]; exact ih
  case drop => intro v w _ _; rw [marshal, marshal]; exact jrel_refl _
  case nilL => exact fun _ => jrel_refl _
  case consL =>
    intro x y xs ys hx _ ih ihs e
    rw [marshalElems_cons, marshalElems_cons, isNil_mp hx]
    refine JRelW.bind (S := Eq) ?_ (fun a a' _ _ e' => by subst e'; exact jrel_bind (ihs e))
    split
    · exact jrel_refl _
    · exact ih
  case nilV => exact ⟨fun _ => jrel_refl _, jrel_refl _⟩
  case consV =>
    intro k v w r r' hv _ ih ihs
    constructor
    · intro vt
      rw [marshalKVs_cons, marshalKVs_cons]
      refine JRelW.bind (S := Eq) ?_ (fun a a' _ _ e => by subst e; exact jrel_bind (ihs.1 vt))
      unfold entryOf
      simp only
      split
      · exact jrel_refl _
      · -- a nil value is written as the zero of the value type, on both sides
        cases hv <;> first | exact jrel_refl _ | exact jrel_bind ih
    · rw [marshalItems, marshalItems]
      refine JRelW.bind (jrel_refl _) (fun a a' _ _ e => ?_)
      subst e
      refine JRelW.bind ih (fun b b' _ _ e => ?_)
      subst e
      exact jrel_bind ihs.2
  case nilF => exact jrel_refl _
  case consF =>
    intro k v w r r' _ _ ih ihs
    rw [marshalNamed, marshalNamed]
    refine JRelW.bind ih (fun b b' _ _ e => ?_)
    subst e
    exact jrel_bind ihs

theorem marshal_jrel : ∀ {a b : GoVal}, MP a b → JRel (marshal a) (marshal b) :=
  marshal_jrel_all.1
theorem marshalElems_jrel (e : Ty) : ∀ {xs ys : List GoVal}, MPL xs ys → JRel (marshalElems e xs) (marshalElems e ys) :=
  fun h => marshal_jrel_all.2.1 h e
theorem marshalKVs_jrel (vt : Ty) : ∀ {kvs kvs' : List (GoVal × GoVal)}, MPV kvs kvs' → JRel (marshalKVs vt kvs) (marshalKVs vt kvs') :=
  fun h => (marshal_jrel_all.2.2.1 h).1 vt
theorem marshalItems_jrel : ∀ {kvs kvs' : List (GoVal × GoVal)}, MPV kvs kvs' → JRel (marshalItems kvs) (marshalItems kvs') :=
  fun h => (marshal_jrel_all.2.2.1 h).2
theorem marshalNamed_jrel : ∀ {fs fs' : List (Bytes × GoVal)}, MPF fs fs' → JRel (marshalNamed fs) (marshalNamed fs') :=
  marshal_jrel_all.2.2.2

theorem marshalTop_of_ne {v : GoVal} (h : v ≠ .slice .any []) : marshalTop v = marshal v := by
  unfold marshalTop
  split
  · exact absurd rfl h
  · rfl

theorem marshalTop_jrel {v v' : GoVal} (hv : MP v v') : JRel (marshalTop v) (marshalTop v') := by
  by_cases h : v = .slice .any []
  · subst h
    cases hv with
    | refl => exact jrel_refl _
    | slice t hl => cases hl; exact jrel_refl _
  · have h' : v' ≠ .slice .any [] := by
      intro e
      subst e
      cases hv with
      | refl => exact h rfl
      | slice t hl => cases hl; exact h rfl
    rw [marshalTop_of_ne h, marshalTop_of_ne h']
    exact marshal_jrel hv

theorem json_respectsM : ImplRespectsM [.val .any] json := by
  intro cs cs' h
  obtain ⟨v, v', rfl, rfl, hv⟩ := Num.argsRelM_any1 h
  simp only [json]
  rcases (marshalTop_jrel hv).eq_cases (marshalTop_softJ v) (marshalTop_softJ v') with e | ⟨w, e⟩ | ⟨w, e⟩ <;> rw [e]
  · exact exrelM_refl _
  · exact RRel.unmL rfl _ _
  · exact RRel.unmR rfl _ _

theorem inspect_respectsM : ImplRespectsM [.val .any] inspect := by
  intro cs cs' h
  obtain ⟨v, v', rfl, rfl, hv⟩ := Num.argsRelM_any1 h
  simp only [inspect]
  rcases (marshalTop_jrel hv).eq_cases (marshalTop_softJ v) (marshalTop_softJ v') with e | ⟨w, e⟩ | ⟨w, e⟩ <;> rw [e]
  · exact exrelM_refl _
  · exact RRel.unmL rfl _ _
  · exact RRel.unmR rfl _ _

/-- the filters that order or identify whole elements (`MapPermUniq.lean`, `MapPermSort.lean`) -/
def sortFiltersM : List Bytes := [ArrF.bn "sort", ArrF.bn "uniq", ArrF.bn "sort_natural"]

def withoutSortsM (n : Bytes) : Bool := !sortFiltersM.contains n
