import Proofs.HyphenLemmas
import Proofs.RenderTreeDefs
/-!
# Hyphens at template level: congruence along the renderer, the hyphen-free tree, whole renders

* congruence rules of `GPair` for every node constructor (generic in the relation);
* the pass over a tree and its hyphen-free version (`strip_list`);
* the underlying write calls of `Render`, read off a trace (`rootCalls`, `renderRoot_calls_of_traced`);
* a tree without hyphens has none inside a capture (`capTrimFree_of_noTrim`).
-/

section cong
variable {W : Bytes → Prop} {R : List WOp → List WOp → Prop}

theorem gpair_ofRes_bind {α β} (hR : RelOK W R) (r : Res Cause α) (f f' : α → M β)
    (h : ∀ a, r = .ok a → GPair R (f a) (f' a)) : GPair R (M.ofRes r >>= f) (M.ofRes r >>= f') := by
  -- in the failing cases both sides unfold to the failing action itself
  cases r with
  | ok a => exact h a rfl
  | err e => exact gpair_quiet hR (quiet_closed.ofRes (r := .err e) trivial)
  | panic w => exact gpair_quiet hR (quiet_closed.ofRes (r := .panic w) trivial)
  | unmodelled w => exact gpair_quiet hR (quiet_closed.ofRes (r := .unmodelled w) trivial)

theorem gpair_inc_bind {β} (hR : RelOK W R) (c : RCtx) (hc : IncQuiet c) (line : Nat) (fn : Bytes) (env0 : Env)
    (k k' : Status × Bytes → M β) (h : ∀ r, c.inc line fn env0 = .ret r → GPair R (k r) (k' r)) :
    GPair R ((fun s => (c.inc line fn env0).bind (fun r => .ret (r, s)) : M (Status × Bytes)) >>= k)
      ((fun s => (c.inc line fn env0).bind (fun r => .ret (r, s)) : M (Status × Bytes)) >>= k') := by
  have hq := hc line fn env0
  cases hi : c.inc line fn env0 with
  | ret r => exact h r hi
  | fail e => exact gpair_quiet hR (quiet_closed.fail trivial)
  | panic w => exact gpair_quiet hR (quiet_closed.ofRes (r := .panic w) trivial)
  | unmodelled w => exact gpair_quiet hR (quiet_closed.ofRes (r := .unmodelled w) trivial)
  | call b k0 => rw [hi] at hq; exact absurd hq (by simp [NoCalls])

theorem gpair_list_nil (hR : RelOK W R) {c : RCtx} : GPair R (renderList c []) (renderList c []) := by
  unfold renderList; exact gpair_pure hR

theorem gpair_list_cons (hR : RelOK W R) {c : RCtx} {n n' : Node} {ns ns' : List Node}
    (hn : GPair R (renderNode c n) (renderNode c n')) (hns : GPair R (renderList c ns) (renderList c ns')) :
    GPair R (renderList c (n :: ns)) (renderList c (n' :: ns')) := by
  unfold renderList
  refine gpair_bind hR hn (fun st => ?_)
  cases st with
  | done => exact hns
  | _ => exact gpair_pure hR

theorem gpair_list_append (hR : RelOK W R) {c : RCtx} {a a' b b' : List Node}
    (ha : GPair R (renderList c a) (renderList c a')) (hb : GPair R (renderList c b) (renderList c b')) :
    GPair R (renderList c (a ++ b)) (renderList c (a' ++ b')) := by
  rw [renderList_append, renderList_append]
  refine gpair_bind hR ha (fun st => ?_)
  cases st with
  | done => exact hb
  | _ => exact gpair_pure hR

theorem gpair_blockBody (hR : RelOK W R) {c : RCtx} {b b' : List Node}
    (h : GPair R (renderList c b) (renderList c b')) : GPair R (renderBlockBody c b) (renderBlockBody c b') := by
  unfold renderBlockBody
  refine gpair_bind hR h (fun st => ?_)
  cases st with
  | done => exact gpair_bind hR (gpair_wrapFailAt _ _ (gpair_flush hR)) (fun _ => gpair_pure hR)
  | _ => exact gpair_pure hR

theorem gpair_branches_nil (hR : RelOK W R) {c : RCtx} : GPair R (renderBranches c []) (renderBranches c []) := by
  unfold renderBranches; exact gpair_pure hR

theorem gpair_branches_cons (hR : RelOK W R) {c : RCtx} {t : CondT} {b b' : List Node}
    {rest rest' : List (CondT × List Node)} (hb : GPair R (renderBlockBody c b) (renderBlockBody c b'))
    (hr : GPair R (renderBranches c rest) (renderBranches c rest')) :
    GPair R (renderBranches c ((t, b) :: rest)) (renderBranches c ((t, b') :: rest')) := by
  unfold renderBranches
  refine gpair_bind hR (gpair_quiet hR (quiet_closed.evalCond fun _ _ => trivial)) (fun v => ?_)
  cases v with
  | true => exact hb
  | false => exact hr

theorem gpair_cases_nil (hR : RelOK W R) {c : RCtx} {sel : GoVal} : GPair R (renderCases c sel []) (renderCases c sel []) := by
  unfold renderCases; exact gpair_pure hR

theorem gpair_cases_else {c : RCtx} {sel : GoVal} {b b' : List Node}
    {rest rest' : List (Option (Nat × List Expr) × List Node)} (hb : GPair R (renderBlockBody c b) (renderBlockBody c b')) :
    GPair R (renderCases c sel ((none, b) :: rest)) (renderCases c sel ((none, b') :: rest')) := by
  unfold renderCases; exact hb

theorem gpair_cases_when (hR : RelOK W R) {c : RCtx} {sel : GoVal} {line : Nat} {es : List Expr} {b b' : List Node}
    {rest rest' : List (Option (Nat × List Expr) × List Node)} (hb : GPair R (renderBlockBody c b) (renderBlockBody c b'))
    (hr : GPair R (renderCases c sel rest) (renderCases c sel rest')) :
    GPair R (renderCases c sel ((some (line, es), b) :: rest)) (renderCases c sel ((some (line, es), b') :: rest')) := by
  unfold renderCases
  refine gpair_bind hR (gpair_quiet hR (quiet_closed.wrapFailAt (quiet_closed.whenMatches (fun _ _ => trivial) (fun _ _ => trivial) sel es))) (fun v => ?_)
  cases v with
  | true => exact hb
  | false => exact hr

theorem gpair_node_ifB (hR : RelOK W R) {c : RCtx} {line : Nat} {bs bs' : List (CondT × List Node)}
    (h : GPair R (renderBranches c bs) (renderBranches c bs')) :
    GPair R (renderNode c (.ifB line bs)) (renderNode c (.ifB line bs')) := by
  unfold renderNode; exact gpair_wrapAt hR _ _ h

theorem gpair_node_caseB (hR : RelOK W R) {c : RCtx} {line : Nat} {subject : Expr}
    {cs cs' : List (Option (Nat × List Expr) × List Node)}
    (h : ∀ sel, GPair R (renderCases c sel cs) (renderCases c sel cs')) :
    GPair R (renderNode c (.caseB line subject cs)) (renderNode c (.caseB line subject cs')) := by
  unfold renderNode
  exact gpair_wrapAt hR _ _ (gpair_bind hR (gpair_quiet hR quiet_closed.getEnv) (fun env =>
    gpair_bind hR (gpair_quiet hR (quiet_closed.ofRes trivial)) (fun sel => h sel)))

theorem gpair_node_capture (hR : RelOK W R) {c : RCtx} {line : Nat} {x : Bytes} {b b' : List Node}
    (h : GPair R (captureM (renderList c b)) (captureM (renderList c b'))) :
    GPair R (renderNode c (.capture line x b)) (renderNode c (.capture line x b')) := by
  unfold renderNode
  refine gpair_wrapAt hR _ _ (gpair_bind hR h (fun r => ?_))
  obtain ⟨st, out⟩ := r
  cases st with
  | done => exact gpair_bind hR (gpair_quiet hR (quiet_setVar _ _)) (fun _ => gpair_pure hR)
  | _ => exact gpair_pure hR

theorem gpair_capture {α} (hR : RelOK W R) (hT : ∀ ops ops', R ops ops' → twTotal {} ops = twTotal {} ops') {m m' : M α}
    (h : GPair R m m') : GPair R (captureM m) (captureM m') := by
  intro env
  obtain ⟨ops, ops', o, h1, h1', r⟩ := h env
  obtain ⟨oc, hc⟩ := quiet_capture m env
  -- a capture is a function of how its body ends and of the text it has produced: from `env` the two are the same action
  have e : ∀ tw, captureM m' ⟨env, tw⟩ = captureM m ⟨env, tw⟩ := fun tw => by
    rw [captureM_eq_of_traced m env ops o h1.toTracedAt, captureM_eq_of_traced m' env ops' o h1'.toTracedAt, hT ops ops' r]
    cases o <;> rfl
  exact ⟨[], [], oc, hc, fun tw => (e tw).symm ▸ hc tw, hR.nil⟩

theorem gpair_node_loop_noElse (hR : RelOK W R) (hd : ∀ b, DecoChunk b → W b) {c : RCtx} {line : Nat} {tr : Bool} {var : Bytes}
    {e : Expr} {mods : LoopMods} {b b' : List Node} (hb : GPair R (renderBlockBody c b) (renderBlockBody c b')) :
    GPair R (renderNode c (.loop line tr var e mods b [])) (renderNode c (.loop line tr var e mods b' [])) := by
  unfold renderNode
  exact gpair_loopRun hR hd _ _ _ _ _ _ _ hb _ .none

theorem gpair_node_loop_else (hR : RelOK W R) (hd : ∀ b, DecoChunk b → W b) {c : RCtx} {line : Nat} {tr : Bool} {var : Bytes}
    {e : Expr} {mods : LoopMods} {b b' els els' : List Node} (hb : GPair R (renderBlockBody c b) (renderBlockBody c b'))
    (he : GPair R (renderBlockBody c els) (renderBlockBody c els')) :
    GPair R (renderNode c (.loop line tr var e mods b [els])) (renderNode c (.loop line tr var e mods b' [els'])) := by
  unfold renderNode
  exact gpair_loopRun hR hd _ _ _ _ _ _ _ hb _ (.some he)

/-- two or more clause lists: `renderNode` runs the loop with `tooMany = true` and no else branch
    (`Liquid/Render.lean`, `renderNode`), so the clauses are not looked at -/
theorem gpair_node_loop_manyClauses (hR : RelOK W R) (hd : ∀ b, DecoChunk b → W b) {c : RCtx} {line : Nat} {tr : Bool} {var : Bytes}
    {e : Expr} {mods : LoopMods} {b b' : List Node} {c1 c2 c1' c2' : List Node} {r r' : List (List Node)}
    (hb : GPair R (renderBlockBody c b) (renderBlockBody c b')) :
    GPair R (renderNode c (.loop line tr var e mods b (c1 :: c2 :: r)))
      (renderNode c (.loop line tr var e mods b' (c1' :: c2' :: r'))) := by
  unfold renderNode
  exact gpair_loopRun hR hd _ _ _ _ _ _ _ hb _ .none

theorem gpair_node_text (hR : RelOK W R) {c : RCtx} {line : Nat} {s : Bytes} (hs : W s) :
    GPair R (renderNode c (.text line s)) (renderNode c (.text line s)) := by
  unfold renderNode
  exact gpair_wrapFailAt _ _ (gpair_bind hR (gpair_write hR s hs) (fun _ => gpair_pure hR))

theorem gpair_node_raw (hR : RelOK W R) {c : RCtx} {sl : List Bytes} (h0 : W []) (hs : ∀ b ∈ sl, W b) :
    GPair R (renderNode c (.raw sl)) (renderNode c (.raw sl)) := by
  unfold renderNode
  exact gpair_wrapFailAt _ _ (gpair_bind hR (gpair_writeAll hR h0 sl hs) (fun _ => gpair_pure hR))

theorem gpair_node_obj (hR : RelOK W R) {c : RCtx} (hx : CtxChunks W c) {line : Nat} {e : Expr} :
    GPair R (renderNode c (.obj line e)) (renderNode c (.obj line e)) := by
  unfold renderNode
  refine gpair_wrapFailAt _ _ (gpair_bind hR (gpair_quiet hR quiet_closed.getEnv) (fun env =>
    gpair_bind hR (gpair_quiet hR (quiet_closed.ofRes trivial)) (fun v => ?_)))
  split
  · exact gpair_quiet hR (quiet_closed.fail trivial)
  · exact gpair_ofRes_bind hR _ _ _ (fun cs hcs =>
      gpair_bind hR (gpair_writeAll hR hx.emp cs (hx.obj v cs hcs)) (fun _ => gpair_pure hR))

theorem gpair_node_assign (hR : RelOK W R) {c : RCtx} {line : Nat} {x : Bytes} {e : Expr} :
    GPair R (renderNode c (.assign line x e)) (renderNode c (.assign line x e)) := by
  unfold renderNode
  exact gpair_quiet hR (quiet_closed.wrapFailAt (quiet_bind quiet_closed.getEnv (fun env => quiet_bind (quiet_closed.ofRes trivial)
    (fun v => quiet_bind (quiet_setVar _ _) (fun _ => quiet_closed.pure)))))

theorem getD_cons_mem {α} (d : α) (l : List α) (i : Nat) : (d :: l).getD i d ∈ d :: l := by
  rw [List.getD_eq_getElem?_getD]
  cases h : (d :: l)[i]? with
  | none => exact .head _
  | some a => exact List.mem_of_getElem? h

theorem gpair_node_cycle (hR : RelOK W R) {c : RCtx} {line : Nat} {g v0 : Bytes} {rest : List Bytes} (h0 : W [])
    (hs : ∀ b ∈ v0 :: rest, W b) : GPair R (renderNode c (.cycle line g v0 rest)) (renderNode c (.cycle line g v0 rest)) := by
  unfold renderNode
  refine gpair_wrapFailAt _ _ (gpair_bind hR (gpair_quiet hR quiet_closed.getVar) (fun lv => ?_))
  split
  · exact gpair_quiet hR (quiet_closed.fail trivial)
  · exact gpair_bind hR (gpair_quiet hR (quiet_setVar _ _)) (fun _ =>
      gpair_bind hR (gpair_writeVerbatim hR h0 _ (hs _ (getD_cons_mem v0 rest _))) (fun _ => gpair_pure hR))

theorem gpair_node_brk (hR : RelOK W R) {c : RCtx} {line : Nat} : GPair R (renderNode c (.brk line)) (renderNode c (.brk line)) := by
  unfold renderNode; exact gpair_pure hR

theorem gpair_node_cont (hR : RelOK W R) {c : RCtx} {line : Nat} : GPair R (renderNode c (.cont line)) (renderNode c (.cont line)) := by
  unfold renderNode; exact gpair_pure hR

theorem gpair_node_incl (hR : RelOK W R) {c : RCtx} (hc : IncQuiet c) (hx : CtxChunks W c) {line : Nat} {args : Bytes} :
    GPair R (renderNode c (.incl line args)) (renderNode c (.incl line args)) := by
  unfold renderNode
  refine gpair_wrapAt hR _ _ (gpair_bind hR (gpair_quiet hR quiet_closed.getEnv) (fun env =>
    gpair_bind hR (gpair_quiet hR (quiet_closed.ofRes trivial)) (fun e => gpair_bind hR (gpair_quiet hR (quiet_closed.ofRes trivial)) (fun v => ?_))))
  split
  · next rel =>
    refine gpair_inc_bind hR c hc _ _ _ _ _ (fun r hr => ?_)
    obtain ⟨st, out⟩ := r
    cases st with
    | done => exact gpair_bind hR (gpair_writeVerbatim hR hx.emp out (hx.inc _ _ _ _ hr)) (fun _ => gpair_pure hR)
    | _ => exact gpair_pure hR
  · exact gpair_quiet hR (quiet_closed.fail trivial)

end cong

/-- `ops'` is `ops` without its trim operations, and every chunk written satisfies `V` -/
def HypRel (V : Bytes → Prop) (ops ops' : List WOp) : Prop := ops' = eraseTrims ops ∧ ∀ b, WOp.write b ∈ ops → V b

theorem eraseTrims_append (a b : List WOp) : eraseTrims (a ++ b) = eraseTrims a ++ eraseTrims b := by
  simp [eraseTrims, List.filter_append]

theorem eraseTrims_idem (ops : List WOp) : eraseTrims (eraseTrims ops) = eraseTrims ops := by
  simp [eraseTrims, List.filter_filter]

theorem hypRel_ok (V : Bytes → Prop) : RelOK V (HypRel V) where
  nil := ⟨rfl, by simp⟩
  app := by
    intro a a' b b' h1 h2
    refine ⟨by rw [eraseTrims_append, h1.1, h2.1], fun x hx => ?_⟩
    rcases List.mem_append.1 hx with hx | hx
    · exact h1.2 x hx
    · exact h2.2 x hx
  write := by
    intro b hb
    refine ⟨rfl, fun x hx => ?_⟩
    simp only [List.mem_singleton, WOp.write.injEq] at hx
    subst hx; exact hb
  flush := ⟨rfl, by simp⟩

theorem tracedAtL_trimNode (c : RCtx) (b : Bool) (env : Env) :
    TracedAtL (renderNode c (.trim b)) env [if b then .trimLeft else .trimRight] (.ok .done env) := by
  have hp : TracedAtL (pure Status.done : M Status) env [] (.ok .done env) := fun _ => rfl
  cases b with
  | true =>
    unfold renderNode
    have := tracedAtL_mapFail (fun e => RawErr.located (wrapError c.cfg.path e invalidLoc))
      (tracedAtL_bind_ok (f := fun _ => (pure Status.done : M Status)) (tracedAtL_trimLeft env) hp)
    simpa [wrapFailAt, EOut.mapErr] using this
  | false =>
    unfold renderNode
    simpa using tracedAtL_bind_ok (f := fun _ => (pure Status.done : M Status)) (tracedAtL_trimRight env) hp

theorem gpair_list_skip (V : Bytes → Prop) (c : RCtx) (b : Bool) {ns ns' : List Node}
    (h : GPair (HypRel V) (renderList c ns) (renderList c ns')) :
    GPair (HypRel V) (renderList c (.trim b :: ns)) (renderList c ns') := by
  intro env
  obtain ⟨ops, ops', o, h1, h1', r⟩ := h env
  refine ⟨[if b then .trimLeft else .trimRight] ++ ops, ops', o, ?_, h1', ?_, ?_⟩
  · rw [renderList]
    exact tracedAtL_bind_ok (tracedAtL_trimNode c b env) h1
  · rw [r.1, eraseTrims_append]
    cases b <;> simp [eraseTrims]
  · intro x hx
    rcases List.mem_append.1 hx with hx | hx
    · cases b <;> simp at hx
    · exact r.2 x hx

theorem stripTrims_cons_of_ne (n : Node) (ns : List Node) (h : ∀ b, n ≠ .trim b) :
    stripTrims (n :: ns) = stripNode n :: stripTrims ns := by
  cases n with
  | trim b => exact absurd rfl (h b)
  | _ => simp [stripTrims]

section strip
set_option linter.unusedSectionVars false
variable (V : Bytes → Prop) (c : RCtx) (hc : IncQuiet c) (hx : CtxChunks V c)
include hc hx

mutual
theorem strip_node : ∀ n : Node, (∀ b, n ≠ .trim b) → capTrimFreeNode n = true → (∀ b ∈ litNode n, V b) →
    GPair (HypRel V) (renderNode c n) (renderNode c (stripNode n))
  | .text l s => fun _ _ hl => gpair_node_text (hypRel_ok V) (hl s (.head _))
  | .obj l e => fun _ _ _ => gpair_node_obj (hypRel_ok V) hx
  | .raw sl => fun _ _ hl => gpair_node_raw (hypRel_ok V) hx.emp hl
  | .trim b => fun hnt _ _ => absurd rfl (hnt b)
  | .assign l x e => fun _ _ _ => gpair_node_assign (hypRel_ok V)
  | .capture l x body => fun _ hcap _ => by
    have hb : hasTrim body = false := Bool.not_eq_true' _ ▸ hcap
    show GPair _ _ (renderNode c (.capture l x (stripTrims body)))
    rw [stripTrims_of_noTrim body hb]
    exact gpair_node_capture (hypRel_ok V) (gpair_quiet (hypRel_ok V) (quiet_capture _))
  | .ifB l bs => fun _ hcap hl => gpair_node_ifB (hypRel_ok V) (strip_branches bs hcap hl)
  | .caseB l s cs => fun _ hcap hl => gpair_node_caseB (hypRel_ok V) (fun sel => strip_cases sel cs hcap hl)
  | .loop l t v e m body [] => fun _ hcap hl =>
    gpair_node_loop_noElse (hypRel_ok V) hx.deco
      (gpair_blockBody (hypRel_ok V) (strip_list body (Bool.and_eq_true_iff.mp hcap).1 (List.forall_mem_append.mp hl).1))
  | .loop l t v e m body [els] => fun _ hcap hl =>
    have hcl := (Bool.and_eq_true_iff.mp hcap).2
    have hlc := (List.forall_mem_append.mp hl).2
    gpair_node_loop_else (hypRel_ok V) hx.deco
      (gpair_blockBody (hypRel_ok V) (strip_list body (Bool.and_eq_true_iff.mp hcap).1 (List.forall_mem_append.mp hl).1))
      (gpair_blockBody (hypRel_ok V) (strip_list els (Bool.and_eq_true_iff.mp hcl).1 (List.forall_mem_append.mp hlc).1))
  | .loop l t v e m body (c1 :: c2 :: r) => fun _ hcap hl =>
    gpair_node_loop_manyClauses (hypRel_ok V) hx.deco
      (gpair_blockBody (hypRel_ok V) (strip_list body (Bool.and_eq_true_iff.mp hcap).1 (List.forall_mem_append.mp hl).1))
  | .cycle l g v0 r => fun _ _ hl => gpair_node_cycle (hypRel_ok V) hx.emp hl
  | .brk l => fun _ _ _ => gpair_node_brk (hypRel_ok V)
  | .cont l => fun _ _ _ => gpair_node_cont (hypRel_ok V)
  | .incl l a => fun _ _ _ => gpair_node_incl (hypRel_ok V) hc hx
theorem strip_list : ∀ ns : List Node, capTrimFree ns = true → (∀ b ∈ litChunks ns, V b) →
    GPair (HypRel V) (renderList c ns) (renderList c (stripTrims ns))
  | [] => fun _ _ => gpair_list_nil (hypRel_ok V)
  | n :: ns => fun hcap hl => by
    have hns := strip_list ns (Bool.and_eq_true_iff.mp hcap).2 (List.forall_mem_append.mp hl).2
    rcases n.trim_or_ne with ⟨b, rfl⟩ | hnt
    · exact gpair_list_skip V c b hns
    · rw [stripTrims_cons_of_ne _ _ hnt]
      exact gpair_list_cons (hypRel_ok V)
        (strip_node n hnt (Bool.and_eq_true_iff.mp hcap).1 (List.forall_mem_append.mp hl).1) hns
theorem strip_branches : ∀ bs : List (CondT × List Node), capTrimFreeBranches bs = true → (∀ b ∈ litBranches bs, V b) →
    GPair (HypRel V) (renderBranches c bs) (renderBranches c (stripBranches bs))
  | [] => fun _ _ => gpair_branches_nil (hypRel_ok V)
  | (_, body) :: rest => fun hcap hl =>
    gpair_branches_cons (hypRel_ok V)
      (gpair_blockBody (hypRel_ok V) (strip_list body (Bool.and_eq_true_iff.mp hcap).1 (List.forall_mem_append.mp hl).1))
      (strip_branches rest (Bool.and_eq_true_iff.mp hcap).2 (List.forall_mem_append.mp hl).2)
theorem strip_cases (sel : GoVal) : ∀ cs : List (Option (Nat × List Expr) × List Node), capTrimFreeCases cs = true →
    (∀ b ∈ litCases cs, V b) → GPair (HypRel V) (renderCases c sel cs) (renderCases c sel (stripCases cs))
  | [] => fun _ _ => gpair_cases_nil (hypRel_ok V)
  | (none, body) :: _ => fun hcap hl =>
    gpair_cases_else
      (gpair_blockBody (hypRel_ok V) (strip_list body (Bool.and_eq_true_iff.mp hcap).1 (List.forall_mem_append.mp hl).1))
  | (some (_, _), body) :: rest => fun hcap hl =>
    gpair_cases_when (hypRel_ok V)
      (gpair_blockBody (hypRel_ok V) (strip_list body (Bool.and_eq_true_iff.mp hcap).1 (List.forall_mem_append.mp hl).1))
      (strip_cases sel rest (Bool.and_eq_true_iff.mp hcap).2 (List.forall_mem_append.mp hl).2)
end

end strip

theorem tracedAtL_blockBody_done (c : RCtx) (body : List Node) (env env' : Env) (ops : List WOp)
    (h : TracedAtL (renderList c body) env ops (.ok .done env')) :
    TracedAtL (renderBlockBody c body) env (ops ++ [.flush]) (.ok .done env') := by
  unfold renderBlockBody
  refine tracedAtL_bind_ok h ?_
  have h1 : TracedAtL (wrapFailAt c.cfg.path invalidLoc flushM) env' [.flush] (.ok () env') :=
    tracedAtL_mapFail _ (tracedAtL_flush env')
  have h2 : TracedAtL (pure Status.done : M Status) env' [] (.ok .done env') := fun _ => rfl
  exact tracedAtL_bind_ok (f := fun _ => (pure Status.done : M Status)) h1 h2

theorem tracedAtL_blockBody_other (c : RCtx) (body : List Node) (env : Env) (ops : List WOp) (o : EOut Status)
    (h : TracedAtL (renderList c body) env ops o) (hnd : ∀ env', o ≠ .ok .done env') :
    TracedAtL (renderBlockBody c body) env ops o := by
  intro tw
  unfold renderBlockBody
  show ((renderList c body ⟨env, tw⟩).bind _).runLog = _
  rw [Prog.runLog_bind, h tw]
  cases o with
  | ok st env' =>
    cases st with
    | done => exact absurd rfl (hnd env')
    | _ => simp [EOut.withTw, pure, M.pure, Prog.runLog]
  | _ => rfl

/-- the calls `Render` makes on its writer when the root sequence performs `ops` and ends with `o` -/
def rootCalls (ops : List WOp) : EOut Status → List Bytes
  | .ok .done _ => writeCalls ops
  | _ => (TW.run {} ops).2

theorem renderRoot_calls_of_traced (c : RCtx) (root : List Node) (env : Env) (ops : List WOp) (o : EOut Status)
    (h : TracedAtL (renderList c root) env ops o) : (renderRoot c root env).calls = rootCalls ops o := by
  rw [← Prog.runLog_fst, renderRoot_eq_blockBody, Prog.runLog_bind]
  cases o with
  | ok st env' =>
    cases st with
    | done =>
      rw [tracedAtL_blockBody_done c root env env' ops h {}]
      simp [EOut.withTw, Prog.runLog, rootCalls, writeCalls]
    | _ =>
      rw [tracedAtL_blockBody_other c root env ops _ h (by intro _ h; cases h) {}]
      simp [EOut.withTw, Prog.runLog, rootCalls]
  | _ =>
    rw [tracedAtL_blockBody_other c root env ops _ h (by intro _ h; cases h) {}]
    simp [EOut.withTw, rootCalls]

mutual
theorem capTrimFreeNode_of_noTrim : ∀ n : Node, hasTrimNode n = false → capTrimFreeNode n = true
  | .text .. | .obj .. | .raw _ | .trim _ | .assign .. | .cycle .. | .brk _ | .cont _ | .incl .. => fun _ => rfl
  | .capture _ _ body => fun h => by
    show (!hasTrim body) = true
    rw [show hasTrim body = false from h]
    rfl
  | .ifB _ bs => fun h => capTrimFreeBranches_of_noTrim bs h
  | .caseB _ _ cs => fun h => capTrimFreeCases_of_noTrim cs h
  | .loop _ _ _ _ _ body cls => fun h =>
    Bool.and_eq_true_iff.mpr ⟨capTrimFree_of_noTrim body (Bool.or_eq_false_iff.mp h).1,
      capTrimFreeClauses_of_noTrim cls (Bool.or_eq_false_iff.mp h).2⟩
theorem capTrimFree_of_noTrim : ∀ ns : List Node, hasTrim ns = false → capTrimFree ns = true
  | [] => fun _ => rfl
  | n :: ns => fun h =>
    Bool.and_eq_true_iff.mpr ⟨capTrimFreeNode_of_noTrim n (Bool.or_eq_false_iff.mp h).1,
      capTrimFree_of_noTrim ns (Bool.or_eq_false_iff.mp h).2⟩
theorem capTrimFreeBranches_of_noTrim : ∀ bs : List (CondT × List Node), hasTrimBranches bs = false →
    capTrimFreeBranches bs = true
  | [] => fun _ => rfl
  | (_, body) :: rest => fun h =>
    Bool.and_eq_true_iff.mpr ⟨capTrimFree_of_noTrim body (Bool.or_eq_false_iff.mp h).1,
      capTrimFreeBranches_of_noTrim rest (Bool.or_eq_false_iff.mp h).2⟩
theorem capTrimFreeCases_of_noTrim : ∀ cs : List (Option (Nat × List Expr) × List Node), hasTrimCases cs = false →
    capTrimFreeCases cs = true
  | [] => fun _ => rfl
  | (_, body) :: rest => fun h =>
    Bool.and_eq_true_iff.mpr ⟨capTrimFree_of_noTrim body (Bool.or_eq_false_iff.mp h).1,
      capTrimFreeCases_of_noTrim rest (Bool.or_eq_false_iff.mp h).2⟩
theorem capTrimFreeClauses_of_noTrim : ∀ cls : List (List Node), hasTrimClauses cls = false → capTrimFreeClauses cls = true
  | [] => fun _ => rfl
  | body :: rest => fun h =>
    Bool.and_eq_true_iff.mpr ⟨capTrimFree_of_noTrim body (Bool.or_eq_false_iff.mp h).1,
      capTrimFreeClauses_of_noTrim rest (Bool.or_eq_false_iff.mp h).2⟩
end

/-- every chunk allowed: the calculus then speaks about the operations only -/
theorem ctxChunks_true (c : RCtx) : CtxChunks (fun _ => True) c := ⟨trivial, fun _ _ _ _ _ => trivial, fun _ _ _ _ _ => trivial, fun _ _ => trivial⟩
