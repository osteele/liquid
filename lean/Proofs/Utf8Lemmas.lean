import Liquid.Utf8
/-!
# Lemmas about the UTF-8 codec model (`Liquid/Utf8.lean`)

Defines `isScalar`, `ValidUtf8`, `runeLen`. Everything goes through `Good s r w` (`s` starts with a
well-formed `w`-byte sequence for `r`): a decode is the error `(U+FFFD, ≤ 1)` or `Good`
(`decodeRune_spec`); `Good.decode`, `Good.encode`, `good_encodeRune` are the two directions. From
these: the round trips, the rune-wise maps `s ↦ encodeRunes ((decodeRunes s).map g)` (`runeMap_idem`, `runeMap_runeLen`),
`validUtf8_step` and the decision procedure `validUtf8B`. The cutting lemmas (`validUtf8_cut_start`, `validUtf8_cut_around`,
`validUtf8_of_append_ascii`) and byte-wise substitutions (`validUtf8_flatMap`) need one fact more, the shape of an encoding
(`Good.form`, `encodeRune_form`): a lead byte that is no continuation byte, then continuation bytes only, so that no sequence
runs across a byte that is not one.
-/

def isScalar (r : Rune) : Bool := r < 0xD800 || (0xDFFF < r && r ≤ 0x10FFFF)
def ValidUtf8 (s : Bytes) : Prop := ∃ rs : List Rune, (∀ r ∈ rs, isScalar r = true) ∧ s = encodeRunes rs
/-- number of runes Go counts in `s` (`utf8.RuneCountInString`): every invalid byte counts 1 -/
def runeLen (s : Bytes) : Nat := (decodeRunes s).length

theorem isScalar_iff (r : Nat) : isScalar r = true ↔ (r < 0xD800 ∨ (0xDFFF < r ∧ r ≤ 0x10FFFF)) := by
  simp [isScalar]

theorem isScalar_eq_false_iff (r : Nat) : isScalar r = false ↔ ((0xD800 ≤ r ∧ r ≤ 0xDFFF) ∨ 0x10FFFF < r) := by
  rw [← Bool.not_eq_true, isScalar_iff]; omega

theorem u8_beq_nat (a b : UInt8) : (a == b) = decide (a.toNat = b.toNat) := by
  simp only [UInt8.toNat_inj]; rfl

theorem isCont_nat (b : UInt8) : isCont b = (decide (128 ≤ b.toNat) && decide (b.toNat ≤ 191)) := by
  simp [isCont, UInt8.le_iff_toNat_le]

theorem isCont_iff (b : UInt8) : isCont b = true ↔ 128 ≤ b.toNat ∧ b.toNat ≤ 191 := by
  simp only [isCont_nat, Bool.and_eq_true, decide_eq_true_eq]

theorem toUInt8_eq_of (n : Nat) (b : UInt8) (h : n = b.toNat) : n.toUInt8 = b := by
  subst h; exact UInt8.ofNat_toNat

theorem ite_le_iff {a k x y b : Nat} (h : y ≤ x) :
    (if a = k then x else y) ≤ b ↔ y ≤ b ∧ (a = k → x ≤ b) := by
  by_cases e : a = k
  · simp only [e, if_true, true_implies]; exact ⟨fun hx => ⟨Nat.le_trans h hx, hx⟩, And.right⟩
  · simp only [e, if_false, false_implies, and_true]

theorem le_ite_iff {a k x y b : Nat} (h : x ≤ y) :
    b ≤ (if a = k then x else y) ↔ b ≤ y ∧ (a = k → b ≤ x) := by
  by_cases e : a = k
  · simp only [e, if_true, true_implies]; exact ⟨fun hx => ⟨Nat.le_trans hx h, hx⟩, And.right⟩
  · simp only [e, if_false, false_implies, and_true]

theorem decodeRune_nat (b0 : UInt8) (rest : Bytes) : decodeRune (b0 :: rest) =
    if b0.toNat < 128 then (b0.toNat, 1)
    else if b0.toNat < 194 then (runeError, 1)
    else if b0.toNat < 224 then
      match rest with
      | b1 :: _ => if 128 ≤ b1.toNat ∧ b1.toNat ≤ 191 then
          ((b0.toNat - 192) * 64 + (b1.toNat - 128), 2) else (runeError, 1)
      | _ => (runeError, 1)
    else if b0.toNat < 240 then
      match rest with
      | b1 :: b2 :: _ =>
        if 128 ≤ b1.toNat ∧ (b0.toNat = 224 → 160 ≤ b1.toNat) ∧ b1.toNat ≤ 191 ∧
            (b0.toNat = 237 → b1.toNat ≤ 159) ∧ 128 ≤ b2.toNat ∧ b2.toNat ≤ 191 then
          ((b0.toNat - 224) * 4096 + (b1.toNat - 128) * 64 + (b2.toNat - 128), 3)
        else (runeError, 1)
      | _ => (runeError, 1)
    else if b0.toNat < 245 then
      match rest with
      | b1 :: b2 :: b3 :: _ =>
        if 128 ≤ b1.toNat ∧ (b0.toNat = 240 → 144 ≤ b1.toNat) ∧ b1.toNat ≤ 191 ∧
            (b0.toNat = 244 → b1.toNat ≤ 143) ∧ 128 ≤ b2.toNat ∧ b2.toNat ≤ 191 ∧
            128 ≤ b3.toNat ∧ b3.toNat ≤ 191 then
          ((b0.toNat - 240) * 262144 + (b1.toNat - 128) * 4096 + (b2.toNat - 128) * 64 + (b3.toNat - 128), 4)
        else (runeError, 1)
      | _ => (runeError, 1)
    else (runeError, 1) := by
  simp only [decodeRune, isCont_nat, UInt8.lt_iff_toNat_lt, UInt8.le_iff_toNat_le, u8_beq_nat,
    apply_ite UInt8.toNat, UInt8.reduceToNat, Bool.and_eq_true, decide_eq_true_eq,
    ite_le_iff (x := 160) (y := 128) (by decide), ite_le_iff (x := 144) (y := 128) (by decide),
    le_ite_iff (x := 159) (y := 191) (by decide), le_ite_iff (x := 143) (y := 191) (by decide), and_assoc]
  rfl

theorem encodeRune_nat (r : Nat) : encodeRune r =
    if r < 0x80 then [r.toUInt8]
    else if r < 0x800 then [(0xC0 + r / 64).toUInt8, (0x80 + r % 64).toUInt8]
    else if (0xD800 ≤ r ∧ r ≤ 0xDFFF) ∨ r > 0x10FFFF then [0xEF, 0xBF, 0xBD]
    else if r < 0x10000 then [(0xE0 + r / 4096).toUInt8, (0x80 + r / 64 % 64).toUInt8, (0x80 + r % 64).toUInt8]
    else [(0xF0 + r / 262144).toUInt8, (0x80 + r / 4096 % 64).toUInt8, (0x80 + r / 64 % 64).toUInt8, (0x80 + r % 64).toUInt8] := by
  simp only [encodeRune, Bool.or_eq_true, Bool.and_eq_true, decide_eq_true_eq]

theorem encodeRune_one {r : Nat} (h : r < 0x80) : encodeRune r = [r.toUInt8] := by
  rw [encodeRune_nat, if_pos h]

theorem encodeRune_two {r : Nat} (h : 0x80 ≤ r) (h' : r < 0x800) :
    encodeRune r = [(0xC0 + r / 64).toUInt8, (0x80 + r % 64).toUInt8] := by
  rw [encodeRune_nat, if_neg (Nat.not_lt.2 h), if_pos h']

theorem encodeRune_three {r : Nat} (h : 0x800 ≤ r) (h' : r < 0x10000) (hs : r < 0xD800 ∨ 0xDFFF < r) :
    encodeRune r = [(0xE0 + r / 4096).toUInt8, (0x80 + r / 64 % 64).toUInt8, (0x80 + r % 64).toUInt8] := by
  rw [encodeRune_nat, if_neg (by omega), if_neg (Nat.not_lt.2 h), if_neg (by omega), if_pos h']

theorem encodeRune_four {r : Nat} (h : 0x10000 ≤ r) (h' : r ≤ 0x10FFFF) :
    encodeRune r = [(0xF0 + r / 262144).toUInt8, (0x80 + r / 4096 % 64).toUInt8, (0x80 + r / 64 % 64).toUInt8,
      (0x80 + r % 64).toUInt8] := by
  rw [encodeRune_nat, if_neg (by omega), if_neg (by omega), if_neg (by omega), if_neg (Nat.not_lt.2 h)]

/-- `Good s r w`: `s` starts with a well-formed `w`-byte UTF-8 sequence encoding `r`. -/
inductive Good : Bytes → Nat → Nat → Prop
  | one (b0 : UInt8) (t : Bytes) : b0.toNat < 128 → Good (b0 :: t) b0.toNat 1
  | two (b0 b1 : UInt8) (t : Bytes) : 194 ≤ b0.toNat → b0.toNat < 224 → 128 ≤ b1.toNat → b1.toNat ≤ 191 →
      Good (b0 :: b1 :: t) ((b0.toNat - 192) * 64 + (b1.toNat - 128)) 2
  | three (b0 b1 b2 : UInt8) (t : Bytes) : 224 ≤ b0.toNat → b0.toNat < 240 → 128 ≤ b1.toNat → b1.toNat ≤ 191 →
      (b0.toNat = 224 → 160 ≤ b1.toNat) → (b0.toNat = 237 → b1.toNat ≤ 159) →
      128 ≤ b2.toNat → b2.toNat ≤ 191 →
      Good (b0 :: b1 :: b2 :: t) ((b0.toNat - 224) * 4096 + (b1.toNat - 128) * 64 + (b2.toNat - 128)) 3
  | four (b0 b1 b2 b3 : UInt8) (t : Bytes) : 240 ≤ b0.toNat → b0.toNat < 245 → 128 ≤ b1.toNat → b1.toNat ≤ 191 →
      (b0.toNat = 240 → 144 ≤ b1.toNat) → (b0.toNat = 244 → b1.toNat ≤ 143) →
      128 ≤ b2.toNat → b2.toNat ≤ 191 → 128 ≤ b3.toNat → b3.toNat ≤ 191 →
      Good (b0 :: b1 :: b2 :: b3 :: t)
        ((b0.toNat - 240) * 262144 + (b1.toNat - 128) * 4096 + (b2.toNat - 128) * 64 + (b3.toNat - 128)) 4

theorem utf8_not_lt_of_le {a b n : Nat} (hab : a ≤ b) (h : b ≤ n) : ¬ n < a :=
  Nat.not_lt.2 (Nat.le_trans hab h)

theorem Good.decode {s : Bytes} {r w : Nat} (h : Good s r w) : decodeRune s = (r, w) := by
  cases h with
  | one b0 t h0 => rw [decodeRune_nat, if_pos h0]
  | two b0 b1 t h0 h0' h1 h1' =>
    rw [decodeRune_nat, if_neg (utf8_not_lt_of_le (by decide) h0), if_neg (Nat.not_lt.2 h0), if_pos h0']
    exact if_pos ⟨h1, h1'⟩
  | three b0 b1 b2 t h0 h0' h1 h1' hl hh h2 h2' =>
    rw [decodeRune_nat, if_neg (utf8_not_lt_of_le (by decide) h0), if_neg (utf8_not_lt_of_le (by decide) h0),
      if_neg (Nat.not_lt.2 h0), if_pos h0']
    exact if_pos ⟨h1, hl, h1', hh, h2, h2'⟩
  | four b0 b1 b2 b3 t h0 h0' h1 h1' hl hh h2 h2' h3 h3' =>
    rw [decodeRune_nat, if_neg (utf8_not_lt_of_le (by decide) h0), if_neg (utf8_not_lt_of_le (by decide) h0),
      if_neg (utf8_not_lt_of_le (by decide) h0), if_neg (Nat.not_lt.2 h0), if_pos h0']
    exact if_pos ⟨h1, hl, h1', hh, h2, h2', h3, h3'⟩

theorem utf8_eq_ite_cases {α : Type} {c : Prop} [Decidable c] {x a b : α} (e : x = if c then a else b) :
    c ∨ x = b := by
  by_cases h : c
  · exact .inl h
  · exact .inr (e.trans (if_neg h))

theorem decodeRune_spec (s : Bytes) :
    decodeRune s = (runeError, min s.length 1) ∨ Good s (decodeRune s).1 (decodeRune s).2 := by
  have good {s r w} (g : Good s r w) :
      decodeRune s = (runeError, min s.length 1) ∨ Good s (decodeRune s).1 (decodeRune s).2 := by
    rw [g.decode]; exact .inr g
  cases s with
  | nil => exact .inl rfl
  | cons b0 rest =>
    have bad {rest} (e : decodeRune (b0 :: rest) = (runeError, 1)) :
        decodeRune (b0 :: rest) = (runeError, min (b0 :: rest).length 1) ∨
        Good (b0 :: rest) (decodeRune (b0 :: rest)).1 (decodeRune (b0 :: rest)).2 :=
      .inl (e.trans (congrArg _ (Nat.min_eq_right (Nat.succ_pos _)).symm))
    have e := decodeRune_nat b0 rest
    by_cases h1 : b0.toNat < 128
    · exact good (.one b0 rest h1)
    by_cases h2 : b0.toNat < 194
    · rw [if_neg h1, if_pos h2] at e; exact bad e
    by_cases h3 : b0.toNat < 224
    · rw [if_neg h1, if_neg h2, if_pos h3] at e
      rcases rest with _ | ⟨b1, t⟩
      · exact bad e
      rcases utf8_eq_ite_cases e with hc | e
      · exact good (.two b0 b1 t (Nat.le_of_not_lt h2) h3 hc.1 hc.2)
      · exact bad e
    by_cases h4 : b0.toNat < 240
    · rw [if_neg h1, if_neg h2, if_neg h3, if_pos h4] at e
      rcases rest with _ | ⟨b1, _ | ⟨b2, t⟩⟩
      · exact bad e
      · exact bad e
      rcases utf8_eq_ite_cases e with ⟨h1, hl, h1', hh, h2, h2'⟩ | e
      · exact good (.three b0 b1 b2 t (Nat.le_of_not_lt h3) h4 h1 h1' hl hh h2 h2')
      · exact bad e
    by_cases h5 : b0.toNat < 245
    · rw [if_neg h1, if_neg h2, if_neg h3, if_neg h4, if_pos h5] at e
      rcases rest with _ | ⟨b1, _ | ⟨b2, _ | ⟨b3, t⟩⟩⟩
      · exact bad e
      · exact bad e
      · exact bad e
      rcases utf8_eq_ite_cases e with ⟨h1, hl, h1', hh, h2, h2', h3, h3'⟩ | e
      · exact good (.four b0 b1 b2 b3 t (Nat.le_of_not_lt h4) h5 h1 h1' hl hh h2 h2' h3 h3')
      · exact bad e
    · rw [if_neg h1, if_neg h2, if_neg h3, if_neg h4, if_neg h5] at e; exact bad e

theorem Good.width {s : Bytes} {r w : Nat} (h : Good s r w) : 1 ≤ w ∧ w ≤ s.length := by
  cases h <;> simp

theorem Good.not_bad {s : Bytes} {r w : Nat} (h : Good s r w) : ¬ (r = runeError ∧ w ≤ 1) := by
  unfold runeError
  cases h <;> omega

theorem Good.form {s : Bytes} {r w : Nat} (h : Good s r w) : ∃ x tl, s.take w = x :: tl ∧ tl.length ≤ 3 ∧
    (x.toNat < 128 ∧ tl = [] ∨ 192 ≤ x.toNat ∧ tl ≠ []) ∧ ∀ y ∈ tl, 128 ≤ y.toNat ∧ y.toNat ≤ 191 := by
  cases h with
  | one b0 t h0 => exact ⟨b0, [], rfl, (by decide : 0 ≤ 3), .inl ⟨h0, rfl⟩, nofun⟩
  | two b0 b1 t h0 h0' h1 h1' =>
    exact ⟨b0, [b1], rfl, (by decide : 1 ≤ 3), .inr ⟨Nat.le_trans (by decide) h0, nofun⟩,
      List.forall_mem_cons.2 ⟨⟨h1, h1'⟩, nofun⟩⟩
  | three b0 b1 b2 t h0 h0' h1 h1' hl hh h2 h2' =>
    exact ⟨b0, [b1, b2], rfl, (by decide : 2 ≤ 3), .inr ⟨Nat.le_trans (by decide) h0, nofun⟩,
      List.forall_mem_cons.2 ⟨⟨h1, h1'⟩, List.forall_mem_cons.2 ⟨⟨h2, h2'⟩, nofun⟩⟩⟩
  | four b0 b1 b2 b3 t h0 h0' h1 h1' hl hh h2 h2' h3 h3' =>
    exact ⟨b0, [b1, b2, b3], rfl, (by decide : 3 ≤ 3), .inr ⟨Nat.le_trans (by decide) h0, nofun⟩,
      List.forall_mem_cons.2 ⟨⟨h1, h1'⟩, List.forall_mem_cons.2 ⟨⟨h2, h2'⟩,
        List.forall_mem_cons.2 ⟨⟨h3, h3'⟩, nofun⟩⟩⟩⟩

/-! ## base-64 digits

A continuation byte carries a base-64 digit: for digits `b, c, d < 64` the quotients and remainders that
`encodeRune` takes of `a * 4096 + b * 64 + c` (and of the two- and four-digit forms) are the digits. -/

theorem utf8_mul64_add_div {x y : Nat} (h : y < 64) : (x * 64 + y) / 64 = x := by
  rw [Nat.mul_comm, Nat.mul_add_div (by decide), Nat.div_eq_of_lt h, Nat.add_zero]

theorem utf8_horner3 (a b c : Nat) : a * 4096 + b * 64 + c = (a * 64 + b) * 64 + c := by
  rw [Nat.add_mul, Nat.mul_assoc]

theorem utf8_horner4 (a b c d : Nat) :
    a * 262144 + b * 4096 + c * 64 + d = ((a * 64 + b) * 64 + c) * 64 + d := by
  rw [Nat.add_mul, Nat.add_mul, Nat.add_mul, Nat.mul_assoc, Nat.mul_assoc, Nat.mul_assoc]

theorem utf8_digits3 {a b c r : Nat} (hr : r = a * 4096 + b * 64 + c) (hb : b < 64) (hc : c < 64) :
    r / 4096 = a ∧ r / 64 % 64 = b ∧ r % 64 = c := by
  rw [hr, utf8_horner3, ← Nat.div_div_eq_div_mul _ 64 64, utf8_mul64_add_div hc, utf8_mul64_add_div hb, Nat.mul_add_mod_of_lt hb,
    Nat.mul_add_mod_of_lt hc]
  exact ⟨rfl, rfl, rfl⟩

theorem utf8_digits4 {a b c d r : Nat} (hr : r = a * 262144 + b * 4096 + c * 64 + d) (hb : b < 64) (hc : c < 64)
    (hd : d < 64) : r / 262144 = a ∧ r / 4096 % 64 = b ∧ r / 64 % 64 = c ∧ r % 64 = d := by
  rw [hr, utf8_horner4, ← Nat.div_div_eq_div_mul _ 4096 64, ← Nat.div_div_eq_div_mul _ 64 64, utf8_mul64_add_div hd,
    utf8_mul64_add_div hc, utf8_mul64_add_div hb, Nat.mul_add_mod_of_lt hb, Nat.mul_add_mod_of_lt hc, Nat.mul_add_mod_of_lt hd]
  exact ⟨rfl, rfl, rfl, rfl⟩

theorem utf8_exists_digits3 (r : Nat) : ∃ a b c, b < 64 ∧ c < 64 ∧ r = a * 4096 + b * 64 + c :=
  ⟨r / 64 / 64, r / 64 % 64, r % 64, Nat.mod_lt _ (by decide), Nat.mod_lt _ (by decide),
    by rw [utf8_horner3, Nat.div_add_mod', Nat.div_add_mod']⟩

theorem utf8_exists_digits4 (r : Nat) :
    ∃ a b c d, b < 64 ∧ c < 64 ∧ d < 64 ∧ r = a * 262144 + b * 4096 + c * 64 + d :=
  ⟨r / 64 / 64 / 64, r / 64 / 64 % 64, r / 64 % 64, r % 64, Nat.mod_lt _ (by decide), Nat.mod_lt _ (by decide),
    Nat.mod_lt _ (by decide), by rw [utf8_horner4, Nat.div_add_mod', Nat.div_add_mod', Nat.div_add_mod']⟩

theorem utf8_two_range {n0 n1 : Nat} (h0 : 194 ≤ n0) (h0' : n0 < 224) (h1 : 128 ≤ n1) (h1' : n1 ≤ 191) :
    0x80 ≤ (n0 - 192) * 64 + (n1 - 128) ∧ (n0 - 192) * 64 + (n1 - 128) < 0x800 := by
  omega

theorem utf8_three_range {n0 n1 n2 : Nat} (h0 : 224 ≤ n0) (h0' : n0 < 240) (h1 : 128 ≤ n1) (h1' : n1 ≤ 191)
    (hl : n0 = 224 → 160 ≤ n1) (hh : n0 = 237 → n1 ≤ 159) (h2 : 128 ≤ n2) (h2' : n2 ≤ 191) :
    0x800 ≤ (n0 - 224) * 4096 + (n1 - 128) * 64 + (n2 - 128) ∧
    (n0 - 224) * 4096 + (n1 - 128) * 64 + (n2 - 128) < 0x10000 ∧
    ((n0 - 224) * 4096 + (n1 - 128) * 64 + (n2 - 128) < 0xD800 ∨
      0xDFFF < (n0 - 224) * 4096 + (n1 - 128) * 64 + (n2 - 128)) := by
  -- each byte as its offset plus a digit: `omega` then meets no truncated subtraction
  obtain ⟨a, rfl⟩ := Nat.exists_eq_add_of_le h0
  obtain ⟨b, rfl⟩ := Nat.exists_eq_add_of_le h1
  obtain ⟨c, rfl⟩ := Nat.exists_eq_add_of_le h2
  simp only [Nat.add_sub_cancel_left]
  omega

theorem utf8_four_range {n0 n1 n2 n3 : Nat} (h0 : 240 ≤ n0) (h0' : n0 < 245) (h1 : 128 ≤ n1) (h1' : n1 ≤ 191)
    (hl : n0 = 240 → 144 ≤ n1) (hh : n0 = 244 → n1 ≤ 143) (h2 : 128 ≤ n2) (h2' : n2 ≤ 191)
    (h3 : 128 ≤ n3) (h3' : n3 ≤ 191) :
    0x10000 ≤ (n0 - 240) * 262144 + (n1 - 128) * 4096 + (n2 - 128) * 64 + (n3 - 128) ∧
    (n0 - 240) * 262144 + (n1 - 128) * 4096 + (n2 - 128) * 64 + (n3 - 128) ≤ 0x10FFFF := by
  obtain ⟨a, rfl⟩ := Nat.exists_eq_add_of_le h0
  obtain ⟨b, rfl⟩ := Nat.exists_eq_add_of_le h1
  obtain ⟨c, rfl⟩ := Nat.exists_eq_add_of_le h2
  obtain ⟨d, rfl⟩ := Nat.exists_eq_add_of_le h3
  simp only [Nat.add_sub_cancel_left]
  omega

theorem Good.scalar {s : Bytes} {r w : Nat} (h : Good s r w) : isScalar r = true := by
  rw [isScalar_iff]
  cases h with
  | one b0 t h0 => exact .inl (Nat.lt_trans h0 (by decide))
  | two b0 b1 t h0 h0' h1 h1' => exact .inl (Nat.lt_trans (utf8_two_range h0 h0' h1 h1').2 (by decide))
  | three b0 b1 b2 t h0 h0' h1 h1' hl hh h2 h2' =>
    obtain ⟨_, h, hs⟩ := utf8_three_range h0 h0' h1 h1' hl hh h2 h2'
    exact hs.imp_right fun hs => ⟨hs, Nat.le_trans (Nat.le_of_lt h) (by decide)⟩
  | four b0 b1 b2 b3 t h0 h0' h1 h1' hl hh h2 h2' h3 h3' =>
    obtain ⟨h, h'⟩ := utf8_four_range h0 h0' h1 h1' hl hh h2 h2' h3 h3'
    exact .inr ⟨Nat.lt_of_lt_of_le (by decide) h, h'⟩

theorem utf8_sub_lt_64 {n : Nat} (h : n ≤ 191) : n - 128 < 64 := by omega

theorem Good.encode {s : Bytes} {r w : Nat} (h : Good s r w) : encodeRune r = s.take w := by
  cases h with
  | one b0 t h0 => rw [encodeRune_one h0, toUInt8_eq_of _ b0 rfl]; rfl
  | two b0 b1 t h0 h0' h1 h1' =>
    obtain ⟨h, h'⟩ := utf8_two_range h0 h0' h1 h1'
    rw [encodeRune_two h h', utf8_mul64_add_div (utf8_sub_lt_64 h1'), Nat.mul_add_mod_of_lt (utf8_sub_lt_64 h1'),
      toUInt8_eq_of _ b0 (Nat.add_sub_cancel' (Nat.le_trans (by decide) h0)),
      toUInt8_eq_of _ b1 (Nat.add_sub_cancel' h1)]
    rfl
  | three b0 b1 b2 t h0 h0' h1 h1' hl hh h2 h2' =>
    obtain ⟨h, h', hs⟩ := utf8_three_range h0 h0' h1 h1' hl hh h2 h2'
    obtain ⟨e0, e1, e2⟩ := utf8_digits3 rfl (utf8_sub_lt_64 h1') (utf8_sub_lt_64 h2')
    rw [encodeRune_three h h' hs, e0, e1, e2, toUInt8_eq_of _ b0 (Nat.add_sub_cancel' h0),
      toUInt8_eq_of _ b1 (Nat.add_sub_cancel' h1), toUInt8_eq_of _ b2 (Nat.add_sub_cancel' h2)]
    rfl
  | four b0 b1 b2 b3 t h0 h0' h1 h1' hl hh h2 h2' h3 h3' =>
    obtain ⟨h, h'⟩ := utf8_four_range h0 h0' h1 h1' hl hh h2 h2' h3 h3'
    obtain ⟨e0, e1, e2, e3⟩ := utf8_digits4 rfl (utf8_sub_lt_64 h1') (utf8_sub_lt_64 h2') (utf8_sub_lt_64 h3')
    rw [encodeRune_four h h', e0, e1, e2, e3, toUInt8_eq_of _ b0 (Nat.add_sub_cancel' h0),
      toUInt8_eq_of _ b1 (Nat.add_sub_cancel' h1), toUInt8_eq_of _ b2 (Nat.add_sub_cancel' h2),
      toUInt8_eq_of _ b3 (Nat.add_sub_cancel' h3)]
    rfl

theorem Good.encode_length {s : Bytes} {r w : Nat} (h : Good s r w) : (encodeRune r).length = w := by
  rw [h.encode, List.length_take]; have := h.width; omega

theorem utf8_toNat_lead {k a n : Nat} (ha : a < n) (hn : k + n ≤ 256) : (k + a).toUInt8.toNat = k + a :=
  UInt8.toNat_ofNat_of_lt' (Nat.lt_of_lt_of_le (Nat.add_lt_add_left ha k) hn)

theorem utf8_toNat_cont {b : Nat} (hb : b < 64) : (0x80 + b).toUInt8.toNat = 128 + b :=
  utf8_toNat_lead hb (by decide)

theorem utf8_cont_le {b : Nat} (hb : b < 64) : 128 + b ≤ 191 :=
  Nat.add_le_add_left (Nat.le_of_lt_succ hb) 128

theorem good_two_digits {a b : Nat} (t : Bytes) (ha : 2 ≤ a) (ha' : a < 32) (hb : b < 64) :
    Good ((0xC0 + a).toUInt8 :: (0x80 + b).toUInt8 :: t) (a * 64 + b) 2 := by
  have g := Good.two (0xC0 + a).toUInt8 (0x80 + b).toUInt8 t
  rw [utf8_toNat_lead ha' (by decide), utf8_toNat_cont hb, Nat.add_sub_cancel_left, Nat.add_sub_cancel_left] at g
  exact g (Nat.add_le_add_left ha 192) (Nat.add_lt_add_left ha' 192) (Nat.le_add_right ..) (utf8_cont_le hb)

theorem good_three_digits {a b c : Nat} (t : Bytes) (ha : a < 16) (hl : a = 0 → 32 ≤ b) (hh : a = 13 → b < 32)
    (hb : b < 64) (hc : c < 64) :
    Good ((0xE0 + a).toUInt8 :: (0x80 + b).toUInt8 :: (0x80 + c).toUInt8 :: t) (a * 4096 + b * 64 + c) 3 := by
  have hl' (e : 224 + a = 224) : 160 ≤ 128 + b := Nat.add_le_add_left (hl (Nat.add_left_cancel e)) 128
  have hh' (e : 224 + a = 237) : 128 + b ≤ 159 :=
    Nat.add_le_add_left (Nat.le_of_lt_succ (hh (Nat.add_left_cancel e))) 128
  have g := Good.three (0xE0 + a).toUInt8 (0x80 + b).toUInt8 (0x80 + c).toUInt8 t
  rw [utf8_toNat_lead ha (by decide), utf8_toNat_cont hb, utf8_toNat_cont hc, Nat.add_sub_cancel_left,
    Nat.add_sub_cancel_left, Nat.add_sub_cancel_left] at g
  exact g (Nat.le_add_right ..) (Nat.add_lt_add_left ha 224) (Nat.le_add_right ..) (utf8_cont_le hb) hl' hh'
    (Nat.le_add_right ..) (utf8_cont_le hc)

theorem good_four_digits {a b c d : Nat} (t : Bytes) (ha : a < 5) (hl : a = 0 → 16 ≤ b) (hh : a = 4 → b < 16)
    (hb : b < 64) (hc : c < 64) (hd : d < 64) :
    Good ((0xF0 + a).toUInt8 :: (0x80 + b).toUInt8 :: (0x80 + c).toUInt8 :: (0x80 + d).toUInt8 :: t)
      (a * 262144 + b * 4096 + c * 64 + d) 4 := by
  have hl' (e : 240 + a = 240) : 144 ≤ 128 + b := Nat.add_le_add_left (hl (Nat.add_left_cancel e)) 128
  have hh' (e : 240 + a = 244) : 128 + b ≤ 143 :=
    Nat.add_le_add_left (Nat.le_of_lt_succ (hh (Nat.add_left_cancel e))) 128
  have g := Good.four (0xF0 + a).toUInt8 (0x80 + b).toUInt8 (0x80 + c).toUInt8 (0x80 + d).toUInt8 t
  rw [utf8_toNat_lead ha (by decide), utf8_toNat_cont hb, utf8_toNat_cont hc, utf8_toNat_cont hd,
    Nat.add_sub_cancel_left, Nat.add_sub_cancel_left, Nat.add_sub_cancel_left, Nat.add_sub_cancel_left] at g
  exact g (Nat.le_add_right ..) (Nat.add_lt_add_left ha 240) (Nat.le_add_right ..) (utf8_cont_le hb) hl' hh'
    (Nat.le_add_right ..) (utf8_cont_le hc) (Nat.le_add_right ..) (utf8_cont_le hd)

theorem good_encodeRune (r : Nat) (h : isScalar r = true) (t : Bytes) :
    Good (encodeRune r ++ t) r (encodeRune r).length := by
  -- from the base-64 digits of `r`, bytes `x` that are `Good` for `r`; they are `encodeRune r` by `Good.encode`
  obtain ⟨x, g⟩ : ∃ x : Bytes, Good (x ++ t) r x.length := by
    rw [isScalar_iff] at h
    by_cases h1 : r < 0x80
    · have g := Good.one r.toUInt8 t
      rw [Nat.toUInt8_eq, UInt8.toNat_ofNat_of_lt' (Nat.lt_trans h1 (by decide))] at g
      exact ⟨[_], g h1⟩
    by_cases h2 : r < 0x800
    · have g := good_two_digits t (a := r / 64) (b := r % 64) (by omega) (by omega) (Nat.mod_lt _ (by decide))
      rw [Nat.div_add_mod'] at g
      exact ⟨[_, _], g⟩
    by_cases h3 : r < 0x10000
    · obtain ⟨a, b, c, hb, hc, rfl⟩ := utf8_exists_digits3 r
      have ha : a < 16 ∧ (a = 0 → 32 ≤ b) ∧ (a = 13 → b < 32) := by omega
      exact ⟨[_, _, _], good_three_digits t ha.1 ha.2.1 ha.2.2 hb hc⟩
    · obtain ⟨a, b, c, d, hb, hc, hd, rfl⟩ := utf8_exists_digits4 r
      have ha : a < 5 ∧ (a = 0 → 16 ≤ b) ∧ (a = 4 → b < 16) := by omega
      exact ⟨[_, _, _, _], good_four_digits t ha.1 ha.2.1 ha.2.2 hb hc hd⟩
  have e := g.encode
  rw [List.take_left] at e
  rwa [e]

theorem Good.of_take_eq {s s' : Bytes} {r w : Nat} (g : Good s r w) (h : s'.take w = s.take w) : Good s' r w := by
  have g' := good_encodeRune r g.scalar (s'.drop w)
  rwa [g.encode_length, g.encode, ← h, List.take_append_drop] at g'

theorem Good.append {s : Bytes} {r w : Nat} (h : Good s r w) (x : Bytes) : Good (s ++ x) r w :=
  h.of_take_eq (List.take_append_of_le_length h.width.2)

theorem Good.of_append_start {m q : Bytes} {b : UInt8} {r w : Nat} (h : Good (m ++ b :: q) r w) (hm : m ≠ [])
    (hb : ¬ (128 ≤ b.toNat ∧ b.toNat ≤ 191)) : Good m r w := by
  by_cases hw : w ≤ m.length
  · exact h.of_take_eq (List.take_append_of_le_length hw).symm
  · -- otherwise `b` is among the continuation bytes of the sequence
    exfalso
    obtain ⟨x, tl, e, -, -, htl⟩ := h.form
    obtain ⟨k, rfl⟩ : ∃ k, w = m.length + (k + 1) := ⟨w - m.length - 1, by omega⟩
    rw [List.take_length_add_append, List.take_succ_cons] at e
    cases m with
    | nil => exact hm rfl
    | cons a m' =>
      cases e
      exact hb (htl b (List.mem_append_right _ (List.mem_cons_self ..)))

theorem decodeRune_prefix (p t : Bytes) (hp : p <+: t) :
    decodeRune p = decodeRune t ∨ (decodeRune p).1 = runeError := by
  obtain ⟨q, rfl⟩ := hp
  rcases decodeRune_spec p with e | g
  · exact .inr (by rw [e])
  · exact .inl ((g.append q).decode.symm ▸ rfl)

theorem decodeRune_append_start (m : Bytes) (hm : m ≠ []) (b : UInt8) (hb : ¬ (128 ≤ b.toNat ∧ b.toNat ≤ 191))
    (q : Bytes) : decodeRune (m ++ b :: q) = decodeRune m := by
  rcases decodeRune_spec m with e' | g'
  · rcases decodeRune_spec (m ++ b :: q) with e | g
    · have hm' := List.length_pos_iff.2 hm
      rw [e, e', Nat.min_eq_right hm', Nat.min_eq_right (List.length_append ▸ Nat.le_add_right_of_le hm')]
    · rw [(g.of_append_start hm hb).decode]
  · rw [(g'.append (b :: q)).decode, g'.decode]

theorem encodeRune_runeError : encodeRune runeError = [0xEF, 0xBF, 0xBD] := by decide

theorem encodeRune_nonscalar (r : Rune) (h : isScalar r = false) : encodeRune r = encodeRune runeError := by
  unfold Rune at r
  rw [isScalar_eq_false_iff] at h
  rw [encodeRune_runeError, encodeRune_nat, if_neg (by omega), if_neg (by omega), if_pos (by omega)]

theorem encodeRune_form (r : Nat) : ∃ x tl, encodeRune r = x :: tl ∧ tl.length ≤ 3 ∧
    (x.toNat < 128 ∧ tl = [] ∨ 192 ≤ x.toNat ∧ tl ≠ []) ∧ ∀ y ∈ tl, 128 ≤ y.toNat ∧ y.toNat ≤ 191 := by
  by_cases h : isScalar r = true
  · have g := good_encodeRune r h []
    have f := g.form
    rwa [← g.encode] at f
  · rw [encodeRune_nonscalar r (Bool.eq_false_iff.2 h), encodeRune_runeError]
    exact ⟨0xEF, [0xBF, 0xBD], rfl, by decide, .inr ⟨by decide, nofun⟩, by decide⟩

theorem encodeRune_length_pos (r : Rune) : 0 < (encodeRune r).length := by
  obtain ⟨x, tl, e, _⟩ := encodeRune_form r
  rw [e]; exact Nat.succ_pos _

theorem encodeRune_length_le (r : Rune) : (encodeRune r).length ≤ 4 := by
  obtain ⟨x, tl, e, h, _⟩ := encodeRune_form r
  rw [e]; exact Nat.succ_le_succ h

theorem encodeRune_ne_nil (r : Rune) : encodeRune r ≠ [] := by
  intro h; have := encodeRune_length_pos r; rw [h] at this; exact Nat.lt_irrefl _ this

theorem decodeRune_encodeRune_append (r : Rune) (h : isScalar r = true) (t : Bytes) :
    decodeRune (encodeRune r ++ t) = (r, (encodeRune r).length) :=
  (good_encodeRune r h t).decode

theorem isScalar_runeError : isScalar runeError = true := by decide

theorem decodeRune_isScalar (s : Bytes) : isScalar (decodeRune s).1 = true := by
  rcases decodeRune_spec s with e | g
  · rw [e]; exact isScalar_runeError
  · exact g.scalar

theorem decodeRune_width_le (s : Bytes) : (decodeRune s).2 ≤ s.length := by
  rcases decodeRune_spec s with e | g
  · rw [e]; exact Nat.min_le_left _ _
  · exact g.width.2

theorem decodeRune_width_pos (s : Bytes) (h : s ≠ []) : 0 < (decodeRune s).2 := by
  rcases decodeRune_spec s with e | g
  · rw [e]; exact Nat.lt_min.2 ⟨List.length_pos_iff.2 h, Nat.one_pos⟩
  · exact g.width.1

theorem decodeRune_width_le_four (s : Bytes) : (decodeRune s).2 ≤ 4 := by
  rcases decodeRune_spec s with e | g
  · rw [e]; exact Nat.le_trans (Nat.min_le_right _ _) (by decide)
  · rw [← g.encode_length]; exact encodeRune_length_le _

theorem good_of_decodeRune (s : Bytes) (r w : Nat) (h : decodeRune s = (r, w))
    (hv : ¬ (r = runeError ∧ w ≤ 1)) : Good s r w := by
  rcases decodeRune_spec s with e | g
  · rw [e] at h; cases h; exact absurd ⟨rfl, Nat.min_le_right _ _⟩ hv
  · rw [h] at g; exact g

theorem good_of_not_bad (s : Bytes) (hv : ¬ ((decodeRune s).1 = runeError ∧ (decodeRune s).2 ≤ 1)) :
    Good s (decodeRune s).1 (decodeRune s).2 :=
  good_of_decodeRune s (decodeRune s).1 (decodeRune s).2 rfl hv

theorem encodeRune_decodeRune (s : Bytes) (r : Rune) (w : Nat) (h : decodeRune s = (r, w))
    (hv : ¬ (r = runeError ∧ w ≤ 1)) : s.take w = encodeRune r :=
  (good_of_decodeRune s r w h hv).encode.symm

theorem encodeRune_length_of_decodeRune (s : Bytes) (r : Rune) (w : Nat) (h : decodeRune s = (r, w))
    (hv : ¬ (r = runeError ∧ w ≤ 1)) : (encodeRune r).length = w :=
  (good_of_decodeRune s r w h hv).encode_length

theorem length_drop_max_le {s : Bytes} {n : Nat} (h : s.length ≤ n + 1) (w : Nat) :
    (s.drop (max w 1)).length ≤ n := by
  rw [List.length_drop]; omega

theorem decodeRunesAux_fuel (n m : Nat) (s : Bytes) (hn : s.length ≤ n) (hm : s.length ≤ m) :
    decodeRunesAux n s = decodeRunesAux m s := by
  fun_induction decodeRunesAux n s generalizing m with
  | case1 s =>
    obtain rfl := List.eq_nil_of_length_eq_zero (Nat.le_zero.mp hn)
    cases m <;> rfl
  | case2 => cases m <;> rfl
  | case3 n b t r w hd ih =>
    cases m with
    | zero => cases hm
    | succ m =>
      rw [decodeRunesAux, hd]
      exact congrArg (r :: ·) (ih m (length_drop_max_le hn _) (length_drop_max_le hm _))

theorem decodeRunes_nil : decodeRunes [] = [] := rfl

theorem decodeRunes_cons (s : Bytes) (h : s ≠ []) :
    decodeRunes s = (decodeRune s).1 :: decodeRunes (s.drop (max (decodeRune s).2 1)) := by
  cases s with
  | nil => exact absurd rfl h
  | cons b t =>
    show decodeRunesAux (t.length + 1) (b :: t) = _
    simp only [decodeRunesAux]
    congr 1
    exact decodeRunesAux_fuel _ _ _ (length_drop_max_le (Nat.le_refl _) _) (Nat.le_refl _)

@[simp] theorem encodeRunes_nil : encodeRunes [] = [] := rfl

@[simp] theorem encodeRunes_cons (r : Rune) (rs : List Rune) :
    encodeRunes (r :: rs) = encodeRune r ++ encodeRunes rs := by
  simp [encodeRunes]

theorem encodeRunes_append (a b : List Rune) : encodeRunes (a ++ b) = encodeRunes a ++ encodeRunes b := by
  simp [encodeRunes]

theorem encodeRunes_isEmpty (rs : List Rune) : (encodeRunes rs).isEmpty = rs.isEmpty := by
  cases rs with
  | nil => rfl
  | cons r rs =>
    rw [encodeRunes_cons]
    have := encodeRune_ne_nil r
    cases h : encodeRune r with
    | nil => exact absurd h this
    | cons _ _ => rfl

theorem encodeRunes_flatten (l : List (List Rune)) : encodeRunes l.flatten = (l.map encodeRunes).flatten := by
  induction l with
  | nil => rfl
  | cons a l ih => simp [encodeRunes_append, ih]

theorem encodeRunes_sublist {a b : List Rune} (h : a.Sublist b) : (encodeRunes a).Sublist (encodeRunes b) := by
  induction h with
  | slnil => exact .slnil
  | cons x _ ih =>
    rw [encodeRunes_cons]
    exact ih.trans (List.sublist_append_right _ _)
  | cons_cons x _ ih =>
    rw [encodeRunes_cons, encodeRunes_cons]
    exact (List.Sublist.refl _).append ih

theorem encodeRunes_prefix {a b : List Rune} (h : a <+: b) : encodeRunes a <+: encodeRunes b := by
  obtain ⟨c, rfl⟩ := h
  rw [encodeRunes_append]
  exact List.prefix_append _ _

theorem encodeRunes_singleton (r : Rune) : encodeRunes [r] = encodeRune r := by
  simp

theorem decodeRunes_encodeRune_append (r : Rune) (h : isScalar r = true) (t : Bytes) :
    decodeRunes (encodeRune r ++ t) = r :: decodeRunes t := by
  have hne : encodeRune r ++ t ≠ [] := by
    intro e; exact encodeRune_ne_nil r (List.append_eq_nil_iff.mp e).1
  rw [decodeRunes_cons _ hne, decodeRune_encodeRune_append r h t]
  have := encodeRune_length_pos r
  simp only [Nat.max_eq_left this, List.drop_left]

theorem decodeRunes_encodeRunes_append (rs : List Rune) (h : ∀ r ∈ rs, isScalar r = true) (t : Bytes) :
    decodeRunes (encodeRunes rs ++ t) = rs ++ decodeRunes t := by
  induction rs with
  | nil => rfl
  | cons r rs ih =>
    obtain ⟨hr, hrs⟩ := List.forall_mem_cons.1 h
    rw [encodeRunes_cons, List.append_assoc, decodeRunes_encodeRune_append r hr, ih hrs]
    rfl

theorem decodeRunes_encodeRunes (rs : List Rune) (h : ∀ r ∈ rs, isScalar r = true) :
    decodeRunes (encodeRunes rs) = rs := by
  have := decodeRunes_encodeRunes_append rs h []
  rwa [List.append_nil, decodeRunes_nil, List.append_nil] at this

theorem decodeRunesAux_all_scalar (n : Nat) (s : Bytes) : ∀ r ∈ decodeRunesAux n s, isScalar r = true := by
  fun_induction decodeRunesAux n s with
  | case1 => nofun
  | case2 => nofun
  | case3 n b t r w hd ih =>
    have hr := decodeRune_isScalar (b :: t)
    rw [hd] at hr
    exact List.forall_mem_cons.2 ⟨hr, ih⟩

theorem decodeRunes_all_scalar (s : Bytes) : ∀ r ∈ decodeRunes s, isScalar r = true :=
  decodeRunesAux_all_scalar _ s

/-- a non-scalar rune encodes like U+FFFD (`encodeRune_sanitizeRune`), so the encoding of ANY rune list is the encoding
    of a list of scalars: this is why `validUtf8_encodeRunes` needs no hypothesis -/
def sanitizeRune (r : Rune) : Rune := if isScalar r then r else runeError

theorem isScalar_sanitizeRune (r : Rune) : isScalar (sanitizeRune r) = true := by
  unfold sanitizeRune; split
  · assumption
  · exact isScalar_runeError

theorem map_sanitizeRune_scalar (rs : List Rune) : ∀ r ∈ rs.map sanitizeRune, isScalar r = true :=
  List.forall_mem_map.2 fun x _ => isScalar_sanitizeRune x

theorem encodeRune_sanitizeRune (r : Rune) : encodeRune (sanitizeRune r) = encodeRune r := by
  unfold sanitizeRune; split
  · rfl
  · rename_i h; exact (encodeRune_nonscalar r (by simpa using h)).symm

theorem encodeRunes_map_sanitizeRune (rs : List Rune) : encodeRunes (rs.map sanitizeRune) = encodeRunes rs := by
  induction rs with
  | nil => rfl
  | cons r rs ih => rw [List.map_cons, encodeRunes_cons, encodeRunes_cons, ih, encodeRune_sanitizeRune]

theorem validUtf8_encodeRunes (rs : List Rune) : ValidUtf8 (encodeRunes rs) :=
  ⟨rs.map sanitizeRune, map_sanitizeRune_scalar rs, (encodeRunes_map_sanitizeRune rs).symm⟩

theorem validUtf8_encodeRune (r : Rune) : ValidUtf8 (encodeRune r) := by
  rw [← encodeRunes_singleton]; exact validUtf8_encodeRunes _

theorem validUtf8_nil : ValidUtf8 [] := ⟨[], by simp, rfl⟩

theorem validUtf8_append {a b : Bytes} : ValidUtf8 a → ValidUtf8 b → ValidUtf8 (a ++ b) := by
  rintro ⟨ra, ha, rfl⟩ ⟨rb, hb, rfl⟩
  rw [← encodeRunes_append]; exact validUtf8_encodeRunes _

theorem encodeRunes_decodeRunes_of_valid (s : Bytes) (h : ValidUtf8 s) : encodeRunes (decodeRunes s) = s := by
  rcases h with ⟨rs, hrs, rfl⟩
  rw [decodeRunes_encodeRunes rs hrs]

theorem decodeRunes_append_of_valid (a b : Bytes) (h : ValidUtf8 a) :
    decodeRunes (a ++ b) = decodeRunes a ++ decodeRunes b := by
  rcases h with ⟨rs, hrs, rfl⟩
  rw [decodeRunes_encodeRunes_append rs hrs, decodeRunes_encodeRunes rs hrs]

theorem runeLen_append_of_valid (a b : Bytes) (h : ValidUtf8 a) : runeLen (a ++ b) = runeLen a + runeLen b := by
  unfold runeLen; rw [decodeRunes_append_of_valid a b h, List.length_append]

theorem runeLen_encodeRunes_append (rs : List Rune) (t : Bytes) :
    runeLen (encodeRunes rs ++ t) = rs.length + runeLen t := by
  rw [← encodeRunes_map_sanitizeRune]
  unfold runeLen
  rw [decodeRunes_encodeRunes_append _ (map_sanitizeRune_scalar rs), List.length_append, List.length_map]

theorem runeLen_encodeRunes (rs : List Rune) : runeLen (encodeRunes rs) = rs.length := by
  have := runeLen_encodeRunes_append rs []
  rw [List.append_nil] at this
  rw [this]; rfl

theorem decodeRunes_encodeRunes_map {g : Rune → Rune} (hg : ∀ {r}, isScalar r = true → isScalar (g r) = true)
    (s : Bytes) : decodeRunes (encodeRunes ((decodeRunes s).map g)) = (decodeRunes s).map g :=
  decodeRunes_encodeRunes _ fun u hu => by
    obtain ⟨r, hr, rfl⟩ := List.mem_map.mp hu
    exact hg (decodeRunes_all_scalar s r hr)

theorem runeMap_idem {g : Rune → Rune} (hg : ∀ {r}, isScalar r = true → isScalar (g r) = true) (hid : ∀ r, g (g r) = g r)
    (s : Bytes) : encodeRunes ((decodeRunes (encodeRunes ((decodeRunes s).map g))).map g) = encodeRunes ((decodeRunes s).map g) := by
  rw [decodeRunes_encodeRunes_map hg, List.map_map]
  exact congrArg encodeRunes (List.map_congr_left fun r _ => hid r)

theorem runeMap_runeLen (g : Rune → Rune) (s : Bytes) : runeLen (encodeRunes ((decodeRunes s).map g)) = runeLen s :=
  (runeLen_encodeRunes _).trans (List.length_map g)

theorem runeLen_nil : runeLen [] = 0 := rfl

theorem decodeRunesAux_length_le (n : Nat) (s : Bytes) : (decodeRunesAux n s).length ≤ s.length := by
  fun_induction decodeRunesAux n s with
  | case1 => exact Nat.zero_le _
  | case2 => exact Nat.zero_le _
  | case3 n b t r w hd ih =>
    simp only [List.length_drop, List.length_cons] at ih ⊢
    omega

theorem runeLen_le_length (s : Bytes) : runeLen s ≤ s.length := decodeRunesAux_length_le _ s

theorem validUtf8_step (s : Bytes) : ValidUtf8 s ↔
    s = [] ∨ (¬ ((decodeRune s).1 = runeError ∧ (decodeRune s).2 ≤ 1) ∧
      ValidUtf8 (s.drop (decodeRune s).2)) := by
  constructor
  · rintro ⟨rs, hrs, rfl⟩
    cases rs with
    | nil => left; rfl
    | cons r rs =>
      right
      obtain ⟨hr, hrs⟩ := List.forall_mem_cons.1 hrs
      rw [encodeRunes_cons, decodeRune_encodeRune_append r hr]
      refine ⟨(good_encodeRune r hr (encodeRunes rs)).not_bad, ?_⟩
      simp only [List.drop_left]
      exact ⟨rs, hrs, rfl⟩
  · rintro (rfl | ⟨hv, hd⟩)
    · exact validUtf8_nil
    · have g := good_of_not_bad s hv
      rw [← List.take_append_drop (decodeRune s).2 s, ← g.encode]
      exact validUtf8_append (validUtf8_encodeRune _) hd

theorem validUtf8_drop_rune (s : Bytes) (h : ValidUtf8 s) : ValidUtf8 (s.drop (decodeRune s).2) := by
  rcases (validUtf8_step s).mp h with rfl | ⟨_, hd⟩
  · exact validUtf8_nil
  · exact hd

theorem validUtf8_take_rune (s : Bytes) (h : ValidUtf8 s) : ValidUtf8 (s.take (decodeRune s).2) := by
  rcases (validUtf8_step s).mp h with rfl | ⟨hv, _⟩
  · exact validUtf8_nil
  · rw [← (good_of_not_bad s hv).encode]; exact validUtf8_encodeRune _

theorem validUtf8_head_not_cont (b : UInt8) (t : Bytes) (h : ValidUtf8 (b :: t)) :
    ¬ (128 ≤ b.toNat ∧ b.toNat ≤ 191) := by
  rcases h with ⟨rs, _, e⟩
  cases rs with
  | nil => cases e
  | cons r rs =>
    obtain ⟨x, tl, hx, _, hnc, _⟩ := encodeRune_form r
    rw [encodeRunes_cons, hx] at e
    cases e
    omega

theorem decodeRune_append_valid (m : Bytes) (hm : m ≠ []) {r : Bytes} (hr : ValidUtf8 r) :
    decodeRune (m ++ r) = decodeRune m := by
  cases r with
  | nil => rw [List.append_nil]
  | cons b q => exact decodeRune_append_start m hm b (validUtf8_head_not_cont b q hr) q

theorem validUtf8_cut_start (a : Bytes) (b : UInt8) (t : Bytes) (hb : ¬ (128 ≤ b.toNat ∧ b.toNat ≤ 191))
    (h : ValidUtf8 (a ++ b :: t)) : ValidUtf8 a ∧ ValidUtf8 (b :: t) := by
  rcases h with ⟨rs, hrs, e⟩
  induction rs generalizing a with
  | nil => exact absurd (congrArg List.length e) (by simp)
  | cons r rs ih =>
    cases a with
    | nil => exact ⟨validUtf8_nil, ⟨r :: rs, hrs, e⟩⟩
    | cons a0 a =>
      obtain ⟨hr, hrs'⟩ := List.forall_mem_cons.1 hrs
      -- the first rune ends inside `a0 :: a`, which is therefore its encoding followed by a shorter piece
      have g := good_encodeRune r hr (encodeRunes rs)
      rw [← encodeRunes_cons, ← e] at g
      have ea := List.take_append_drop (encodeRune r).length (a0 :: a)
      rw [← (g.of_append_start (List.cons_ne_nil _ _) hb).encode] at ea
      rw [← ea, List.append_assoc, encodeRunes_cons] at e
      have := ih _ hrs' (List.append_cancel_left e)
      rw [← ea]
      exact ⟨validUtf8_append (validUtf8_encodeRune r) this.1, this.2⟩

theorem validUtf8_cancel_left (a b : Bytes) (ha : ValidUtf8 a) (h : ValidUtf8 (a ++ b)) : ValidUtf8 b := by
  have e := encodeRunes_decodeRunes_of_valid _ h
  rw [decodeRunes_append_of_valid a b ha, encodeRunes_append, encodeRunes_decodeRunes_of_valid a ha] at e
  exact List.append_cancel_left e ▸ validUtf8_encodeRunes _

theorem validUtf8_cut_around (a m t : Bytes) (hm : ValidUtf8 m) (hne : m ≠ []) (h : ValidUtf8 (a ++ m ++ t)) :
    ValidUtf8 a ∧ ValidUtf8 t := by
  cases m with
  | nil => exact absurd rfl hne
  | cons b m' =>
    have hb := validUtf8_head_not_cont b m' hm
    have h' : ValidUtf8 (a ++ b :: (m' ++ t)) := by simpa [List.append_assoc] using h
    obtain ⟨h1, h2⟩ := validUtf8_cut_start a b (m' ++ t) hb h'
    exact ⟨h1, validUtf8_cancel_left (b :: m') t hm (by simpa using h2)⟩

theorem validUtf8_cancel_right (a b : Bytes) (hb : ValidUtf8 b) (h : ValidUtf8 (a ++ b)) : ValidUtf8 a := by
  cases b with
  | nil => simpa using h
  | cons x b' =>
    exact (validUtf8_cut_start a x b' (validUtf8_head_not_cont x b' hb) h).1

theorem encodeRune_ascii (b : UInt8) (hb : b < 0x80) : encodeRune b.toNat = [b] :=
  (Good.one b [] (UInt8.lt_iff_toNat_lt.1 hb)).encode

theorem decodeRune_ascii (b : UInt8) (t : Bytes) (hb : b < 0x80) : decodeRune (b :: t) = (b.toNat, 1) :=
  (Good.one b t (UInt8.lt_iff_toNat_lt.1 hb)).decode

theorem decodeRunes_ascii (s : Bytes) (h : ∀ b ∈ s, b < 0x80) : decodeRunes s = s.map (·.toNat) := by
  induction s with
  | nil => exact decodeRunes_nil
  | cons b t ih =>
    obtain ⟨hb, ht⟩ := List.forall_mem_cons.1 h
    rw [decodeRunes_cons _ (by simp), decodeRune_ascii b t hb]
    simp only [Nat.max_self, List.drop_succ_cons, List.drop_zero, List.map_cons]
    rw [ih ht]

theorem encodeRunes_ascii_map (f : UInt8 → UInt8) (s : Bytes) (hf : ∀ b ∈ s, f b < 0x80) :
    encodeRunes (s.map fun b => (f b).toNat) = s.map f := by
  induction s with
  | nil => rfl
  | cons b t ih =>
    obtain ⟨hb, ht⟩ := List.forall_mem_cons.1 hf
    simp only [List.map_cons, encodeRunes_cons]
    rw [encodeRune_ascii (f b) hb, ih ht]
    rfl

theorem validUtf8_cons_ascii (b : UInt8) (t : Bytes) (hb : b < 0x80) : ValidUtf8 (b :: t) ↔ ValidUtf8 t :=
  have h1 : ValidUtf8 [b] := encodeRune_ascii b hb ▸ validUtf8_encodeRune b.toNat
  ⟨validUtf8_cancel_left [b] t h1, validUtf8_append h1⟩

theorem validUtf8_of_append_ascii (a : Bytes) (b : UInt8) (t : Bytes) (hb : b < 0x80)
    (h : ValidUtf8 (a ++ b :: t)) : ValidUtf8 a ∧ ValidUtf8 t :=
  (validUtf8_cut_start a b t (fun hc => Nat.not_le.2 (UInt8.lt_iff_toNat_lt.1 hb) hc.1) h).imp_right
    (validUtf8_cons_ascii b t hb).1

theorem validUtf8_of_all_ascii (s : Bytes) (h : ∀ b ∈ s, b < 0x80) : ValidUtf8 s := by
  induction s with
  | nil => exact validUtf8_nil
  | cons b t ih =>
    obtain ⟨hb, ht⟩ := List.forall_mem_cons.1 h
    exact (validUtf8_cons_ascii b t hb).mpr (ih ht)

theorem validUtf8_drop_ascii (m : Nat) (s : Bytes) (hs : ValidUtf8 s) (h : ∀ b ∈ s.take m, b < 0x80) :
    ValidUtf8 (s.drop m) :=
  validUtf8_cancel_left (s.take m) _ (validUtf8_of_all_ascii _ h) (by rwa [List.take_append_drop])

theorem encodeRune_ascii_or_high (r : Nat) :
    (∃ b : UInt8, b < 0x80 ∧ encodeRune r = [b]) ∨ (∀ y ∈ encodeRune r, 128 ≤ y.toNat) := by
  obtain ⟨x, tl, e, _, hx, htl⟩ := encodeRune_form r
  rcases hx with ⟨hx, rfl⟩ | ⟨hx, _⟩
  · exact .inl ⟨x, UInt8.lt_iff_toNat_lt.2 hx, e⟩
  · rw [e]
    exact .inr (List.forall_mem_cons.2 ⟨Nat.le_trans (by decide) hx, fun y hy => (htl y hy).1⟩)

theorem flatMap_high (f : UInt8 → Bytes) (hhi : ∀ b, 0x80 ≤ b → f b = [b]) :
    ∀ x : Bytes, (∀ y ∈ x, 128 ≤ y.toNat) → x.flatMap f = x := by
  intro x
  induction x with
  | nil => intro _; rfl
  | cons b t ih =>
    intro h
    obtain ⟨hb, ht⟩ := List.forall_mem_cons.1 h
    rw [List.flatMap_cons, hhi b (UInt8.le_iff_toNat_le.mpr hb), ih ht]
    rfl

theorem validUtf8_flatMap (f : UInt8 → Bytes) (hhi : ∀ b, 0x80 ≤ b → f b = [b])
    (hlo : ∀ b, b < 0x80 → ∀ c ∈ f b, c < 0x80) (s : Bytes) (h : ValidUtf8 s) :
    ValidUtf8 (s.flatMap f) := by
  rcases h with ⟨rs, -, rfl⟩
  induction rs with
  | nil => exact validUtf8_nil
  | cons r rs ih =>
    rw [encodeRunes_cons, List.flatMap_append]
    refine validUtf8_append ?_ ih
    rcases encodeRune_ascii_or_high r with ⟨b, hb, e⟩ | hh
    · rw [e, List.flatMap_cons, List.flatMap_nil, List.append_nil]
      exact validUtf8_of_all_ascii _ (hlo b hb)
    · rw [flatMap_high f hhi _ hh]; exact validUtf8_encodeRune r

theorem Good.high {b : UInt8} {t : Bytes} {r w : Nat} (h : Good (b :: t) r w) (hb : 128 ≤ b.toNat) :
    ∀ y ∈ (b :: t).take w, 128 ≤ y.toNat := by
  obtain ⟨x, tl, e, -, -, htl⟩ := h.form
  obtain ⟨w', rfl⟩ := Nat.exists_eq_succ_of_ne_zero (Nat.pos_iff_ne_zero.1 h.width.1)
  rw [e]
  rw [List.take_succ_cons] at e
  cases e
  exact List.forall_mem_cons.2 ⟨hb, fun y hy => (htl y hy).1⟩

def validUtf8BAux : Nat → Bytes → Bool
  | _, [] => true
  | 0, _ :: _ => false
  | n+1, s@(_ :: _) =>
    let (r, w) := decodeRune s
    if r == runeError && decide (w ≤ 1) then false else validUtf8BAux n (s.drop w)

def validUtf8B (s : Bytes) : Bool := validUtf8BAux s.length s

theorem validUtf8BAux_iff (n : Nat) (s : Bytes) (hs : s.length ≤ n) : validUtf8BAux n s = true ↔ ValidUtf8 s := by
  fun_induction validUtf8BAux n s with
  | case1 => exact iff_of_true rfl validUtf8_nil
  | case2 => cases hs
  | case3 n b t r w hd hbad =>
    simp only [Bool.and_eq_true, beq_iff_eq, decide_eq_true_eq] at hbad
    simp [validUtf8_step (b :: t), hd, hbad]
  | case4 n b t r w hd hbad ih =>
    simp only [Bool.and_eq_true, beq_iff_eq, decide_eq_true_eq] at hbad
    have hw := decodeRune_width_pos (b :: t) (List.cons_ne_nil b t)
    rw [hd] at hw
    rw [validUtf8_step (b :: t), hd, ih (by rw [List.length_drop]; omega)]
    simp [hbad]

theorem validUtf8B_iff (s : Bytes) : validUtf8B s = true ↔ ValidUtf8 s :=
  validUtf8BAux_iff s.length s (Nat.le_refl _)

instance (s : Bytes) : Decidable (ValidUtf8 s) := decidable_of_iff _ (validUtf8B_iff s)
