import Proofs.SrcChain
import Proofs.SrcShiftSource
import Proofs.SrcCompilesTo
/-!
# Source-level helpers: a block with any number of clauses (`if`/`unless` chains, `case`)

`blockSrcK kw nm args w0 B rest wE` is the source `{% nm args %}B clauses… {% endnm %}`; a clause (`Clause`,
Proofs/SrcChain.lean) with `cond = some t` is spelled `{% kw t %}body`, one with `cond = none` is spelled
`{% else %}body`. The compiled pieces are given as FUNCTIONS of the source (`nodesOf`, Proofs/SrcCompilesTo.lean; `clausePairs`, `ifBrs`,
`caseCls`), so that the source-level theorems can name them. `blockK_compile`: such a source compiles to what the block's own compiler
(`compileBlock`) makes of the nodes of its pieces; `CompilesTo.chain`, `caseK_compile` are the rules of the compile relation for the
conditional blocks. The suffix `K` marks what is parametrised by the clause keyword `kw` (`elsif` in `if`/`unless`, `when` in `case`).
-/

/-- `CompilesTo.of_compiles` for a piece that compiles at line 0, at any line (`Compiles.any_line`) -/
theorem nodesOf_spec {d : Delims} {items : List Item} (h : Compiles d items 0) (line : Nat) :
    compileTokens (tokensOf d items line) = .ok (nodesOf d items line) :=
  CompilesTo.of_compiles (h.any_line line)

/-- the tag of a clause whose keyword (for `cond = some t`) is `kw`: `elsif` in an `if` block, `when` in a `case` -/
def Clause.tagK (kw : Bytes) (c : Clause) : Item :=
  match c.cond with
  | some t => tg kw t c.w
  | none => tg nmElse [] c.w

def Clause.tokK (d : Delims) (kw : Bytes) (c : Clause) (l : Nat) : Token :=
  match c.cond with
  | some t => tgTok d kw t c.w l
  | none => tgTok d nmElse [] c.w l

def clauseItemsK (kw : Bytes) : List Clause → List Item
  | [] => []
  | c :: r => c.tagK kw :: (c.body ++ clauseItemsK kw r)

theorem Clause.tagK_elsif (c : Clause) : c.tagK nmElsif = c.tag := by
  unfold Clause.tagK Clause.tag
  cases c.cond <;> rfl

theorem clauseItemsK_elsif : ∀ cs : List Clause, clauseItemsK nmElsif cs = clauseItems cs
  | [] => rfl
  | c :: r => by simp only [clauseItemsK, clauseItems, Clause.tagK_elsif, clauseItemsK_elsif r]

theorem clauseItemsK_append (kw : Bytes) : ∀ (a b : List Clause), clauseItemsK kw (a ++ b) = clauseItemsK kw a ++ clauseItemsK kw b
  | [], _ => rfl
  | c :: r, b => by simp [clauseItemsK, clauseItemsK_append kw r b]

theorem Clause.tokK_ty (d : Delims) (kw : Bytes) (c : Clause) (l : Nat) : (c.tokK d kw l).ty = .tag := by
  unfold Clause.tokK
  cases c.cond <;> rfl

theorem Clause.tokK_line (d : Delims) (kw : Bytes) (c : Clause) (l : Nat) : (c.tokK d kw l).line = l := by
  unfold Clause.tokK
  cases c.cond <;> rfl

theorem tokensOf_tagK (d : Delims) (kw : Bytes) (c : Clause) (r : List Item) (l : Nat) :
    tokensOf d (c.tagK kw :: r) l = c.tokK d kw l :: tokensOf d r (l + countNL ((c.tagK kw).spell d)) := by
  unfold Clause.tagK Clause.tokK
  cases c.cond <;> exact tokensOf_tg ..

/-- the compiled clause list (clause token, nodes of its body) of a clause sequence whose first tag stands at line `l` -/
def clausePairs (d : Delims) (kw : Bytes) : List Clause → Nat → List (Token × List Node)
  | [], _ => []
  | c :: r, l => (c.tokK d kw l, nodesOf d c.body (l + countNL ((c.tagK kw).spell d))) ::
      clausePairs d kw r (l + countNL ((c.tagK kw).spell d) + countNL (spell d c.body))

/-- `segs`: the clauses as the segments `Derives.block` takes (`Seg`, Liquid/Nest.lean: the clause token, the tokens of its body, the
    trees of its body) -/
theorem clausesK_compile (d : Delims) (kw : Bytes) (o : Token) : ∀ (rest : List Clause) (l : Nat) (post : List Item),
    (∀ c ∈ rest, Compiles d c.body 0) →
    (∀ c ∈ rest, ∀ l, stdGrammar.isClauseOf o (c.tokK d kw l) = true) →
    ∃ segs,
      tokensOf d (clauseItemsK kw rest ++ post) l = segToks segs ++ tokensOf d post (l + countNL (spell d (clauseItemsK kw rest))) ∧
      (∀ sg ∈ segs, stdGrammar.isClauseOf o sg.1 = true) ∧ (∀ sg, sg ∈ segs → Derives stdGrammar objChk sg.2.1 sg.2.2) ∧
      firstUnmodelledObj (segToks segs) = none ∧
      compileClauses (segASTs segs) = .ok (clausePairs d kw rest l)
  | [], l, post, _, _ => ⟨[], by simp [clauseItemsK, segToks, spell, countNL], by simp, by simp, rfl, rfl⟩
  | c :: r, l, post, h, hadm => by
    have hns := nodesOf_spec (h c (List.mem_cons_self ..)) (l + countNL ((c.tagK kw).spell d))
    obtain ⟨hUb, ast, hd, hcl⟩ := compileTokens_ok hns
    obtain ⟨segs, h1, h2, h3, h4, h5⟩ := clausesK_compile d kw o r
      (l + countNL ((c.tagK kw).spell d) + countNL (spell d c.body)) post (fun x hx => h x (List.mem_cons_of_mem _ hx))
      (fun x hx => hadm x (List.mem_cons_of_mem _ hx))
    refine ⟨(c.tokK d kw l, tokensOf d c.body (l + countNL ((c.tagK kw).spell d)), ast) :: segs, ?_, ?_, ?_, ?_, ?_⟩
    · simp only [clauseItemsK, List.cons_append, List.append_assoc]
      rw [tokensOf_tagK, tokensOf_append, h1]
      simp only [segToks, spell_cons, spell_append, countNL_append, Nat.add_assoc]
      simp
    · intro sg hsg
      rcases List.mem_cons.mp hsg with rfl | hsg
      · exact hadm c (List.mem_cons_self ..) l
      · exact h2 sg hsg
    · intro sg hsg
      rcases List.mem_cons.mp hsg with rfl | hsg
      · exact hd
      · exact h3 sg hsg
    · simp only [segToks]
      rw [firstUnmodelledObj_tag _ _ (Clause.tokK_ty d kw c l), firstUnmodelledObj_append, hUb]
      exact h4
    · simp only [segASTs, compileClauses, hcl, h5, bind, Res.bind, pure, clausePairs]

/-- the block compilers of `compileNode`, on the compiled body and clauses -/
def compileBlock (t : Token) (b : List Node) (cs : List (Token × List Node)) : CRes (List Node) :=
  if t.name == nmIf || t.name == nmUnless then do
    let e ← liftParse t.line true (parseExprSource t.args)
    let first : CondT := if t.name == nmIf then .expr t.line e else .notExpr t.line e
    let rest ← compileIfClauseTests cs
    pure [.ifB t.line ((first, b) :: rest)]
  else if t.name == nmCase then do
    let e ← liftParse t.line true (parseExprSource t.args)
    let cases ← compileCaseClauses cs
    pure [.caseB t.line e cases]
  else if t.name == nmFor || t.name == nmTablerow then do
    let st ← liftParse t.line true (parseStatement kwLoop t.args)
    match st with
    | .loop x e m => pure [.loop t.line (t.name == nmTablerow) x e m b (cs.map (·.2))]
    | _ => .err ⟨t.line, true, .syntax, .byCause⟩
  else if t.name == nmCapture then pure [.capture t.line t.args b]
  else .unmodelled "block without a standard compiler"

theorem compileNode_block (t : Token) (body : List AST) (cls : List (Token × List AST)) :
    compileNode (.block t body cls) =
      (compileList body).bind fun b => (compileClauses cls).bind fun cs => compileBlock t b cs := by
  rw [compileNode]; rfl

/-- `{% nm args %}B clauses… {% endnm %}` -/
def blockSrcK (kw nm args : Bytes) (w0 : Ws) (B : List Item) (rest : List Clause) (wE : Ws) : List Item :=
  tg nm args w0 :: (B ++ (clauseItemsK kw rest ++ [tg (endPrefix ++ nm) [] wE]))

/-- the block parser and the compiler on such a source: the block's own compiler on the nodes of the body and of the clause bodies
    where they stand -/
theorem blockK_compile (d : Delims) (kw nm args : Bytes) (w0 : Ws) (B : List Item) (rest : List Clause) (wE : Ws) (line : Nat)
    (hb : stdGrammar.isBlock nm = true) (h1 : nm ≠ commentName) (h2 : nm ≠ rawName)
    {nB : List Node} (hB : CompilesTo d B (line + countNL ((tg nm args w0).spell d)) nB) (hrest : ∀ c ∈ rest, Compiles d c.body 0)
    (hadm : ∀ c ∈ rest, ∀ l, stdGrammar.isClauseOf (tgTok d nm args w0 line) (c.tokK d kw l) = true) :
    compileTokens (tokensOf d (blockSrcK kw nm args w0 B rest wE) line) =
      compileBlock (tgTok d nm args w0 line) nB
        (clausePairs d kw rest (line + countNL ((tg nm args w0).spell d) + countNL (spell d B))) := by
  obtain ⟨hUb, ast, hd, hcl⟩ := compileTokens_ok hB
  have ho : stdGrammar.isOpen (tgTok d nm args w0 line) = true := isOpen_tgTok _ _ _ _ _ hb h1 h2
  obtain ⟨segs, s1, s2, s3, s4, s5⟩ := clausesK_compile d kw (tgTok d nm args w0 line) rest
    (line + countNL ((tg nm args w0).spell d) + countNL (spell d B)) [tg (endPrefix ++ nm) [] wE] hrest hadm
  have htoks : tokensOf d (blockSrcK kw nm args w0 B rest wE) line =
      tgTok d nm args w0 line :: (tokensOf d B (line + countNL ((tg nm args w0).spell d)) ++
        (segToks segs ++ tgTok d (endPrefix ++ nm) [] wE
          (line + countNL ((tg nm args w0).spell d) + countNL (spell d B) + countNL (spell d (clauseItemsK kw rest))) :: [])) := by
    unfold blockSrcK
    rw [tokensOf_tg, tokensOf_append, s1, tokensOf_tg, tokensOf_nil]
  have hU : firstUnmodelledObj (tokensOf d (blockSrcK kw nm args w0 B rest wE) line) = none := by
    rw [htoks, ← List.append_assoc, firstUnmodelledObj_enclosed _ _ _ rfl rfl, firstUnmodelledObj_append, hUb]
    exact s4
  have hder := Derives.block (g := stdGrammar) (chk := objChk) (tgTok d nm args w0 line)
    (tgTok d (endPrefix ++ nm) [] wE
      (line + countNL ((tg nm args w0).spell d) + countNL (spell d B) + countNL (spell d (clauseItemsK kw rest))))
    _ ast segs [] [] ho hd s2 s3 (isEndOf_iff.mpr ⟨rfl, rfl⟩) .nil
  rw [← htoks] at hder
  rw [compileTokens_of_derives hU hder, compileList_single, compileNode_block, hcl, s5]
  rfl

/-- the test of a clause whose tag stands at line `l` (`always` for `else`; for a condition that is not an
    expression the value is immaterial: such a clause does not compile) -/
def Clause.testAt (c : Clause) (l : Nat) : CondT :=
  match c.cond with
  | none => .always
  | some t =>
    match parseExprSource t with
    | .ok e => .expr l e
    | _ => .always

def ifBrs (d : Delims) : List Clause → Nat → List (CondT × List Node)
  | [], _ => []
  | c :: r, l => (c.testAt l, nodesOf d c.body (l + countNL ((c.tagK nmElsif).spell d))) ::
      ifBrs d r (l + countNL ((c.tagK nmElsif).spell d) + countNL (spell d c.body))

theorem Clause.test_cases {c : Clause} (h : (c.test 0).isSome = true) :
    c.cond = none ∨ ∃ t e, c.cond = some t ∧ parseExprSource t = .ok e := by
  unfold Clause.test at h
  split at h
  · next hc => exact .inl hc
  · next t hc =>
    split at h
    · next e hp => exact .inr ⟨t, e, hc, hp⟩
    · cases h

theorem ifTests_pairs (d : Delims) : ∀ (rest : List Clause) (l : Nat), (∀ c ∈ rest, (c.test 0).isSome = true) →
    compileIfClauseTests (clausePairs d nmElsif rest l) = .ok (ifBrs d rest l)
  | [], _, _ => rfl
  | c :: r, l, h => by
    have ih := ifTests_pairs d r (l + countNL ((c.tagK nmElsif).spell d) + countNL (spell d c.body))
      (fun x hx => h x (List.mem_cons_of_mem _ hx))
    have hn : (nmElsif == nmElsif) = true := by decide
    rcases Clause.test_cases (h c (List.mem_cons_self ..)) with hc | ⟨t, e, hc, hp⟩
    · simp only [clausePairs, compileIfClauseTests, ih, ifBrs, Clause.tokK, Clause.testAt, hc, bind, Res.bind, pure]
      rfl
    · simp only [clausePairs, compileIfClauseTests, ih, ifBrs, Clause.tokK, Clause.testAt, hc, tgTok, hn, if_true, hp, liftParse,
        bind, Res.bind, pure]

theorem ifBrs_append (d : Delims) : ∀ (a b : List Clause) (l : Nat),
    ifBrs d (a ++ b) l = ifBrs d a l ++ ifBrs d b (l + countNL (spell d (clauseItemsK nmElsif a)))
  | [], b, l => by simp [ifBrs, clauseItemsK, spell, countNL]
  | c :: r, b, l => by
    simp only [List.cons_append, ifBrs, ifBrs_append d r b, clauseItemsK, spell_cons, spell_append, countNL_append, Nat.add_assoc]

theorem ifBrs_falsy (d : Delims) (P : Prims) (env : Env) : ∀ (pre : List Clause) (l : Nat),
    (∀ c ∈ pre, c.Falsy P env) → ∀ b ∈ ifBrs d pre l, condRes P env b.1 = .ok false
  | [], _, _, b, hb => by cases hb
  | c :: r, l, hf, b, hb => by
    simp only [ifBrs] at hb
    rcases List.mem_cons.mp hb with rfl | hb
    · obtain ⟨tt, e, v, hc, hp, hv, hvt⟩ := hf c (List.mem_cons_self ..)
      simp only [Clause.testAt, hc, hp, condRes, hv, hvt]
    · exact ifBrs_falsy d P env r _ (fun x hx => hf x (List.mem_cons_of_mem _ hx)) b hb

theorem compileBlock_if (o : Token) (nb : List Node) (cs : List (Token × List Node)) (hn : o.name = nmIf ∨ o.name = nmUnless) :
    compileBlock o nb cs =
      (liftParse o.line true (parseExprSource o.args)).bind fun ex => (compileIfClauseTests cs).bind fun brs =>
        .ok [.ifB o.line ((if o.name == nmIf then .expr o.line ex else .notExpr o.line ex, nb) :: brs)] := by
  have hh : (o.name == nmIf || o.name == nmUnless) = true := by rcases hn with h | h <;> simp [h]
  simp only [compileBlock, hh, if_true]
  rfl

theorem ifK_admits (d : Delims) (nm args : Bytes) (w0 : Ws) (line : Nat) (hn : nm = nmIf ∨ nm = nmUnless) (c : Clause)
    (hadm : nm = nmUnless → c.cond = none) (l : Nat) :
    stdGrammar.isClauseOf (tgTok d nm args w0 line) (c.tokK d nmElsif l) = true := by
  unfold Clause.tokK
  cases hc : c.cond with
  | none => rcases hn with rfl | rfl <;> simp only [Grammar.isClauseOf, tgTok] <;> decide
  | some t =>
    rcases hn with rfl | rfl
    · simp only [Grammar.isClauseOf, tgTok]; decide
    · rw [hadm rfl] at hc; cases hc

theorem chainK_compile (d : Delims) (line : Nat) (nm : Bytes) (hn : nm = nmIf ∨ nm = nmUnless)
    (c0 : Bytes) (w0 : Ws) (A0 : List Item) (rest : List Clause) (wE : Ws)
    (hA : Compiles d A0 (line + countNL ((tg nm c0 w0).spell d)))
    (hrest : ∀ c ∈ rest, c.Good d) (hadm : nm = nmUnless → ∀ c ∈ rest, c.cond = none) :
    compileTokens (tokensOf d (blockSrcK nmElsif nm c0 w0 A0 rest wE) line) =
      (liftParse line true (parseExprSource c0)).bind fun e0 =>
        .ok [.ifB line ((if nm == nmIf then .expr line e0 else .notExpr line e0,
            nodesOf d A0 (line + countNL ((tg nm c0 w0).spell d))) ::
          ifBrs d rest (line + countNL ((tg nm c0 w0).spell d) + countNL (spell d A0)))] := by
  rw [blockK_compile d nmElsif nm c0 w0 A0 rest wE line
      (by rcases hn with rfl | rfl <;> decide) (by rcases hn with rfl | rfl <;> decide) (by rcases hn with rfl | rfl <;> decide)
      (.of_compiles hA) (fun c hc => (hrest c hc).2) (fun c hc l => ifK_admits _ nm c0 w0 line hn c (fun h => hadm h c hc) l),
    compileBlock_if _ _ _ hn, ifTests_pairs _ rest _ (fun c hc => (hrest c hc).1)]
  rfl

theorem CompilesTo.chain {d : Delims} {l : Nat} {nm c0 : Bytes} {w0 wE : Ws} {A0 : List Item} {rest : List Clause} {e0 : Expr}
    (hn : nm = nmIf ∨ nm = nmUnless) (hp : parseExprSource c0 = .ok e0)
    (hA : Compiles d A0 (l + countNL ((tg nm c0 w0).spell d)))
    (hrest : ∀ c ∈ rest, c.Good d) (hadm : nm = nmUnless → ∀ c ∈ rest, c.cond = none) :
    CompilesTo d (blockSrcK nmElsif nm c0 w0 A0 rest wE) l
      [.ifB l ((if nm == nmIf then .expr l e0 else .notExpr l e0, nodesOf d A0 (l + countNL ((tg nm c0 w0).spell d))) ::
        ifBrs d rest (l + countNL ((tg nm c0 w0).spell d) + countNL (spell d A0)))] := by
  unfold CompilesTo
  rw [chainK_compile d l nm hn c0 w0 A0 rest wE hA hrest hadm, hp]
  rfl

theorem run_chainK_shape (P : Prims) (O : OutPrims) (cfg : Cfg) (fs : FS) (fuel : Nat) (line : Nat) (env : Env)
    (nm : Bytes) (hn : nm = nmIf ∨ nm = nmUnless)
    (c0 : Bytes) (w0 : Ws) (A0 : List Item) (rest : List Clause) (wE : Ws)
    (hg : GoodDelims (Delims.ofList cfg.delims)) (hc : Clean (Delims.ofList cfg.delims) (blockSrcK nmElsif nm c0 w0 A0 rest wE))
    (hA : Compiles (Delims.ofList cfg.delims) A0 (line + countNL ((tg nm c0 w0).spell (Delims.ofList cfg.delims))))
    (hrest : ∀ c ∈ rest, c.Good (Delims.ofList cfg.delims)) (hadm : nm = nmUnless → ∀ c ∈ rest, c.cond = none) :
    run P O cfg fs fuel (spell (Delims.ofList cfg.delims) (blockSrcK nmElsif nm c0 w0 A0 rest wE)) line env =
      runCompiled P O cfg fs fuel ((liftParse line true (parseExprSource c0)).bind fun e0 =>
        .ok [.ifB line ((if nm == nmIf then .expr line e0 else .notExpr line e0,
            nodesOf (Delims.ofList cfg.delims) A0 (line + countNL ((tg nm c0 w0).spell (Delims.ofList cfg.delims)))) ::
          ifBrs (Delims.ofList cfg.delims) rest
            (line + countNL ((tg nm c0 w0).spell (Delims.ofList cfg.delims)) + countNL (spell (Delims.ofList cfg.delims) A0)))]) env := by
  rw [run_spell P O cfg fs fuel _ line env hg hc, chainK_compile _ line nm hn c0 w0 A0 rest wE hA hrest hadm]

/-- the arguments of a `when` clause parse to a list of values (an `else` clause: nothing to parse) -/
def Clause.whenOk (c : Clause) : Bool :=
  match c.cond with
  | none => true
  | some t =>
    match parseStatement kwWhen t with
    | .ok (.when _) => true
    | _ => false

/-- the value list of a clause whose tag stands at line `l` (`none` for `else`) -/
def Clause.whenAt (c : Clause) (l : Nat) : Option (Nat × List Expr) :=
  match c.cond with
  | none => none
  | some t =>
    match parseStatement kwWhen t with
    | .ok (.when es) => some (l, es)
    | _ => none

/-- the clause of a `case` block can be compiled: its values parse, its body is a self-contained template -/
def Clause.GoodWhen (d : Delims) (c : Clause) : Prop := c.whenOk = true ∧ Compiles d c.body 0

instance (d : Delims) (c : Clause) : Decidable (c.GoodWhen d) := by unfold Clause.GoodWhen; infer_instance

def caseCls (d : Delims) : List Clause → Nat → List (Option (Nat × List Expr) × List Node)
  | [], _ => []
  | c :: r, l => (c.whenAt l, nodesOf d c.body (l + countNL ((c.tagK nmWhen).spell d))) ::
      caseCls d r (l + countNL ((c.tagK nmWhen).spell d) + countNL (spell d c.body))

theorem Clause.whenOk_cases {c : Clause} (h : c.whenOk = true) :
    c.cond = none ∨ ∃ t es, c.cond = some t ∧ parseStatement kwWhen t = .ok (.when es) := by
  unfold Clause.whenOk at h
  split at h
  · next hc => exact .inl hc
  · next t hc =>
    split at h
    · next es hp => exact .inr ⟨t, es, hc, hp⟩
    · cases h

theorem caseClause_head (d : Delims) (c : Clause) (l : Nat) (hc : c.whenOk = true) (ns : List Node) (cs : List (Token × List Node)) :
    compileCaseClauses ((c.tokK d nmWhen l, ns) :: cs) =
      (compileCaseClauses cs).bind (fun rest => .ok ((c.whenAt l, ns) :: rest)) := by
  have hn : (nmWhen == nmWhen) = true := by decide
  rcases Clause.whenOk_cases hc with h | ⟨t, es, h, hp⟩
  · simp only [compileCaseClauses, Clause.tokK, Clause.whenAt, h, tgTok, bind, pure]
    rfl
  · simp only [compileCaseClauses, Clause.tokK, Clause.whenAt, h, tgTok, hn, if_true, hp, liftParse, bind, Res.bind, pure]

theorem caseClauses_pairs (d : Delims) : ∀ (rest : List Clause) (l : Nat), (∀ c ∈ rest, c.whenOk = true) →
    compileCaseClauses (clausePairs d nmWhen rest l) = .ok (caseCls d rest l)
  | [], _, _ => rfl
  | c :: r, l, h => by
    rw [clausePairs, caseClause_head d c l (h c (List.mem_cons_self ..)),
      caseClauses_pairs d r _ (fun x hx => h x (List.mem_cons_of_mem _ hx))]
    rfl

theorem caseCls_append (d : Delims) : ∀ (a b : List Clause) (l : Nat),
    caseCls d (a ++ b) l = caseCls d a l ++ caseCls d b (l + countNL (spell d (clauseItemsK nmWhen a)))
  | [], b, l => by simp [caseCls, clauseItemsK, spell, countNL]
  | c :: r, b, l => by
    simp only [List.cons_append, caseCls, caseCls_append d r b, clauseItemsK, spell_cons, spell_append, countNL_append, Nat.add_assoc]

/-- a `when` clause none of whose values equals the subject `sel` (all of them evaluating and comparing without error) -/
def Clause.Miss (P : Prims) (env : Env) (sel : GoVal) (c : Clause) : Prop :=
  ∃ t es, c.cond = some t ∧ parseStatement kwWhen t = .ok (.when es) ∧ whenRes P env sel es = .ok false

theorem caseCls_miss (d : Delims) (P : Prims) (env : Env) (sel : GoVal) : ∀ (pre : List Clause) (l : Nat),
    (∀ c ∈ pre, c.Miss P env sel) →
    ∃ ws : List ((Nat × List Expr) × List Node), caseCls d pre l = ws.map (fun b => (some b.1, b.2)) ∧
      ∀ b ∈ ws, whenRes P env sel b.1.2 = .ok false
  | [], _, _ => ⟨[], rfl, fun _ h => by cases h⟩
  | c :: r, l, hm => by
    obtain ⟨ws, h1, h2⟩ := caseCls_miss d P env sel r (l + countNL ((c.tagK nmWhen).spell d) + countNL (spell d c.body))
      (fun x hx => hm x (List.mem_cons_of_mem _ hx))
    obtain ⟨t, es, hc, hp, hw⟩ := hm c (List.mem_cons_self ..)
    refine ⟨((l, es), nodesOf d c.body (l + countNL ((c.tagK nmWhen).spell d))) :: ws, ?_, ?_⟩
    · simp only [caseCls, h1, List.map_cons, Clause.whenAt, hc, hp]
    · intro b hb
      rcases List.mem_cons.mp hb with rfl | hb
      · exact hw
      · exact h2 b hb

theorem compileBlock_case (o : Token) (nb : List Node) (cs : List (Token × List Node)) (hn : o.name = nmCase) :
    compileBlock o nb cs =
      (liftParse o.line true (parseExprSource o.args)).bind fun ex => (compileCaseClauses cs).bind fun cases =>
        .ok [.caseB o.line ex cases] := by
  have h1 : (o.name == nmIf || o.name == nmUnless) = false := by rw [hn]; decide
  have h2 : (o.name == nmCase) = true := by rw [hn]; decide
  simp only [compileBlock, h1, h2, Bool.false_eq_true, if_false, if_true]
  rfl

theorem caseK_admits (d : Delims) (args : Bytes) (w0 : Ws) (line : Nat) (c : Clause) (l : Nat) :
    stdGrammar.isClauseOf (tgTok d nmCase args w0 line) (c.tokK d nmWhen l) = true := by
  unfold Clause.tokK
  cases c.cond <;> simp only [Grammar.isClauseOf, tgTok] <;> decide

def nmEndcase : Bytes := endPrefix ++ nmCase

/-- `{% case s %}{% when vs %}A{% else %}E{% endcase %}` -/
def caseSrc (s vs : Bytes) (A E : List Item) (w1 w2 w3 w4 : Ws) : List Item :=
  tg nmCase s w1 :: tg nmWhen vs w2 :: (A ++ tg nmElse [] w3 :: (E ++ [tg nmEndcase [] w4]))

/-- `{% case s %}J clauses… {% endcase %}`; a clause with `cond = some vs` is `{% when vs %}body`. `J` is whatever stands
    between the `case` tag and the first clause: it is compiled and never rendered. -/
def caseChainSrc (s : Bytes) (w0 : Ws) (J : List Item) (rest : List Clause) (wE : Ws) : List Item :=
  blockSrcK nmWhen nmCase s w0 J rest wE

theorem caseK_compile (d : Delims) (line : Nat) (s : Bytes) (w0 : Ws) (J : List Item) (rest : List Clause) (wE : Ws) (subj : Expr)
    (hp : parseExprSource s = .ok subj) (hJ : Compiles d J 0) (hrest : ∀ c ∈ rest, c.GoodWhen d) :
    compileTokens (tokensOf d (caseChainSrc s w0 J rest wE) line) =
      .ok [.caseB line subj (caseCls d rest (line + countNL ((tg nmCase s w0).spell d) + countNL (spell d J)))] := by
  unfold caseChainSrc
  rw [blockK_compile d nmWhen nmCase s w0 J rest wE line (by decide) (by decide) (by decide) (.of_compiles (hJ.any_line _))
      (fun c hc => (hrest c hc).2) (fun c _ l => caseK_admits _ s w0 line c l),
    compileBlock_case _ _ _ rfl, caseClauses_pairs _ rest _ (fun c hc => (hrest c hc).1)]
  have hargs : (tgTok d nmCase s w0 line).args = s := rfl
  rw [hargs, hp]
  rfl

theorem run_caseK_shape (P : Prims) (O : OutPrims) (cfg : Cfg) (fs : FS) (fuel : Nat) (line : Nat) (env : Env)
    (s : Bytes) (w0 : Ws) (J : List Item) (rest : List Clause) (wE : Ws) (subj : Expr)
    (hg : GoodDelims (Delims.ofList cfg.delims)) (hc : Clean (Delims.ofList cfg.delims) (caseChainSrc s w0 J rest wE))
    (hp : parseExprSource s = .ok subj) (hJ : Compiles (Delims.ofList cfg.delims) J 0)
    (hrest : ∀ c ∈ rest, c.GoodWhen (Delims.ofList cfg.delims)) :
    run P O cfg fs fuel (spell (Delims.ofList cfg.delims) (caseChainSrc s w0 J rest wE)) line env =
      runRoot P O cfg fs fuel [.caseB line subj (caseCls (Delims.ofList cfg.delims) rest
          (line + countNL ((tg nmCase s w0).spell (Delims.ofList cfg.delims)) + countNL (spell (Delims.ofList cfg.delims) J)))] env :=
  run_of_compilesTo P O cfg fs fuel env hg hc (caseK_compile _ line s w0 J rest wE subj hp hJ hrest)

/-- the clause arguments are compiled in order: the first `when` whose arguments do not parse is the error, at its line -/
theorem caseClauses_pairs_bad (d : Delims) (sel : Clause) (post : List Clause) (t : Bytes) (x : ParseErr)
    (hsel : sel.cond = some t) (hbad : parseStatement kwWhen t = .err x) : ∀ (pre : List Clause) (l : Nat),
    (∀ c ∈ pre, c.whenOk = true) →
    compileCaseClauses (clausePairs d nmWhen (pre ++ sel :: post) l) =
      .err ⟨l + countNL (spell d (clauseItemsK nmWhen pre)), true, .syntax, .byCause⟩
  | [], l, _ => by
    have hn : (nmWhen == nmWhen) = true := by decide
    simp only [List.nil_append, clausePairs, compileCaseClauses, Clause.tokK, hsel, tgTok, hn, if_true, hbad, liftParse, bind,
      Res.bind, clauseItemsK, spell, countNL]
    rfl
  | c :: r, l, h => by
    simp only [List.cons_append, clausePairs]
    rw [caseClause_head d c l (h c (List.mem_cons_self ..)),
      caseClauses_pairs_bad d sel post t x hsel hbad r _ (fun y hy => h y (List.mem_cons_of_mem _ hy))]
    simp only [Res.bind, clauseItemsK, spell_cons, spell_append, countNL_append, Nat.add_assoc]

theorem caseK_compile_bad (d : Delims) (line : Nat) (s : Bytes) (w0 : Ws) (J : List Item) (pre : List Clause) (sel : Clause)
    (post : List Clause) (wE : Ws) (subj : Expr) (t : Bytes) (x : ParseErr)
    (hp : parseExprSource s = .ok subj) (hJ : Compiles d J 0) (hbodies : ∀ c ∈ pre ++ sel :: post, Compiles d c.body 0)
    (hpre : ∀ c ∈ pre, c.whenOk = true) (hsel : sel.cond = some t) (hbad : parseStatement kwWhen t = .err x) :
    compileTokens (tokensOf d (caseChainSrc s w0 J (pre ++ sel :: post) wE) line) =
      .err ⟨line + countNL ((tg nmCase s w0).spell d) + countNL (spell d J) + countNL (spell d (clauseItemsK nmWhen pre)),
        true, .syntax, .byCause⟩ := by
  unfold caseChainSrc
  rw [blockK_compile d nmWhen nmCase s w0 J (pre ++ sel :: post) wE line (by decide) (by decide) (by decide)
      (.of_compiles (hJ.any_line _))
      hbodies (fun c _ l => caseK_admits _ s w0 line c l),
    compileBlock_case _ _ _ rfl, caseClauses_pairs_bad d sel post t x hsel hbad pre _ hpre]
  have hargs : (tgTok d nmCase s w0 line).args = s := rfl
  rw [hargs, hp]
  rfl
