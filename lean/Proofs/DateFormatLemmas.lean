import Liquid.Filters.Date
import Proofs.DateLemmas
import Proofs.Numerals
/-!
# Helper lemmas about the texts `tuesday.Strftime`'s model prints (`Liquid/Filters/Date.lean`)

* `fmt`'s `%0<w>d` of a natural number is the field `zpad w n` of `Proofs/Numerals.lean`, the one string of `w` digits
  that spells it; `Cal.num2`, `Cal.num4` read two and four digits in base ten (`num2_eq`, `num4_eq`);
* a format as a list of tokens (`tokens`: the matches of the regexp and the bytes between them, a
  function of the format alone) and `strftime = render ∘ tokens`;
* the directives without flags or width that the theorems of `Proofs/DateFilter.lean` use;
* the printed fields read back: `parseInt10` on `%s`, and `instant_eq_time_iff` … `parseDate_ten` for the round trips with `ParseDate`.
-/

namespace DateF

theorem fmtNum_zero (w : Nat) (n : Int) :
    fmtNum .zero w n = if n < 0 then 45 :: zpad (w - 1) n.natAbs else zpad w n.natAbs := rfl

theorem fmtNum_zero_eq_zpad (w n : Nat) : fmtNum .zero w (n : Int) = zpad w n := by
  rw [fmtNum_zero, if_neg (by omega), Int.natAbs_natCast]

theorem num2_eq (a b : UInt8) : Cal.num2 a b = if [a, b].all isDigit then some (decVal [a, b]) else none := by
  unfold Cal.num2 Cal.digit?
  cases ha : isDigit a <;> cases hb : isDigit b <;>
    simp only [List.all_cons, List.all_nil, ha, hb, Bool.and_self, Bool.and_false, Bool.false_and, Bool.false_eq_true, if_true, if_false]
  exact congrArg some (by unfold decVal; simp only [List.foldl_cons, List.foldl_nil]; omega)

theorem num4_eq (a b c d : UInt8) :
    Cal.num4 a b c d = if [a, b, c, d].all isDigit then some (decVal [a, b, c, d]) else none := by
  rw [Cal.num4, num2_eq, num2_eq, show [a, b, c, d] = [a, b] ++ [c, d] from rfl, List.all_append, decVal_append]
  generalize [a, b].all isDigit = p
  generalize [c, d].all isDigit = q
  cases p <;> cases q <;> simp only [Bool.and_self, Bool.and_false, Bool.false_and, Bool.false_eq_true, if_true, if_false]
  exact congrArg some (by rw [Nat.mul_comm]; rfl)

theorem z2_read (n : Nat) (h : n < 100) : ∃ a b, z2 n = [a, b] ∧ Cal.num2 a b = some n := by
  obtain ⟨hl, hd, hv⟩ := @zpad_spec 2 n (by decide) h
  rw [z2, fmtNum_zero_eq_zpad]
  match hz : zpad 2 n, hl with
  | [a, b], _ => rw [hz] at hd hv; exact ⟨a, b, rfl, by rw [num2_eq, hd, hv]; rfl⟩

theorem year4_read (n : Nat) (h : n < 10000) :
    ∃ a b c d, year4 n = [a, b, c, d] ∧ Cal.num4 a b c d = some n := by
  obtain ⟨hl, hd, hv⟩ := @zpad_spec 4 n (by decide) h
  rw [year4, fmtNum_zero_eq_zpad]
  match hz : zpad 4 n, hl with
  | [a, b, c, d], _ => rw [hz] at hd hv; exact ⟨a, b, c, d, rfl, by rw [num4_eq, hd, hv]; rfl⟩

-- `cases` on `some (decVal [a, b]) = some n` would evaluate `natDec` on open terms; `Option.some.inj` does not
theorem z2_of_num2 {a b : UInt8} {n : Nat} (h : Cal.num2 a b = some n) : z2 n = [a, b] := by
  rw [num2_eq] at h
  split at h
  · next hd =>
    rw [← Option.some.inj h, z2, fmtNum_zero_eq_zpad]
    exact zpad_decVal (ds := [a, b]) (List.cons_ne_nil _ _) hd
  · cases h

theorem year4_of_num4 {a b c d : UInt8} {n : Nat} (h : Cal.num4 a b c d = some n) : year4 n = [a, b, c, d] := by
  rw [num4_eq] at h
  split at h
  · next hd =>
    rw [← Option.some.inj h, year4, fmtNum_zero_eq_zpad]
    exact zpad_decVal (ds := [a, b, c, d]) (List.cons_ne_nil _ _) hd
  · cases h

inductive Tok where
  | lit (b : UInt8)
  | dir (d : Directive)
  deriving DecidableEq

/-- the matches of the regexp in a format, with the text between them -/
def tokens : Nat → Bytes → List Tok
  | 0, _ => []
  | _ + 1, [] => []
  | n + 1, b :: r =>
    if b == 37 then
      match matchDirective r with
      | some (d, rest) => .dir d :: tokens n rest
      | none => .lit b :: tokens n r
    else .lit b :: tokens n r

def render (t : Cal.Broken) : List Tok → R Bytes
  | [] => .ok []
  | .lit b :: ts => (render t ts).bind fun tl => .ok (b :: tl)
  | .dir d :: ts => (directive t d).bind fun out => (render t ts).bind fun tl => .ok (out ++ tl)

theorem strftimeAux_eq_render (t : Cal.Broken) : ∀ (n : Nat) (s : Bytes), strftimeAux t n s = render t (tokens n s)
  | 0, _ => by simp [strftimeAux, tokens, render]
  | _ + 1, [] => by simp [strftimeAux, tokens, render]
  | n + 1, b :: r => by
    rw [strftimeAux, tokens]
    split
    · cases hm : matchDirective r with
      | some p => simp only [render, strftimeAux_eq_render t n p.2]
      | none => simp only [render, strftimeAux_eq_render t n r]
    · simp only [render, strftimeAux_eq_render t n r]

theorem strftime_eq_render (t : Cal.Broken) (f : Bytes) : strftime t f = render t (tokens f.length f) :=
  strftimeAux_eq_render t _ _

/-- `%Y-%m-%d %H:%M:%S` -/
def fmtDateTime : Bytes := [37, 89, 45, 37, 109, 45, 37, 100, 32, 37, 72, 58, 37, 77, 58, 37, 83]

theorem tokens_dateTime : tokens fmtDateTime.length fmtDateTime =
    [.dir ⟨[], [], 89⟩, .lit 45, .dir ⟨[], [], 109⟩, .lit 45, .dir ⟨[], [], 100⟩, .lit 32,
     .dir ⟨[], [], 72⟩, .lit 58, .dir ⟨[], [], 77⟩, .lit 58, .dir ⟨[], [], 83⟩] := by decide +kernel

theorem snd_ite_le {c : Prop} [Decidable c] {a b : Pad × Nat} {m : Nat} (ha : a.2 ≤ m) (hb : b.2 ≤ m) :
    (if c then a else b).2 ≤ m := by split <;> assumption

-- `repeat' split` on the eleven-branch table is slow to check; `snd_ite_le` walks it once
theorem defaultPadding_le (c : UInt8) : (defaultPadding c).2 ≤ maxWidth := by
  unfold defaultPadding
  repeat' apply snd_ite_le
  all_goals decide

/-- what a directive without flag and width prints: the text, or the number in the default padding of the conversion -/
def plain (c : UInt8) : Val → Bytes
  | .str s => s
  | .num n => fmtNum (defaultPadding c).1 (defaultPadding c).2 n

theorem directive_plain (t : Cal.Broken) (c : UInt8) :
    directive t ⟨[], [], c⟩ = (convertD t c [] []).bind fun v => .ok (plain c v) := by
  unfold directive
  congr 1
  funext v
  cases v with
  | str s => rfl
  | num n =>
    have h : numText c [] [] n = .ok (fmtNum (defaultPadding c).1 (defaultPadding c).2 n) :=
      if_neg (Nat.not_lt.2 (defaultPadding_le c))
    simp only [h, Res.bind]
    rfl

theorem directive_Y (t : Cal.Broken) : directive t ⟨[], [], 89⟩ = .ok (fmtNum .zero 4 t.year) := (directive_plain t 89).trans rfl
theorem directive_m (t : Cal.Broken) : directive t ⟨[], [], 109⟩ = .ok (fmtNum .zero 2 t.month) := (directive_plain t 109).trans rfl
theorem directive_d (t : Cal.Broken) : directive t ⟨[], [], 100⟩ = .ok (fmtNum .zero 2 t.day) := (directive_plain t 100).trans rfl
theorem directive_H (t : Cal.Broken) : directive t ⟨[], [], 72⟩ = .ok (fmtNum .zero 2 t.hour) := (directive_plain t 72).trans rfl
theorem directive_M (t : Cal.Broken) : directive t ⟨[], [], 77⟩ = .ok (fmtNum .zero 2 t.min) := (directive_plain t 77).trans rfl
theorem directive_S (t : Cal.Broken) : directive t ⟨[], [], 83⟩ = .ok (fmtNum .zero 2 t.sec) := (directive_plain t 83).trans rfl
theorem directive_s (t : Cal.Broken) : directive t ⟨[], [], 115⟩ = .ok (fmtNum .zero 2 t.unix) := (directive_plain t 115).trans rfl
theorem directive_pct (t : Cal.Broken) : directive t ⟨[], [], 37⟩ = .ok [37] := (directive_plain t 37).trans rfl

theorem parseDate_dateTime (y1 y2 y3 y4 m1 m2 d1 d2 h1 h2 i1 i2 s1 s2 : UInt8) :
    Cal.parseDate [y1, y2, y3, y4, 45, m1, m2, 45, d1, d2, 32, h1, h2, 58, i1, i2, 58, s1, s2] =
      Cal.ofFields (Cal.num4 y1 y2 y3 y4) (Cal.num2 m1 m2) (Cal.num2 d1 d2) (Cal.num2 h1 h2) (Cal.num2 i1 i2) (Cal.num2 s1 s2) := by
  rfl

theorem parseDate_date (y1 y2 y3 y4 m1 m2 d1 d2 : UInt8) :
    Cal.parseDate [y1, y2, y3, y4, 45, m1, m2, 45, d1, d2] =
      Cal.ofFields (Cal.num4 y1 y2 y3 y4) (Cal.num2 m1 m2) (Cal.num2 d1 d2) (some 0) (some 0) (some 0) := by
  rfl

/-- `%Y-%m-%d`, `%s`, `%%` -/
def fmtDate : Bytes := [37, 89, 45, 37, 109, 45, 37, 100]
def fmtUnix : Bytes := [37, 115]
def fmtPercent : Bytes := [37, 37]

theorem tokens_date : tokens fmtDate.length fmtDate =
    [.dir ⟨[], [], 89⟩, .lit 45, .dir ⟨[], [], 109⟩, .lit 45, .dir ⟨[], [], 100⟩] := by decide +kernel
theorem tokens_unix : tokens fmtUnix.length fmtUnix = [.dir ⟨[], [], 115⟩] := by decide +kernel
theorem tokens_percent : tokens fmtPercent.length fmtPercent = [.dir ⟨[], [], 37⟩] := by decide +kernel

/-! ## reading a printed integer back (`strconv.ParseInt`, `parseInt10` of `Liquid/Convert.lean`) -/

theorem digitsVal_eq_foldl : ∀ (ds : Bytes) (acc : Nat),
    digitsVal ds acc = ds.foldl (fun a d => a * 10 + (d.toNat - 48)) acc
  | [], _ => rfl
  | d :: ds, acc => by rw [digitsVal, List.foldl_cons]; exact digitsVal_eq_foldl ds _

theorem digitsVal_zpad (w n : Nat) : digitsVal (zpad w n) 0 = n :=
  (digitsVal_eq_foldl _ 0).trans (decVal_zpad w n)

theorem parseInt10_digits (ds : Bytes) (hne : ds ≠ []) (hd : ds.all isDigit = true) :
    parseInt10 ds = if inInt64 (digitsVal ds 0 : Nat) then some ((digitsVal ds 0 : Nat) : Int) else none := by
  cases ds with
  | nil => exact absurd rfl hne
  | cons c r =>
    have hc : isDigit c = true := by simp only [List.all_cons, Bool.and_eq_true] at hd; exact hd.1
    have hc' := (isDigit_iff c).1 hc
    have h43 : c ≠ 43 := by intro h; subst h; exact absurd hc'.1 (by decide)
    have h45 : c ≠ 45 := by intro h; subst h; exact absurd hc'.1 (by decide)
    unfold parseInt10
    split
    next neg ds heq =>
    split at heq
    · next h => exact absurd (List.cons.inj h).1 h43
    · next h => exact absurd (List.cons.inj h).1 h45
    · cases heq
      simp only [List.isEmpty_cons, hd, Bool.not_true, Bool.or_self, Bool.false_eq_true, if_false]

theorem parseInt10_neg (ds : Bytes) (hne : ds ≠ []) (hd : ds.all isDigit = true) :
    parseInt10 (45 :: ds) = if inInt64 (-((digitsVal ds 0 : Nat) : Int)) then some (-((digitsVal ds 0 : Nat) : Int)) else none := by
  -- the minus sign is a literal pattern of the definition
  have e : parseInt10 (45 :: ds) = if ds.isEmpty || !ds.all isDigit then none else _ := rfl
  rw [e, hd, List.isEmpty_eq_false_iff.2 hne]
  rfl

theorem parseInt10_fmtNum_zero (w : Nat) (n : Int) (h : inInt64 n = true) : parseInt10 (fmtNum .zero w n) = some n := by
  rw [fmtNum_zero]
  split
  · next hneg =>
    rw [parseInt10_neg _ (zpad_ne_nil _ _) (zpad_digits _ _), digitsVal_zpad]
    have : -((n.natAbs : Nat) : Int) = n := by omega
    rw [this, if_pos h]
  · next hpos =>
    rw [parseInt10_digits _ (zpad_ne_nil _ _) (zpad_digits _ _), digitsVal_zpad]
    have : ((n.natAbs : Nat) : Int) = n := by omega
    rw [this, if_pos h]

theorem fmtNum_zero2_eq_intDec (n : Int) (h : n < 0 ∨ 10 ≤ n) : fmtNum .zero 2 n = intDec n := by
  have hl : ∀ k, 1 ≤ (natDec k).length := fun k => List.length_pos_iff.2 (natDec_ne_nil k)
  rw [fmtNum_zero, intDec]
  split
  · rw [zpad_of_le_length (hl _)]
  · rw [zpad_of_le_length]
    rw [natDec_step _ (show 10 ≤ n.natAbs by omega), List.length_append]
    exact Nat.succ_le_succ (hl _)

/-- `instant` yields a time exactly on fields in range -/
theorem instant_eq_time_iff {y mo d h mi s : Nat} {u : Int} :
    Cal.instant y mo d h mi s = .time u ↔
      1 ≤ mo ∧ mo ≤ 12 ∧ 1 ≤ d ∧ d ≤ Cal.daysInMonth (y : Int) mo ∧ h < 24 ∧ mi < 60 ∧ s < 60 ∧
      u = Cal.daysOfCivil (y : Int) mo d * 86400 + ((h * 3600 + mi * 60 + s : Nat) : Int) := by
  unfold Cal.instant
  simp only [Bool.and_eq_true, decide_eq_true_eq, and_assoc]
  split
  · next hv =>
    simp only [hv, true_and, Cal.Parsed.time.injEq]
    exact eq_comm
  · next hv => exact ⟨nofun, fun e => (hv (by simp only [e, and_self])).elim⟩

theorem ofFields_time {y mo d h mi s : Option Nat} {u : Int} (hf : Cal.ofFields y mo d h mi s = .time u) :
    ∃ y' mo' d' h' mi' s', y = some y' ∧ mo = some mo' ∧ d = some d' ∧ h = some h' ∧ mi = some mi' ∧ s = some s' ∧
      Cal.instant y' mo' d' h' mi' s' = .time u := by
  unfold Cal.ofFields at hf
  split at hf
  · exact ⟨_, _, _, _, _, _, rfl, rfl, rfl, rfl, rfl, rfl, hf⟩
  · cases hf

theorem broken_of_civil (y : Int) (m d : Nat) (hm1 : 1 ≤ m) (hm : m ≤ 12) (hd1 : 1 ≤ d) (hd : d ≤ Cal.daysInMonth y m)
    (sod : Nat) (hs : sod < 86400) (t : Cal.Broken) (ht : t = Cal.broken (Cal.daysOfCivil y m d * 86400 + (sod : Int))) :
    t.year = y ∧ t.month = m ∧ t.day = d ∧ t.hour = sod / 3600 ∧ t.min = sod / 60 % 60 ∧ t.sec = sod % 60 := by
  obtain ⟨e1, e2⟩ := Cal.ediv_emod_shift (k := 86400) (Int.ofNat_lt.2 hs) (Cal.daysOfCivil y m d)
  have e3 := Cal.civilOfDays_daysOfCivil y m d hm1 hm hd1 hd
  simp only [ht, Cal.broken, Cal.secOfDay, Int.add_comm _ (sod : Int), e1, e2, e3, and_self]

/-- `%Y-%m-%d` and `%Y-%m-%d %H:%M:%S`, for every time -/
theorem strftime_fmtDate (t : Cal.Broken) :
    strftime t fmtDate = .ok (year4 t.year ++ 45 :: (z2 t.month ++ 45 :: z2 t.day)) := by
  rw [strftime_eq_render, tokens_date]
  simp only [render, directive_Y, directive_m, directive_d, Res.bind, year4, z2, List.append_nil]

theorem strftime_fmtDateTime (t : Cal.Broken) :
    strftime t fmtDateTime = .ok (year4 t.year ++ 45 :: (z2 t.month ++ 45 :: (z2 t.day ++ 32 :: clock t))) := by
  rw [strftime_eq_render, tokens_dateTime]
  simp only [render, directive_Y, directive_m, directive_d, directive_H, directive_M, directive_S, Res.bind,
    year4, z2, clock, List.cons_append, List.append_assoc, List.append_nil]

/-- the instant of the date of `u` at a clock time -/
theorem instant_of_date (u : Int) {y h mi s : Nat} (hy : (Cal.broken u).year = y) (hh : h < 24) (hmi : mi < 60) (hs : s < 60) :
    Cal.instant y (Cal.broken u).month (Cal.broken u).day h mi s =
      .time (u / 86400 * 86400 + ((h * 3600 + mi * 60 + s : Nat) : Int)) := by
  obtain ⟨hm1, hm12, hd1, hdm, hdays⟩ := Cal.broken_date u
  rw [hy] at hdm hdays
  rw [instant_eq_time_iff.2 ⟨hm1, hm12, hd1, hdm, hh, hmi, hs, rfl⟩, hdays]

theorem broken_lt100 (u : Int) : (Cal.broken u).month < 100 ∧ (Cal.broken u).day < 100 ∧
    (Cal.broken u).hour < 100 ∧ (Cal.broken u).min < 100 ∧ (Cal.broken u).sec < 100 := by
  obtain ⟨_, hm12, _, hdm, _⟩ := Cal.broken_date u
  obtain ⟨hh, hmi, hs, _, _⟩ := Cal.broken_clock u
  have := Cal.daysInMonth_le_31 (Cal.broken u).year (Cal.broken u).month
  omega

theorem parseDate_ten {s : Bytes} {u : Int} (hl : s.length = 10) (hp : Cal.parseDate s = .time u) :
    ∃ a b c d f g i j, s = [a, b, c, d, 45, f, g, 45, i, j] ∧
      Cal.ofFields (Cal.num4 a b c d) (Cal.num2 f g) (Cal.num2 i j) (some 0) (some 0) (some 0) = .time u := by
  apply Classical.byContradiction
  intro hn
  -- a string of ten bytes that is not of the layout `2006-01-02` is of no layout: the other four have other lengths
  rw [Cal.parseDate.eq_6 s (fun a b c d f g i j e => hn ⟨a, b, c, d, f, g, i, j, e, by subst e; exact hp⟩)
    (fun _ _ _ _ _ _ _ _ _ _ _ _ x => absurd (hl.symm.trans (congrArg List.length x)) (fun h => by cases h))
    (fun _ _ _ _ _ _ _ _ _ _ _ _ _ _ x => absurd (hl.symm.trans (congrArg List.length x)) (fun h => by cases h))
    (fun _ _ _ _ _ _ _ _ _ _ _ _ _ _ x => absurd (hl.symm.trans (congrArg List.length x)) (fun h => by cases h))
    (fun _ _ _ _ _ _ _ _ _ _ _ _ _ _ x => absurd (hl.symm.trans (congrArg List.length x)) (fun h => by cases h))] at hp
  split at hp <;> cases hp

theorem fmtNum_zero_eq_appendInt (w n : Nat) : fmtNum .zero w (n : Int) = appendInt (n : Int) w := by
  rw [fmtNum_zero_eq_zpad]
  simp only [zpad, appendInt, Int.natAbs_natCast, if_neg (Int.not_lt.2 (Int.natCast_nonneg n)), List.nil_append]

theorem directive_j (t : Cal.Broken) : directive t ⟨[], [], 106⟩ = .ok (fmtNum .zero 3 t.yday) := (directive_plain t 106).trans rfl

/-- `%j` -/
def fmtYday : Bytes := [37, 106]
theorem tokens_yday : tokens fmtYday.length fmtYday = [.dir ⟨[], [], 106⟩] := by decide +kernel

end DateF
