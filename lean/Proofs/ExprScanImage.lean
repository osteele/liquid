import Proofs.ExprShowLex
import Proofs.ExprCut
import Proofs.ShowFloatLemmas
/-!
# The tokens the scanner produces

`lex_scanOK`: every token the scanner returns is well formed (`scanOK`): an identifier / keyword / property token
carries the text of an identifier, an identifier token is not one of the reserved words, an integer literal is
within int64, a string literal does not contain its own quote. That the value of a float literal token is printable
(`ETok.ok`: the exact decimal expansion reads back to the same float) is the separate statement `floatOK`, proved
for every token of the scanner at the end of this file (`lex_floatOK`, from `Proofs/ShowFloatLemmas.lean`).
-/

/-- what the scanner guarantees about a token; nothing about the value of a float literal -/
def scanOK : ETok → Bool
  | .lit (.flt .f64 _) => true
  | .lit v => (ETok.lit v).ok
  | .ident x => (ETok.ident x).ok
  | .keyword x => (ETok.keyword x).ok
  | .property x => (ETok.property x).ok
  | _ => true

/-- the value of a float literal token has a spelling that reads back -/
def floatOK : ETok → Bool
  | .lit (.flt .f64 q) => (ETok.lit (.flt .f64 q)).ok
  | _ => true

theorem isIdentBytes_word (c : UInt8) (body qm : Bytes) (hc : isIdStart c = true) (hb : body.all isIdCont = true)
    (hqm : qm = [] ∨ qm = [63]) : isIdentBytes (c :: body ++ qm) = true := by
  rcases hqm with rfl | rfl
  · simp [isIdentBytes, hc, idCont_last_ne_q body hb, hb]
  · have hlast : (body ++ [63]).getLast? = some 63 := by simp
    simp [isIdentBytes, hc, hlast, hb]

theorem intLitValue_inRange (tok : Bytes) (v : Int) (h : intLitValue tok = some v) : IntKind.i64.inRange v = true := by
  simp only [intLitValue] at h
  split at h <;> simp only [if_true, Bool.false_eq_true, if_false] at h <;> split at h <;>
    first | (cases h; assumption) | cases h

theorem string_body_ok (q : UInt8) (b : Bytes) (hq : (q == 34 || q == 39) = true) (hb : b.all (fun x => x != q) = true) :
    (!(b.contains 34 && b.contains 39)) = true := by
  have hnq : b.contains q = false := by
    cases hc : b.contains q with
    | false => rfl
    | true =>
      simp only [List.contains_eq_mem, decide_eq_true_eq] at hc
      have := List.all_eq_true.1 hb q hc
      simp at this
  simp only [Bool.or_eq_true, beq_iff_eq] at hq
  simp only [List.contains_eq_mem, decide_eq_false_iff_not] at hnq
  rcases hq with rfl | rfl <;> simp [hnq]

/-- what `identLen` matches is the longest identifier (`cut_word`), whose length `identLen_lexeme` gives -/
theorem identLen_word (s : Bytes) (n : Nat) (h : identLen s = some n) :
    ∃ c body qm rest, s = c :: body ++ qm ++ rest ∧ n = (c :: body ++ qm).length ∧ isIdStart c = true ∧
      body.all isIdCont = true ∧ (qm = [] ∨ qm = [63]) := by
  cases s with
  | nil => cases h
  | cons c t =>
    by_cases hc : isIdStart c = true
    · obtain ⟨body, qm, rest, e, hb, hqm, hf⟩ := cut_word c t
      rw [e, identLen_lexeme c body qm rest hc hb hqm hf] at h
      exact ⟨c, body, qm, rest, e, (Option.some.inj h).symm, hc, hb, hqm⟩
    · rw [identLen_cons_other c t (by simpa using hc)] at h
      cases h

theorem stringLen_body (s : Bytes) (n : Nat) (h : stringLen s = some n) :
    ∃ q body rest, s = q :: body ++ q :: rest ∧ n = body.length + 2 ∧ (q == 34 || q == 39) = true ∧
      body.all (fun x => x != q) = true := by
  cases s with
  | nil => simp [stringLen] at h
  | cons q r =>
    by_cases hq : (q == 34 || q == 39) = true
    · simp only [stringLen, hq, if_true] at h
      obtain ⟨body, rest', rfl, hall, hr⟩ := spanLen_split (fun b => b != q) r
      rw [spanLen_append _ _ _ hall, spanLen_headOK _ _ hr, Nat.add_zero, List.drop_left' rfl] at h
      cases rest' with
      | nil => simp at h
      | cons x rest =>
        have hx : x = q := by simpa [headOK] using hr
        simp only [Option.some.injEq] at h
        exact ⟨q, body, rest, by rw [hx]; rfl, h.symm, hq, hall⟩
    · simp [stringLen, hq] at h

/-- the token of a cut is well formed -/
theorem scanOK_of_cut {r : Rule} {l rest : Bytes} {t : ETok} (hc : Cut r l rest) (hm : mkTok r l = .ok (some t)) :
    scanOK t = true := by
  cases hc with
  | space => cases hm
  | quote => cases hm; rfl
  | lexeme hl _ =>
    cases hl with
    | int =>
      simp only [mkTok] at hm
      split at hm
      · rename_i v hv; cases hm; exact intLitValue_inRange _ _ hv
      · cases hm
    | float => simp only [mkTok] at hm; split at hm <;> cases hm; rfl
    | string q body hq hb => rw [mkTok_string] at hm; cases hm; exact string_body_ok q body hq hb
    | word c body qm hc hb hqm =>
      have hid := isIdentBytes_word c body qm hc hb hqm
      generalize c :: body ++ qm = w at hm hid
      cases hres : reservedWords.contains w with
      | false =>
        rw [(wordRule_eq_ident_iff w).2 hres] at hm
        cases hm
        simp only [scanOK, ETok.ok, hid, hres, Bool.not_false, Bool.and_self]
      | true =>
        simp only [reservedWords, List.contains_eq_mem, List.mem_cons, List.mem_nil_iff, or_false, decide_eq_true_eq] at hres
        rcases hres with rfl | rfl | rfl | rfl | rfl | rfl | rfl <;> cases hm <;> rfl
    | keyword c body qm hc hb hqm =>
      rw [mkTok_keyword] at hm
      cases hm
      exact isIdentBytes_word c body qm hc hb hqm
    | property c body qm hc hb hqm => cases hm; exact isIdentBytes_word c body qm hc hb hqm
    | op2 c hc =>
      simp only [isOpStart, Bool.or_eq_true, beq_iff_eq] at hc
      rcases hc with ((rfl | rfl) | rfl) | rfl <;> cases hm <;> rfl
    | _ => cases hm; rfl

theorem consTok_all (p : ETok → Bool) (t : Res LexErr (Option ETok)) (rest : List ETok × Option (Res LexErr Unit))
    (ht : ∀ tk, t = .ok (some tk) → p tk = true) (hr : rest.1.all p = true) : (consTok t rest).1.all p = true := by
  cases t with
  | ok o =>
    cases o with
    | none => exact hr
    | some tk => rw [consTok, List.all_cons, ht tk rfl, hr]; rfl
  | _ => rfl

/-- every token the scanner returns is the token of a cut -/
theorem lexAux_all (p : ETok → Bool)
    (hp : ∀ {r : Rule} {l rest : Bytes} {t : ETok}, Cut r l rest → mkTok r l = .ok (some t) → p t = true) :
    ∀ (n : Nat) (s : Bytes), (lexAux n s []).1.all p = true := by
  intro n
  induction n with
  | zero => intro s; rfl
  | succ n ih =>
    intro s
    cases s with
    | nil => rfl
    | cons c t =>
      rw [lexAux_cons]
      cases h : lexStep (c :: t) with
      | none => rfl
      | some q =>
        obtain ⟨r, k⟩ := q
        obtain ⟨l, rest, e, hlen, hc⟩ := cut_of_lexStep (List.cons_ne_nil c t) h
        have : 1 ≤ l.length := by
          cases hc <;> first | exact Nat.succ_pos _ | exact List.length_pos_iff.2 (Lexeme.ne_nil ‹_›)
        refine consTok_all p _ _ (fun tk hm => hp hc ?_) (ih _)
        rw [e, ← hlen, Nat.max_eq_left this, List.take_left' rfl] at hm
        exact hm

theorem lex_scanOK (src : Bytes) : (lex src).1.all scanOK = true :=
  lexAux_all scanOK scanOK_of_cut _ _

/-! ## float literal tokens

The value of a float literal token is `±r` for a value `r` of `roundF64`'s image (`floatLitValue_image`,
`Proofs/ShowFloatLemmas.lean`): a dyadic rational that rounds to itself, whose exact decimal expansion
(`showFloat`) the scanner reads back to the same value. So `floatOK` holds for every token of the scanner. -/

theorem floatLit_ok (tok : Bytes) (q : Rat) (h : floatLitValue tok = some (some q)) :
    (ETok.lit (.flt .f64 q)).ok = true := by
  simp only [ETok.ok, floatLitValue_showFloat_of_lit tok q h, beq_self_eq_true]

theorem mkTok_floatOK (r : Rule) (tok : Bytes) (t : ETok) (hm : mkTok r tok = .ok (some t)) : floatOK t = true := by
  cases r with
  | rInt =>
    simp only [mkTok] at hm
    split at hm
    · cases hm; rfl
    · cases hm
  | rFloat =>
    simp only [mkTok] at hm
    split at hm
    · rename_i q hq
      cases hm
      exact floatLit_ok tok q hq
    · cases hm
    · cases hm
  | rAny =>
    simp only [mkTok] at hm
    split at hm
    · cases hm; rfl
    · cases hm
  | rSpace => cases hm
  | _ => cases hm; rfl

theorem lex_floatOK (src : Bytes) : (lex src).1.all floatOK = true :=
  lexAux_all floatOK (fun _ hm => mkTok_floatOK _ _ _ hm) _ _
