import Proofs.DecEq
import Proofs.Oracles
import Proofs.RenderTrace
import Proofs.TraceExact
import Proofs.C07Source
/-!
# C07, the determinate form — the error of a render is the error of ONE construct: the first that fails

`render_error_line_in_tree` says the line of a render error is the line of SOME node of the tree. Here the
node is named. `firstFailure` walks the compiled tree in render order with the state the renderer has there
(`traceRoot`, Proofs/RenderTrace.lean, field `fin`):

* in a sequence, a node is reached only when the one before it returned `done`; the first node that fails
  (or hands a `break`/`continue` upwards) decides;
* a text, raw block or trim marker never fails by itself; an object, `assign` or `cycle` that fails is the site:
  `⟨its line, true⟩`; `break`/`continue` are the site of the sentinel they issue;
* `if`/`unless`: the first clause whose test fails is the site (the `if` tag or that `elsif` tag), otherwise the
  walk goes into the body of the branch taken; `case`: the `case` tag when the subject fails, the `when` clause
  whose value fails, else the body taken;
* `for`/`tablerow`: the loop tag when the collection, a modifier or the clause count fails; else the `else`
  clause or the iterations, each in the state the previous one left (a `break` ends the walk, a `continue`
  goes on);
* `capture`: the walk goes into the body (in a fresh trim-writer state);
* `include`: the tag when its argument fails or is no string or the file cannot be read (the handler's error has
  no location), else wherever the handler's error is located (Proofs/C14Errors.lean, `include_render_err_located`:
  the first failing construct of the included file);
* every enclosing block passes the site through `relocate` — `parser.WrapError` on locations: a site that has a
  line, or a path, is kept (`relocate_keeps`, the located form of `wrap_keeps_located`); only on line 0 of a
  template without a path it is replaced by the enclosing tag's location.

`run_fails_at_firstFailure`: `run` fails with exactly that location.
-/

/-- the construct at which the first error of a fault-free render arises (`none`: no error is located) -/
def firstFailure (c : RCtx) (root : List Node) (env : Env) : Option Loc := (traceRoot c root env).fin.bind id

/-- **C07 (the error of a render is located at the first failing construct), compiled trees.** For every
    context whose include handler writes to a buffer of its own, every node tree and environment: when `Render`
    into a buffer (a writer that never fails) ends with an error — a failure, or a `break`/`continue` that
    reaches the top — that error is a located error, and its line and path flag are those of `firstFailure`. -/
theorem render_fails_at_firstFailure (c : RCtx) (hc : IncQuiet c) (root : List Node) (env : Env) (out : Bytes) (e : RawErr)
    (h : ((renderRoot c root env).bind statusToProg).runPure = (out, .err e)) :
    ∃ se, e = .located se ∧ firstFailure c root env = some ⟨se.line, se.pathSet⟩ := by
  obtain ⟨se, hse, hf⟩ := frenderOf_fail_located c hc root env e (Prog.pureFail_of_runPure _ _ _ h)
  exact ⟨se, hse, by simp [firstFailure, hf]⟩

/-- **C07 (determinate form), from source bytes.** For every source, delimiter set, value layer, file system,
    include depth, start line and environment: when the source compiles to `root` and `run` returns the error
    `e`, then `e.line` and `e.pathSet` are the line and the path flag of `firstFailure` on `root`. (When the source
    does not compile the error is the compile error: `compileSource_err_line`, Proofs/RunError.lean.) -/
theorem run_fails_at_firstFailure (P : Prims) (O : OutPrims) (cfg : Cfg) (fs : FS) (fuel : Nat) (src : Bytes) (line : Nat)
    (env : Env) (root : List Node) (e : SErr)
    (hc : compileSource cfg.delims src line = .ok root) (h : run P O cfg fs fuel src line env = .err e) :
    firstFailure (mkCtx P O cfg fs fuel) root env = some ⟨e.line, e.pathSet⟩ := by
  rcases (run_err_iff ..).mp h with he | ⟨root', hc', hf⟩
  · rw [hc] at he; cases he
  · cases hc.symm.trans hc'
    simp [firstFailure, (sp_frender P O cfg fs fuel root env).fin _ hf, RawErr.site]

/-! ### `firstFailure` is complete: it is `none` exactly when the render has no error

The walk is proved against the renderer in both directions: `sp_renderNode` … (Proofs/RenderTrace.lean: an error of
the run is at the end of the trace) and `fx_renderNode` … (Proofs/TraceExact.lean: the trace ends with a site only
when the run ends with an error or a sentinel). A `break`/`continue` that reaches the top is an error of the real
engine too (`{% break %}` alone: "break outside a loop", line of the tag, no output — run on the real code), so no
case has to be set apart. The model outcomes `panic` and `unmodelled` are not errors: the walk reads the decisions off
the fault-free run and says nothing where that run is not defined. -/

theorem firstFailure_none_iff_fin (c : RCtx) (root : List Node) (env : Env) :
    firstFailure c root env = none ↔ (traceRoot c root env).fin = none := by
  unfold firstFailure
  have hl := (located_traceRoot c root env).2
  cases h : (traceRoot c root env).fin with
  | none => simp
  | some s =>
    cases s with
    | none => exact absurd h hl
    | some l => simp

/-- **C07 (`firstFailure` is `none` exactly when there is no error), compiled trees.** For every context whose
    include handler writes to a buffer of its own, every node tree and environment: `firstFailure` is `none` if
    and only if `Render` into a buffer (a writer that never fails) does not end with an error — a failure, or a
    `break`/`continue` that reaches the top. With `render_fails_at_firstFailure`: the render ends with the error
    `e` exactly when `firstFailure` is the location of `e`. -/
theorem firstFailure_none_iff_no_error (c : RCtx) (hc : IncQuiet c) (root : List Node) (env : Env) :
    firstFailure c root env = none ↔ ∀ out e, ((renderRoot c root env).bind statusToProg).runPure ≠ (out, .err e) := by
  rw [firstFailure_none_iff_fin, traceRoot_fin_none_iff c hc, Prog.pureFail_none_iff]

/-- **C07 (`firstFailure` is complete), compiled trees.** Under the same hypotheses, for a render that is defined in
    the model (it does not end in the model outcomes `panic` / `unmodelled`): `firstFailure` is `none` if and only
    if the render SUCCEEDS, returning its output. -/
theorem firstFailure_none_iff_ok (c : RCtx) (hc : IncQuiet c) (root : List Node) (env : Env)
    (hp : ∀ out w, ((renderRoot c root env).bind statusToProg).runPure ≠ (out, .panic w))
    (hu : ∀ out w, ((renderRoot c root env).bind statusToProg).runPure ≠ (out, .unmodelled w)) :
    firstFailure c root env = none ↔ ∃ out, ((renderRoot c root env).bind statusToProg).runPure = (out, .ok ()) := by
  rw [firstFailure_none_iff_no_error c hc]
  constructor
  · intro h
    cases hr : ((renderRoot c root env).bind statusToProg).runPure with
    | mk out o =>
      cases o with
      | ok a => exact ⟨out, rfl⟩
      | err e => exact absurd hr (h out e)
      | panic w => exact absurd hr (hp out w)
      | unmodelled w => exact absurd hr (hu out w)
  · rintro ⟨out, h⟩ out' e hr
    rw [h] at hr
    cases hr

/-- **C07 (`firstFailure` characterises the result of `run`), from source bytes.** For every source that compiles
    to `root`, every delimiter set, value layer, file system, include depth, start line and environment:
    `firstFailure` on `root` is the location of the error when `run` returns an error, and `none` in every other
    case — output, or one of the model outcomes `panic` / `unmodelled`. -/
theorem run_firstFailure_complete (P : Prims) (O : OutPrims) (cfg : Cfg) (fs : FS) (fuel : Nat) (src : Bytes) (line : Nat)
    (env : Env) (root : List Node) (hc : compileSource cfg.delims src line = .ok root) :
    firstFailure (mkCtx P O cfg fs fuel) root env =
      match run P O cfg fs fuel src line env with
      | .err e => some ⟨e.line, e.pathSet⟩
      | _ => none := by
  cases hrun : run P O cfg fs fuel src line env with
  | err e => exact run_fails_at_firstFailure P O cfg fs fuel src line env root e hc hrun
  | _ =>
    -- `run` returns no error, so `FRender` does not fail (`run_err_iff`), and the walk ends without a site
    show firstFailure _ root env = none
    rw [firstFailure_none_iff_fin, traceRoot_fin_none_iff _ (incQuiet_mkCtx P O cfg fs fuel)]
    refine Option.eq_none_iff_forall_ne_some.mpr fun x hpf => ?_
    obtain ⟨se, rfl⟩ := frender_pureFail_located P O cfg fs fuel root env x hpf
    have := (run_err_iff ..).mpr (.inr ⟨root, hc, hpf⟩)
    rw [hrun] at this
    cases this

/-- **C07 (`run` succeeds exactly when `firstFailure` is `none`), from source bytes.** For a source that compiles to
    `root` and a run that is defined in the model: `run` returns output if and only if `firstFailure` on `root` is
    `none`; and it returns the error `e` only if `firstFailure` is the location of `e` (`run_fails_at_firstFailure`). -/
theorem run_ok_iff_firstFailure_none (P : Prims) (O : OutPrims) (cfg : Cfg) (fs : FS) (fuel : Nat) (src : Bytes) (line : Nat)
    (env : Env) (root : List Node) (hc : compileSource cfg.delims src line = .ok root)
    (hp : ∀ w, run P O cfg fs fuel src line env ≠ .panic w) (hu : ∀ w, run P O cfg fs fuel src line env ≠ .unmodelled w) :
    (∃ out, run P O cfg fs fuel src line env = .ok out) ↔ firstFailure (mkCtx P O cfg fs fuel) root env = none := by
  have h := run_firstFailure_complete P O cfg fs fuel src line env root hc
  cases hrun : run P O cfg fs fuel src line env with
  | ok out => rw [hrun] at h; exact ⟨fun _ => h, fun _ => ⟨out, rfl⟩⟩
  | err e =>
    rw [hrun] at h
    simp only at h
    constructor
    · rintro ⟨out, ho⟩; cases ho
    · intro hn; rw [hn] at h; cases h
  | panic w => exact absurd hrun (hp w)
  | unmodelled w => exact absurd hrun (hu w)

/-! ### Reading `firstFailure`: each by unfolding the walk

Stated of the field `fin` of the trace, one `Option` below `firstFailure = fin.bind id`: `some none` is an error that
no construct has located yet. -/

/-- in a sequence the first node decides unless it returned `done`; then the walk goes on in the state it left -/
theorem fin_cons (c : RCtx) (n : Node) (ns : List Node) (s : RS) :
    (traceList c (n :: ns) s).fin =
      match (renderNode c n s).pureRet with
      | some (.done, s') => (traceList c ns s').fin
      | _ => (traceNode c n s).fin := by
  conv => lhs; unfold traceList
  cases h : (renderNode c n s).pureRet with
  | none => rfl
  | some a =>
    obtain ⟨st, s'⟩ := a
    cases st <;> rfl

/-- an object that fails is the site -/
theorem fin_obj (c : RCtx) (line : Nat) (e : Expr) (s : RS) :
    (traceNode c (.obj line e) s).fin = (renderNode c (.obj line e) s).pureFail.map (fun _ => some ⟨line, true⟩) := by
  unfold traceNode; rfl

/-- a `break` is the site of the sentinel it issues -/
theorem fin_brk (c : RCtx) (line : Nat) (s : RS) : (traceNode c (.brk line) s).fin = some (some ⟨line, true⟩) := by
  unfold traceNode; rfl

/-- an `if` block passes the site of its branches through `WrapError` at the `if` tag -/
theorem fin_if (c : RCtx) (line : Nat) (bs : List (CondT × List Node)) (s : RS) :
    (traceNode c (.ifB line bs) s).fin = (traceBranches c bs s).fin.map (fun l => some (relocate c.cfg.path l ⟨line, true⟩)) := by
  unfold traceNode; rfl

/-- **innermost wins**: a site that has a line — or a path — comes through every enclosing block unchanged -/
theorem wrap_fin_keeps (path : Bytes) (loc : Loc) (t : Tr) (l : Loc) (h : t.fin = some (some l))
    (hl : l.line ≠ 0 ∨ (l.pathSet = true ∧ path ≠ [])) : (t.wrap path loc).fin = some (some l) := by
  simp only [Tr.wrap, h, Option.map_some, relocate_keeps path l loc hl]

/-- an error that is not located yet (the subject of a `case`, the collection of a loop, the argument of an
    `include`, a file that cannot be read) is located at the block or tag that wraps it first -/
theorem wrap_fin_plain (path : Bytes) (loc : Loc) (t : Tr) (h : t.fin = some none) : (t.wrap path loc).fin = some (some loc) := by
  simp only [Tr.wrap, h, Option.map_some, relocate]

/-! ### Line 0

`Engine.ParseTemplate`, `ParseString` and `ParseAndRender` compile with start line 0 and no path: an error of a
construct on the FIRST line of such a template has `LineNumber() == 0` (`{{ 1 | nofilter }}` through
`ParseAndRender`: line 0, no path — run on the real code). So "never 0" needs the start line: with a start line
of at least 1 (`ParseTemplateLocation(src, path, line ≥ 1)`) the line of an error on a writer that does not fail
is never 0. -/

/-- **C07 (no line 0 on a writer that does not fail), compiled trees.** For an include-free tree none of whose
    tags and objects stands at line 0, the error of `Render` into a buffer is located at a line that is not 0
    (the line of a tag or object: `frender_error_eline`), and it names the template's path. Line 0 in
    `render_error_line_in_tree` therefore needs a failing writer (or a tag at line 0). -/
theorem render_error_line_nonzero (P : Prims) (O : OutPrims) (cfg : Cfg) (fs : FS) (fuel : Nat) (root : List Node)
    (h : noInclList root = true) (hpos : ∀ x ∈ elinesList root, x ≠ 0) (env : Env) (out : Bytes) (e : RawErr)
    (hr : (frender P O cfg fs fuel root env).runPure = (out, .err e)) :
    ∃ se, e = .located se ∧ se.line ≠ 0 ∧ se.pathSet = true := by
  obtain ⟨se, hse, hl, hp⟩ := frender_error_eline P O cfg fs fuel root h env out e hr
  exact ⟨se, hse, hpos _ hl, hp⟩

/-- **C07 (no line 0), from source bytes.** For every source without an `include` tag and every start line: the
    line of an error of `run` is at least the start line — so it is not 0 when the template was parsed with a
    start line of at least 1. -/
theorem run_error_line_ge_start (P : Prims) (O : OutPrims) (cfg : Cfg) (fs : FS) (fuel : Nat) (src : Bytes) (line : Nat)
    (env : Env) (e : SErr) (hni : NoIncludeTag (scan cfg.delims src line))
    (h : run P O cfg fs fuel src line env = .err e) : line ≤ e.line := by
  obtain ⟨pre, t, rest, _, _, h3, h4, _, _⟩ := run_error_at_tag_or_object P O cfg fs fuel src line env e hni h
  rw [h3, h4]
  exact Nat.le_add_right _ _

/-! ### A concrete instance

The tree of `a⏎{% if true %}⏎{{ y }}{% endif %}` at start line 1, the test `true` written as `.always` (strict variables,
`y` unbound): the text is at line 1, the `if` at line 2, the object at line 3. The walk passes the text (it returns `done`), enters the
`if`, whose test succeeds, and stops at the object: `firstFailure` is line 3 — not line 2, the enclosing `if`. -/
def c07ExRoot : List Node := [.text 1 [97, 10], .ifB 2 [(.always, [.text 2 [10], .obj 3 (.var [121])])]]

theorem c07Ex_run (P : Prims) (O : OutPrims) (fs : FS) :
    (frender P O strictCfg fs 1 c07ExRoot []).runPure = ([97, 10], .err (.located ⟨3, true, .other "undefinedVariable", .byCause⟩)) :=
  frender_of_bot P O _ fs 1 _ _ (by rw [renderRoot_eq_S]; decide +kernel) rfl

example (P : Prims) (O : OutPrims) (fs : FS) : firstFailure (mkCtx P O strictCfg fs 1) c07ExRoot [] = some ⟨3, true⟩ := by
  obtain ⟨se, hse, hff⟩ := render_fails_at_firstFailure (mkCtx P O strictCfg fs 1) (incQuiet_mkCtx P O strictCfg fs 1) c07ExRoot []
    [97, 10] _ (c07Ex_run P O fs)
  cases hse
  exact hff

/-- `run_fails_at_firstFailure` on bytes: `a⏎{{ y }}` (strict variables, start line 1) compiles to a text at
    line 1 and an object at line 2; `run` fails (`c07_ex_render`), and `firstFailure` is the object -/
example (P : Prims) (O : OutPrims) (fs : FS) :
    firstFailure (mkCtx P O strictCfg fs 1) [.text 1 [97, 10], .obj 2 (.var [121])] [] = some ⟨2, true⟩ :=
  run_fails_at_firstFailure P O strictCfg fs 1 [97, 10, 123, 123, 32, 121, 32, 125, 125] 1 [] _ _ (by decide +kernel) (c07_ex_render P O fs)

/-- `run_error_line_ge_start` on the same bytes: the start line 1 is at most the error's line 2 -/
example (P : Prims) (O : OutPrims) (fs : FS) : 1 ≤ (⟨2, true, .other "undefinedVariable", .byCause⟩ : SErr).line :=
  run_error_line_ge_start P O strictCfg fs 1 [97, 10, 123, 123, 32, 121, 32, 125, 125] 1 [] _ (by decide) (c07_ex_render P O fs)

/-- `render_error_line_nonzero` on `c07ExRoot`: include-free, tags and objects at lines 2 and 3 -/
example (P : Prims) (O : OutPrims) (fs : FS) :
    ∃ se, RawErr.located ⟨3, true, .other "undefinedVariable", .byCause⟩ = .located se ∧ se.line ≠ 0 ∧ se.pathSet = true :=
  render_error_line_nonzero P O strictCfg fs 1 c07ExRoot (by decide) (by decide) [] _ _ (c07Ex_run P O fs)

/-! ### `firstFailure = none`: a concrete instance

`a⏎{% if true %}⏎{% assign x = "b" %}{% endif %}` as a tree: the render succeeds with output `a⏎⏎`, and the walk ends
without a site. From bytes: `a⏎{% assign x = 1 %}b` compiles and `run` returns `a⏎b`. -/
def c07OkRoot : List Node := [.text 1 [97, 10], .ifB 2 [(.always, [.text 2 [10], .assign 3 [120] (.lit (.str [98]))])]]

theorem c07Ok_run (P : Prims) (O : OutPrims) (fs : FS) :
    (frender P O strictCfg fs 1 c07OkRoot []).runPure = ([97, 10, 10], .ok ()) :=
  frender_of_bot P O _ fs 1 _ _ (by rw [renderRoot_eq_S]; decide +kernel) rfl

example (P : Prims) (O : OutPrims) (fs : FS) : firstFailure (mkCtx P O strictCfg fs 1) c07OkRoot [] = none :=
  (firstFailure_none_iff_no_error _ (incQuiet_mkCtx P O strictCfg fs 1) c07OkRoot []).mpr
    (fun out e h => by have h' := c07Ok_run P O fs; unfold frender at h'; rw [h'] at h; cases h)

example (P : Prims) (O : OutPrims) (fs : FS) : firstFailure (mkCtx P O strictCfg fs 1) c07OkRoot [] = none :=
  (firstFailure_none_iff_ok _ (incQuiet_mkCtx P O strictCfg fs 1) c07OkRoot []
    (fun out w h => by have h' := c07Ok_run P O fs; unfold frender at h'; rw [h'] at h; cases h)
    (fun out w h => by have h' := c07Ok_run P O fs; unfold frender at h'; rw [h'] at h; cases h)).mpr ⟨_, c07Ok_run P O fs⟩

def c07OkSrc : Bytes := [97, 10, 123, 37, 32, 97, 115, 115, 105, 103, 110, 32, 120, 32, 61, 32, 49, 32, 37, 125, 98]

theorem c07OkSrc_compiles : compileSource [] c07OkSrc 1 = .ok [.text 1 [97, 10], .assign 2 [120] (.lit (.int .int 1)), .text 2 [98]] := by decide +kernel

theorem c07OkSrc_run (P : Prims) (O : OutPrims) (fs : FS) : run P O strictCfg fs 1 c07OkSrc 1 [] = .ok [97, 10, 98] :=
  run_of_runBot P O _ fs 1 _ _ _ (by decide +kernel) rfl

/-- `run_firstFailure_complete` and `run_ok_iff_firstFailure_none` on these bytes: `run` returns output, `firstFailure` is `none` -/
example (P : Prims) (O : OutPrims) (fs : FS) :
    firstFailure (mkCtx P O strictCfg fs 1) [.text 1 [97, 10], .assign 2 [120] (.lit (.int .int 1)), .text 2 [98]] [] = none := by
  have h := run_firstFailure_complete P O strictCfg fs 1 c07OkSrc 1 [] _ c07OkSrc_compiles
  rw [c07OkSrc_run] at h
  exact h

example (P : Prims) (O : OutPrims) (fs : FS) :
    firstFailure (mkCtx P O strictCfg fs 1) [.text 1 [97, 10], .assign 2 [120] (.lit (.int .int 1)), .text 2 [98]] [] = none :=
  (run_ok_iff_firstFailure_none P O strictCfg fs 1 c07OkSrc 1 [] _ c07OkSrc_compiles
    (fun w h => by rw [c07OkSrc_run] at h; cases h) (fun w h => by rw [c07OkSrc_run] at h; cases h)).mp ⟨_, c07OkSrc_run P O fs⟩
