import Liquid.Filters.Str
/-!
# `strings.Index` / `strings.Replace` / `strings.Split` / `strings.Join` models: specification lemmas
-/

theorem indexOf_spec (pat s : Bytes) (i : Nat) (h : StrF.indexOf pat s = some i) :
    i ≤ s.length ∧ pat <+: s.drop i ∧ ∀ j, j < i → ¬ pat <+: s.drop j := by
  fun_induction StrF.indexOf pat s generalizing i with
  | case1 hp => cases h; exact ⟨Nat.le_refl _, List.isEmpty_iff.1 hp ▸ List.prefix_refl _, nofun⟩
  | case2 => cases h
  | case3 b rest hp => cases h; exact ⟨Nat.zero_le _, (isPrefixOfB_iff _ _).1 hp, nofun⟩
  | case4 b rest hp ih =>
    obtain ⟨k, hk, rfl⟩ := Option.map_eq_some_iff.1 h
    obtain ⟨h1, h2, h3⟩ := ih k hk
    refine ⟨Nat.succ_le_succ h1, h2, fun j hj => ?_⟩
    cases j with
    | zero => exact fun hpre => hp ((isPrefixOfB_iff _ _).2 hpre)
    | succ j => exact h3 j (Nat.lt_of_succ_lt_succ hj)

theorem indexOf_nil_pat (s : Bytes) : StrF.indexOf [] s = some 0 := by
  cases s <;> simp [StrF.indexOf, isPrefixOfB]

theorem indexOf_nil_str (pat : Bytes) (h : pat ≠ []) : StrF.indexOf pat [] = none := by
  simp [StrF.indexOf, h]

theorem indexOf_some (pat s : Bytes) (i : Nat) (h : StrF.indexOf pat s = some i) :
    i + pat.length ≤ s.length ∧ s = s.take i ++ pat ++ s.drop (i + pat.length) ∧
      ∀ j, j < i → ¬ pat <+: s.drop j := by
  obtain ⟨h1, ⟨t, ht⟩, h3⟩ := indexOf_spec pat s i h
  have hlen : (s.drop i).length = pat.length + t.length := by rw [← ht]; simp
  have hd : s.drop (i + pat.length) = t := by
    rw [← List.drop_drop, ← ht]; simp
  refine ⟨by simp at hlen; omega, ?_, h3⟩
  rw [hd, List.append_assoc, ht, List.take_append_drop]

theorem indexOf_none (pat s : Bytes) (h : StrF.indexOf pat s = none) :
    ∀ j, j ≤ s.length → ¬ pat <+: s.drop j := by
  fun_induction StrF.indexOf pat s with
  | case1 => cases h
  | case2 hp =>
    intro j hj hpre
    obtain rfl := Nat.le_zero.mp hj
    exact hp (List.isEmpty_iff.2 (List.prefix_nil.1 hpre))
  | case3 => cases h
  | case4 b rest hp ih =>
    intro j hj
    cases j with
    | zero => exact fun hpre => hp ((isPrefixOfB_iff _ _).2 hpre)
    | succ j => exact ih (Option.map_eq_none_iff.1 h) j (Nat.le_of_succ_le_succ hj)

theorem indexOf_cons_of_not_mem {a : UInt8} {sep : Bytes} (hsep : sep ≠ []) (ha : a ∉ sep) (s : Bytes) :
    StrF.indexOf sep (a :: s) = (StrF.indexOf sep s).map (· + 1) := by
  cases sep with
  | nil => exact absurd rfl hsep
  | cons c cs =>
    have hac : ¬ c = a := fun e => ha (e ▸ List.mem_cons_self ..)
    simp [StrF.indexOf, isPrefixOfB, hac]

theorem indexOf_append_of_disjoint (p sep t : Bytes) (hsep : sep ≠ []) (hd : ∀ b ∈ p, b ∉ sep) :
    StrF.indexOf sep (p ++ t) = (StrF.indexOf sep t).map (· + p.length) := by
  induction p with
  | nil => simp
  | cons a p ih =>
    obtain ⟨ha, hp⟩ := List.forall_mem_cons.1 hd
    rw [List.cons_append, indexOf_cons_of_not_mem hsep ha, ih hp, Option.map_map]
    rfl

theorem indexOf_sep_after_disjoint (p sep rest : Bytes) (hsep : sep ≠ []) (hd : ∀ b ∈ p, b ∉ sep) :
    StrF.indexOf sep (p ++ sep ++ rest) = some p.length := by
  have h0 : StrF.indexOf sep (sep ++ rest) = some 0 := by
    cases hs : sep ++ rest with
    | nil => exact absurd (List.append_eq_nil_iff.1 hs).1 hsep
    | cons c cs => rw [StrF.indexOf, if_pos ((isPrefixOfB_iff _ _).2 ⟨rest, hs⟩)]
  rw [List.append_assoc, indexOf_append_of_disjoint p sep _ hsep hd, h0]
  simp

theorem indexOf_disjoint_none (p sep : Bytes) (hsep : sep ≠ []) (hd : ∀ b ∈ p, b ∉ sep) :
    StrF.indexOf sep p = none := by
  have := indexOf_append_of_disjoint p sep [] hsep hd
  rwa [List.append_nil, indexOf_nil_str sep hsep] at this

theorem replaceNE_fuel (old new : Bytes) (hold : old ≠ []) : ∀ (n m : Nat) (s : Bytes),
    s.length ≤ n → s.length ≤ m → StrF.replaceNE old new n s = StrF.replaceNE old new m s := by
  have hpos : 0 < old.length := List.length_pos_iff.2 hold
  have hnil : ∀ k, StrF.replaceNE old new k [] = [] := by
    intro k
    cases k with
    | zero => rfl
    | succ k => simp [StrF.replaceNE, indexOf_nil_str old hold]
  intro n
  induction n with
  | zero =>
    intro m s hn hm
    obtain rfl := List.eq_nil_of_length_eq_zero (Nat.le_zero.mp hn)
    rw [hnil, hnil]
  | succ n ih =>
    intro m s hn hm
    cases m with
    | zero =>
      obtain rfl := List.eq_nil_of_length_eq_zero (Nat.le_zero.mp hm)
      rw [hnil, hnil]
    | succ m =>
      simp only [StrF.replaceNE]
      cases hi : StrF.indexOf old s with
      | none => rfl
      | some i =>
        simp only
        rw [ih m (s.drop (i + old.length)) (by simp; omega) (by simp; omega)]

theorem replaceNE_length_le (old : Bytes) (n : Nat) (s : Bytes) : (StrF.replaceNE old [] n s).length ≤ s.length := by
  fun_induction StrF.replaceNE old [] n s with
  | case1 => exact Nat.le_refl _
  | case2 => exact Nat.le_refl _
  | case3 f s i hi ih =>
    simp only [List.length_append, List.length_take, List.length_drop, List.length_nil] at ih ⊢
    omega

theorem remove_eq_replace (s p : Bytes) : StrF.remove s p = StrF.replace s p [] := rfl

theorem take_mid (a m r : Bytes) : (a ++ m ++ r).take a.length = a := by
  rw [List.append_assoc, List.take_left]

theorem drop_mid (a m r : Bytes) : (a ++ m ++ r).drop (a.length + m.length) = r := by
  rw [← List.length_append, List.drop_left]

theorem replace_of_ne (s : Bytes) {old new : Bytes} (hne : old ≠ new) (hold : old ≠ []) :
    StrF.replace s old new = StrF.replaceNE old new s.length s := by
  rw [StrF.replace, if_neg hne, List.isEmpty_eq_false_iff.2 hold]; rfl

theorem splitRaw_of_ne (s : Bytes) {sep : Bytes} (hsp : sep ≠ [32]) (hsep : sep ≠ []) :
    StrF.splitRaw s sep = StrF.splitNE sep s.length s := by
  rw [StrF.splitRaw, if_neg hsp, List.isEmpty_eq_false_iff.2 hsep]; rfl

theorem splitRaw_nil (s : Bytes) : StrF.splitRaw s [] = StrF.runeChunks s := rfl

theorem replace_absent (s old new : Bytes) (h : StrF.indexOf old s = none) :
    StrF.replace s old new = s := by
  have hold : old ≠ [] := by
    intro h0
    subst h0
    rw [indexOf_nil_pat] at h
    cases h
  by_cases hon : old = new
  · simp [StrF.replace, hon]
  · rw [replace_of_ne s hon hold]
    cases s.length with
    | zero => rfl
    | succ n => simp only [StrF.replaceNE, h]

theorem replace_step (a rest old new : Bytes) (hold : old ≠ []) (hne : old ≠ new)
    (hfirst : StrF.indexOf old (a ++ old ++ rest) = some a.length) :
    StrF.replace (a ++ old ++ rest) old new = a ++ new ++ StrF.replace rest old new := by
  have hpos : 0 < old.length := List.length_pos_iff.2 hold
  rw [replace_of_ne _ hne hold, replace_of_ne _ hne hold]
  have hl : (a ++ old ++ rest).length = (a.length + old.length + rest.length - 1) + 1 := by
    simp; omega
  rw [hl, StrF.replaceNE, hfirst]
  simp only
  rw [take_mid, drop_mid]
  congr 1
  exact replaceNE_fuel old new hold _ _ rest (by omega) (Nat.le_refl _)

theorem replaceFirst_step (a rest old new : Bytes) (hne : old ≠ new)
    (hfirst : StrF.indexOf old (a ++ old ++ rest) = some a.length) :
    StrF.replaceFirst (a ++ old ++ rest) old new = a ++ new ++ rest := by
  unfold StrF.replaceFirst
  rw [if_neg hne, hfirst]
  simp only
  rw [take_mid, drop_mid]

theorem join_cons_of_ne_nil (sep p : Bytes) (l : List Bytes) (hl : l ≠ []) :
    StrF.join sep (p :: l) = p ++ sep ++ StrF.join sep l := by
  cases l with
  | nil => exact absurd rfl hl
  | cons q l => rfl

theorem join_nil_sep : ∀ (ps : List Bytes), StrF.join [] ps = ps.flatten
  | [] => rfl
  | [p] => by simp [StrF.join]
  | p :: q :: ps => by
    rw [StrF.join, join_nil_sep (q :: ps)]
    simp

theorem splitNE_ne_nil (sep : Bytes) (n : Nat) (s : Bytes) : StrF.splitNE sep n s ≠ [] := by
  cases n with
  | zero => simp [StrF.splitNE]
  | succ n =>
    simp only [StrF.splitNE]
    cases StrF.indexOf sep s <;> simp

theorem dropTrailingEmpty_eq (ps : List Bytes) (h : ps.getLast? ≠ some []) :
    StrF.dropTrailingEmpty ps = ps := by
  unfold StrF.dropTrailingEmpty
  rw [← List.head?_reverse] at h
  cases hr : ps.reverse with
  | nil => simp [List.reverse_eq_nil_iff.1 hr]
  | cons x xs =>
    rw [hr] at h
    have hx : x ≠ [] := by simpa using h
    rw [List.dropWhile_cons, List.isEmpty_eq_false_iff.2 hx]
    simp only [Bool.false_eq_true, if_false]
    rw [← hr, List.reverse_reverse]

theorem dropTrailingEmpty_getLast (ps : List Bytes) :
    (StrF.dropTrailingEmpty ps).getLast? ≠ some [] := by
  unfold StrF.dropTrailingEmpty
  rw [List.getLast?_reverse]
  intro h
  have := List.head?_dropWhile_not (fun b : Bytes => b.isEmpty) ps.reverse
  rw [h] at this
  simp at this

theorem getLast?_ne_of_all_ne (ps : List Bytes) (h : ∀ p ∈ ps, p ≠ []) :
    ps.getLast? ≠ some [] := by
  intro hl
  exact h [] (List.mem_of_getLast? hl) rfl

theorem splitNE_join (sep : Bytes) (ps : List Bytes) (hsep : sep ≠ [])
    (hps : ∀ p ∈ ps, ∀ b ∈ p, b ∉ sep) (hne : ps ≠ []) (n : Nat)
    (hn : (StrF.join sep ps).length ≤ n) : StrF.splitNE sep n (StrF.join sep ps) = ps := by
  have hpos : 0 < sep.length := List.length_pos_iff.2 hsep
  induction ps generalizing n with
  | nil => exact absurd rfl hne
  | cons p l ih =>
    obtain ⟨hp, hl⟩ := List.forall_mem_cons.1 hps
    cases l with
    | nil =>
      have hnone := indexOf_disjoint_none p sep hsep hp
      cases n with
      | zero => simp [StrF.join, StrF.splitNE]
      | succ n => simp [StrF.join, StrF.splitNE, hnone]
    | cons q l =>
      rw [StrF.join] at hn ⊢
      have hidx := indexOf_sep_after_disjoint p sep (StrF.join sep (q :: l)) hsep hp
      cases n with
      | zero => simp only [List.length_append] at hn; omega
      | succ n =>
        rw [StrF.splitNE, hidx]
        simp only
        rw [take_mid, drop_mid, ih hl (by simp) n (by simp only [List.length_append] at hn; omega)]

theorem splitWSGo_nospace (p : Bytes) (hp : ∀ b ∈ p, StrF.isAsciiSpace b = false) :
    ∀ (cur rest : Bytes),
      StrF.splitWSGo false cur (p ++ rest) = StrF.splitWSGo false (p.reverse ++ cur) rest := by
  induction p with
  | nil => intro cur rest; rfl
  | cons b p ih =>
    intro cur rest
    obtain ⟨hb, hp⟩ := List.forall_mem_cons.1 hp
    rw [List.cons_append, StrF.splitWSGo, hb, if_neg Bool.false_ne_true, ih hp]
    simp

theorem splitWSGo_true_cons (b : UInt8) (t : Bytes) (hb : StrF.isAsciiSpace b = false) :
    StrF.splitWSGo true [] (b :: t) = StrF.splitWSGo false [] (b :: t) := by
  rw [StrF.splitWSGo, StrF.splitWSGo, hb]
  simp

theorem join_head (sep q : Bytes) (l : List Bytes) : ∃ X, StrF.join sep (q :: l) = q ++ X := by
  cases l with
  | nil => exact ⟨[], by simp [StrF.join]⟩
  | cons r l => exact ⟨sep ++ StrF.join sep (r :: l), by simp [StrF.join]⟩

theorem splitWS_join : ∀ (ps : List Bytes), ps ≠ [] →
    (∀ p ∈ ps, p ≠ [] ∧ ∀ b ∈ p, StrF.isAsciiSpace b = false) →
    StrF.splitWSGo false [] (StrF.join [32] ps) = ps := by
  intro ps
  induction ps with
  | nil => intro h; exact absurd rfl h
  | cons p l ih =>
    intro _ hps
    obtain ⟨⟨_, hp⟩, hl⟩ := List.forall_mem_cons.1 hps
    cases l with
    | nil =>
      have h := splitWSGo_nospace p hp [] []
      simp only [List.append_nil] at h
      rw [StrF.join, h, StrF.splitWSGo, List.reverse_reverse]
    | cons q l =>
      have hq := hl q (List.mem_cons_self ..)
      obtain ⟨X, hX⟩ := join_head [32] q l
      have ih' := ih (by simp) hl
      rw [StrF.join, List.append_assoc, splitWSGo_nospace p hp]
      simp only [List.append_nil, List.singleton_append]
      rw [StrF.splitWSGo]
      have h32 : StrF.isAsciiSpace 32 = true := by decide
      rw [h32]
      simp only [if_true, Bool.false_eq_true, if_false, List.reverse_reverse]
      congr 1
      cases hqc : q with
      | nil => exact absurd hqc hq.1
      | cons b t =>
        have hb : StrF.isAsciiSpace b = false := hq.2 b (by simp [hqc])
        rw [hqc] at hX ih'
        rw [hX] at ih' ⊢
        rw [List.cons_append] at ih' ⊢
        rw [splitWSGo_true_cons b _ hb, ih']

theorem runeChunksAux_spec (n : Nat) (s : Bytes) (hs : s.length ≤ n) :
    (StrF.runeChunksAux n s).flatten = s ∧ ∀ p ∈ StrF.runeChunksAux n s, p ≠ [] := by
  fun_induction StrF.runeChunksAux n s with
  | case1 s => exact ⟨(List.eq_nil_of_length_eq_zero (Nat.le_zero.mp hs)).symm, nofun⟩
  | case2 => exact ⟨rfl, nofun⟩
  | case3 n b rest w ih =>
    have hw : 1 ≤ w := Nat.le_max_right _ _
    obtain ⟨h1, h2⟩ := ih (by simp only [List.length_drop, List.length_cons] at hs ⊢; omega)
    refine ⟨by rw [List.flatten_cons, h1, List.take_append_drop], List.forall_mem_cons.2 ⟨fun h0 => ?_, h2⟩⟩
    have := congrArg List.length h0
    simp only [List.length_take, List.length_cons, List.length_nil] at this
    omega

theorem splitNE_last_empty (sep : Bytes) (n : Nat) (s : Bytes) (h : (StrF.splitNE sep n s).getLast? = some []) :
    s = [] ∨ sep <:+ s := by
  fun_induction StrF.splitNE sep n s with
  | case1 => exact .inl (Option.some.inj h)
  | case2 => exact .inl (Option.some.inj h)
  | case3 f s i hi ih =>
    rw [List.getLast?_cons_of_ne_nil (splitNE_ne_nil _ _ _)] at h
    obtain ⟨_, hs, _⟩ := indexOf_some sep s i hi
    rcases ih h with h0 | h0
    · rw [h0, List.append_nil] at hs
      exact .inr ⟨s.take i, hs.symm⟩
    · exact .inr (h0.trans (List.drop_suffix _ _))

theorem join_splitNE (sep s : Bytes) (n : Nat) : StrF.join sep (StrF.splitNE sep n s) = s := by
  fun_induction StrF.splitNE sep n s with
  | case1 => rfl
  | case2 => rfl
  | case3 f s i hi ih =>
    rw [join_cons_of_ne_nil _ _ _ (splitNE_ne_nil _ _ _), ih]
    exact (indexOf_some sep s i hi).2.1.symm

example : StrF.replace [97,98,97,98] [97,98] [99] = [99,99] := by decide +kernel
example : StrF.replaceFirst [97,98,97,98] [97,98] [99] = [99,97,98] := by decide +kernel
example : StrF.remove [97,98,97,98] [98] = [97,97] := by decide +kernel
example : StrF.indexOf [98] [97,98,97,98] = some 1 := by decide +kernel
example : StrF.indexOf [99] [97,98,97,98] = none := by decide +kernel
example : StrF.split [97,44,98,44,44] [44] = [[97],[98]] := by decide +kernel
example : StrF.split [32,97,9,10,98,32] [32] = [[],[97],[98]] := by decide +kernel
example : StrF.replace [195,169,98] [] [45] = [45,195,169,45,98,45] := by decide +kernel
example : StrF.split [195,169,98] [] = [[195,169],[98]] := by decide +kernel
example : StrF.join [44,32] [[97],[],[98]] = [97,44,32,44,32,98] := by decide +kernel

example : StrF.replace ([120] ++ [97,98] ++ [97,98,121]) [97,98] [45] = [120] ++ [45] ++ StrF.replace [97,98,121] [97,98] [45] :=
  replace_step _ _ _ _ (by decide) (by decide) (by decide)
