import Proofs.ProgLemmas
import Proofs.PostLemmas
import Proofs.RenderLogic
/-!
# Where an error is located: interaction-tree lemmas (used by C20 located, C07 firstFailure, C14)

`Site` is the location an error carries (`none`: the error is not yet a SourceError). `relocate` is what
`parser.WrapError` does to a location. A *trace* `Tr` says, for a program, who is named by the error of
every single-fault run (`calls`, one entry per `Write` call of the fault-free run) and who is named when the
fault-free run itself fails or hands a `break`/`continue` upwards (`fin`: `none` when it does neither, `some none` for an
error that no node has located yet, `some (some l)` for one located at `l`). `Sp p t` is the specification
that ties a program to a trace; it composes along `bind` and `mapFail` the way the renderer is built.
-/

/-- the location an error carries; `none` = a plain `error`, not (yet) a `parser.Error` -/
abbrev Site := Option Loc

def RawErr.site : RawErr → Site
  | .plain _ => none
  | .located e => some ⟨e.line, e.pathSet⟩

/-- the location carried by a `break`/`continue` sentinel -/
def Status.site : Status → Site
  | .done => none
  | .brk e => some ⟨e.line, e.pathSet⟩
  | .cont e => some ⟨e.line, e.pathSet⟩

/-- `parser.WrapError` on locations: an error that is not located takes the wrapping node's location; one
    that carries a path or a line keeps its own; one that carries neither (line 0 of a template without a
    path, or the invalid location of a raw block, a trim marker or a flush) takes the wrapping node's,
    unless that is empty as well -/
def relocate (path : Bytes) (inner : Site) (outer : Loc) : Loc :=
  match inner with
  | none => outer
  | some l => if (l.pathSet && !path.isEmpty) || l.line != 0 || outer.isZero path then l else outer

theorem wrapError_site (path : Bytes) (e : RawErr) (loc : Loc) :
    (RawErr.located (wrapError path e loc)).site = some (relocate path e.site loc) := by
  cases e with
  | plain c => rfl
  | located se =>
    simp only [wrapError, relocate, RawErr.site]
    split <;> rfl

theorem relocate_self (path : Bytes) (loc : Loc) : relocate path (some loc) loc = loc := by
  simp only [relocate]; split <;> rfl

theorem relocate_keeps (path : Bytes) (l outer : Loc) (h : l.line ≠ 0 ∨ (l.pathSet = true ∧ path ≠ [])) :
    relocate path (some l) outer = l := by
  simp only [relocate]
  rcases h with h | ⟨h1, h2⟩
  · simp [h]
  · have : path.isEmpty = false := by cases path <;> simp_all
    simp [h1, this]

theorem relocate_invalidLoc (path : Bytes) (line : Nat) (h : line ≠ 0 ∨ path ≠ []) :
    relocate path (some invalidLoc) ⟨line, true⟩ = ⟨line, true⟩ := by
  simp only [relocate, invalidLoc, Loc.isZero]
  rcases h with h | h
  · simp [h]
  · have : path.isEmpty = false := by cases path <;> simp_all
    simp [this]

/-- the writer's error as it appears at a site -/
def ioErr : Site → RawErr
  | none => .plain .io
  | some l => .located ⟨l.line, l.pathSet, .io, .byCause⟩

theorem wrapError_ioErr (path : Bytes) (s : Site) (loc : Loc) :
    RawErr.located (wrapError path (ioErr s) loc) = ioErr (some (relocate path s loc)) := by
  cases s with
  | none => rfl
  | some l =>
    simp only [ioErr, wrapError, relocate]
    split
    · rfl
    · have : (Cause.io == Cause.none) = false := by decide
      simp [this]

theorem ioErr_isIo (s : Site) : IsIo (ioErr s) := by cases s <;> simp [ioErr, IsIo]

namespace Prog
/-- what the program returns when no write fails -/
def pureRet {α} : Prog α → Option α
  | .ret a => some a
  | .call _ k => pureRet (k .ok)
  | _ => none

/-- the error the program ends with when no write fails -/
def pureFail {α} : Prog α → Option RawErr
  | .fail e => some e
  | .call _ k => pureFail (k .ok)
  | _ => none

theorem pureRet_bind {α β} (p : Prog α) (f : α → Prog β) :
    (p.bind f).pureRet = p.pureRet.bind (fun a => (f a).pureRet) := by
  induction p with
  | call b k ih => exact ih .ok
  | _ => rfl

theorem pureRet_bind_some {α β} {p : Prog α} {f : α → Prog β} {b : β} (h : (p.bind f).pureRet = some b) :
    ∃ a, p.pureRet = some a ∧ (f a).pureRet = some b := by
  rw [pureRet_bind] at h
  cases hp : p.pureRet with
  | none => rw [hp] at h; cases h
  | some a => rw [hp] at h; exact ⟨a, rfl, h⟩

theorem pureFail_bind {α β} (p : Prog α) (f : α → Prog β) :
    (p.bind f).pureFail = match p.pureRet with | some a => (f a).pureFail | none => p.pureFail := by
  induction p with
  | call b k ih => exact ih .ok
  | _ => rfl

theorem calls_bind {α β} (p : Prog α) (f : α → Prog β) :
    (p.bind f).calls = p.calls ++ (match p.pureRet with | some a => (f a).calls | none => []) := by
  induction p with
  | call b k ih => simp only [Prog.bind, calls, pureRet, ih .ok, List.cons_append]
  | _ => rfl

theorem pureRet_mapFail {α} (g : RawErr → RawErr) (p : Prog α) : (p.mapFail g).pureRet = p.pureRet := by
  induction p with
  | call b k ih => exact ih .ok
  | _ => rfl

theorem pureFail_mapFail {α} (g : RawErr → RawErr) (p : Prog α) : (p.mapFail g).pureFail = p.pureFail.map g := by
  induction p with
  | call b k ih => exact ih .ok
  | _ => rfl

theorem calls_mapFail {α} (g : RawErr → RawErr) (p : Prog α) : (p.mapFail g).calls = p.calls := by
  induction p with
  | call b k ih => simp only [Prog.mapFail, calls, ih .ok]
  | _ => rfl

theorem pureRet_eq_runPure {α} (p : Prog α) : p.pureRet = match p.runPure.2 with | .ok a => some a | _ => none := by
  induction p with
  | call b k ih => exact ih .ok
  | _ => rfl

theorem pureFail_eq_runPure {α} (p : Prog α) : p.pureFail = match p.runPure.2 with | .err e => some e | _ => none := by
  induction p with
  | call b k ih => exact ih .ok
  | _ => rfl

theorem pureRet_of_runPure {α} (p : Prog α) (out : Bytes) (a : α) (h : p.runPure = (out, .ok a)) :
    p.pureRet = some a := by
  rw [pureRet_eq_runPure, h]

theorem pureFail_of_runPure {α} (p : Prog α) (out : Bytes) (e : RawErr) (h : p.runPure = (out, .err e)) :
    p.pureFail = some e := by
  rw [pureFail_eq_runPure, h]

theorem _root_.AllRet.pureRet {α} {Q : α → Prop} {p : Prog α} (h : AllRet Q p) (a : α) (hr : p.pureRet = some a) : Q a := by
  induction h with
  | ret a' ha => simp only [Prog.pureRet, Option.some.injEq] at hr; exact hr ▸ ha
  | call b k _ ih => exact ih .ok hr
  | _ => simp [Prog.pureRet] at hr

theorem runPure_of_pureRet {α} (p : Prog α) (a : α) (h : p.pureRet = some a) : p.runPure = (p.calls.flatten, .ok a) := by
  induction p with
  | ret a' => simp only [pureRet, Option.some.injEq] at h; simp [runPure, calls, h]
  | fail e => simp [pureRet] at h
  | panic w => simp [pureRet] at h
  | unmodelled w => simp [pureRet] at h
  | call b k ih => simp only [runPure, ih .ok h, calls, List.flatten_cons]

theorem runPure_of_pureFail {α} (p : Prog α) (e : RawErr) (h : p.pureFail = some e) : p.runPure = (p.calls.flatten, .err e) := by
  induction p with
  | ret a' => simp [pureFail] at h
  | fail e' => simp only [pureFail, Option.some.injEq] at h; simp [runPure, calls, h]
  | panic w => simp [pureFail] at h
  | unmodelled w => simp [pureFail] at h
  | call b k ih => simp only [runPure, ih .ok h, calls, List.flatten_cons]

theorem pureRet_none_of_fails {α} {p : Prog α} (h : p.pureFail ≠ none) : p.pureRet = none := by
  induction p with
  | ret a => exact absurd rfl h
  | call b k ih => exact ih .ok h
  | _ => rfl

theorem pureFail_none_iff {α} (p : Prog α) : p.pureFail = none ↔ ∀ out e, p.runPure ≠ (out, .err e) := by
  constructor
  · intro h out e hr
    rw [Prog.pureFail_of_runPure p out e hr] at h
    cases h
  · intro h
    cases hpf : p.pureFail with
    | none => rfl
    | some e => exact absurd (Prog.runPure_of_pureFail p e hpf) (h _ e)
end Prog

theorem NoCalls.calls {α} {p : Prog α} (h : NoCalls p) : p.calls = [] := by
  cases p <;> first | rfl | exact absurd h (by simp [NoCalls])

/-- `IoAt p ls`: the fault-free run of `p` makes `ls.length` calls, and when the `k`-th of them fails —
    whatever part of it the writer accepted — `p` ends at once with the writer's error at site `ls[k]` -/
inductive IoAt {α : Type} : Prog α → List Site → Prop where
  | ret (a) : IoAt (.ret a) []
  | fail (e) : IoAt (.fail e) []
  | panic (w) : IoAt (.panic w) []
  | unmodelled (w) : IoAt (.unmodelled w) []
  | call (b k l ls) : (∀ n, k (.failed n) = .fail (ioErr l)) → IoAt (k .ok) ls → IoAt (.call b k) (l :: ls)

theorem IoAt.length {α} {p : Prog α} {ls : List Site} (h : IoAt p ls) : ls.length = p.calls.length := by
  induction h with
  | ret a => rfl
  | fail e => rfl
  | panic w => rfl
  | unmodelled w => rfl
  | call b k l ls _ _ ih => simp [Prog.calls, ih]

theorem IoAt.ofNoCalls {α} {p : Prog α} (h : NoCalls p) : IoAt p [] := by
  cases p with
  | ret a => exact .ret a
  | fail e => exact .fail e
  | panic w => exact .panic w
  | unmodelled w => exact .unmodelled w
  | call b k => exact absurd h (by simp [NoCalls])

theorem IoAt.bind {α β} {p : Prog α} {f : α → Prog β} {l1 : List Site} (l2 : α → List Site)
    (hp : IoAt p l1) (hf : ∀ a, p.pureRet = some a → IoAt (f a) (l2 a)) :
    IoAt (p.bind f) (l1 ++ (match p.pureRet with | some a => l2 a | none => [])) := by
  induction hp with
  | ret a => exact hf a rfl
  | fail e => exact .fail e
  | panic w => exact .panic w
  | unmodelled w => exact .unmodelled w
  | call b k l ls hk _ ih =>
    refine .call _ _ l _ (fun n => ?_) (ih hf)
    simp only [hk n, Prog.bind]

theorem IoAt.mapFail {α} {p : Prog α} {ls : List Site} (g : RawErr → RawErr) (h : Site → Site)
    (hg : ∀ l, g (ioErr l) = ioErr (h l)) (hp : IoAt p ls) : IoAt (p.mapFail g) (ls.map h) := by
  induction hp with
  | ret a => exact .ret a
  | fail e => exact .fail _
  | panic w => exact .panic w
  | unmodelled w => exact .unmodelled w
  | call b k l ls hk _ ih =>
    refine .call _ _ (h l) _ (fun n => ?_) ih
    simp only [hk n, Prog.mapFail, hg]

theorem IoAt.faulty {α} {p : Prog α} {ls : List Site} (hp : IoAt p ls) :
    ∀ (k acc : Nat) (l : Site), ls[k]? = some l → (runFaulty p (some k) acc).1 = .err (ioErr l) := by
  induction hp with
  | ret a => intro k acc l h; simp at h
  | fail e => intro k acc l h; simp at h
  | panic w => intro k acc l h; simp at h
  | unmodelled w => intro k acc l h; simp at h
  | call b kont l0 ls hk _ ih =>
    intro k acc l h
    cases k with
    | zero =>
      simp only [List.getElem?_cons_zero, Option.some.injEq] at h
      simp only [runFaulty, hk acc, h]
    | succ k =>
      simp only [List.getElem?_cons_succ] at h
      simp only [runFaulty, ih k acc l h]

theorem IoAt.stops {α} {p : Prog α} {ls : List Site} (hp : IoAt p ls) : Stops p := by
  induction hp with
  | ret a => exact .ret a
  | fail e => exact .fail e
  | panic w => exact .panic w
  | unmodelled w => exact .unmodelled w
  | call b k l ls hk _ ih => exact .call _ _ (fun n => ⟨_, hk n, ioErr_isIo l⟩) ih

structure Tr where
  /-- for every `Write` call of the fault-free run: where the error is located when that call fails -/
  calls : List Site := []
  /-- where the error (or the `break`/`continue`) is located that the fault-free run ends with -/
  fin : Option Site := none

/-- sequencing: `t2` continues after `t1` when the first part returned `a` -/
def Tr.bind {α} (t1 : Tr) (r : Option α) (t2 : α → Tr) : Tr :=
  match r with
  | some a => ⟨t1.calls ++ (t2 a).calls, (t2 a).fin⟩
  | none => t1

/-- a node that wraps what it runs (`wrapAt`): every site below it is relocated -/
def Tr.wrap (path : Bytes) (loc : Loc) (t : Tr) : Tr :=
  ⟨t.calls.map (fun l => some (relocate path l loc)), t.fin.map (fun l => some (relocate path l loc))⟩

/-- a node's own work: every write it issues, and its own failure, is located at the node -/
def ownTr {α} (loc : Loc) (p : Prog α) : Tr :=
  ⟨List.replicate p.calls.length (some loc), p.pureFail.map (fun _ => some loc)⟩

/-- work that is not wrapped by itself (the cell tags of a tablerow): the writer's error is still plain -/
def pieceTr {α} (p : Prog α) : Tr :=
  ⟨List.replicate p.calls.length none, p.pureFail.map RawErr.site⟩

/-- `Sp p t`: the trace `t` is right about `p` -/
structure Sp {α : Type} (p : Prog α) (t : Tr) : Prop where
  io : IoAt p t.calls
  fin : ∀ e, p.pureFail = some e → t.fin = some e.site

/-- the same for a program that returns a status: a sentinel it hands upwards is located at `t.fin` too -/
structure SpS (p : Prog (Status × RS)) (t : Tr) : Prop extends Sp p t where
  sent : ∀ st s, p.pureRet = some (st, s) → st ≠ .done → t.fin = some st.site

theorem Sp.bind {α β} {p : Prog α} {f : α → Prog β} {t1 : Tr} {t2 : α → Tr}
    (hp : Sp p t1) (hf : ∀ a, p.pureRet = some a → Sp (f a) (t2 a)) : Sp (p.bind f) (t1.bind p.pureRet t2) := by
  have hio := IoAt.bind (fun a => (t2 a).calls) hp.io (fun a ha => (hf a ha).io)
  cases h : p.pureRet with
  | some a =>
    rw [h] at hio
    refine ⟨hio, fun e he => ?_⟩
    rw [Prog.pureFail_bind, h] at he
    exact (hf a h).fin e he
  | none =>
    rw [h] at hio
    refine ⟨by simpa [Tr.bind] using hio, fun e he => ?_⟩
    rw [Prog.pureFail_bind, h] at he
    exact hp.fin e he

theorem SpS.bind {α} {p : Prog α} {f : α → Prog (Status × RS)} {t1 : Tr} {t2 : α → Tr}
    (hp : Sp p t1) (hf : ∀ a, p.pureRet = some a → SpS (f a) (t2 a)) : SpS (p.bind f) (t1.bind p.pureRet t2) := by
  refine ⟨Sp.bind hp (fun a ha => (hf a ha).toSp), fun st s hr hne => ?_⟩
  rw [Prog.pureRet_bind] at hr
  cases h : p.pureRet with
  | none => rw [h] at hr; simp at hr
  | some a =>
    rw [h] at hr
    exact (hf a h).sent st s hr hne

theorem Sp.bind_ret {α β} {p : Prog α} {f : α → Prog β} {t : Tr} (h : Sp p t) (hf : ∀ a, ∃ b, f a = .ret b) :
    Sp (p.bind f) t := by
  refine ⟨?_, fun e he => ?_⟩
  · have := IoAt.bind (f := f) (fun _ => []) h.io (fun a _ => by obtain ⟨b, hb⟩ := hf a; rw [hb]; exact .ret _)
    cases hr : p.pureRet <;> rw [hr] at this <;> simpa using this
  · rw [Prog.pureFail_bind] at he
    cases hr : p.pureRet with
    | none => rw [hr] at he; exact h.fin e he
    | some a => rw [hr] at he; obtain ⟨b, hb⟩ := hf a; simp [hb, Prog.pureFail] at he

theorem SpS.bind_same {p : Prog (Status × RS)} {f : Status × RS → Prog (Status × RS)} {t : Tr}
    (h : SpS p t) (hf : ∀ x, ∃ s', f x = .ret (x.1, s')) : SpS (p.bind f) t := by
  refine ⟨Sp.bind_ret h.toSp (fun x => (hf x).elim fun s' h => ⟨_, h⟩), fun st s hr hne => ?_⟩
  obtain ⟨⟨a1, a2⟩, hp, ha⟩ := Prog.pureRet_bind_some hr
  obtain ⟨s', hs⟩ := hf (a1, a2)
  simp only [hs, Prog.pureRet, Option.some.injEq, Prod.mk.injEq] at ha
  exact ha.1 ▸ h.sent a1 a2 hp (ha.1 ▸ hne)

theorem SpS.bind_done {α} {p : Prog α} {f : α → Prog (Status × RS)} {t : Tr}
    (h : Sp p t) (hf : ∀ x, ∃ s', f x = .ret (.done, s')) : SpS (p.bind f) t := by
  refine ⟨Sp.bind_ret h (fun x => (hf x).elim fun s' h => ⟨_, h⟩), fun st s hr hne => ?_⟩
  obtain ⟨a, _, ha⟩ := Prog.pureRet_bind_some hr
  obtain ⟨s', hs⟩ := hf a
  simp only [hs, Prog.pureRet, Option.some.injEq, Prod.mk.injEq] at ha
  exact absurd ha.1.symm hne

theorem Sp.ret {α} (a : α) (t : Option Site) : Sp (.ret a) ⟨[], t⟩ := ⟨.ret a, fun e he => by simp [Prog.pureFail] at he⟩

theorem SpS.retDone (s : RS) (t : Option Site) : SpS (.ret (.done, s)) ⟨[], t⟩ :=
  ⟨Sp.ret _ t, fun st s' hr hne => by simp only [Prog.pureRet, Option.some.injEq, Prod.mk.injEq] at hr; exact absurd hr.1.symm hne⟩

theorem SpS.retStatus (st : Status) (s : RS) : SpS (.ret (st, s)) ⟨[], some st.site⟩ :=
  ⟨Sp.ret _ _, fun st' s' hr _ => by simp only [Prog.pureRet, Option.some.injEq, Prod.mk.injEq] at hr; rw [hr.1]⟩

theorem Sp.wrapFail {α} {p : Prog α} {t : Tr} (path : Bytes) (loc : Loc) (h : Sp p t) :
    Sp (p.mapFail (fun e => .located (wrapError path e loc))) (t.wrap path loc) := by
  refine ⟨IoAt.mapFail _ _ (fun l => wrapError_ioErr path l loc) h.io, fun e he => ?_⟩
  rw [Prog.pureFail_mapFail] at he
  cases hp : p.pureFail with
  | none => rw [hp] at he; simp at he
  | some e0 =>
    rw [hp] at he
    simp only [Option.map_some, Option.some.injEq] at he
    subst he
    simp only [Tr.wrap, h.fin e0 hp, Option.map_some, wrapError_site]

theorem Status.wrap_site (path : Bytes) (loc : Loc) (st : Status) (h : st ≠ .done) :
    (st.wrap path loc).site = some (relocate path st.site loc) := by
  cases st with
  | done => exact absurd rfl h
  | brk e => exact wrapError_site path (.located e) loc
  | cont e => exact wrapError_site path (.located e) loc

theorem SpS.wrapped {m : M Status} {s : RS} {t : Tr} (path : Bytes) (loc : Loc) (h : SpS (m s) t) :
    SpS (wrapAt path loc m s) (t.wrap path loc) := by
  unfold wrapAt
  refine ⟨Sp.bind_ret (Sp.wrapFail path loc h.toSp) (fun x => ⟨_, rfl⟩), fun st s' hr hne => ?_⟩
  obtain ⟨⟨a, s1⟩, hp, ha⟩ := Prog.pureRet_bind_some hr
  rw [Prog.pureRet_mapFail] at hp
  cases ha
  have hst : a ≠ .done := fun hd => hne (by rw [hd]; rfl)
  simp only [Tr.wrap, h.sent a s' hp hst, Option.map_some, Status.wrap_site path loc a hst]

/-- `Own loc p`: a failed write ends `p` with the plain writer error, and an error of `p`'s own is plain or
    located at `loc` already — so that after the node's wrapping everything is located at `loc` -/
inductive Own (loc : Loc) {α : Type} : Prog α → Prop where
  | ret (a) : Own loc (.ret a)
  | fail (e) : (e.site = none ∨ e.site = some loc) → Own loc (.fail e)
  | panic (w) : Own loc (.panic w)
  | unmodelled (w) : Own loc (.unmodelled w)
  | call (b k) : (∀ n, k (.failed n) = .fail (.plain .io)) → Own loc (k .ok) → Own loc (.call b k)

theorem Own.bind {loc : Loc} {α β} {p : Prog α} {f : α → Prog β} (hp : Own loc p) (hf : ∀ a, Own loc (f a)) :
    Own loc (p.bind f) := by
  induction hp with
  | ret a => exact hf a
  | fail e he => exact .fail e he
  | panic w => exact .panic w
  | unmodelled w => exact .unmodelled w
  | call b k hk _ ih => exact .call _ _ (fun n => by simp only [hk n, Prog.bind]) ih

theorem Own.ofNoCalls_ret {loc : Loc} {α} (a : α) : Own loc (Prog.ret a) := .ret a

theorem Own.sp_piece {loc : Loc} {α} {p : Prog α} (h : Own loc p) : Sp p (pieceTr p) := by
  refine ⟨?_, fun e he => by simp [pieceTr, he]⟩
  simp only [pieceTr]
  induction h with
  | ret a => exact .ret a
  | fail e _ => exact .fail _
  | panic w => exact .panic w
  | unmodelled w => exact .unmodelled w
  | call b k hk _ ih =>
    simp only [Prog.calls, List.length_cons, List.replicate_succ]
    exact .call _ _ _ _ (fun n => by simp only [hk n]; rfl) ih

theorem Own.piece_wrap {loc : Loc} {α} {p : Prog α} (path : Bytes) (h : Own loc p) :
    (pieceTr p).wrap path loc = ownTr loc p := by
  have hs : ∀ e, p.pureFail = some e → e.site = none ∨ e.site = some loc := by
    induction h with
    | ret a => intro e he; simp [Prog.pureFail] at he
    | fail e he' => intro e' he; simp only [Prog.pureFail, Option.some.injEq] at he; exact he ▸ he'
    | panic w => intro e he; simp [Prog.pureFail] at he
    | unmodelled w => intro e he; simp [Prog.pureFail] at he
    | call b k _ _ ih => exact ih
  have h1 : relocate path none loc = loc := rfl
  simp only [pieceTr, Tr.wrap, ownTr, List.map_replicate, h1, Tr.mk.injEq, true_and]
  cases hp : p.pureFail with
  | none => rfl
  | some e =>
    simp only [Option.map_some, Option.some.injEq]
    rcases hs e hp with h0 | h0 <;> rw [h0]
    · rfl
    · exact relocate_self path loc

theorem Own.sp_wrap {loc : Loc} {α} {p : Prog α} (path : Bytes) (h : Own loc p) :
    Sp (p.mapFail (fun e => .located (wrapError path e loc))) (ownTr loc p) :=
  Own.piece_wrap path h ▸ Sp.wrapFail path loc h.sp_piece

def OwnM (loc : Loc) {α} (m : M α) : Prop := ∀ s, Own loc (m s)

/-- `OwnM loc` is kept by what only evaluates, for failures that are plain or located at `loc` -/
theorem ownM_core (loc : Loc) : EvalCore (fun e => e.site = none ∨ e.site = some loc) (OwnM loc) (fun _ => True) where
  pure _ := .ret _
  bind hm hf s := Own.bind (hm s) fun x => hf x.1 x.2
  fail h _ := .fail _ h
  plain _ := .inl rfl
  getEnv _ := .ret _
  getVar _ := .ret _
  panic _ _ := .panic _
  unmodelled _ := .unmodelled _

theorem ownM_setVar {loc : Loc} (x : Bytes) (v : GoVal) : OwnM loc (M.setVar x v) := fun _ => .ret _

theorem ownM_op {loc : Loc} (o : WOp) : OwnM loc (opM o) := by
  intro s
  unfold opM
  split
  · exact .ret _
  · exact .call _ _ (fun n => rfl) (.ret _)

theorem ownM_writer (loc : Loc) : WriterClosed (OwnM loc) where
  pure := (ownM_core loc).pure
  bind := (ownM_core loc).bind
  op := ownM_op

theorem ownM_trimRight {loc : Loc} : OwnM loc trimRightM := fun _ => .ret _
