import Proofs.C07Lines
/-!
# Render errors against a writer that does not fail: the lines of the nodes that can fail

The whole-template form of C07 (`render_error_line_in_tree`) follows every behaviour of the writer, so an error may also be a
write failure reported by a text, a raw block or a trim marker (line of a text, or 0). `Render` into a buffer
(`run`) never sees a write failure: along the success path of the writer (`PostOk`) every error carries the
line of a node that is NOT a text, raw block or trim marker — of a tag or an object (`Node.elines`) — and the
template's path, or it comes out of an include node (`Node.ilines`). The statements are proved in
Proofs/TraceFin.lean, from the trace of the tree.
-/

/-- a post-condition along the path on which every write succeeds -/
inductive PostOk {α : Type} (Q : RawErr → Prop) (R : α → Prop) : Prog α → Prop where
  | ret (a) : R a → PostOk Q R (.ret a)
  | fail (e) : Q e → PostOk Q R (.fail e)
  | panic (w) : PostOk Q R (.panic w)
  | unmodelled (w) : PostOk Q R (.unmodelled w)
  | call (b k) : PostOk Q R (k .ok) → PostOk Q R (.call b k)

/-- located at one of the lines `L`, with the template's path -/
def ELoc (L : List Nat) (e : SErr) : Prop := e.line ∈ L ∧ e.pathSet = true

def EOuter (L : List Nat) : RawErr → Prop
  | .plain _ => False
  | .located e => ELoc L e

def EStatus (L : List Nat) : Status → Prop
  | .done => True
  | .brk e => ELoc L e
  | .cont e => ELoc L e

def PostMOk {α} (Q : RawErr → Prop) (R : α → Prop) (m : M α) : Prop := ∀ s, PostOk Q (fun r => R r.1) (m s)

mutual
def Node.elines : Node → List Nat
  | .text _ _ => []
  | .obj line _ => [line]
  | .raw _ => []
  | .trim _ => []
  | .assign line _ _ => [line]
  | .capture line _ body => line :: elinesList body
  | .ifB line bs => line :: elinesBranches bs
  | .caseB line _ cs => line :: elinesCases cs
  | .loop line _ _ _ _ body clauses => line :: (elinesList body ++ elinesClauses clauses)
  | .cycle line _ _ _ => [line]
  | .brk line => [line]
  | .cont line => [line]
  | .incl line _ => [line]
def elinesList : List Node → List Nat
  | [] => []
  | n :: ns => n.elines ++ elinesList ns
def elinesBranches : List (CondT × List Node) → List Nat
  | [] => []
  | (t, body) :: rest => t.lines ++ elinesList body ++ elinesBranches rest
def elinesCases : List (Option (Nat × List Expr) × List Node) → List Nat
  | [] => []
  | (none, body) :: rest => elinesList body ++ elinesCases rest
  | (some (line, _), body) :: rest => line :: (elinesList body ++ elinesCases rest)
def elinesClauses : List (List Node) → List Nat
  | [] => []
  | c :: cs => elinesList c ++ elinesClauses cs
end

mutual
def Node.ilines : Node → List (Nat × Bytes)
  | .incl line args => [(line, args)]
  | .capture _ _ body => ilinesList body
  | .ifB _ bs => ilinesBranches bs
  | .caseB _ _ cs => ilinesCases cs
  | .loop _ _ _ _ _ body clauses => ilinesList body ++ ilinesClauses clauses
  | _ => []
def ilinesList : List Node → List (Nat × Bytes)
  | [] => []
  | n :: ns => n.ilines ++ ilinesList ns
def ilinesBranches : List (CondT × List Node) → List (Nat × Bytes)
  | [] => []
  | (_, body) :: rest => ilinesList body ++ ilinesBranches rest
def ilinesCases : List (Option (Nat × List Expr) × List Node) → List (Nat × Bytes)
  | [] => []
  | (_, body) :: rest => ilinesList body ++ ilinesCases rest
def ilinesClauses : List (List Node) → List (Nat × Bytes)
  | [] => []
  | c :: cs => ilinesList c ++ ilinesClauses cs
end
