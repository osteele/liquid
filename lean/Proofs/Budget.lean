import Proofs.Oracles
import Liquid.Std
/-!
# The budgets of the executable model are not part of the semantics (helper lemmas for C11, C15, C12, C01)

Two numbers of the model have no counterpart in the Go code: `Cfg.budget` (the largest `b - a` for which `loopItems`
materialises the items of a loop over `(a..b)`) and the `budget` argument of `convert` (the same for the array
conversion of a range). They only keep the DRIVER from building a huge list. This file proves that they are
parameters of the execution and not of the meaning:

* an answer is `unmodelled` or it is the answer under every larger budget (`RLe`, `PLe`: the order "answers wherever
  the other answers, and the same");
* this holds for `loopItems` and `convert` (`loopItems_le`, `convert_le`), for a filter application
  (`applyFilter_le`), for evaluation (`evalList_le`), for every node of a template (`renderNode_le`, with the include
  handler), and for a whole render (`run_le`): both budgets at once.

`PLe` is `PSim .left Eq Eq` (`PLe.sim`, `PSim.toPLe`), and the statements about the node tree are the instance of the lock-step
congruence (Proofs/RenderSim.lean) for equal variables, the contexts `c` and `c.raise …`, and `unmodelled` tolerated on the left only.
-/

/-- `r'` answers wherever `r` answers, and the same (`r` is `unmodelled`, or the two are equal) -/
def RLe {ε α : Type} (r r' : Res ε α) : Prop :=
  match r with
  | .unmodelled _ => True
  | _ => r = r'

theorem RLe.refl {ε α : Type} {r : Res ε α} : RLe r r := by cases r <;> simp [RLe]

theorem RLe.unm {ε α : Type} {w : String} {r' : Res ε α} : RLe (.unmodelled w) r' := trivial

theorem RLe.elim {ε α : Type} {r r' : Res ε α} (h : RLe r r') : (∃ w, r = .unmodelled w) ∨ r = r' := by
  cases r with
  | unmodelled w => exact .inl ⟨w, rfl⟩
  | _ => exact .inr h

theorem RLe.eq {ε α : Type} {r r' : Res ε α} (h : RLe r r') (hn : ∀ w, r ≠ .unmodelled w) : r' = r :=
  h.elim.elim (fun ⟨w, e⟩ => absurd e (hn w)) Eq.symm

theorem RLe.bind {ε α β : Type} {r r' : Res ε α} {f g : α → Res ε β} (h : RLe r r') (hf : ∀ a, RLe (f a) (g a)) :
    RLe (r.bind f) (r'.bind g) := by
  rcases h.elim with ⟨w, rfl⟩ | rfl
  · exact RLe.unm
  · cases r with
    | ok a => exact hf a
    | _ => exact RLe.refl

theorem RLe.sim {α : Type} {R : α → α → Prop} (hR : ∀ a, R a a) {r r' : Res Cause α} (h : RLe r r') : RSim .left R r r' := by
  rcases h.elim with ⟨w, rfl⟩ | rfl
  · exact .unmL rfl _ _
  · exact .of_eq hR rfl

theorem RSim.toRLe {α : Type} {r r' : Res Cause α} (h : RSim .left Eq r r') : RLe r r' := by
  cases r with
  | unmodelled => trivial
  | _ => cases r' <;> cases h <;> first | exact RLe.refl | (rename_i h; cases h <;> exact RLe.refl)

/-- the same order on interaction trees: `q` does what `p` does, up to the point (if any) where `p` stops with
    `unmodelled` — for every answer of the writer -/
inductive PLe {α : Type} : Prog α → Prog α → Prop where
  | unm (w : String) (q : Prog α) : PLe (.unmodelled w) q
  | ret (a : α) : PLe (.ret a) (.ret a)
  | fail (e : RawErr) : PLe (.fail e) (.fail e)
  | panic (w : String) : PLe (.panic w) (.panic w)
  | call (b : Bytes) (k k' : WriteRes → Prog α) : (∀ r, PLe (k r) (k' r)) → PLe (.call b k) (.call b k')

theorem PLe.refl {α : Type} : ∀ p : Prog α, PLe p p
  | .ret a => .ret a
  | .fail e => .fail e
  | .panic w => .panic w
  | .unmodelled w => .unm w _
  | .call b k => .call b k k (fun r => PLe.refl (k r))

theorem PLe.sim {α : Type} {p q : Prog α} (h : PLe p q) : PSim .left Eq Eq p q := by
  induction h with
  | unm w q => exact .unmL rfl w q
  | ret a => exact .ret rfl
  | fail e => exact .fail rfl
  | panic w => exact .panic w
  | call b k k' _ ih => exact .call b ih

theorem PSim.toPLe {α : Type} {p q : Prog α} (h : PSim .left Eq Eq p q) : PLe p q := by
  induction h with
  | ret hr => subst hr; exact .ret _
  | fail he => subst he; exact .fail _
  | panic w => exact .panic w
  | unmodelled w => exact .unm w _
  | call b _ ih => exact .call b _ _ ih
  | unmL ht w p' => exact .unm w _
  | unmR ht p w => cases ht
  | failL he => exact he.elim

theorem PLe.runPure {α : Type} {p q : Prog α} (h : PLe p q) :
    (∃ out w, p.runPure = (out, .unmodelled w)) ∨ q.runPure = p.runPure :=
  h.sim.runPure_elim (C := fun x y => (∃ out w, x = (out, .unmodelled w)) ∨ y = x)
    (fun _ _ _ h => .inr (h ▸ rfl)) (fun _ _ _ h => .inr (h ▸ rfl)) (fun _ _ => .inr rfl)
    (fun _ _ => .inr rfl) (fun _ out w _ => .inl ⟨out, w, rfl⟩) (fun ht => nomatch ht) (fun _ _ _ he => he.elim)

def MLe {α : Type} (m m' : M α) : Prop := ∀ s, PLe (m s) (m' s)

theorem MSim.toMLe {α : Type} {m m' : M α} (h : MSim .left Eq Eq Eq m m') : MLe m m' := fun s =>
  ((h s s ⟨rfl, rfl⟩).mono (S := Eq) (fun _ _ hr => Prod.ext hr.1 hr.2.eq)).toPLe

theorem loopItems_le {n m : Int} (h : n ≤ m) (v : GoVal) : RLe (loopItems n v) (loopItems m v) := by
  cases v <;> try exact RLe.refl
  next a b =>
    simp only [loopItems]
    by_cases h1 : b - a > n
    · rw [if_pos h1]; exact RLe.unm
    · rw [if_neg h1, if_neg (by omega)]; exact RLe.refl

theorem convert_budget_indep (v : GoVal) (t : ParamTy) (ht : t ≠ .anys) (n m : Int) : convert v t n = convert v t m := by
  cases t <;> first | rfl | exact absurd rfl ht

/-- **the array of a range**: under a larger budget the same array (or the same `TypeError` of `maxRangeArrayLen`),
    wherever the smaller one gave an answer -/
theorem convert_le {n m : Int} (h : n ≤ m) (v : GoVal) (t : ParamTy) : RLe (convert v t n) (convert v t m) := by
  by_cases ht : t = .anys
  · subst ht
    unfold convert
    simp only
    cases v.toLiquid <;> try exact RLe.refl
    next a b =>
      simp only
      by_cases h0 : b - a + 1 > 10000000
      · rw [if_pos h0, if_pos h0]; exact RLe.refl
      · rw [if_neg h0, if_neg h0]
        by_cases h1 : b - a > n
        · rw [if_pos h1]; exact RLe.unm
        · rw [if_neg h1, if_neg (by omega)]; exact RLe.refl
  · rw [convert_budget_indep v t ht n m]; exact RLe.refl

/-- no default-function parameter has the type `[]any` (the lazy conversion of such a parameter is handed to the
    filter body unevaluated, so it must not depend on the budget) -/
def fnParamsOK (ps : List Param) : Bool := ps.all fun p => p != .fn .anys

theorem stdFilters_fnParamsOK : stdFilters.all (fun sg => fnParamsOK sg.params) = true := by decide

theorem lookupSig_fnParamsOK {name : Bytes} {sg : FilterSig} (h : lookupSig name = some sg) : fnParamsOK sg.params = true := by
  have hm : sg ∈ stdFilters := List.mem_of_find?_eq_some h
  exact (List.all_eq_true.mp stdFilters_fnParamsOK) sg hm

theorem fnParamsOK_tail {p : Param} {ps : List Param} (h : fnParamsOK (p :: ps) = true) : fnParamsOK ps = true :=
  (Bool.and_eq_true_iff.mp h).2

theorem convertArgs_le {n m : Int} (h : n ≤ m) : ∀ (ps : List Param) (as : List GoVal), fnParamsOK ps = true →
    RLe (convertArgs ps as n) (convertArgs ps as m)
  | [], _, _ => RLe.refl
  | .fn _ :: ps, [], hp | .val _ :: ps, [], hp => RLe.bind (convertArgs_le h ps [] (fnParamsOK_tail hp)) (fun _ => RLe.refl)
  | .fn t :: ps, a :: as, hp => by
    have ht : t ≠ .anys := by
      intro e; subst e
      simp [fnParamsOK] at hp
    unfold convertArgs
    rw [convert_budget_indep a t ht n m]
    exact RLe.bind (convertArgs_le h ps as (fnParamsOK_tail hp)) (fun _ => RLe.refl)
  | .val t :: ps, a :: as, hp => by
    unfold convertArgs
    split
    · exact RLe.bind (convertArgs_le h ps as (fnParamsOK_tail hp)) (fun _ => RLe.refl)
    · exact RLe.bind (convert_le h a t) (fun _ => RLe.bind (convertArgs_le h ps as (fnParamsOK_tail hp)) (fun _ => RLe.refl))

theorem applyFilter_le (impls : Bytes → Option FilterImpl) (name : Bytes) (recv : GoVal) (args : List GoVal) {n m : Int}
    (h : n ≤ m) : RLe (applyFilter impls name recv args n) (applyFilter impls name recv args m) := by
  unfold applyFilter
  cases hs : lookupSig name with
  | none => exact RLe.refl
  | some sg =>
    simp only
    by_cases hl : (recv :: args).length > sg.params.length
    · rw [if_pos hl, if_pos hl]; exact RLe.refl
    · rw [if_neg hl, if_neg hl]
      exact RLe.bind (convertArgs_le h _ _ (lookupSig_fnParamsOK hs)) (fun _ => RLe.refl)

theorem evalFilter_le (impls : Bytes → Option FilterImpl) (name : Bytes) (recv : GoVal) (args : List GoVal) {n m : Int}
    (h : n ≤ m) : RLe (evalFilter impls name recv args n) (evalFilter impls name recv args m) := by
  unfold evalFilter
  exact RLe.bind (applyFilter_le impls name _ _ h) (fun _ => RLe.refl)

/-- two value layers that differ only in that the second answers more filter applications -/
structure PrimsLe (P P' : Prims) : Prop where
  equal : P'.equal = P.equal
  less : P'.less = P.less
  contains : P'.contains = P.contains
  equalFn : P'.equalFn = P.equalFn
  hasFilter : P'.hasFilter = P.hasFilter
  applyFilter : ∀ n r as, RLe (P.applyFilter n r as) (P'.applyFilter n r as)

theorem PrimsLe.refl (P : Prims) : PrimsLe P P := ⟨rfl, rfl, rfl, rfl, rfl, fun _ _ _ => RLe.refl⟩

theorem stdPrimsB_le {n m : Int} (h : n ≤ m) : PrimsLe (stdPrimsB n) (stdPrimsB m) :=
  ⟨rfl, rfl, rfl, rfl, rfl, fun name r as => applyFilter_le _ name r as h⟩

theorem PrimsLe.below {P P' : Prims} (h : PrimsLe P P') : PrimsBelow .left P P' where
  equal _ _ _ _ ha hb := .of_eq (fun _ => rfl) (by rw [h.equal, ha, hb])
  less _ _ _ _ ha hb := .of_eq (fun _ => rfl) (by rw [h.less, ha, hb])
  contains _ _ _ _ ha hb := .of_eq (fun _ => rfl) (by rw [h.contains, ha, hb])
  equalFn _ _ _ _ ha hb := .of_eq (fun _ => rfl) (by rw [h.equalFn, ha, hb])
  hasFilter n := .inl (congrFun h.hasFilter n)
  applyFilter n r _ as _ hr has := hr ▸ all2_eq has ▸ (h.applyFilter n r as).sim fun _ => rfl

theorem evalList_le {P P' : Prims} (h : PrimsLe P P') (env : Env) :
    ∀ es : List Expr, RLe (evalList P env es) (evalList P' env es) :=
  fun es => (evalList_below h.below env es).toRLe

/-- the same context with a larger budget, a value layer that answers more, and an include handler that does -/
abbrev RCtx.raise (c : RCtx) (P' : Prims) (m : Int) (inc' : Nat → Bytes → Env → Prog (Status × Bytes)) : RCtx :=
  { c with P := P', cfg := { c.cfg with budget := m }, inc := inc' }

theorem ctxSim_raise {c : RCtx} {P' : Prims} {m : Int} (hP : PrimsLe c.P P') (hm : c.cfg.budget ≤ m)
    (inc' : Nat → Bytes → Env → Prog (Status × Bytes)) : CtxSim .left Eq Eq Eq c (c.raise P' m inc') :=
  ctxSim_below hP.below (fun _ => .refl) rfl rfl fun v => (loopItems_le hm v).sim (All2.refl fun _ => rfl)

theorem incSim_of_le {inc inc' : Nat → Bytes → Env → Prog (Status × Bytes)} (h : ∀ line f env, PLe (inc line f env) (inc' line f env)) :
    IncSim .left Eq inc inc' := fun line f _ _ he => he ▸ (h line f _).sim

section
variable (c : RCtx) (P' : Prims) (m : Int) (inc' : Nat → Bytes → Env → Prog (Status × Bytes))
  (hP : PrimsLe c.P P') (hm : c.cfg.budget ≤ m) (hinc : ∀ line f env, PLe (c.inc line f env) (inc' line f env))
include hP hm hinc
set_option linter.unusedSectionVars false

theorem whenMatches_le (sel : GoVal) : ∀ es : List Expr, MLe (whenMatches c sel es) (whenMatches (c.raise P' m inc') sel es) :=
  fun es => (valSim_eq.whenMatches wrapSim_eq (ctxSim_raise hP hm inc') rfl es).toMLe

theorem renderNode_le : ∀ nd : Node, MLe (renderNode c nd) (renderNode (c.raise P' m inc') nd) :=
  fun nd => (valSim_eq.renderNode (ctxSim_raise hP hm inc') (incSim_of_le hinc) nd).toMLe
theorem renderList_le : ∀ ns : List Node, MLe (renderList c ns) (renderList (c.raise P' m inc') ns) :=
  fun ns => (valSim_eq.renderList (ctxSim_raise hP hm inc') (incSim_of_le hinc) ns).toMLe
theorem renderBranches_le : ∀ bs : List (CondT × List Node), MLe (renderBranches c bs) (renderBranches (c.raise P' m inc') bs) :=
  fun bs => (valSim_eq.renderBranches (ctxSim_raise hP hm inc') (incSim_of_le hinc) bs).toMLe
theorem renderCases_le (sel : GoVal) : ∀ cs : List (Option (Nat × List Expr) × List Node),
    MLe (renderCases c sel cs) (renderCases (c.raise P' m inc') sel cs) :=
  fun cs => (valSim_eq.renderCases (ctxSim_raise hP hm inc') (incSim_of_le hinc) rfl cs).toMLe

theorem renderBlockBody_le (body : List Node) : MLe (renderBlockBody c body) (renderBlockBody (c.raise P' m inc') body) :=
  (valSim_eq.renderBlockBody (ctxSim_raise hP hm inc') (incSim_of_le hinc) body).toMLe
end

theorem incFuel_le {P P' : Prims} (hP : PrimsLe P P') (O : OutPrims) (cfg : Cfg) {m : Int} (hm : cfg.budget ≤ m) (fs : FS)
    (fuel line : Nat) (f : Bytes) (env : Env) :
    PLe (incFuel P O cfg fs fuel line f env) (incFuel P' O { cfg with budget := m } fs fuel line f env) :=
  (valSim_eq.incFuel (cfg := cfg) (cfg' := { cfg with budget := m }) fs rfl
    (fun inner inner' => ctxSim_raise (c := { P := P, O := O, cfg := cfg, inc := inner }) hP hm inner') fuel line f rfl).toPLe

theorem frender_le {P P' : Prims} (hP : PrimsLe P P') (O : OutPrims) (cfg : Cfg) {m : Int} (hm : cfg.budget ≤ m) (fs : FS)
    (fuel : Nat) (root : List Node) (env : Env) :
    PLe (frender P O cfg fs fuel root env) (frender P' O { cfg with budget := m } fs fuel root env) :=
  (valSim_eq.frender (cfg := cfg) (cfg' := { cfg with budget := m }) fs rfl
    (fun inner inner' => ctxSim_raise (c := { P := P, O := O, cfg := cfg, inc := inner }) hP hm inner') fuel root rfl).toPLe

/-- **a whole render**: raise the loop budget and let the value layer answer more filter applications — the render
    gives the same output or the same error, unless it gave no answer (`unmodelled`) before -/
theorem run_le {P P' : Prims} (hP : PrimsLe P P') (O : OutPrims) (cfg : Cfg) {m : Int} (hm : cfg.budget ≤ m) (fs : FS)
    (fuel : Nat) (src : Bytes) (line : Nat) (env : Env) :
    (∃ w, run P O cfg fs fuel src line env = .unmodelled w) ∨
      run P' O { cfg with budget := m } fs fuel src line env = run P O cfg fs fuel src line env := by
  unfold run
  simp only
  split
  · exact .inr rfl
  · exact .inr rfl
  · next w _ => exact .inl ⟨w, rfl⟩
  · next root _ =>
    rcases (frender_le hP O cfg hm fs fuel root env).runPure with ⟨out, w, e⟩ | e
    · left; exact ⟨w, by rw [e]⟩
    · right; rw [e]
