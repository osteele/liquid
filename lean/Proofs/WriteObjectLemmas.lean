import Proofs.ToLiquidLemmas
import Liquid.Std
/-!
# `writeObject` and the standard chunks see a value through its chain of drops

`writeObjectL` / `writeChunksL` are the printing functions after `ToLiquid`; they skip drops themselves, so applying
`ToLiquid` first changes nothing (`writeObject_eq_writeObjectL`, `stdChunks_eq_writeChunksL`).
-/

open GoVal

@[simp] theorem writeObjectL_drop (v : GoVal) : writeObjectL (.drop v) = writeObjectL v := by simp only [writeObjectL]
@[simp] theorem writeObjectL_ptr_drop (v : GoVal) : writeObjectL (.ptr (.drop v)) = writeObjectL v := by simp only [writeObjectL]
@[simp] theorem writeChunksL_drop (v : GoVal) : writeChunksL (.drop v) = writeChunksL v := by simp only [writeChunksL]
@[simp] theorem writeChunksL_ptr_drop (v : GoVal) : writeChunksL (.ptr (.drop v)) = writeChunksL v := by simp only [writeChunksL]

theorem writeObjectL_toLiquid : ∀ v : GoVal, writeObjectL v.toLiquid = writeObjectL v :=
  toLiquid_congr writeObjectL_drop writeObjectL_ptr_drop

theorem writeChunksL_toLiquid : ∀ v : GoVal, writeChunksL v.toLiquid = writeChunksL v :=
  toLiquid_congr writeChunksL_drop writeChunksL_ptr_drop

theorem writeObject_eq_writeObjectL (v : GoVal) : writeObject v = writeObjectL v := writeObjectL_toLiquid v
theorem stdChunks_eq_writeChunksL (v : GoVal) : stdChunks v = writeChunksL v := writeChunksL_toLiquid v

/-- the element step of `writeObjects` is `writeObjectL` (which follows a chain of drops itself) -/
theorem writeObjects_cons (x : GoVal) (xs : List GoVal) :
    writeObjects (x :: xs) = (writeObjectL x).bind fun a => (writeObjects xs).bind fun b => .ok (a ++ b) := by
  cases x with
  | ptr w => cases w <;> simp only [writeObjects, writeObjectL_ptr_drop]
  | _ => simp only [writeObjects, writeObjectL_drop]

theorem writeChunksList_cons (x : GoVal) (xs : List GoVal) :
    writeChunksList (x :: xs) = (writeChunksL x).bind fun a => (writeChunksList xs).bind fun b => .ok (a ++ b) := by
  cases x with
  | ptr w => cases w <;> simp only [writeChunksList, writeChunksL_ptr_drop]
  | _ => simp only [writeChunksList, writeChunksL_drop]
