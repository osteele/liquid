import Proofs.TokMap
import Proofs.ResLemmas
/-!
# Block parser and compiler do not look at the source text of tag and object tokens

`unsrc` erases the `source` field of tag and object tokens: a token map that moves no line (`tokMap_unsrc`;
`TokMap`: Proofs/TokMap.lean). Outside raw blocks (whose bodies are the token sources; `rawSafe`) the block parser commutes with
it, and the compiler ignores it altogether.
-/

def unsrc (t : Token) : Token :=
  match t.ty with
  | .tag => { t with source := [] }
  | .obj => { t with source := [] }
  | _ => t

@[simp] theorem unsrc_ty (t : Token) : (unsrc t).ty = t.ty := by unfold unsrc; split <;> simp_all
@[simp] theorem unsrc_name (t : Token) : (unsrc t).name = t.name := by unfold unsrc; split <;> rfl
@[simp] theorem unsrc_args (t : Token) : (unsrc t).args = t.args := by unfold unsrc; split <;> rfl
@[simp] theorem unsrc_line (t : Token) : (unsrc t).line = t.line := by unfold unsrc; split <;> rfl
theorem unsrc_of_text {t : Token} (h : t.ty = .text) : unsrc t = t := by unfold unsrc; simp [h]
theorem unsrc_source_text {t : Token} (h : t.ty = .text) : (unsrc t).source = t.source := by rw [unsrc_of_text h]

mutual
def AST.unsrc : AST → AST
  | .text t => .text t
  | .obj t => .obj (_root_.unsrc t)
  | .tag t => .tag (_root_.unsrc t)
  | .trim l => .trim l
  | .raw sl => .raw sl
  | .block t body cls => .block (_root_.unsrc t) (unsrcList body) (unsrcClauses cls)
def unsrcList : List AST → List AST
  | [] => []
  | n :: ns => n.unsrc :: unsrcList ns
def unsrcClauses : List (Token × List AST) → List (Token × List AST)
  | [] => []
  | (t, b) :: cs => (_root_.unsrc t, unsrcList b) :: unsrcClauses cs
end

def Res.mapOk {ε α β} (f : α → β) : Res ε α → Res ε β
  | .ok a => .ok (f a)
  | .err e => .err e
  | .panic w => .panic w
  | .unmodelled w => .unmodelled w

theorem Res.mapOk_bind {ε α α' β : Type} (x : Res ε α) (g : α → α') (f : α' → Res ε β) :
    (x.mapOk g).bind f = x.bind (fun a => f (g a)) := by cases x <;> rfl

theorem Res.bind_mapOk {ε α β β' : Type} (x : Res ε α) (f : α → Res ε β) (g : β → β') :
    (x.bind f).mapOk g = x.bind (fun a => (f a).mapOk g) := by cases x <;> rfl

theorem unsrc_of_not_tag_obj {t : Token} (h1 : t.ty ≠ .tag) (h2 : t.ty ≠ .obj) : unsrc t = t := by
  unfold unsrc
  split
  · next h => exact absurd h h1
  · next h => exact absurd h h2
  · rfl

theorem tokMap_unsrc : TokMap unsrc unsrc id where
  ty := unsrc_ty
  name := unsrc_name
  args := unsrc_args
  text _ h := unsrc_of_text h
  held _ _ := rfl
  shape t := ⟨(unsrc t).ty, (unsrc t).source, by unfold unsrc; split <;> rfl⟩

mutual
theorem AST.unsrc_eq_mapTok : ∀ a : AST, a.unsrc = a.mapTok unsrc id
  | .text _ | .obj _ | .tag _ | .trim _ | .raw _ => rfl
  | .block t b c => by rw [AST.unsrc, AST.mapTok, unsrcList_eq_mapList b, unsrcClauses_eq_mapClauses c]
theorem unsrcList_eq_mapList : ∀ l : List AST, unsrcList l = mapList unsrc id l
  | [] => rfl
  | a :: l => by rw [unsrcList, mapList, AST.unsrc_eq_mapTok a, unsrcList_eq_mapList l]
theorem unsrcClauses_eq_mapClauses : ∀ c : List (Token × List AST), unsrcClauses c = mapClauses unsrc id c
  | [] => rfl
  | (t, b) :: c => by rw [unsrcClauses, mapClauses, unsrcList_eq_mapList b, unsrcClauses_eq_mapClauses c]
end

/-- a sufficient condition on a token list for the parser's raw mode to meet only tokens whose source `unsrc`
    keeps: from a tag named `raw` up to the next `endraw` tag there is no other tag and no object (the Boolean: `rawNext`) -/
def rawSafe : Bool → List Token → Bool
  | _, [] => true
  | false, t :: ts => rawSafe (t.ty == .tag && t.name == rawName) ts
  | true, t :: ts => if isEndRaw t then rawSafe false ts else (t.ty != .tag && t.ty != .obj) && rawSafe true ts

theorem rawSafe_eq_rawScan : ∀ (flag : Bool) (toks : List Token),
    rawSafe flag toks = rawScan (fun t => t.ty != .tag && t.ty != .obj) flag toks
  | false, [] | true, [] => rfl
  | false, t :: ts => rawSafe_eq_rawScan _ ts
  | true, t :: ts => by
    rw [rawSafe, rawScan, rawNext, ← rawSafe_eq_rawScan]
    cases isEndRaw t <;> rfl

theorem rawKeeps_unsrc (g : Grammar) (chk : Bytes → Option Cause) (toks : List Token) (h : rawSafe false toks = true) :
    RawMeets (fun t => (unsrc t).source = t.source) g chk {} toks := by
  rw [rawSafe_eq_rawScan] at h
  refine rawMeets_of_rawScan (fun t ht => ?_) g chk toks {} false nofun h
  simp only [Bool.and_eq_true, bne_iff_ne, ne_eq] at ht
  exact congrArg Token.source (unsrc_of_not_tag_obj ht.1 ht.2)

theorem parseTokens_unsrc (g : Grammar) (chk : Bytes → Option Cause) (toks : List Token)
    (ht : rawSafe false toks = true) :
    parseTokens g chk (toks.map unsrc) = (parseTokens g chk toks).mapOk unsrcList := by
  rw [parseTokens_map tokMap_unsrc g chk toks (rawKeeps_unsrc g chk toks ht),
    ← funext unsrcList_eq_mapList]
  cases parseTokens g chk toks <;> rfl

def unsrcCl (cs : List (Token × List Node)) : List (Token × List Node) := cs.map (fun p => (unsrc p.1, p.2))

theorem compileNode_unsrc : ∀ a : AST, compileNode a.unsrc = compileNode a := fun a => by
  rw [AST.unsrc_eq_mapTok, compileNode_map tokMap_unsrc a, CRes.rel_id relNodes_id]

theorem compileList_unsrc : ∀ as : List AST, compileList (unsrcList as) = compileList as := fun as => by
  rw [unsrcList_eq_mapList, compileList_map tokMap_unsrc as, CRes.rel_id relNodes_id]

theorem compileClauses_unsrc : ∀ cs : List (Token × List AST), compileClauses (unsrcClauses cs) = (compileClauses cs).mapOk unsrcCl :=
  fun cs => by
  rw [unsrcClauses_eq_mapClauses, compileClauses_map tokMap_unsrc cs,
    show mapCl unsrc id = unsrcCl from funext fun cs => by simp only [mapCl, unsrcCl, relNodes_id]]
  cases compileClauses cs <;> rfl

theorem compileTokens_unsrc (toks : List Token) (ht : rawSafe false toks = true) :
    compileTokens (toks.map unsrc) = compileTokens toks := by
  rw [compileTokens_map tokMap_unsrc toks (rawKeeps_unsrc _ _ toks ht), CRes.rel_id relNodes_id]

theorem isEndRaw_unsrc (t : Token) : isEndRaw (unsrc t) = isEndRaw t := by
  unfold isEndRaw; rw [unsrc_ty, unsrc_name]

theorem rawSafe_map_unsrc : ∀ (b : Bool) (toks : List Token), rawSafe b (toks.map unsrc) = rawSafe b toks
  | _, [] => rfl
  | false, t :: ts => by simp only [List.map_cons, rawSafe, unsrc_ty, unsrc_name, rawSafe_map_unsrc _ ts]
  | true, t :: ts => by simp only [List.map_cons, rawSafe, unsrc_ty, isEndRaw_unsrc, rawSafe_map_unsrc _ ts]

theorem rawSafe_congr_unsrc {a b : List Token} (h : a.map unsrc = b.map unsrc) (f : Bool) : rawSafe f a = rawSafe f b := by
  rw [← rawSafe_map_unsrc f a, h, rawSafe_map_unsrc]

/-- token lists that agree up to the sources of tag and object tokens compile alike (`rawSafe` reads kinds and names
    only, so it is asked of one of them) -/
theorem compileTokens_congr (a b : List Token) (h : a.map unsrc = b.map unsrc) (ha : rawSafe false a = true) :
    compileTokens a = compileTokens b := by
  rw [← compileTokens_unsrc a ha, h, compileTokens_unsrc b (by rw [← rawSafe_congr_unsrc h]; exact ha)]
