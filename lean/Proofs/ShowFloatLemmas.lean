import Proofs.F64Mono
import Proofs.ExprLitLemmas
import Liquid.ExprShow
/-!
# The exact decimal expansion of a `float64` reads back

* the denominator of `m · 2^e`, hence of a rounded value, is a power of two (`den_int_mul_pow2`);
* `n / 2^j = (n · 10^k / 2^j) / 10^k` for `j ≤ k`, the division being exact (`dyadic_decimal`): the digits
  `showFloat` writes (`max 1 j` fractional ones, zero padded) denote the value exactly
  (`decimalOfDigits_showFloat`);
* so the scanner reads the printed text of a value of `roundF64`'s image back as that value
  (`floatLitValue_showFloat_of_lit`).
-/

theorem dvd_two_pow : ∀ (k d : Nat), d ∣ 2 ^ k → ∃ j, d = 2 ^ j := by
  intro k
  induction k with
  | zero => intro d h; exact ⟨0, by simpa using h⟩
  | succ k ih =>
    intro d h
    rw [Nat.pow_succ] at h
    by_cases h2 : 2 ∣ d
    · obtain ⟨c, rfl⟩ := h2
      rw [Nat.mul_comm (2 ^ k) 2] at h
      obtain ⟨j, rfl⟩ := ih c (Nat.dvd_of_mul_dvd_mul_left (by decide) h)
      exact ⟨j + 1, by rw [Nat.pow_succ, Nat.mul_comm]⟩
    · have hg : Nat.gcd d 2 = 1 := by
        rw [Nat.gcd_comm, Nat.gcd_rec, show d % 2 = 1 by omega]
        rfl
      exact ih d (Nat.Coprime.dvd_of_dvd_mul_right hg h)

theorem den_int_mul_pow2 (m e : Int) : ∃ j, ((m : Rat) * pow2 e).den = 2 ^ j := by
  unfold pow2
  split
  · refine ⟨0, ?_⟩
    rw [← Rat.intCast_natCast, ← Rat.intCast_mul]
    rfl
  · have e1 : (m : Rat) * (1 / ((2 ^ (-e).toNat : Nat) : Rat)) = mkRat m (2 ^ (-e).toNat) := by
      rw [Rat.mkRat_eq_div, Rat.div_def, Rat.div_def, Rat.one_mul]
    rw [e1, Rat.den_mkRat]
    have hne : 2 ^ (-e).toNat ≠ 0 := Nat.ne_of_gt (Nat.pow_pos (by decide))
    simp only [hne, if_false]
    exact dvd_two_pow _ _ (Nat.div_dvd_of_dvd (Nat.gcd_dvd_left _ _))

/-- a value of `float64`, as the scanner produces it (sign apart): not negative, a dyadic rational, a fixed point
    of the rounding -/
structure IsF64Val (r : Rat) : Prop where
  nonneg : 0 ≤ r
  den : ∃ j, r.den = 2 ^ j
  fix : roundF64 r = some r

theorem isF64Val_of_round (q r : Rat) (hq : 0 ≤ q) (h : roundF64 q = some r) : IsF64Val r := by
  have hfix := roundF64_idem q r h
  obtain ⟨e, _, ⟨k, hk⟩, _⟩ := representable_grid r hfix
  exact ⟨roundF64_nonneg q r hq h, hk ▸ den_int_mul_pow2 k e, hfix⟩

theorem dyadic_decimal_nat (N j k : Nat) (hjk : j ≤ k) : N * 10 ^ k / 2 ^ j * 2 ^ j = N * 10 ^ k := by
  apply Nat.div_mul_cancel
  have h10 : 10 ^ k = 2 ^ j * (2 ^ (k - j) * 5 ^ k) := by
    rw [← Nat.mul_assoc, ← Nat.pow_add, show j + (k - j) = k by omega, ← Nat.mul_pow]
  rw [h10, ← Nat.mul_assoc, Nat.mul_comm N, Nat.mul_assoc]
  exact Nat.dvd_mul_right _ _

theorem dyadic_decimal (r : Rat) (hr : 0 ≤ r) (j k : Nat) (hd : r.den = 2 ^ j) (hjk : j ≤ k) :
    ((r.num.natAbs * 10 ^ k / r.den : Nat) : Rat) / ((10 ^ k : Nat) : Rat) = r := by
  have h1 := rat_nonneg_eq hr
  have h2 := dyadic_decimal_nat r.num.natAbs j k hjk
  rw [← hd] at h2
  have h3 := congrArg (fun n : Nat => (n : Rat)) h2
  simp only [Rat.natCast_mul] at h3
  rw [← h1] at h3
  have hD : ((r.den : Nat) : Rat) ≠ 0 := by simp [Rat.natCast_eq_zero_iff, r.den_nz]
  have hT : ((10 ^ k : Nat) : Rat) ≠ 0 := by
    simp only [ne_eq, Rat.natCast_eq_zero_iff]
    exact Nat.ne_of_gt (Nat.pow_pos (by decide))
  generalize ((r.num.natAbs * 10 ^ k / r.den : Nat) : Rat) = n at *
  generalize ((r.den : Nat) : Rat) = D at *
  generalize ((10 ^ k : Nat) : Rat) = T at *
  grind

theorem decimalOfDigits_eq (ds fs : Bytes) :
    decimalOfDigits ds fs = ((decVal (ds ++ fs) : Nat) : Rat) / ((10 ^ fs.length : Nat) : Rat) := rfl

theorem showFloat_nonneg (r : Rat) (hr : 0 ≤ r) :
    showFloat r =
      natDec (r.num.natAbs * 10 ^ (max 1 (Nat.log2 r.den)) / r.den / 10 ^ (max 1 (Nat.log2 r.den))) ++ 46 ::
        zpad (max 1 (Nat.log2 r.den)) (r.num.natAbs * 10 ^ (max 1 (Nat.log2 r.den)) / r.den % 10 ^ (max 1 (Nat.log2 r.den))) := by
  have hneg : ¬ r < 0 := Rat.not_lt.2 hr
  unfold showFloat
  simp only [hneg, if_false, List.nil_append, zpad]

theorem showFloat_neg (r : Rat) (hr : 0 < r) : showFloat (-r) = 45 :: showFloat r := by
  have h1 : -r < 0 := by
    have := Rat.neg_lt_neg hr
    simpa using this
  have h2 : ¬ r < 0 := Rat.not_lt.2 (Rat.le_of_lt hr)
  unfold showFloat
  simp only [h1, h2, if_true, if_false, Rat.neg_num, Rat.neg_den, Int.natAbs_neg, List.nil_append, List.cons_append]

theorem decimalOfDigits_showFloat (r : Rat) (hr : 0 ≤ r) (j : Nat) (hd : r.den = 2 ^ j) :
    ∃ ds fs, showFloat r = ds ++ 46 :: fs ∧ ds ≠ [] ∧ ds.all isDigit = true ∧ decimalOfDigits ds fs = r := by
  have hk : 1 ≤ max 1 (Nat.log2 r.den) := Nat.le_max_left _ _
  have hjk : j ≤ max 1 (Nat.log2 r.den) := by rw [hd, Nat.log2_two_pow]; exact Nat.le_max_right _ _
  have hval := dyadic_decimal r hr j _ hd hjk
  rw [showFloat_nonneg r hr]
  generalize max 1 (Nat.log2 r.den) = k at hk hjk hval ⊢
  generalize hn : r.num.natAbs * 10 ^ k / r.den = n at hval ⊢
  have hT : 0 < 10 ^ k := Nat.pow_pos (by decide)
  obtain ⟨hlen, _, hfv⟩ := @zpad_spec k (n % 10 ^ k) hk (Nat.mod_lt _ hT)
  refine ⟨natDec (n / 10 ^ k), zpad k (n % 10 ^ k), rfl, natDec_ne_nil _, natDec_all_digits _, ?_⟩
  rw [decimalOfDigits_eq, decVal_append, hlen, hfv, decVal_natDec, Nat.div_add_mod' n (10 ^ k)]
  exact hval

theorem floatLitValue_showFloat_nonneg (r : Rat) (h : IsF64Val r) : floatLitValue (showFloat r) = some (some r) := by
  obtain ⟨j, hj⟩ := h.den
  obtain ⟨ds, fs, hs, hne, hdig, hv⟩ := decimalOfDigits_showFloat r h.nonneg j hj
  rw [hs, floatLitValue_pos ds fs hne hdig]
  unfold floatOfDigits
  rw [hv, h.fix]

/-- `r ≠ 0`: `-0` is not a value of the model -/
theorem floatLitValue_showFloat_neg (r : Rat) (h : IsF64Val r) (hr : r ≠ 0) :
    floatLitValue (showFloat (-r)) = some (some (-r)) := by
  have hpos : 0 < r := Rat.lt_of_le_of_ne h.nonneg (Ne.symm hr)
  obtain ⟨j, hj⟩ := h.den
  obtain ⟨ds, fs, hs, hne, hdig, hv⟩ := decimalOfDigits_showFloat r h.nonneg j hj
  rw [showFloat_neg r hpos, hs, floatLitValue_neg ds fs hdig]
  unfold floatOfDigits
  rw [hv, h.fix]
  have : (r == 0) = false := by simpa using hr
  simp only [this, Bool.false_eq_true, if_false]

theorem decimalOfDigits_nonneg (ds fs : Bytes) : 0 ≤ decimalOfDigits ds fs := by
  rw [decimalOfDigits_eq, Rat.div_def]
  apply Rat.mul_nonneg Rat.natCast_nonneg
  apply Rat.le_of_lt
  rw [Rat.inv_pos]
  exact Rat.natCast_pos.2 (Nat.pow_pos (by decide))

theorem floatLitValue_image (tok : Bytes) (q : Rat) (h : floatLitValue tok = some (some q)) :
    ∃ r, IsF64Val r ∧ (q = r ∨ (q = -r ∧ r ≠ 0)) := by
  unfold floatLitValue at h
  split at h
  rename_i neg ds _
  simp only at h
  split at h
  · cases h
  · rename_i r hr
    have hv := isF64Val_of_round _ r (decimalOfDigits_nonneg _ _) hr
    refine ⟨r, hv, ?_⟩
    cases neg with
    | false =>
      simp only [Bool.false_and, Bool.false_eq_true, if_false, Option.some.injEq] at h
      exact Or.inl h.symm
    | true =>
      simp only [Bool.true_and, if_true] at h
      split at h
      · cases h
      · rename_i h0
        simp only [Option.some.injEq] at h
        exact Or.inr ⟨h.symm, by simpa using h0⟩

theorem floatLitValue_showFloat_of_lit (tok : Bytes) (q : Rat) (h : floatLitValue tok = some (some q)) :
    floatLitValue (showFloat q) = some (some q) := by
  obtain ⟨r, hv, h1 | ⟨h1, hr⟩⟩ := floatLitValue_image tok q h
  · rw [h1]; exact floatLitValue_showFloat_nonneg r hv
  · rw [h1]; exact floatLitValue_showFloat_neg r hv hr

/-! ## an instance for the examples of `Proofs/C08.lean` -/

/-- the double nearest to `0.1` is `3602879701896397 / 2^55` -/
def tenthF64 : Rat := 3602879701896397 / 36028797018963968
/-- its exact expansion, 55 fractional digits: `0.1000000000000000055511151231257827021181583404541015625` -/
def tenthText : Bytes := [48, 46, 49, 48, 48, 48, 48, 48, 48, 48, 48, 48, 48, 48, 48, 48, 48, 48, 48, 53, 53, 53, 49, 49, 49, 53,
  49, 50, 51, 49, 50, 53, 55, 56, 50, 55, 48, 50, 49, 49, 56, 49, 53, 56, 51, 52, 48, 52, 53, 52, 49, 48, 49, 53, 54, 50, 53]

/-- the source `0.1` -/
theorem parse_tenth : parseExprSource [48, 46, 49] = .ok (.lit (.flt .f64 tenthF64)) := by
  apply parseExprSource_lit .rFloat [48, 46, 49] _ (Lexeme.float [] [48] [49] (Or.inl rfl) (by simp) rfl (by simp) rfl)
  simp only [mkTok, show floatLitValue [48, 46, 49] = some (some tenthF64) from by decide +kernel]
