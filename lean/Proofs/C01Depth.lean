import Proofs.C01
import Proofs.C14Depth
/-!
# C01 — rendering ends for EVERY file layout, cyclic ones included

`{% include %}` is the only unbounded recursion of the renderer. The Go code bounds it
(`fixes/include-depth-limit.patch`): `RenderFile` refuses at `depth >= maxIncludeDepth`. The model's include fuel is that bound
(`fuel = maxIncludeDepth - depth`), so the statements below quantify over all layouts `fs` with no acyclicity
hypothesis, and "out of fuel" is not one of the results: at fuel 0 the handler is the depth ERROR.
-/

/-- **C01 (every layout).** For EVERY file layout `fs` — a file that includes itself, cycles through several
    files, chains of any length — every configuration, source, start line, environment and fuel (`fuel` include
    levels left; the standard engine starts with `maxIncludeDepth` = 100, `runStd`):
    1. the render ends in output, in a located error, or in an explicit `unmodelled` marker: never a panic
       (`run_std_noPanic`), and the function is total (Lean's termination check: the recursion through
       `include` is a structural recursion on the fuel, `incFuel`);
    2. with no level left the include handler is the depth error of `RenderFile`, whatever the file system
       holds — the base of the recursion is a result of the real code, not a gap of the model;
    3. an `unmodelled` answer of the handler never stands for "include too deep": it is the `unmodelled` of
       compiling or of rendering (one level further in) a file that was found. -/
theorem run_terminates_all_layouts (cfg : Cfg) (fs : FS) (fuel : Nat) (src : Bytes) (line : Nat) (env : Env) :
    ((∃ out, run stdPrims stdOut cfg fs fuel src line env = .ok out) ∨
     (∃ e, run stdPrims stdOut cfg fs fuel src line env = .err e) ∨
     (∃ w, run stdPrims stdOut cfg fs fuel src line env = .unmodelled w)) ∧
    (∀ (l : Nat) (f : Bytes) (env' : Env), incFuel stdPrims stdOut cfg fs 0 l f env' = .fail (.plain .includeDepth)) ∧
    (∀ (n l : Nat) (f : Bytes) (env' : Env) (w : String), incFuel stdPrims stdOut cfg fs n l f env' = .unmodelled w →
      ∃ m src', n = m + 1 ∧ fileSource fs f = some src' ∧
        (compileSource cfg.delims src' l = .unmodelled w ∨
         ∃ root, compileSource cfg.delims src' l = .ok root ∧
           ((renderRoot (mkCtx stdPrims stdOut cfg fs m) root env').runPure).2 = .unmodelled w)) :=
  ⟨run_result stdPrims stdOut std_noPanic cfg fs fuel src line env, fun _ _ _ => rfl,
   fun n l f env' w h => incFuel_unmodelled_origin stdPrims stdOut cfg fs n l f env' w h⟩

/-- **C01 (the defect's input on the standard engine).** `runStd` (fuel `maxIncludeDepth` = 100) on the layout
    `a ↦ T{% include "a" %}` with the template `{% include "a" %}`: a located error, raised by the 100th nested copy of
    the file (`self_include_depth_error` at `n = 100`). -/
theorem self_include_fails_at_100 (cfg : Cfg) (fs : FS) (line : Nat) (env : Env)
    (q : UInt8) (a : Bytes) (w w' : Ws) (T : Bytes) (hq : q = 34 ∨ q = 39) (hn : q ∉ a)
    (hg : GoodDelims (Delims.ofList cfg.delims)) (hc : Clean (Delims.ofList cfg.delims) [includeItem q a w])
    (hcf : Clean (Delims.ofList cfg.delims) [.text T, includeItem q a w'])
    (hfile : fileSource fs (joinPath (dirPath cfg.path) a) = some (spell (Delims.ofList cfg.delims) [.text T, includeItem q a w'])) :
    runStd cfg fs (spell (Delims.ofList cfg.delims) [includeItem q a w]) line env =
      .err ⟨line + 100 * countNL T, true, .includeDepth, .byCause⟩ :=
  self_include_depth_error stdPrims stdOut cfg fs maxIncludeDepth line env q a w w' T hq hn hg hc hcf hfile


/-! ## Non-vacuity, on concrete bytes (`selfFs`: `a ↦ x⏎{% include "a" %}`) -/

/-- a cyclic layout satisfies the theorem like any other -/
example (env : Env) :
    (∃ out, run stdPrims stdOut {} selfFs 100 [123, 37, 32, 105, 110, 99, 108, 117, 100, 101, 32, 34, 97, 34, 32, 37, 125] 1 env = .ok out) ∨
    (∃ e, run stdPrims stdOut {} selfFs 100 [123, 37, 32, 105, 110, 99, 108, 117, 100, 101, 32, 34, 97, 34, 32, 37, 125] 1 env = .err e) ∨
    (∃ w, run stdPrims stdOut {} selfFs 100 [123, 37, 32, 105, 110, 99, 108, 117, 100, 101, 32, 34, 97, 34, 32, 37, 125] 1 env = .unmodelled w) :=
  (run_terminates_all_layouts {} selfFs 100 _ 1 env).1

/-- the standard engine: line 101 -/
example (env : Env) :
    runStd {} selfFs [123, 37, 32, 105, 110, 99, 108, 117, 100, 101, 32, 34, 97, 34, 32, 37, 125] 1 env =
      .err ⟨101, true, .includeDepth, .byCause⟩ :=
  self_include_fails_at_100 {} selfFs 1 env 34 [97] Ws.std Ws.std [120, 10] (.inl rfl) (by decide +kernel) (by decide +kernel) (by decide +kernel)
    (by decide +kernel) rfl

