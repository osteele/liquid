import Liquid.Std
import Proofs.DecEq
import Proofs.RepEqRender
import Proofs.RepEqFilters
import Proofs.RepEqSort
/-!
# C18 — output depends on a binding's Liquid value, not on its Go representation

Four parts.

* Per-operation statements: each operation of the value layer gives the
  same result on a value and on its re-representation (drop wrapping, pointer, typed vs generic
  container, fixed array vs slice, `[]byte` vs string, numeric width).
* The whole-template congruence: `run_rep_independent` — rendering *any* template
  against environments whose bindings are representation-equivalent (`ERel`, built on the normal
  form `GoVal.norm` of `Proofs/RepEq.lean`) gives the same result, for every comparison, filter
  and output layer that respects the equivalence (`PrimsRespect`, `OutRespect`). The restrictions
  of the equivalence that the model (hence the real code) forces are recorded as `example`s.
* The standard configuration for the relation without drops nested in containers (`d = false`):
  `run_std_rep_independent_partial`, with the counterexamples that force its hypotheses.
* Drops nested in containers (`d = true`): the standard output layer, then the standard comparison and
  filter layer (`run_std_rep_independent_nested_drops`); the deviations repaired in the Go source are
  evaluated theorems (`…_repaired`).
-/

open GoVal

/-! a drop is what it yields, for every lookup, truth test and integer use -/

theorem drop_unwrap (v : GoVal) : (GoVal.drop v).unwrap = v.unwrap := by rw [unwrap]
theorem drop_propertyValue (v : GoVal) (k : Bytes) : propertyValue (.drop v) k = propertyValue v k := by
  unfold propertyValue; rw [unwrap]
theorem drop_indexValue (v i : GoVal) : indexValue (.drop v) i = indexValue v i := by unfold indexValue; rw [unwrap]
theorem drop_as_index (v i : GoVal) : indexValue v (.drop i) = indexValue v i := by unfold indexValue; rw [unwrap]
theorem drop_test (v : GoVal) : (GoVal.drop v).test = v.test := by unfold test; rw [unwrap]
theorem drop_intOf (v : GoVal) : (GoVal.drop v).intOf = v.intOf := by unfold intOf; rw [unwrap]

/-- a variable bound to a drop evaluates to the drop's value (a drop that yields a drop is resolved in turn:
    `values.ToLiquid` after `fixes/nested-drops-resolved`) -/
theorem eval_var_drop (P : Prims) (env : Env) (x : Bytes) (v : GoVal) (h : env.get x = .drop v) :
    eval P env (.var x) = .ok v.toLiquid := by
  rw [eval]; simp [h]

/-- printing a drop prints its value, whatever that value is (a drop of a drop included) -/
theorem drop_prints_as_value (v : GoVal) : stdChunks (.drop v) = writeChunksL v := by
  rw [stdChunks_eq_writeChunksL, writeChunksL_drop]

/-- a loop over a drop visits the items of its value: the collection expression is evaluated
    through `Interface()`, which resolves drops -/
theorem evaluate_resolves_drop (P : Prims) (env : Env) (e : Expr) (v : GoVal) (h : eval P env e = .ok (.drop v)) :
    evaluate P env e = .ok v.unwrap := by
  simp [evaluate, h, unwrap]

/-- a drop element inside an array prints as its value -/
theorem drop_element_prints (t : Ty) (v : GoVal) (xs : List GoVal) :
    writeChunksL (.slice t (.drop v :: xs)) = (writeChunksL v).bind fun a => (writeChunksList xs).bind fun b => .ok (a ++ b) := by
  simp [writeChunksL, writeChunksList]

/-! a pointer reached by variable or property lookup behaves as what it points to -/

theorem ptr_unwrap_int (k : IntKind) (n : Int) : (GoVal.ptr (.int k n)).unwrap = .int k n := rfl
theorem ptr_unwrap_str (s : Bytes) : (GoVal.ptr (.str s)).unwrap = .str s := rfl
theorem ptr_unwrap_slice (t : Ty) (xs : List GoVal) : (GoVal.ptr (.slice t xs)).unwrap = .slice t xs := rfl
theorem ptr_unwrap_map (k v : Ty) (kvs) : (GoVal.ptr (.map k v kvs)).unwrap = .map k v kvs := rfl
theorem nilptr_unwrap : GoVal.nilPtr.unwrap = .nil := rfl
theorem ptr_propertyValue_slice (t : Ty) (xs : List GoVal) (k : Bytes) :
    propertyValue (.ptr (.slice t xs)) k = propertyValue (.slice t xs) k := rfl
theorem ptr_indexValue_map (kt vt : Ty) (kvs) (i : GoVal) :
    indexValue (.ptr (.map kt vt kvs)) i = indexValue (.map kt vt kvs) i := rfl

/-! lookups never look at the element type of a slice, nor at array-vs-slice -/

theorem typed_slice_index (t : Ty) (xs : List GoVal) (i : GoVal) :
    indexValue (.slice t xs) i = indexValue (.slice .any xs) i := rfl
theorem array_index (t : Ty) (xs : List GoVal) (i : GoVal) :
    indexValue (.array t xs) i = indexValue (.slice .any xs) i := rfl
theorem typed_slice_prop (t : Ty) (xs : List GoVal) (k : Bytes) :
    propertyValue (.slice t xs) k = propertyValue (.slice .any xs) k := rfl
theorem array_prop (t : Ty) (xs : List GoVal) (k : Bytes) :
    propertyValue (.array t xs) k = propertyValue (.slice .any xs) k := rfl
theorem typed_slice_loop (budget : Int) (t : Ty) (xs : List GoVal) : loopItems budget (.slice t xs) = loopItems budget (.slice .any xs) := rfl
theorem array_loop (budget : Int) (t : Ty) (xs : List GoVal) : loopItems budget (.array t xs) = loopItems budget (.slice .any xs) := rfl
theorem typed_slice_prints (t : Ty) (xs : List GoVal) : writeChunksL (.slice t xs) = writeChunksL (.slice .any xs) := by
  rw [writeChunksL, writeChunksL]
theorem array_prints (t : Ty) (xs : List GoVal) : writeChunksL (.array t xs) = writeChunksL (.slice .any xs) := by
  rw [writeChunksL, writeChunksL]

/-! a string-keyed typed map is looked up like a generic one -/

theorem typed_map_prop (vt : Ty) (kvs) (k : Bytes) :
    propertyValue (.map .str vt kvs) k = propertyValue (.map .str .any kvs) k := rfl
theorem typed_map_index (vt : Ty) (kvs) (i : GoVal) :
    indexValue (.map .str vt kvs) i = indexValue (.map .str .any kvs) i := rfl
theorem typed_map_loop (budget : Int) (vt : Ty) (kvs) : loopItems budget (.map .str vt kvs) = loopItems budget (.map .str .any kvs) := rfl

/-! ## Ordered YAML maps: lookup and size as a map -/

/-- `ms["k"]` and `ms.k` find the entry with that key, as a map lookup does -/
theorem mapslice_lookup_found (k : Bytes) (v : GoVal) (rest : List (GoVal × GoVal)) :
    indexValue (.mapSlice ((.str k, v) :: rest)) (.str k) = .val v := by
  simp [indexValue, unwrap, mapSliceFind, ifaceEq]

theorem mapslice_lookup_skip (k k' : Bytes) (v : GoVal) (rest : List (GoVal × GoVal)) (h : k' ≠ k) :
    indexValue (.mapSlice ((.str k', v) :: rest)) (.str k) = indexValue (.mapSlice rest) (.str k) := by
  have : (k == k') = false := by simp [Ne.symm h]
  simp [indexValue, unwrap, mapSliceFind, ifaceEq, this]

theorem mapslice_size (kvs : List (GoVal × GoVal)) (h : mapSliceFind kvs (.str sizeKey) = .val .nil) :
    propertyValue (.mapSlice kvs) sizeKey = .val (.int .int kvs.length) := by
  simp [propertyValue, unwrap, h]

/-! ## `[]byte` prints as the string -/

theorem bytes_print (s : Bytes) : stdChunks (.bytes s) = stdChunks (.str s) := by
  simp [stdChunks, GoVal.toLiquid, writeChunksL, writeObjectL, sprint, Res.bind]

/-- integers of every width print by numeric value -/
theorem int_width_prints (k k' : IntKind) (n : Int) : sprint (.int k n) = sprint (.int k' n) := by
  simp [sprint]

/-- integers of every width are truthy (comparison across widths: `equal_num`, `less_num` of C09) -/
theorem int_width_truthy (k : IntKind) (n : Int) : (GoVal.int k n).test = true := rfl

example : (GoVal.drop (.drop (.ptr (.str [97])))).unwrap = .str [97] := rfl

/-! # The whole-template congruence

`RepEq d a b` (`Proofs/RepEq.lean`): `a` and `b` have the same normal form — typed slices and
fixed arrays are generic slices, typed maps are generic maps with the same key type (at every
depth), and with `d = true` a drop inside a container is the value it yields.
`VRel d a b := RepEq d a.unwrap b.unwrap`: values at the top of an expression are compared through
`ValueOf(·).Interface()` (drops of every depth resolved, pointers followed, a nil pointer is nil).
`ERel d a b`: bindings; `VRel`, and the renderer's own `forloop` record is related to itself only.
-/

/-- **C18, whole template, parametric in the value layer.** For every comparison/filter layer `P`
and output layer `O` that respect representation equivalence (`PrimsRespect`, `OutRespect`: related
operands compare alike, related filter inputs give related results, related values print alike),
every configuration, file system, include depth, template source and start line: rendering
against two environments whose bindings are pointwise representation-equivalent gives the same
result — the same output bytes or the same error. Proved by the induction over the compiled tree on
the two runs in lock step (`ValSim.frender`, `Proofs/RenderSim.lean`, at `valRel_repEq` and
`ctxSim_repEq` of `Proofs/RepEqRender.lean`): the same write calls, related variable maps (assign,
capture, loop variables, `forloop`, cycle counters), the same include results. -/
theorem run_rep_independent (d : Bool) (P : Prims) (O : OutPrims) (hP : PrimsRespect false d P) (hO : OutRespect false d O)
    (cfg : Cfg) (fs : FS) (fuel : Nat) (src : Bytes) (line : Nat) (env env' : Env)
    (he : ∀ x, ERel d (env.get x) (env'.get x)) :
    run P O cfg fs fuel src line env = run P O cfg fs fuel src line env' :=
  (run_rel P O cfg fs fuel hP hO src line he).eq

/-- The same up to the boundary of the model: the layers need to respect the equivalence only up
to `unmodelled` results, and the two results agree (`RunAgree true`: equal, or one of them is
`unmodelled`). This is the form the standard configuration satisfies. -/
theorem run_rep_independent_upto_unmodelled (d : Bool) (P : Prims) (O : OutPrims) (hP : PrimsRespect true d P)
    (hO : OutRespect true d O) (cfg : Cfg) (fs : FS) (fuel : Nat) (src : Bytes) (line : Nat) (env env' : Env)
    (he : ∀ x, ERel d (env.get x) (env'.get x)) :
    RunAgree true (run P O cfg fs fuel src line env) (run P O cfg fs fuel src line env') :=
  run_rel P O cfg fs fuel hP hO src line he

/-- representation-equivalent values are related bindings -/
theorem binding_related_of_repEq {d : Bool} {a b : GoVal} (h : RepEq d a b) : ERel d a b := h.erel

/-- a binding may in addition be a pointer to a related value (not to a struct) or a drop of any depth -/
theorem binding_related_of_unwrap {d : Bool} {a b : GoVal} (h : RepEq d a.unwrap b.unwrap)
    (ha : isRec a = false) (hb : isRec b = false) : ERel d a b :=
  ⟨h, fun hr => by rcases hr with hr | hr <;> simp_all⟩

/-- a nil pointer binding is a nil binding -/
theorem binding_nilPtr_nil (d : Bool) : ERel d .nilPtr .nil :=
  binding_related_of_unwrap (RepEq.refl _) rfl rfl

/-! Non-vacuity: concrete related bindings, and layers that satisfy the hypotheses. -/

/-- a drop of a typed slice holding a drop ~ the generic slice of the values -/
example : RepEq true (.drop (.slice (.int .int) [.int .int 1, .drop (.int .int 2)])) (.slice .any [.int .int 1, .int .int 2]) := rfl

/-- a typed map of typed arrays ~ the generic map whose value is a drop of a generic slice -/
example : RepEq true (.map .str (.slice .str) [(.str [97], .array .str [.str [98]])])
    (.map .str .any [(.str [97], .drop (.slice .any [.str [98]]))]) := rfl

/-- a binding that is a pointer to a drop of a typed slice ~ the generic slice (also with `d = false`) -/
example : ERel false (.ptr (.drop (.slice (.int .int) [.int .int 1]))) (.slice .any [.int .int 1]) :=
  binding_related_of_unwrap rfl rfl rfl

/-- layers that satisfy the hypotheses: comparison by a constant, the identity filter, no output -/
example : PrimsRespect false true
    { equal := fun _ _ => .ok true, less := fun _ _ => .ok false, contains := fun _ _ => .ok false,
      equalFn := fun _ _ => .ok true, applyFilter := fun _ r _ => .ok r, hasFilter := fun _ => true } :=
  { equal := fun _ _ _ _ _ _ => rfl, less := fun _ _ _ _ _ _ => rfl, contains := fun _ _ _ _ _ _ => rfl,
    equalFn := fun _ _ _ _ _ _ => rfl, applyFilter := fun _ _ _ _ _ hr _ => hr.2.2.vrel }

example : OutRespect false true { chunks := fun _ => .ok [] } := { chunks := fun _ _ _ => rfl }

/-- the hypothesis on the environments, on an environment binding `x` to a drop of a typed slice
    and one binding it to the generic slice -/
example : ∀ y, ERel true (Env.get [([120], .drop (.slice (.int .int) [.int .int 1]))] y)
    (Env.get [([120], .slice .any [.int .int 1])] y) :=
  envRelG_single ERel.refl _ (binding_related_of_repEq rfl)

/-! ## Restrictions of the equivalence forced by the model (each with its counterexample) -/

/-- *Integer width is not forgotten*: as an index only a Go `int` (or a float) selects an element
(`arrayValue.IndexValue` switches on `int`, `float32`, `float64`); the same for the bounds of a
range and for `limit`/`offset`/`cols` (`Value.Int()`). Template `{{ a[i] }}` with
`a = []any{"x"}`, `i = int64(0)` prints nothing, with `i = int(0)` it prints `x`. -/
example : indexValue (.slice .any [.str [120]]) (.int .i64 0) = .val .nil ∧
    indexValue (.slice .any [.str [120]]) (.int .int 0) = .val (.str [120]) := by
  constructor <;> simp [indexValue, unwrap, indexValue.indexList]

example : intOf (.int .i64 3) = none ∧ intOf (.int .int 3) = some 3 := by
  constructor <;> simp [intOf, unwrap]

/-- *The renderer's `forloop` record is rigid*: the `cycle` tag recognises the record by the Go
type of its counter map (`cycleCounters`, unexported: no binding can have it), so a drop around
such a record is not the record. (A model-only restriction: not realisable from Go.) -/
example : (cyclesOf (.drop (forloopRec 0 1 []))).isSome = false ∧ (cyclesOf (forloopRec 0 1 [])).isSome = true := by
  constructor <;> simp [cyclesOf, forloopRec, dotCycles]

/-- *Pointers are followed at the top only*: a pointer nested in a container is not its pointee
(`{{ m }}` prints an address, `m.a` follows it), so `norm` keeps pointers and only `unwrap`
(bindings, results of expressions) resolves them. -/
example : sprint (.ptr (.int .int 1)) = .unmodelled "fmt: a pointer prints as an address" ∧
    sprint (.int .int 1) = .ok [49] := by
  constructor
  · simp [sprint]
  · rfl

/-! # The standard configuration

With `d = false` the equivalence relates typed slices, fixed arrays and typed maps with the
generic containers of the same contents at every depth, and — through `unwrap` — a binding that is
a drop (of any depth) or a pointer (not to a struct) with the value it stands for. For this
relation the standard output layer (`stdOut_respects`), the standard comparisons
(`opEq_prep_vrel`, `opLt_prep_vrel`, `opContains_prep_vrel`, `equal_prep_repEq`) and every standard
filter except those that observe the Go representation (`reprFilters`: the value/debugging
filters `json`, `inspect`, `type`) respect it (`filterRespects_std`: exactly, all but `sort`,
`sort_natural` and `reprFilters`; `filterRespects_std_upto`: up to `unmodelled`, all but `reprFilters`). Drops *inside*
containers (`d = true`) are covered as well — the output layer, the comparisons and every filter but `reprFilters`:
the last part of this file, `run_std_rep_independent_nested_drops`. -/

/-- **C18 for the standard configuration** (partial). `allowed` says which filters are registered
on the engine (`stdPrimsOnly allowed`; with `fun _ => true` it is `stdPrims`). Rendering any
template against environments whose bindings are representation-equivalent (`ERel false`) gives
results that agree (`RunAgree true`: the same output or the same error, or one of the two runs is
outside the model).

Full statement wanted: the same for `stdPrims`, with equal results. What is missing,
and why (evaluated counterexamples below):
* `hrepr` — `json`, `inspect` and `type` must not be registered: they do *not* respect the
  equivalence (`type` prints the Go type; `json`/`inspect` marshal the Go value: a `[]uint8` is
  base64 text, a `map[any]any` is rejected);
* "agree" instead of "equal": a fixed-array needle against an ordered map with a fixed-array key is
  `unmodelled` (`comparableV`) while the generic slice gives `false`; `sort`/`sort_natural` answer
  `unmodelled` for more than 12 elements with ties that differ in their encoding (up to 12 elements —
  Go's insertion sort, modelled exactly — they respect the equivalence exactly:
  `ArrF.sortWith_rel_gen`, `ArrF.sortNaturalWith_relD_gen` with `t = false`).

For `ERel true` (drops nested in containers): `run_std_rep_independent_nested_drops_partial` at the end of this file, the
same statement on the same engine. -/
theorem run_std_rep_independent_partial (allowed : Bytes → Bool) (hrepr : ∀ n ∈ reprFilters, allowed n = false)
    (cfg : Cfg) (fs : FS) (fuel : Nat) (src : Bytes) (line : Nat) (env env' : Env)
    (he : ∀ x, ERel false (env.get x) (env'.get x)) :
    RunAgree true (run (stdPrimsOnly allowed) stdOut cfg fs fuel src line env)
      (run (stdPrimsOnly allowed) stdOut cfg fs fuel src line env') := by
  exact run_rel _ _ cfg fs fuel (stdPrimsOnly_respects_upto false allowed hrepr) (stdOut_respects true false) src line he

/-- **C18 for the standard engine without `json`, `inspect`, `type`** (the filters that observe
the Go representation): no hypothesis left. Every template, every file system and
include depth: environments that differ in typed vs generic slices, fixed arrays vs slices, typed vs generic maps
(at any depth), and in drops and pointers around a binding, render to agreeing results. -/
theorem run_std_rep_independent_without_repr_filters (cfg : Cfg) (fs : FS) (fuel : Nat) (src : Bytes) (line : Nat) (env env' : Env)
    (he : ∀ x, ERel false (env.get x) (env'.get x)) :
    RunAgree true (run (stdPrimsOnly withoutRepr) stdOut cfg fs fuel src line env)
      (run (stdPrimsOnly withoutRepr) stdOut cfg fs fuel src line env') :=
  run_std_rep_independent_partial withoutRepr (fun n hn => by simp [withoutRepr, hn]) cfg fs fuel src line env env' he

example : FilterRespects true false (ArrF.bn "uniq") := filterRespects_std_upto _ (by decide +kernel)
example : withoutRepr (ArrF.bn "uniq") = true := by decide +kernel

/-- the output layer respects the equivalence exactly (no `unmodelled` escape) -/
example (v v' : GoVal) (h : URel false v v') : stdOut.chunks v = stdOut.chunks v' :=
  ((stdOut_respects false false).chunks v v' h).eq

/-- the hypotheses on the environments are satisfiable: `x` bound to a drop of a pointer to a typed
    slice of fixed arrays, against the generic slice of generic slices -/
example : ∀ y, ERel false
    (Env.get [([120], .drop (.ptr (.slice (.arr (.int .int)) [.array (.int .int) [.int .int 1]])))] y)
    (Env.get [([120], .slice .any [.slice .any [.int .int 1]])] y) :=
  envRelG_single ERel.refl _ (binding_related_of_unwrap rfl rfl rfl)

/-- a filter with scalar parameters (`append`: `string, string`) respects the equivalence
    whatever its body -/
example : FilterRespects false false (ArrF.bn "append") :=
  filterRespects_of_scalar false false _ (fun sg h => by
    have : lookupSig (ArrF.bn "append") = some ⟨ArrF.bn "append", [.val .str, .val .str], false⟩ :=
      lookupSig_of_mem (List.mem_of_getElem? (i := 22) rfl)
    rw [this] at h; cases h; rfl)

/-- `stdPrims.applyFilter` at position `i` of the table of bodies (`applyFilter_pos`): for the evaluated instances below -/
theorem stdPrims_applyFilter_pos (i : Nat) {name : Bytes} (h : stdSigPos[i]?.map (nameAt stdFilters) = some name) (g : GoVal) (args : List GoVal) :
    stdPrims.applyFilter name g args =
      if (g :: args).length > (paramsAt i).length then .err (.filterErr name .parity)
      else (convertArgs (paramsAt i) (g :: args)).bind fun c => applyFilter.finish name (implAt i c) :=
  applyFilter_pos i h g args

/-! ## What the standard configuration forces (counterexamples; each is a place where the real
code distinguishes representations that C18 declares equivalent; its comment names the template, the two
bindings and what the real engine renders for each) -/

/-- *`type` prints the Go type.* Template `{{ a | type }}` with `a = []int{1}` prints `[]int`, with
`a = []any{1}` it prints `[]interface {}` — the purpose of the filter. -/
example : (match stdPrims.applyFilter (JsonF.bn "type") (.slice (.int .int) [.int .int 1]) [],
                 stdPrims.applyFilter (JsonF.bn "type") (.slice .any [.int .int 1]) [] with
    | .ok (.str a), .ok (.str b) => a == JsonF.bn "[]int" && b == JsonF.bn "[]interface {}"
    | _, _ => false) = true := by
  simp only [stdPrims_applyFilter_pos 46 (name := JsonF.bn "type") (by decide +kernel)]
  decide +kernel

/-- *`json` (and `inspect`) marshal the Go value.* Template `{{ a | json }}` with `a = []uint8{1}`
(a `[]byte`) prints `"AQ=="`, with `a = []any{uint8(1)}` it prints `[1]`; with `m = map[any]any{"a": 1}`
it prints nothing (`json.Marshal` rejects the map type), with `m = map[string]any{"a": 1}` it prints `{"a":1}`. -/
example : (match stdPrims.applyFilter (JsonF.bn "json") (.slice (.int .u8) [.int .u8 1]) [],
                 stdPrims.applyFilter (JsonF.bn "json") (.slice .any [.int .u8 1]) [],
                 stdPrims.applyFilter (JsonF.bn "json") (.map .any .any [(.str [97], .int .int 1)]) [],
                 stdPrims.applyFilter (JsonF.bn "json") (.map .str .any [(.str [97], .int .int 1)]) [] with
    | .ok (.str a), .ok (.str b), .ok (.str c), .ok (.str d) =>
      a == [34, 65, 81, 61, 61, 34] && b == [91, 49, 93] && c == [] && d == [123, 34, 97, 34, 58, 49, 125]
    | _, _, _, _ => false) = true := by
  simp only [stdPrims_applyFilter_pos 44 (name := JsonF.bn "json") (by decide +kernel)]
  decide +kernel

/-- *A fixed array is comparable in Go, a slice is not.* `m contains x` for an ordered map `m` with
the key `[1]int{1}`: with `x = [1]int{1}` the model makes no claim (`==` on arrays: `unmodelled`; in
Go the comparison succeeds), with `x = []int{1}` it is false. Hence "agree" (`RunAgree true`). -/
example : stdPrims.contains (.mapSlice [(.array (.int .int) [.int .int 1], .nil)]) (.array (.int .int) [.int .int 1])
      = .unmodelled "comparability of an array value" ∧
    stdPrims.contains (.mapSlice [(.array (.int .int) [.int .int 1], .nil)]) (.slice (.int .int) [.int .int 1]) = .ok false := by
  decide +kernel

/-! ## Drops nested in containers (`d = true`): the standard OUTPUT layer respects them

The printing side of the whole-template theorem holds for the relation WITH drops nested in containers (`writeObject`
prints through `values.ResolveDrops`: `fixes/nested-drops-resolved`): `stdOut_respects t true` (`Proofs/RepEqStd.lean`; `writeChunksL_norm`, `sprintR_norm`
for every `d`). The comparison/filter layer with `d = true` follows at the end of this file
(`stdPrims_respect_nested_drops`, `run_std_rep_independent_nested_drops`). -/

/-- **C18 with nested drops, standard printing.** For every comparison/filter layer that respects the
equivalence with drops nested in containers, the STANDARD output layer (`writeObject`: arrays element by element,
maps and structs through `fmt.Sprint(values.ResolveDrops(·))`) and every template: two environments whose bindings
differ in typed vs generic containers and in drops at ANY depth of arrays and maps render to the same result. -/
theorem run_stdOut_rep_independent_nested_drops (P : Prims) (hP : PrimsRespect false true P)
    (cfg : Cfg) (fs : FS) (fuel : Nat) (src : Bytes) (line : Nat) (env env' : Env)
    (he : ∀ x, ERel true (env.get x) (env'.get x)) :
    run P stdOut cfg fs fuel src line env = run P stdOut cfg fs fuel src line env' :=
  run_rep_independent true P stdOut hP (stdOut_respects false true) cfg fs fuel src line env env' he

/-- the standard output layer writes a value with drops nested at every depth (in an array in a map in an array,
    a drop of a drop) exactly as its generic twin -/
example : stdOut.chunks (.slice (.map .str .any) [.map .str .any [(.str [97], .drop (.slice (.int .int) [.drop (.drop (.int .int 1))]))]])
    = stdOut.chunks (.slice .any [.map .str .any [(.str [97], .slice .any [.int .int 1])]]) :=
  ((stdOut_respects false true).chunks _ _ ⟨by rfl, by rfl, by rfl⟩).eq

/-! ## The four deviations repaired by `fixes/nested-drops-resolved` (DESIGN 7.1b)

Each states that the two renders agree, evaluated on the template and the two bindings of the defect (they differed
before /repo e3953ba). -/

/-- *`uniq` does not see the element type of nested slices.* Template `{{ a | uniq | size }}` with
`a = []any{[]int{1}, []any{1}}` gives 1, as with `a = []any{[]any{1}, []any{1}}` (it gave 2): `eqItems` compares
arrays by what they hold. -/
theorem uniq_typed_nested_slice_repaired :
    lenOfRes (stdPrims.applyFilter (ArrF.bn "uniq") (.slice .any [.slice (.int .int) [.int .int 1], .slice .any [.int .int 1]]) []) = 1 ∧
    lenOfRes (stdPrims.applyFilter (ArrF.bn "uniq") (.slice .any [.slice .any [.int .int 1], .slice .any [.int .int 1]]) []) = 1 := by
  simp only [stdPrims_applyFilter_pos 42 (name := ArrF.bn "uniq") (by decide +kernel)]
  decide +kernel

/-- *A drop inside a map that is printed whole is its value.* Template `{{ m }}` with
`m = map[string]any{"a": Drop{1}}` prints `map[a:1]`, as with `m = map[string]any{"a": 1}` (it printed
`map[a:{1}]`): `writeObject` prints `fmt.Sprint(values.ResolveDrops(m))`. -/
theorem drop_in_printed_map_repaired :
    stdChunks (.map .str .any [(.str [97], .drop (.int .int 1))]) = .ok [[109, 97, 112, 91, 97, 58, 49, 93]] ∧
    stdChunks (.map .str .any [(.str [97], .int .int 1)]) = .ok [[109, 97, 112, 91, 97, 58, 49, 93]] := by
  decide +kernel

/-- *A string filter applied to an array sees the values of the drops in it.* Template `{{ a | append: "" }}`
with `a = []any{Drop{1}}` gives `[1]`, as with `a = []any{1}` (it gave `[{1}]`): `Convert(·, string)` is
`fmt.Sprint(values.ResolveDrops(a))`. -/
theorem drop_in_array_to_string_repaired :
    strOfRes (stdPrims.applyFilter (ArrF.bn "append") (.slice .any [.drop (.int .int 1)]) [.str []]) = [91, 49, 93] ∧
    strOfRes (stdPrims.applyFilter (ArrF.bn "append") (.slice .any [.int .int 1]) [.str []]) = [91, 49, 93] := by
  simp only [stdPrims_applyFilter_pos 11 (name := ArrF.bn "append") (by decide +kernel)]
  decide +kernel

/-- *A drop that yields a drop, inside an array, is its final value for `values.Equal`.* Template
`{% case a %}{% when b %}eq{% endcase %}` with `a = []any{DropOf(DropOf(1))}`, `b = []any{1}` prints `eq`, as with
`a = []any{1}` (it did not): `ToLiquid` follows the chain of drops. -/
theorem drop_of_drop_in_array_equal_repaired :
    stdPrims.equalFn (.slice .any [.drop (.drop (.int .int 1))]) (.slice .any [.int .int 1]) = .ok true ∧
    stdPrims.equalFn (.slice .any [.int .int 1]) (.slice .any [.int .int 1]) = .ok true := by
  decide +kernel

/-- deeper: a drop of a drop of a drop in a map in an array in a map prints as the value it finally yields,
    under `{{ m }}` and under `{{ m | append: "" }}` -/
example :
    stdChunks (.map .str .any [(.str [97], .slice .any [.map .str .any [(.str [98], .drop (.drop (.drop (.int .int 1))))]])])
      = .ok [[109, 97, 112, 91, 97, 58, 91, 109, 97, 112, 91, 98, 58, 49, 93, 93, 93]] ∧
    stdChunks (.map .str .any [(.str [97], .slice .any [.map .str .any [(.str [98], .int .int 1)]])])
      = .ok [[109, 97, 112, 91, 97, 58, 91, 109, 97, 112, 91, 98, 58, 49, 93, 93, 93]] ∧
    strOfRes (stdPrims.applyFilter (ArrF.bn "append") (.map .str .any [(.str [97], .slice .any [.drop (.map .str .any [(.str [98], .drop (.int .int 1))])])]) [.str []])
      = [109, 97, 112, 91, 97, 58, 91, 109, 97, 112, 91, 98, 58, 49, 93, 93, 93] := by
  simp only [stdPrims_applyFilter_pos 11 (name := ArrF.bn "append") (by decide +kernel)]
  decide +kernel

/-! ## Drops nested in containers (`d = true`): the standard comparison and filter layer

Operation by operation (a drop inside an array or a map against the value it yields):

* `==`, `!=`, `<`, `>`, `<=`, `>=`, `contains`, `case`/`when`: respect nested drops — `values.Equal` applies `ToLiquid`
  (which follows a chain of drops) to both operands at every depth (`Cmp.equalAux_pn_left/right`, `Cmp.opEq_prep_vrel`,
  `Cmp.equal_prep_repEq`), `Less` orders scalars only (`Cmp.opLt_prep_vrel`), an array `contains` by `Equal`, a map
  by its keys (`Cmp.opContains_prep_vrel`; a string haystack with a container needle is outside the model on both sides);
* `and`/`or`/truth tests, `a[i]`, `a.first`/`last`/`size`, `m.k`, `m[k]`, the items of a loop over an array or a map,
  ranges and loop modifiers: respect them — the result of a lookup may BE a drop, and the next use resolves it
  (`test_rel`, `indexValue_rel`, `propertyValue_rel`, `loopItems_unw_rel`, `intOf_rel`: all for every `d`);
* the filters `first`, `last`, `reverse`, `compact`, `concat`, `uniq`, `join`, `map`, `size`, `default`, `divided_by`
  and every filter with scalar parameters only (the string, number and date filters: `Convert` to string prints
  `fmt.Sprint(values.ResolveDrops(·))`): respect them (`filterRespects_std t true`). `Convert` to `[]any` passes every
  element through `ToLiquid` (`convElems_noDrops`), so a drop that yields nil IS nil for `compact` and `join`;
* `sort` and `sort: key` respect them with `fixes/sort-key-drops` (`ArrF.sort_respects d`, up to the `unmodelled` tie
  order beyond 12 elements): `Less` compares through `ToLiquid`; `sortableByProperty.Less` passes the entry
  `m[key]` through `ToLiquid` BEFORE its nil test, and the name of the key is `fmt.Sprint(values.ResolveDrops(key))`.
  Without that repair `sort: key` does NOT (a drop that yields nil is not sorted first; a key that is an array holding a
  drop is named by the drop's Go struct) and `sort_natural: key` does not either (the same name): the three
  `…_repaired` theorems of `sort: key` and `sort_natural: key` below;
* `sort_natural` and `sort_natural: key` respect them (`ArrF.sortNatural_respects_gen d`, up to the `unmodelled` tie order
  beyond 12 elements): `sortNaturalFilter` looks at its elements as they are (`v == nil`, `reflect.ValueOf(m)`), and the
  elements of its `[]any` parameter went through `ToLiquid` in `Convert` (an element that is a drop of a string, a drop of
  a drop, a drop that yields nil IS that value there: `ArrF.NLD` carries "no element is a drop" through the insertion
  sort and the decoration); the sort text is `fmt.Sprint(values.ResolveDrops(v))` (`ArrF.natKey_repEq_noDrop`), with a
  key it is the entry `m[key]` passed through `ToLiquid` before the string test (`ArrF.natKeyBy_repEq_noDrop`), and the
  name of the key is `fmt.Sprint(values.ResolveDrops(key))`. Run on the real engine of /repo (1b08585) with elements
  that are drops of strings, drops of drops, drops that yield nil, maps whose entry under the key is a drop / a drop of a
  drop / `Drop(nil)`, mixed with plain strings and nil, 3 to 20 elements: every render equals the render of the generic
  twin (rows `sort-natural-*` of `repsNestedDropFamily`, harness/stream_reps.go);
* `json`, `inspect`, `type` print the Go representation by design: they are the only filters left out (`nestedDropsOpen`,
  the same list as `reprFilters` of the `d = false` theorem `run_std_rep_independent_without_repr_filters`). -/

/-- *The standard comparison and filter layer respects drops nested in containers*, on an engine without
`json`, `inspect`, `type` (`nestedDropsOpen` = `reprFilters`): related operands
(`VRel true`: the same Liquid value, any Go representation, drops at any depth) compare alike under `==`, `<`,
`contains` and `case`/`when`, and related filter inputs give related results — up to `unmodelled` results
(`t = true`). -/
theorem stdPrims_respect_nested_drops (allowed : Bytes → Bool) (hopen : ∀ n ∈ nestedDropsOpen, allowed n = false) :
    PrimsRespect true true (stdPrimsOnly allowed) :=
  stdPrimsOnly_respects_upto true allowed hopen

/-- every standard filter except `sort`, `sort_natural`, `json`, `inspect`, `type` respects nested drops exactly
    (no `unmodelled` escape), whatever name is asked for -/
theorem std_filter_respects_nested_drops (name : Bytes) (h : name ∉ openFilters) : FilterRespects false true name :=
  filterRespects_std false true name h

/-- **C18 for the standard configuration with drops nested in containers** (partial: `allowed` must exclude
`nestedDropsOpen` = `json`, `inspect`, `type`). Full statement wanted: the same for `stdPrims` (every filter registered).
What is missing, and why — the same and only exclusion as in the theorem without nested drops
(`run_std_rep_independent_without_repr_filters`):
* `json`, `inspect`, `type` observe the Go representation (counterexamples above; `{{ m | json }}` with
  `m = {"a": Drop(1)}` is `{"a":{}}`). -/
theorem run_std_rep_independent_nested_drops_partial (allowed : Bytes → Bool) (hopen : ∀ n ∈ nestedDropsOpen, allowed n = false)
    (cfg : Cfg) (fs : FS) (fuel : Nat) (src : Bytes) (line : Nat) (env env' : Env)
    (he : ∀ x, ERel true (env.get x) (env'.get x)) :
    RunAgree true (run (stdPrimsOnly allowed) stdOut cfg fs fuel src line env)
      (run (stdPrimsOnly allowed) stdOut cfg fs fuel src line env') :=
  run_rel _ _ cfg fs fuel (stdPrims_respect_nested_drops allowed hopen) (stdOut_respects true true) src line he

/-- **C18 with nested drops, for the standard engine without `json`, `inspect`, `type`**
(`withoutNestedOpen`, the engine of `run_std_rep_independent_without_repr_filters`: `withoutNestedOpen_eq_withoutRepr`):
no hypothesis left. Every template, every
configuration, file system and include depth: two environments whose bindings have the same Liquid values in any
Go representation — typed or generic slices and maps, fixed arrays, drops (and drops that yield drops) at ANY depth of arrays and maps, drops and pointers around a binding
— render to agreeing results (`RunAgree true`: the same output or the same error, or one of the two runs is outside
the model). -/
theorem run_std_rep_independent_nested_drops (cfg : Cfg) (fs : FS) (fuel : Nat) (src : Bytes) (line : Nat) (env env' : Env)
    (he : ∀ x, ERel true (env.get x) (env'.get x)) :
    RunAgree true (run (stdPrimsOnly withoutNestedOpen) stdOut cfg fs fuel src line env)
      (run (stdPrimsOnly withoutNestedOpen) stdOut cfg fs fuel src line env') :=
  run_std_rep_independent_nested_drops_partial withoutNestedOpen (fun n hn => by simp [withoutNestedOpen, hn]) cfg fs fuel src line env env' he

/-- the same with the hypothesis spelled on values: bindings related by `VRel true`, none of them the renderer's own
    `forloop` record (which no caller can build) -/
theorem run_std_rep_independent_nested_drops_vrel (cfg : Cfg) (fs : FS) (fuel : Nat) (src : Bytes) (line : Nat) (env env' : Env)
    (he : ∀ x, VRel true (env.get x) (env'.get x)) (hr : ∀ x, isRec (env.get x) = false) (hr' : ∀ x, isRec (env'.get x) = false) :
    RunAgree true (run (stdPrimsOnly withoutNestedOpen) stdOut cfg fs fuel src line env)
      (run (stdPrimsOnly withoutNestedOpen) stdOut cfg fs fuel src line env') :=
  run_std_rep_independent_nested_drops cfg fs fuel src line env env'
    (fun x => binding_related_of_unwrap (he x) (hr x) (hr' x))

/-- **The same on the engine of `run_std_rep_independent_without_repr_filters`, spelled with its name** (`withoutRepr`: the
standard engine without `json`, `inspect`, `type`): what that theorem says for typed against generic containers and
wrappers around a binding (`ERel false`) holds as well for drops at ANY depth of arrays and maps (`ERel true`) — with
`sort`, `sort_natural` and every other standard filter registered. -/
theorem run_std_rep_independent_nested_drops_without_repr_filters (cfg : Cfg) (fs : FS) (fuel : Nat) (src : Bytes) (line : Nat)
    (env env' : Env) (he : ∀ x, ERel true (env.get x) (env'.get x)) :
    RunAgree true (run (stdPrimsOnly withoutRepr) stdOut cfg fs fuel src line env)
      (run (stdPrimsOnly withoutRepr) stdOut cfg fs fuel src line env') :=
  withoutNestedOpen_eq_withoutRepr ▸ run_std_rep_independent_nested_drops cfg fs fuel src line env env' he

/-- `sort_natural` respects drops nested in containers, as a statement about the filter alone (every name spelling,
    without key, with a string key, with any key argument): related receivers and arguments (`VRel true`) give related
    results, up to the `unmodelled` tie order beyond 12 elements -/
theorem sort_natural_respects_nested_drops : FilterRespects true true (ArrF.bn "sort_natural") :=
  filterRespects_std_nested _ (by decide +kernel)

/-- `sort`, `sort_natural`, `uniq`, `compact`, `join`, `map`, `first` are on that engine; `json`, `inspect`, `type` are not -/
example : withoutNestedOpen (ArrF.bn "sort") = true ∧ withoutNestedOpen (ArrF.bn "uniq") = true ∧
    withoutNestedOpen (ArrF.bn "compact") = true ∧ withoutNestedOpen (ArrF.bn "join") = true ∧
    withoutNestedOpen (ArrF.bn "map") = true ∧ withoutNestedOpen (ArrF.bn "first") = true ∧
    withoutNestedOpen (ArrF.bn "sort_natural") = true ∧ withoutNestedOpen (JsonF.bn "json") = false ∧
    withoutNestedOpen (JsonF.bn "inspect") = false ∧ withoutNestedOpen (JsonF.bn "type") = false := by
  decide +kernel

/-- a concrete instance: `m` is a map holding a typed array that holds a drop of a drop — against the generic map of
    the generic array of the value —, template `{{ m.a | join }}{% if m.a contains 1 %}y{% endif %}` -/
example (cfg : Cfg) (fs : FS) (fuel : Nat) :
    RunAgree true
      (run (stdPrimsOnly withoutNestedOpen) stdOut cfg fs fuel
        [123, 123, 32, 109, 46, 97, 32, 124, 32, 106, 111, 105, 110, 32, 125, 125, 123, 37, 32, 105, 102, 32, 109, 46, 97, 32, 99, 111, 110, 116, 97, 105, 110, 115, 32, 49, 32, 37, 125, 121, 123, 37, 32, 101, 110, 100, 105, 102, 32, 37, 125] 1
        [([109], .map .str (.slice .any) [(.str [97], .array .any [.drop (.drop (.int .int 1)), .int .i8 2])])])
      (run (stdPrimsOnly withoutNestedOpen) stdOut cfg fs fuel
        [123, 123, 32, 109, 46, 97, 32, 124, 32, 106, 111, 105, 110, 32, 125, 125, 123, 37, 32, 105, 102, 32, 109, 46, 97, 32, 99, 111, 110, 116, 97, 105, 110, 115, 32, 49, 32, 37, 125, 121, 123, 37, 32, 101, 110, 100, 105, 102, 32, 37, 125] 1
        [([109], .map .str .any [(.str [97], .slice .any [.int .int 1, .int .i8 2])])]) := by
  exact run_std_rep_independent_nested_drops cfg fs fuel _ 1 _ _ (envRelG_single ERel.refl _ (binding_related_of_repEq rfl))

/-- the comparison layer on values with nested drops: `==` through a drop of a drop in an array in a map, `contains`
    with an array needle that holds a drop, `compact` of an array holding a drop that yields nil -/
example :
    stdPrims.equal (.map .str .any [(.str [97], .slice .any [.drop (.drop (.int .int 1))])])
        (.map .str .any [(.str [97], .slice (.int .int) [.int .int 1])]) = .ok true ∧
    stdPrims.contains (.slice .any [.slice .any [.int .int 1]]) (.slice .any [.drop (.int .int 1)]) = .ok true ∧
    lenOfRes (stdPrims.applyFilter (ArrF.bn "compact") (.slice .any [.int .int 1, .drop .nil, .int .int 2]) []) = 2 := by
  simp only [stdPrims_applyFilter_pos 34 (name := ArrF.bn "compact") (by decide +kernel)]
  decide +kernel

/-! ### `sort: key` and `sort_natural: key`: the two deviations repaired by `fixes/sort-key-drops`
(DESIGN 7.1b, `F-C18-sort-key-drops`)

Each states that the two renders agree, evaluated on the template and the two bindings of the defect (they differed
before /repo 1b08585). -/

/-- *`sort` by a key: an entry that is a drop yielding nil is nil.* Template `{{ a | sort: "k" | map: "n" | join }}` with
`a = [{"k": 1, "n": "x"}, {"k": Drop(nil), "n": "y"}]` renders `y x` (nil first), as with `{"k": nil, "n": "y"}` (it
rendered `x y`): `sortableByProperty.Less` passes the entry through `ToLiquid` before the nil test. -/
theorem sort_key_drop_nil_repaired :
    strOfRes ((stdPrims.applyFilter (ArrF.bn "sort") (.slice .any [
        .map .str .any [(.str [107], .int .int 1), (.str [110], .str [120])],
        .map .str .any [(.str [107], .drop .nil), (.str [110], .str [121])]]) [.str [107]]).bind fun s =>
      (stdPrims.applyFilter (ArrF.bn "map") s [.str [110]]).bind fun m => stdPrims.applyFilter (ArrF.bn "join") m [])
      = [121, 32, 120] ∧
    strOfRes ((stdPrims.applyFilter (ArrF.bn "sort") (.slice .any [
        .map .str .any [(.str [107], .int .int 1), (.str [110], .str [120])],
        .map .str .any [(.str [107], .nil), (.str [110], .str [121])]]) [.str [107]]).bind fun s =>
      (stdPrims.applyFilter (ArrF.bn "map") s [.str [110]]).bind fun m => stdPrims.applyFilter (ArrF.bn "join") m [])
      = [121, 32, 120] := by
  simp only [stdPrims_applyFilter_pos 39 (name := ArrF.bn "sort") (by decide +kernel), stdPrims_applyFilter_pos 37 (name := ArrF.bn "map") (by decide +kernel),
    stdPrims_applyFilter_pos 36 (name := ArrF.bn "join") (by decide +kernel)]
  decide +kernel

/-- *`sort` names its key by `fmt.Sprint(values.ResolveDrops(key))`.* Template `{{ a | sort: k | map: "n" | join }}` with
`a = [{"[1]": 2, "n": "x"}, {"[1]": 1, "n": "y"}]`: with `k = [Drop(1)]` it renders `y x`, as with `k = [1]` (it rendered
`x y`: the key was named `[{1}]`). -/
theorem sort_key_name_drops_repaired :
    strOfRes ((stdPrims.applyFilter (ArrF.bn "sort") (.slice .any [
        .map .str .any [(.str [91, 49, 93], .int .int 2), (.str [110], .str [120])],
        .map .str .any [(.str [91, 49, 93], .int .int 1), (.str [110], .str [121])]]) [.slice .any [.drop (.int .int 1)]]).bind fun s =>
      (stdPrims.applyFilter (ArrF.bn "map") s [.str [110]]).bind fun m => stdPrims.applyFilter (ArrF.bn "join") m [])
      = [121, 32, 120] ∧
    strOfRes ((stdPrims.applyFilter (ArrF.bn "sort") (.slice .any [
        .map .str .any [(.str [91, 49, 93], .int .int 2), (.str [110], .str [120])],
        .map .str .any [(.str [91, 49, 93], .int .int 1), (.str [110], .str [121])]]) [.slice .any [.int .int 1]]).bind fun s =>
      (stdPrims.applyFilter (ArrF.bn "map") s [.str [110]]).bind fun m => stdPrims.applyFilter (ArrF.bn "join") m [])
      = [121, 32, 120] := by
  simp only [stdPrims_applyFilter_pos 39 (name := ArrF.bn "sort") (by decide +kernel), stdPrims_applyFilter_pos 37 (name := ArrF.bn "map") (by decide +kernel),
    stdPrims_applyFilter_pos 36 (name := ArrF.bn "join") (by decide +kernel)]
  decide +kernel

/-- *`sort_natural` likewise.* Template `{{ a | sort_natural: k | map: "n" | join }}` with
`a = [{"[1]": "b", "n": "x"}, {"[1]": "a", "n": "y"}]`: with `k = [Drop(1)]` it renders `y x`, as with `k = [1]` (it rendered `x y`). -/
theorem sort_natural_key_name_drops_repaired :
    strOfRes ((stdPrims.applyFilter (ArrF.bn "sort_natural") (.slice .any [
        .map .str .any [(.str [91, 49, 93], .str [98]), (.str [110], .str [120])],
        .map .str .any [(.str [91, 49, 93], .str [97]), (.str [110], .str [121])]]) [.slice .any [.drop (.int .int 1)]]).bind fun s =>
      (stdPrims.applyFilter (ArrF.bn "map") s [.str [110]]).bind fun m => stdPrims.applyFilter (ArrF.bn "join") m [])
      = [121, 32, 120] ∧
    strOfRes ((stdPrims.applyFilter (ArrF.bn "sort_natural") (.slice .any [
        .map .str .any [(.str [91, 49, 93], .str [98]), (.str [110], .str [120])],
        .map .str .any [(.str [91, 49, 93], .str [97]), (.str [110], .str [121])]]) [.slice .any [.int .int 1]]).bind fun s =>
      (stdPrims.applyFilter (ArrF.bn "map") s [.str [110]]).bind fun m => stdPrims.applyFilter (ArrF.bn "join") m [])
      = [121, 32, 120] := by
  simp only [stdPrims_applyFilter_pos 43 (name := ArrF.bn "sort_natural") (by decide +kernel), stdPrims_applyFilter_pos 37 (name := ArrF.bn "map") (by decide +kernel),
    stdPrims_applyFilter_pos 36 (name := ArrF.bn "join") (by decide +kernel)]
  decide +kernel

/-! ### `sort_natural` on values with nested drops (`ArrF.sortNatural_respects_gen`)

The general statement is `sort_natural_respects_nested_drops` / `run_std_rep_independent_nested_drops`; the two
statements below are evaluated instances, on the templates and bindings that were also run on the real engine of /repo
(1b08585; rows `sort-natural-elements-drops` and `sort-natural-key-entries-drops` of `repsNestedDropFamily`), which
renders what the model computes with both bindings. -/

/-- *`sort_natural` sees the values of the drops among its elements.* Template `{{ a | sort_natural | join: "," }}` with
`a = [Drop("b"), "C", Drop(Drop("a")), nil, Drop(nil), "B"]` renders `a,b,B,C` (the two nils first; `join` skips them),
as with `a = ["b", "C", "a", nil, nil, "B"]`: `Convert` to `[]any` passes every element through `ToLiquid`. -/
theorem sort_natural_elements_drops_evaluated :
    strOfRes ((stdPrims.applyFilter (ArrF.bn "sort_natural")
        (.slice .any [.drop (.str [98]), .str [67], .drop (.drop (.str [97])), .nil, .drop .nil, .str [66]]) []).bind fun s =>
      stdPrims.applyFilter (ArrF.bn "join") s [.str [44]]) = [97, 44, 98, 44, 66, 44, 67] ∧
    strOfRes ((stdPrims.applyFilter (ArrF.bn "sort_natural")
        (.slice .any [.str [98], .str [67], .str [97], .nil, .nil, .str [66]]) []).bind fun s =>
      stdPrims.applyFilter (ArrF.bn "join") s [.str [44]]) = [97, 44, 98, 44, 66, 44, 67] := by
  simp only [stdPrims_applyFilter_pos 43 (name := ArrF.bn "sort_natural") (by decide +kernel), stdPrims_applyFilter_pos 36 (name := ArrF.bn "join") (by decide +kernel)]
  decide +kernel

/-- *`sort_natural: key` sees the values of the drops under the key.* Template `{{ a | sort_natural: k | map: "n" | join }}`
with `k = Drop("k")` and `a = [{"k": Drop("b"), "n": "1"}, {"k": Drop(nil), "n": "2"}, Drop({"k": Drop(Drop("A")), "n": "3"}),
{"n": "4"}, {"k": "C", "n": "5"}]` renders `2 4 3 1 5` (no string under the key: first, in their order; then `A`, `b`,
`C`), as with `k = "k"` and the drops replaced by what they yield. -/
theorem sort_natural_key_entries_drops_evaluated :
    strOfRes ((stdPrims.applyFilter (ArrF.bn "sort_natural") (.slice .any [
        .map .str .any [(.str [107], .drop (.str [98])), (.str [110], .str [49])],
        .map .str .any [(.str [107], .drop .nil), (.str [110], .str [50])],
        .drop (.map .str .any [(.str [107], .drop (.drop (.str [65]))), (.str [110], .str [51])]),
        .map .str .any [(.str [110], .str [52])],
        .map .str .any [(.str [107], .str [67]), (.str [110], .str [53])]]) [.drop (.str [107])]).bind fun s =>
      (stdPrims.applyFilter (ArrF.bn "map") s [.str [110]]).bind fun m => stdPrims.applyFilter (ArrF.bn "join") m [])
      = [50, 32, 52, 32, 51, 32, 49, 32, 53] ∧
    strOfRes ((stdPrims.applyFilter (ArrF.bn "sort_natural") (.slice .any [
        .map .str .any [(.str [107], .str [98]), (.str [110], .str [49])],
        .map .str .any [(.str [107], .nil), (.str [110], .str [50])],
        .map .str .any [(.str [107], .str [65]), (.str [110], .str [51])],
        .map .str .any [(.str [110], .str [52])],
        .map .str .any [(.str [107], .str [67]), (.str [110], .str [53])]]) [.str [107]]).bind fun s =>
      (stdPrims.applyFilter (ArrF.bn "map") s [.str [110]]).bind fun m => stdPrims.applyFilter (ArrF.bn "join") m [])
      = [50, 32, 52, 32, 51, 32, 49, 32, 53] := by
  simp only [stdPrims_applyFilter_pos 43 (name := ArrF.bn "sort_natural") (by decide +kernel), stdPrims_applyFilter_pos 37 (name := ArrF.bn "map") (by decide +kernel),
    stdPrims_applyFilter_pos 36 (name := ArrF.bn "join") (by decide +kernel)]
  decide +kernel

/-- the whole-template theorem on a template with `sort_natural`: `{{ a | sort_natural | join }}` with `a` an array of a
    drop of a string, a plain string, a drop of a drop and a drop that yields nil, against the generic array of the values -/
example (cfg : Cfg) (fs : FS) (fuel : Nat) :
    RunAgree true
      (run (stdPrimsOnly withoutNestedOpen) stdOut cfg fs fuel
        [123, 123, 32, 97, 32, 124, 32, 115, 111, 114, 116, 95, 110, 97, 116, 117, 114, 97, 108, 32, 124, 32, 106, 111, 105, 110, 32, 125, 125] 1
        [([97], .slice .any [.drop (.str [98]), .str [67], .drop (.drop (.str [97])), .drop .nil])])
      (run (stdPrimsOnly withoutNestedOpen) stdOut cfg fs fuel
        [123, 123, 32, 97, 32, 124, 32, 115, 111, 114, 116, 95, 110, 97, 116, 117, 114, 97, 108, 32, 124, 32, 106, 111, 105, 110, 32, 125, 125] 1
        [([97], .slice .any [.str [98], .str [67], .str [97], .nil])]) := by
  exact run_std_rep_independent_nested_drops cfg fs fuel _ 1 _ _ (envRelG_single ERel.refl _ (binding_related_of_repEq rfl))
