import Proofs.E2EEquiv
/-!
# Raw and comment blocks whose body is arbitrary bytes: the item lists and their cleanliness
-/

/-- a text item for `b`, none when `b` is empty -/
def optText (b : Bytes) : List Item := if b = [] then [] else [.text b]

theorem mem_optText {b : Bytes} {it : Item} (h : it ∈ optText b) : it = .text b := by
  unfold optText at h
  split at h
  · cases h
  · exact List.mem_singleton.mp h

theorem spell_optText (d : Delims) (b : Bytes) : spell d (optText b) = b := by
  unfold optText; split
  · next h => rw [h]; rfl
  · simp [spell, Item.spell]

theorem tokensOf_optText_srcs (d : Delims) (b : Bytes) (l : Nat) : srcs (tokensOf d (optText b) l) = b := by
  rw [tokensOf_srcs, spell_optText]

theorem spell_block (d : Delims) (o c : Item) (b : Bytes) (post : List Item) :
    spell d (o :: (optText b ++ c :: post)) = o.spell d ++ (b ++ (c.spell d ++ spell d post)) := by
  simp only [spell, spell_append, spell_optText]

theorem endTag_item_at (d : Delims) (hg : GoodDelims d) (n : Bytes) (hn : GoodHead n) (hl hr : Bool) (wl wm wr rest : Bytes)
    (hci : CleanItem d (.tag n [] hl hr wl wm wr)) :
    endTagAtB d n ((Item.tag n [] hl hr wl wm wr).spell d ++ rest) = true := by
  rw [endTagAtB_iff d hg n hn]
  obtain ⟨hwl, _, hwr, _, _, _, _⟩ := hci
  refine ⟨hl, hr, wl, wr, rest, ?_, hwl, hwr⟩
  simp [Item.spell, tagArgPart, List.append_assoc]

theorem lexEnd_block_tag (nm : Bytes) (h : nm = nameRaw ∨ nm = nameComment) (hl hr : Bool) (wl wm wr : Bytes) :
    (Item.tag nm [] hl hr wl wm wr).lexEnd = some (nameEnd ++ nm) := by
  rcases h with rfl | rfl <;> rfl

/-- a raw/comment block whose body is ANY bytes in which no end tag begins is clean; what follows the end tag is
    any clean remainder -/
theorem clean_lex_block (d : Delims) (hg : GoodDelims d) (nm : Bytes) (hnm : nm = nameRaw ∨ nm = nameComment)
    (body : Bytes) (hl1 hr1 hl2 hr2 : Bool) (wl1 wm1 wr1 wl2 wm2 wr2 : Bytes) (post : List Item)
    (ho : CleanItem d (.tag nm [] hl1 hr1 wl1 wm1 wr1))
    (hpost : Clean d (.tag (nameEnd ++ nm) [] hl2 hr2 wl2 wm2 wr2 :: post))
    (hin : ∀ i, i < body.length →
      endTagAtB d (nameEnd ++ nm) ((body ++ spell d (.tag (nameEnd ++ nm) [] hl2 hr2 wl2 wm2 wr2 :: post)).drop i) = false) :
    Clean d (.tag nm [] hl1 hr1 wl1 wm1 wr1 :: (optText body ++ .tag (nameEnd ++ nm) [] hl2 hr2 wl2 wm2 wr2 :: post)) := by
  have hat : endTagAtB d (nameEnd ++ nm) (spell d (.tag (nameEnd ++ nm) [] hl2 hr2 wl2 wm2 wr2 :: post)) = true :=
    endTag_item_at d hg _ (goodHead_end nm) hl2 hr2 wl2 wm2 wr2 _ hpost.1
  refine ⟨ho, fun h => absurd rfl h, trivial, ?_⟩
  rw [lexEnd_block_tag nm hnm]
  unfold optText
  split
  · rw [List.nil_append]
    exact ⟨hpost.1, hpost.2.1, .inl hat, hpost.2.2.2⟩
  · next hb =>
    refine ⟨hb, trivial, .inl ⟨hin, ?_⟩, hpost⟩
    rw [List.drop_left' rfl]
    exact hat

theorem objsModelled_optText (b : Bytes) :
    firstUnmodelledObj ((optText b).filterMap (fun it => (match it with | .obj a _ _ _ _ => some a | _ => none : Option Bytes).map
      (fun a => ({ ty := .obj, args := a } : Token)))) = none := by
  unfold optText; split <;> rfl
