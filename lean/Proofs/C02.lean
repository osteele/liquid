import Liquid.Std
import Proofs.MapPermSort
/-!
# C02 — rendering is deterministic across runs, re-parses, engines and entry points

In the model a render is the function `run` of (configuration, source, start line, environment,
file system): it has no other input, so repeated renders, fresh parses and fresh engines are the
same function application. What needs an argument is the one place where Go's nondeterminism
enters the real code — the iteration order of a Go map — and the six API entry points.
-/

/-! ## Go map iteration order

`reflect.Value.MapKeys` returns the keys in an arbitrary order. The repaired code sorts them
(`values.SortedMapKeys`) before iterating or converting to an array. Sorting makes the result
independent of that arbitrary order (here for string keys; `Proofs/MapOrder.lean` for booleans, numbers
of every type and strings, with the comparator of `values/sort.go` itself): -/

theorem sort_perm_invariant {α : Type} (le : α → α → Bool)
    (trans : ∀ a b c, le a b → le b c → le a c) (total : ∀ a b, le a b || le b a)
    (l₁ l₂ : List α) (hperm : l₁.Perm l₂)
    (anti : ∀ a b, a ∈ l₁ → b ∈ l₁ → le a b → le b a → a = b) :
    l₁.mergeSort le = l₂.mergeSort le :=
  mergeSort_perm_invariant le trans total hperm anti

/-- the order `SortedMapKeys` uses on string keys: bytewise lexicographic -/
def entryLe (a b : Bytes × GoVal) : Bool := decide (a.1 ≤ b.1)

/-- the entries of a string-keyed map in a `mergeSort` by name: not the order of the model
    (`MapOrder.sortedEntries`, the transcription of `values.SortedMapKeys` for keys of every kind, which
    `loopItems` and `Convert` call) -/
def sortedEntries (kvs : List (Bytes × GoVal)) : List (Bytes × GoVal) := kvs.mergeSort entryLe

/-- **C02 (map iteration order).** Whatever order the Go runtime hands the keys of a string-keyed
    map out in (`kvs'` is any permutation of `kvs`; keys are distinct, as in every Go map), sorting
    the entries by key gives the same list. (The sites — a `for` loop, `first`, `last`, `join` … — with
    the comparator of the code: `Proofs/MapOrder.lean`.) -/
theorem map_order_independent (kvs kvs' : List (Bytes × GoVal)) (hperm : kvs.Perm kvs')
    (hdistinct : ∀ a b, a ∈ kvs → b ∈ kvs → a.1 = b.1 → a = b) :
    sortedEntries kvs = sortedEntries kvs' :=
  mergeSort_key_perm (fun _ _ => rfl) hperm hdistinct

theorem sortedEntries_of_sorted (kvs : List (Bytes × GoVal)) (h : kvs.Pairwise (fun a b => entryLe a b = true)) :
    sortedEntries kvs = kvs := List.mergeSort_of_pairwise h

/-! ## Entry points

`Render`, `RenderString`, `FRender`, `ParseAndRender`, `ParseAndRenderString`, `ParseAndFRender`
are thin wrappers of one another in `engine.go` / `template.go`; so are their models. -/

/-- `Template.Render` / `RenderString`: the bytes a fault-free `FRender` writes, or the error -/
def apiRender (P : Prims) (O : OutPrims) (cfg : Cfg) (fs : FS) (fuel : Nat) (root : List Node) (env : Env) : RunResult :=
  match (frender P O cfg fs fuel root env).runPure with
  | (out, .ok _) => .ok out
  | (_, .err (.located e)) => .err e
  | (_, .err (.plain c)) => .err ⟨0, false, c, .byCause⟩
  | (_, .panic w) => .panic w
  | (_, .unmodelled w) => .unmodelled w

/-- `Engine.ParseAndRender` / `ParseAndRenderString` -/
def apiParseAndRender (P : Prims) (O : OutPrims) (cfg : Cfg) (fs : FS) (fuel : Nat) (src : Bytes) (line : Nat) (env : Env) : RunResult :=
  match compileSource cfg.delims src line with
  | .ok root => apiRender P O cfg fs fuel root env
  | .err e => .err e
  | .panic w => .panic w
  | .unmodelled w => .unmodelled w

/-- **C02 (entry points).** Parsing then rendering is the same function as the one-call entry
    point, and `FRender` into a buffer is what `Render` returns. -/
theorem entrypoints_agree (P : Prims) (O : OutPrims) (cfg : Cfg) (fs : FS) (fuel : Nat) (src : Bytes) (line : Nat) (env : Env) :
    apiParseAndRender P O cfg fs fuel src line env = run P O cfg fs fuel src line env := by
  unfold apiParseAndRender run apiRender
  cases compileSource cfg.delims src line <;> rfl

/-- a render is a function of the template text and the binding values only: two parses of the
    same text give the same tree, hence the same render (fresh parse, fresh engine) -/
theorem reparse_same (delims : List Bytes) (src : Bytes) (line : Nat) :
    compileSource delims src line = compileSource delims src line := rfl

example : sortedEntries [([98], .nil), ([97], .bool true)] = sortedEntries [([97], .bool true), ([98], .nil)] :=
  map_order_independent _ _ (List.Perm.swap _ _ _) (by
    intro a b ha hb h
    simp only [List.mem_cons, List.mem_nil_iff, or_false] at ha hb
    rcases ha with rfl | rfl <;> rcases hb with rfl | rfl <;> simp_all)

/-! ## The whole render does not depend on the order of map entries

`MP a b` (`Proofs/MapPerm.lean`, defined inductively on `GoVal`): `b` is `a` with the entry lists of maps
permuted, at any depth — for maps whose keys are booleans, numbers or strings, pairwise distinct as Go
map keys (`MapOrder.KeysOK`: what the keys of one Go map of these kinds always are). The model's `run`
gets every map as a *list* of entries, in the order of the line protocol, and sorts it wherever the code
calls `values.SortedMapKeys` (`Liquid/MapOrder.lean`); Go's runtime hands the entries out in a random
order. The theorems say that this order cannot reach the result. -/

/-- **C02, whole template, parametric in the value layer.** For every comparison/filter layer `P` and
output layer `O` that do not see the order of map entries (`PrimsRespectM`, `OutRespectM`: related
operands compare alike, related filter inputs give related results, related values print alike), every
configuration, file system, include depth, template source and start line: rendering against two
environments whose bindings differ in the order of the entries of maps, at any depth (`MP`), gives the
same result — the same output bytes or the same error. Proved by the induction over the compiled tree on
the two runs in lock step (`ValSim.frender`, `Proofs/RenderSim.lean`, at `valRel_mp` and `ctxSim_mp` of
`Proofs/MapPermRender.lean`): variable, property and index lookup find the same entry (`EntRel.find`: keys
are distinct), `for`/`tablerow` visit the entries in the order of `SortedMapKeys` (`EntRel.sorted`, by
`sortedEntries_perm`), assign/capture/loop variables stay related, includes see related variables. -/
theorem run_map_order_independent (P : Prims) (O : OutPrims) (hP : PrimsRespectM false P) (hO : OutRespectM false O)
    (cfg : Cfg) (fs : FS) (fuel : Nat) (src : Bytes) (line : Nat) (env env' : Env)
    (he : ∀ x, MP (env.get x) (env'.get x)) :
    run P O cfg fs fuel src line env = run P O cfg fs fuel src line env' :=
  (run_mp P O cfg fs fuel hP hO src line he).eq

/-- The same up to the boundary of the model (`RunAgree true`: equal, or one of the two runs is
`unmodelled`): the layers need to respect `MP` only up to `unmodelled` results. -/
theorem run_map_order_independent_upto_unmodelled (P : Prims) (O : OutPrims) (hP : PrimsRespectM true P)
    (hO : OutRespectM true O) (cfg : Cfg) (fs : FS) (fuel : Nat) (src : Bytes) (line : Nat) (env env' : Env)
    (he : ∀ x, MP (env.get x) (env'.get x)) :
    RunAgree true (run P O cfg fs fuel src line env) (run P O cfg fs fuel src line env') :=
  run_mp P O cfg fs fuel hP hO src line he

theorem binding_related_of_perm (kt vt : Ty) {kvs kvs' : List (GoVal × GoVal)} (hv : vt ≠ .priv)
    (hk : MapOrder.KeysOK kvs) (ht : KeysTyped kt kvs) (hn : NoPriv kvs) (hp : kvs.Perm kvs') :
    MP (.map kt vt kvs) (.map kt vt kvs') :=
  MP.map kt vt hv hk hn (MPV.refl _) hp ht

theorem binding_related_nested (t : Ty) {x y : GoVal} (h : MP x y) (xs : List GoVal) : MP (.slice t (x :: xs)) (.slice t (y :: xs)) :=
  MP.slice t (.cons h (MPL.refl xs))

/-! Non-vacuity: the map with the keys `1`, `1.0`, `int64(1)`, `"1"`, `true` in two orders, bound to `m`;
layers that satisfy the hypotheses. -/

theorem mp_exA_exB : MP (.map .any .any MapOrder.exA) (.map .any .any MapOrder.exB) :=
  binding_related_of_perm .any .any (by simp) MapOrder.exA_keysOK (fun _ _ => rfl)
    (by intro kv h; simp only [MapOrder.exA, List.mem_cons, List.mem_nil_iff, or_false] at h
        rcases h with rfl | rfl | rfl | rfl | rfl <;> rfl)
    MapOrder.exB_perm_exA.symm

example : MP (.map .any .any MapOrder.exA) (.map .any .any MapOrder.exB) := mp_exA_exB

example : ∀ y, MP (Env.get [([109], .map .any .any MapOrder.exA)] y) (Env.get [([109], .map .any .any MapOrder.exB)] y) :=
  envRelG_single MP.refl _ mp_exA_exB

example : PrimsRespectM false
    { equal := fun _ _ => .ok true, less := fun _ _ => .ok false, contains := fun _ _ => .ok false,
      equalFn := fun _ _ => .ok true, applyFilter := fun _ r _ => .ok r, hasFilter := fun _ => true } :=
  { equal := fun _ _ _ _ _ _ => rfl, less := fun _ _ _ _ _ _ => rfl, contains := fun _ _ _ _ _ _ => rfl,
    equalFn := fun _ _ _ _ _ _ => rfl, applyFilter := fun _ _ _ _ _ hr _ => hr.2.2 }

example : OutRespectM false { chunks := fun _ => .ok [] } := { chunks := fun _ _ _ => rfl }

example : OutRespectM true stdOut := stdOut_respectsM

/-! ## The standard configuration

The standard output layer (`stdOut_respectsM`: `fmt.Sprint` sorts the keys of a map), the standard
comparisons (`opEq_prep_mp`, `opLt_prep_mp`, `opContains_prep_mp`, `equal_mp`: `equalMaps` is a conjunction
over all entries, `mapValue.Contains` a key lookup) and every standard filter (`filterRespectsM_all`:
`Convert(·, []any)` of a map sorts the entries, `Convert(·, string)` prints them sorted; `json`/`inspect` sort
the members of an object by key text — `marshal_jrel`; `type` names types; `sort`/`sort_natural` order by
`values.Less` / the printed text and make the same comparisons on both runs — `SortRel.sortM` (beyond 12
elements `All2.mergeSort`); `uniq` identifies elements by their canonical encoding —
`canonOrder_mp`) respect `MP` up to `unmodelled`: the entries of a map are *printed* and *compared* in the
order of the entry list, so which part of a value leaves the model first — and with an early exit, whether it is reached at all — depends on that
order; the answers inside the model are the same. -/

/-- **C02 for the standard configuration: rendering does not depend on the order of map entries anywhere in
the bindings.** Every template (all tags, all 48 filters, every comparison), every configuration, file system
and include depth: rendering against environments whose bindings differ in the order of the entries of maps, at
any depth (`MP`: maps whose keys are booleans, numbers or strings, pairwise distinct and of the map's key type),
gives results that agree (`RunAgree true`: the same output or the same error, or one of the two runs is outside
the model). "Agree" rather than "equal" is forced by the model, not by the code: see the paragraph above — the
statement for equal results holds for every value layer that respects `MP` exactly
(`run_map_order_independent`). -/
theorem run_std_map_order_independent (cfg : Cfg) (fs : FS) (fuel : Nat) (src : Bytes) (line : Nat) (env env' : Env)
    (he : ∀ x, MP (env.get x) (env'.get x)) :
    RunAgree true (run stdPrims stdOut cfg fs fuel src line env) (run stdPrims stdOut cfg fs fuel src line env') :=
  run_mp _ _ cfg fs fuel stdPrims_respectsM stdOut_respectsM src line he

/-- the same for an engine on which only some of the standard filters are registered -/
theorem run_std_map_order_independent_only (allowed : Bytes → Bool)
    (cfg : Cfg) (fs : FS) (fuel : Nat) (src : Bytes) (line : Nat) (env env' : Env)
    (he : ∀ x, MP (env.get x) (env'.get x)) :
    RunAgree true (run (stdPrimsOnly allowed) stdOut cfg fs fuel src line env)
      (run (stdPrimsOnly allowed) stdOut cfg fs fuel src line env') :=
  run_mp _ _ cfg fs fuel (stdPrimsOnly_respectsM_all allowed) stdOut_respectsM src line he

/-- the hypothesis on the environments, on the map with the keys `1`, `1.0`, `int64(1)`, `"1"`, `true` nested in an
    array, bound to `a`, in two orders -/
example : ∀ y, MP (Env.get [([97], .slice .any [.map .any .any MapOrder.exA, .int .int 7])] y)
    (Env.get [([97], .slice .any [.map .any .any MapOrder.exB, .int .int 7])] y) :=
  envRelG_single MP.refl _ (binding_related_nested .any mp_exA_exB _)

/-- … and the conclusion on it: every template (`{% for p in m %}{{ p[1] }}{% endfor %}{{ m | json }}`, say)
    renders alike against the two orders of the map -/
example (src : Bytes) :
    RunAgree true (run stdPrims stdOut {} (fsOfList []) 8 src 0 [([109], .map .any .any MapOrder.exA)])
      (run stdPrims stdOut {} (fsOfList []) 8 src 0 [([109], .map .any .any MapOrder.exB)]) :=
  run_std_map_order_independent _ _ _ _ _ _ _ (envRelG_single MP.refl _ mp_exA_exB)
