import Proofs.DecEq
import Liquid.Eval
import Proofs.ExprRoundTrip
import Proofs.ExprShowLex
import Proofs.ExprParseImage
/-!
# C08 — expressions: literals, variable/property/index lookup and filter pipelines

First half: what `eval` gives on literals, names, indexing, property lookup and pipelines. Second half: the round
trip between trees and their canonical text (`parse_show`, `show_lexes_back`, `parse_show_source_all`,
`show_spacing_irrelevant`), the parser's image (`parse_image_printable`, `show_parse_source`) and the float
literals (`float_value_printable`).
-/

open GoVal

/-- a literal denotes itself -/
theorem eval_lit (P : Prims) (env : Env) (v : GoVal) : eval P env (.lit v) = .ok v := by
  rw [eval]

/-- a name denotes its binding (a drop presents as its `ToLiquid` value); an undefined name is nil -/
theorem eval_var (P : Prims) (env : Env) (x : Bytes) : eval P env (.var x) = .ok (env.get x).toLiquid := by
  rw [eval]

theorem eval_var_undefined (P : Prims) (env : Env) (x : Bytes) (h : env.find? (fun kv => kv.1 == x) = none) :
    eval P env (.var x) = .ok .nil := by
  rw [eval_var]; simp [Env.get, h, GoVal.toLiquid]

/-- `a[n]` on an array: a negative `n` counts from the end, out of range is nil. This is the clause of `GoVal.indexValue`
    (`Liquid/Lookup.lean`) itself, by `rfl`; the index theorems below are read off it -/
theorem indexValue_slice_int (t : Ty) (xs : List GoVal) (n : Int) :
    indexValue (.slice t xs) (.int .int n) =
      if 0 ≤ (if n < 0 then n + xs.length else n) ∧ (if n < 0 then n + xs.length else n) < xs.length
      then .val (xs.getD (if n < 0 then n + xs.length else n).toNat .nil) else .val .nil := rfl

/-- `a[i]` for `0 ≤ i < len` reads element `i` -/
theorem index_array (t : Ty) (xs : List GoVal) (i : Nat) (h : i < xs.length) :
    indexValue (.slice t xs) (.int .int i) = .val xs[i] := by
  have h1 : ¬ ((i : Int) < 0) := by omega
  have h2 : (0 : Int) ≤ i ∧ (i : Int) < xs.length := by omega
  rw [indexValue_slice_int, if_neg h1, if_pos h2, Int.toNat_natCast, List.getD_eq_getElem?_getD, List.getElem?_eq_getElem h,
    Option.getD_some]

/-- negative indices count from the end: `a[-k]` is `a[len-k]` -/
theorem index_neg (t : Ty) (xs : List GoVal) (k : Nat) (hk : 0 < k) (h : k ≤ xs.length) :
    indexValue (.slice t xs) (.int .int (-(k : Int))) = .val (xs.getD (xs.length - k) .nil) := by
  have h1 : (-(k : Int) < 0) := by omega
  have h2 : (0 : Int) ≤ -(k : Int) + xs.length ∧ -(k : Int) + xs.length < xs.length := by omega
  have h3 : (-(k : Int) + xs.length).toNat = xs.length - k := by omega
  rw [indexValue_slice_int, if_pos h1, if_pos h2, h3]

/-- an out-of-range index yields nil -/
theorem index_oob (t : Ty) (xs : List GoVal) (n : Int) (h : n < -(xs.length : Int) ∨ (xs.length : Int) ≤ n) :
    indexValue (.slice t xs) (.int .int n) = .val .nil := by
  rw [indexValue_slice_int, if_neg]
  split <;> omega

/-- a string, nil or bool index yields nil -/
theorem index_nonint_str (t : Ty) (xs : List GoVal) (s : Bytes) : indexValue (.slice t xs) (.str s) = .val .nil := rfl
theorem index_nonint_nil (t : Ty) (xs : List GoVal) : indexValue (.slice t xs) .nil = .val .nil := rfl
theorem index_nonint_bool (t : Ty) (xs : List GoVal) (b : Bool) : indexValue (.slice t xs) (.bool b) = .val .nil := rfl

/-- arrays offer `first`, `last` and `size` -/
theorem array_first (t : Ty) (xs : List GoVal) : propertyValue (.slice t xs) firstKey = .val (xs.head?.getD .nil) := rfl
theorem array_last (t : Ty) (xs : List GoVal) : propertyValue (.slice t xs) lastKey = .val (xs.getLast?.getD .nil) := rfl
theorem array_size (t : Ty) (xs : List GoVal) : propertyValue (.slice t xs) sizeKey = .val (.int .int xs.length) := rfl

/-- `m.k` and `m["k"]` read the same entry of a string-keyed map -/
theorem map_prop_eq_index (vt : Ty) (kvs : List (GoVal × GoVal)) (k : Bytes) (v : GoVal)
    (h : mapFind kvs (.str k) = some v) :
    propertyValue (.map .str vt kvs) k = .val v ∧ indexValue (.map .str vt kvs) (.str k) = .val v := by
  simp [propertyValue, indexValue, unwrap, convertKey, h]

/-- a missing key yields nil (through either spelling), except `size`… -/
theorem map_missing_key (vt : Ty) (kvs : List (GoVal × GoVal)) (k : Bytes)
    (h : mapFind kvs (.str k) = none) (hk : k ≠ sizeKey) :
    propertyValue (.map .str vt kvs) k = .val .nil ∧ indexValue (.map .str vt kvs) (.str k) = .val .nil := by
  simp [propertyValue, indexValue, unwrap, convertKey, h, hk]

/-- …`m.size` gives the entry count when the map has no such key… -/
theorem map_size_fallback (vt : Ty) (kvs : List (GoVal × GoVal)) (h : mapFind kvs (.str sizeKey) = none) :
    propertyValue (.map .str vt kvs) sizeKey = .val (.int .int kvs.length) := by
  simp [propertyValue, unwrap, h]

/-- …and the entry when it has -/
theorem map_size_shadowed (vt : Ty) (kvs : List (GoVal × GoVal)) (v : GoVal) (h : mapFind kvs (.str sizeKey) = some v) :
    propertyValue (.map .str vt kvs) sizeKey = .val v := by
  simp [propertyValue, unwrap, h]

/-! ## Steps that do not apply yield nil -/

theorem nil_prop (k : Bytes) : propertyValue .nil k = .val .nil := rfl
theorem nil_index (i : GoVal) : indexValue .nil i = .val .nil := rfl
theorem int_prop (kd : IntKind) (n : Int) (k : Bytes) : propertyValue (.int kd n) k = .val .nil := rfl
theorem bool_prop (b : Bool) (k : Bytes) : propertyValue (.bool b) k = .val .nil := rfl
theorem flt_prop (kd : FltKind) (q : Rat) (k : Bytes) : propertyValue (.flt kd q) k = .val .nil := rfl
theorem int_index (kd : IntKind) (n : Int) (i : GoVal) : indexValue (.int kd n) i = .val .nil := rfl
theorem str_prop (s k : Bytes) (hk : k ≠ sizeKey) : propertyValue (.str s) k = .val .nil := by
  simp only [propertyValue, unwrap, beq_iff_eq, hk, if_false]
theorem str_index (s : Bytes) (i : GoVal) : indexValue (.str s) i = .val .nil := rfl

/-- a drop is looked through by every lookup -/
theorem drop_prop (v : GoVal) (k : Bytes) : propertyValue (.drop v) k = propertyValue v k := by
  unfold propertyValue; rw [unwrap]
theorem drop_index (v i : GoVal) : indexValue (.drop v) i = indexValue v i := by
  unfold indexValue; rw [unwrap]

/-- one pipeline step: the filter is looked up first, then the receiver is evaluated, then the
    arguments left to right in the current bindings, then the filter is applied -/
theorem eval_filter_step (P : Prims) (env : Env) (e : Expr) (name : Bytes) (args : List Expr)
    (h : P.hasFilter name = true) :
    eval P env (.filter e name args) =
      (eval P env e).bind fun recv => (evalList P env args).bind fun as =>
        P.applyFilter name recv.unwrap (as.map GoVal.unwrap) := by
  rw [eval]; simp [h]

/-- an unknown filter is an error, whatever the receiver and the arguments are (they are not
    even evaluated) -/
theorem unknown_filter_err (P : Prims) (env : Env) (e : Expr) (name : Bytes) (args : List Expr)
    (h : P.hasFilter name = false) :
    eval P env (.filter e name args) = .err (.undefinedFilter name) := by
  rw [eval]; simp [h]

/-- a pipeline `x | f₁: a₁ | … | fₙ: aₙ` -/
def pipeline (x : Expr) : List (Bytes × List Expr) → Expr
  | [] => x
  | (f, as) :: rest => pipeline (.filter x f as) rest

def pipeStep (P : Prims) (env : Env) (acc : Res Cause GoVal) (fa : Bytes × List Expr) : Res Cause GoVal :=
  if !P.hasFilter fa.1 then .err (.undefinedFilter fa.1) else
  acc.bind fun recv => (evalList P env fa.2).bind fun as => P.applyFilter fa.1 recv.unwrap (as.map GoVal.unwrap)

/-- **C08 (pipelines).** A pipeline applies its filters left to right, each to the result of the
    previous one, with argument expressions evaluated in the current bindings — provided every
    filter exists (an unknown filter anywhere makes the whole pipeline fail, see
    `unknown_filter_err`). -/
theorem pipeline_fold (P : Prims) (env : Env) (x : Expr) (fs : List (Bytes × List Expr))
    (h : ∀ fa ∈ fs, P.hasFilter fa.1 = true) :
    eval P env (pipeline x fs) = fs.foldl (pipeStep P env) (eval P env x) := by
  induction fs generalizing x with
  | nil => rfl
  | cons fa rest ih =>
    obtain ⟨f, as⟩ := fa
    simp only [pipeline, List.foldl_cons]
    rw [ih _ (fun y hy => h y (by simp [hy]))]
    congr 1

example : indexValue (.slice .any [.int .int 7, .int .int 8, .int .int 9]) (.int .int (-1)) = .val (.int .int 9) := rfl

/-! ## Printing an expression tree and parsing it again (`Liquid/ExprShow.lean`, `Proofs/ExprShowParse.lean`;
`parse_show_of_lex`, `toks_injective`, `evalTokens_toks` of `Proofs/ExprRoundTrip.lean`)

`'(' cond ')'` is a production of `expr` with the value of the condition (`expressions.y`: `$$ = $2`), `and`/`or`
are left associative with one precedence, so EVERY shape of tree has a spelling: `Expr.toks e 0` writes a
sub-tree between parentheses exactly where the grammar wants a higher level. What has no spelling are leaves
(`ETok.ok`, `Expr.printable`): literals other than nil / bool / Go int within int64 / float64 / a string that
does not contain both `"` and `'`; names that are not identifiers or are one of `true false nil and or contains in`. -/

/-- **C08 (round trip, tokens).** For every expression tree, the parser (with the fuel it gives itself) returns
    the tree on its canonical tokens followed by the closing `;`. No hypothesis: the statement is about the
    token list, so it holds for unprintable leaves too. -/
theorem parse_show (e : Expr) : parseTokensE (e.toks 0 ++ [.ch 59]) = some (.expr e) := parseTokensE_toks e

/-- … with any fuel from `e.cneed + 2` on (`bound`: at most 8 per token), before any token that `stopC` admits
    (`)`, `;`, `]`, `..`, a keyword of a loop …; `stopC` also rules out `,`, which continues no condition either) -/
theorem parse_show_fuel (e : Expr) (F : Nat) (r : List ETok) (hF : e.cneed + 2 ≤ F) (hs : stopC r = true) :
    parseCond F (e.toks 0 ++ r) = some (e, r) ∧ e.cneed ≤ 8 * (e.toks 0).length :=
  ⟨parseCond_toks e F r hF hs, (bound e).c 0⟩

/-- **C08 (round trip, text, given the scanner's side).** When the scanner reads the printed text back as the
    canonical tokens (`Expr.lexesBack`; checked on every case of stream `eshow`; the scanner's side is
    `show_lexes_back`), parsing the printed text gives the tree. -/
theorem parse_show_source (e : Expr) (h : e.lexesBack) : parseExprSource e.show = .ok e := parse_show_of_lex e h

/-- **C08 (normalisation is idempotent).** Whatever token list parses to `e` - any spelling, redundant
    parentheses included - the canonical tokens of `e` parse to `e` again, and two trees with the same
    canonical tokens are equal. -/
theorem show_parse (ts : List ETok) (e : Expr) (_h : parseTokensE ts = some (.expr e)) :
    parseTokensE (e.toks 0 ++ [.ch 59]) = some (.expr e) ∧ ∀ e', e'.toks 0 = e.toks 0 → e' = e :=
  ⟨parseTokensE_toks e, fun e' h => toks_injective e' e h⟩

/-- **C08 (evaluation agrees).** Evaluating the re-parsed canonical tokens is evaluating the tree. -/
theorem eval_parse_show (P : Prims) (env : Env) (e : Expr) :
    evalTokens P env (e.toks 0 ++ [.ch 59]) = some (eval P env e) := evalTokens_toks P env e

/-! Non-vacuity on `a.b[1] | f: 'x"', -2 and (c or d.e contains "s")` (`rtExTree`, `rtExText`) -/

example : rtExTree.show = rtExText := by decide +kernel
example : rtExTree.printable = true := by decide +kernel
example : parseExprSource rtExText = .ok rtExTree := by
  have := parse_show_source rtExTree (lexesBack_of_printable rtExTree (by decide +kernel))
  rwa [show rtExTree.show = rtExText from by decide +kernel] at this
/-- the same tree from another spelling: `( a .b [ 01 ]|f:'x"',-02 )and(c or(d.e)contains's')` -/
theorem parse_rtExAlt : parseExprSource [40, 32, 97, 32, 46, 98, 32, 91, 32, 48, 49, 32, 93, 124, 102, 58, 39, 120, 34, 39, 44, 45,
    48, 50, 32, 41, 97, 110, 100, 40, 99, 32, 111, 114, 40, 100, 46, 101, 41, 99, 111, 110, 116, 97, 105, 110, 115, 39, 115,
    39, 41] = .ok rtExTree := by decide +kernel
example : parseExprSource [40, 32, 97, 32, 46, 98, 32, 91, 32, 48, 49, 32, 93, 124, 102, 58, 39, 120, 34, 39, 44, 45, 48, 50,
    32, 41, 97, 110, 100, 40, 99, 32, 111, 114, 40, 100, 46, 101, 41, 99, 111, 110, 116, 97, 105, 110, 115, 39, 115, 39,
    41] = .ok rtExTree := parse_rtExAlt
example : parseTokensE (rtExTree.toks 0 ++ [.ch 59]) = some (.expr rtExTree) := parse_show rtExTree

/-! ## The scanner on the printed text (`Proofs/ExprShowLex.lean`)

The canonical spelling of a token that has one is a complete lexeme of the scanner (`lexeme_of_ok`), and the layout
of the printer - one space between two lexemes, nothing after `(` `[` and before `.name` `[` `]` `,` `)` - never
lets two lexemes merge or split (`fits_ok`: a canonical lexeme is cut off before a break byte and before `.name`;
`a.b`, `1.0.b`, `x | in: 1`, `a.true`, `a[-1]` are instances; a range is printed `(1 .. 2)`). So `Expr.lexesBack`
holds for every printable tree (`show_lexes_back`). -/

/-- **C08 (the scanner reads the printed text back).** For every printable tree the longest-match scanner turns
    the printed text into exactly the canonical tokens (and the closing `;`), without a lexing error. -/
theorem show_lexes_back (e : Expr) (h : e.printable = true) : lex e.show = (e.toks 0 ++ [.ch 59], none) :=
  lexesBack_of_printable e h

/-- **C08 (round trip, text).** Parsing the printed text of a printable tree gives the tree. -/
theorem parse_show_source_all (e : Expr) (h : e.printable = true) : parseExprSource e.show = .ok e :=
  parse_show_source e (lexesBack_of_printable e h)

/-- **C08 (the spacing of the printed text is irrelevant).** Write the canonical tokens of a printable tree with
    ANY white space (space, `\t \n \v \f \r`, any amount) before each of them and after the last one - none at
    all allowed exactly where the printer writes none (`SepsOK`: after `(`, `[`; before `.name`, `[`, `]`, `,`, `)`;
    before the first token): the text parses to the tree. The places where the scanner forbids white space are
    INSIDE a lexeme (between a filter name and its `:`, between `.` and the property name, inside `==` `..` …),
    never between two lexemes. -/
theorem show_spacing_irrelevant (e : Expr) (h : e.printable = true) (l : List (Bytes × ETok)) (w : Bytes)
    (hl : l.map (·.2) = e.toks 0) (hs : SepsOK none l) (hw : isSpaces w = true) :
    parseExprSource (spacedToks l ++ w) = .ok e :=
  parseExprSource_of_lex (lex_spaced_of_map l _ w hl h hs hw)

/-- … in the vocabulary of `Proofs/ExprSpacing.lean` (`Separators`, `spacedText`): the canonical lexemes of a
    printable tree, laid out with any family of separators `g` (white space, non-empty between two lexemes) and
    trailing white space `w`, parse to the tree. -/
theorem show_any_whitespace (e : Expr) (h : e.printable = true) (g : Nat → Bytes) (w : Bytes) (hg : Separators g)
    (hw : isSpaces w = true) : parseExprSource (spacedText g e.lexemes ++ w) = .ok e := by
  have hok : ∀ t ∈ e.toks 0, t.ok = true := fun t ht => List.all_eq_true.1 h t ht
  have hl : ∀ x ∈ e.lexemes, Lexeme x.1 x.2 := by
    intro x hx
    obtain ⟨t, ht, rfl⟩ := List.mem_map.1 hx
    exact (lexeme_of_ok t (hok t ht)).1
  have hws := wellSpaced_spacedText g e.lexemes w hl hg hw
  apply parseExprSource_of_lex
  unfold spacedText
  rw [lex_pieces _ w hws, layoutFrom_lexemes]
  unfold Expr.lexemes
  rw [lexemeToks_toks _ hok]
  rfl

example : lex rtExText = (rtExTree.toks 0 ++ [.ch 59], none) := by
  have := show_lexes_back rtExTree (by decide +kernel)
  rwa [show rtExTree.show = rtExText from by decide +kernel] at this
example : parseExprSource rtExText = .ok rtExTree := by
  have := parse_show_source_all rtExTree (by decide +kernel)
  rwa [show rtExTree.show = rtExText from by decide +kernel] at this

/-- `(a.b[-1]..2.5)` written `\t( a\n.b [-1\r]  ..\v2.5 )\f`: white space before `.b`, `[`, `]`, `)` and after `(`,
    none after `[` -/
example : parseExprSource [9, 40, 32, 97, 10, 46, 98, 32, 91, 45, 49, 13, 93, 32, 32, 46, 46, 11, 50, 46, 53, 32, 41, 12] =
    .ok (.range (.index (.prop (.var [97]) [98]) (.lit (.int .int (-1)))) (.lit (.flt .f64 (5/2)))) := by
  have hp : (Expr.range (.index (.prop (.var [97]) [98]) (.lit (.int .int (-1)))) (.lit (.flt .f64 (5/2)))).printable = true := by
    decide +kernel
  have hs : SepsOK none [([9], ETok.ch 40), ([32], .ident [97]), ([10], .property [98]), ([32], .ch 91),
      ([], .lit (.int .int (-1))), ([13], .ch 93), ([32, 32], .dotdot), ([11], .lit (.flt .f64 (5/2))), ([32], .ch 41)] :=
    ⟨rfl, trivial, rfl, (fun h => by cases h), rfl, (fun h => by cases h), rfl, (fun h => by cases h), rfl, (fun _ => rfl),
     rfl, (fun h => by cases h), rfl, (fun h => by cases h), rfl, (fun h => by cases h), rfl, (fun h => by cases h), trivial⟩
  have := show_spacing_irrelevant _ hp _ [12] (by simp [Expr.toks]) hs rfl
  rwa [show spacedToks [([9], ETok.ch 40), ([32], .ident [97]), ([10], .property [98]), ([32], .ch 91),
      ([], .lit (.int .int (-1))), ([13], .ch 93), ([32, 32], .dotdot), ([11], .lit (.flt .f64 (5/2))), ([32], .ch 41)] ++ [12] =
    [9, 40, 32, 97, 10, 46, 98, 32, 91, 45, 49, 13, 93, 32, 32, 46, 46, 11, 50, 46, 53, 32, 41, 12] from by decide +kernel] at this

/-- `x | f: 1, "a b"` with a newline in front of every lexeme and a tab at the end -/
example : parseExprSource (spacedText (fun _ => [10]) (Expr.filter (.var [120]) [102] [.lit (.int .int 1), .lit (.str [97, 32, 98])]).lexemes ++ [9]) =
    .ok (.filter (.var [120]) [102] [.lit (.int .int 1), .lit (.str [97, 32, 98])]) :=
  show_any_whitespace _ (by decide +kernel) _ _ ⟨fun _ => rfl, fun _ _ => by simp⟩ rfl

/-! ## The parser's image (`Proofs/ExprScanImage.lean`, `Proofs/ExprParseImage.lean`)

Every token the scanner returns is well formed (`lex_scanOK`: identifier / keyword / property tokens carry the
text of an identifier, an identifier token is none of `true false nil and or contains in`, an integer literal is
within int64, a string literal does not contain its own quote), and every leaf of the tree the parser builds is
the content of one of its tokens (`parse_lvAll`). So a parsed tree is printable as soon as the values of its float
literals are (`floatOK`: the exact decimal expansion `showFloat q` reads back as `q`) - the `_partial` statements
below. That hypothesis holds for every token of the scanner (`float_token_printable`), so the statements hold for
every source text (`parse_image_printable`, `show_parse_source`). -/

/-- **C08 (the parser's image is printable, up to float values).** A tree parsed from a source text whose float
    literal tokens have printable values is printable. -/
theorem parse_image_printable_partial (s : Bytes) (e : Expr) (h : parseExprSource s = .ok e)
    (hf : (lex s).1.all floatOK = true) : e.printable = true := printable_of_parse s e h hf

/-- **C08 (normalisation is idempotent, text, up to float values).** Whatever text parses to `e` - any spelling,
    any white space, redundant parentheses, leading zeros - the printed text of `e` parses to `e` again. -/
theorem show_parse_source_partial (s : Bytes) (e : Expr) (h : parseExprSource s = .ok e)
    (hf : (lex s).1.all floatOK = true) : parseExprSource e.show = .ok e :=
  parse_show_source_all e (printable_of_parse s e h hf)

/-- from the spelling of `parse_rtExAlt`: the printed text of the tree it parses to parses to that tree -/
example : parseExprSource rtExText = .ok rtExTree := by
  have := show_parse_source_partial _ rtExTree parse_rtExAlt (by decide +kernel)
  rwa [show rtExTree.show = rtExText from by decide +kernel] at this
/-- the float hypothesis on `1.50 | f: 0.1`: both literal values (3/2 and the double nearest to 0.1) are printable -/
example : (lex [49, 46, 53, 48, 32, 124, 32, 102, 58, 32, 48, 46, 49]).1.all floatOK = true := by decide +kernel

/-! ## Float literals (`Proofs/F64Lemmas.lean`, `Proofs/ShowFloatLemmas.lean`)

The scanner's float rule is `'-'? digit+ ('.' digit+)?`: no exponent (`1e3` is the integer `1` followed by the
identifier `e3`), no `NaN`/`Inf` spelling; the value is `strconv.ParseFloat` of the text, i.e. the decimal rounded
to the nearest `float64` (`roundF64`, ties to even, gradual underflow); a literal that rounds to ±Inf is a syntax
error and gives no token; a literal that denotes −0 (`-0.0`, `-0.0000…01` below half the least subnormal) is
outside the model (`unmodelled`, no token). So the value of a float token is `±r` with `r` in the image of
`roundF64` on a non-negative rational, and `−0` does not occur.

* `roundF64` is a projection: the exponent it picks is the unique `e` with `2^52 ≤ a / 2^e < 2^53` (`fexp1_spec`,
  `fexp_unique`), a rounded value is `0` or `m · 2^e` with `0 < m < 2^53`, `−1074 ≤ e`, normalised unless
  `e = −1074` (`roundFloat_rep`), and such a value rounds to itself (`roundFloat_of_rep`).
* the denominator of `m · 2^e` is a power of two, `2^j` (`den_int_mul_pow2`); `showFloat` writes `max 1 j`
  fractional digits, and `N / 2^j = (N · 10^k / 2^j) / 10^k` exactly for `j ≤ k` (`dyadic_decimal`): the printed
  digits denote the value (`decimalOfDigits_showFloat`), whatever their number (up to 1074 for a subnormal). -/

/-- **C08 (a float literal's value is printable).** Whatever text the scanner's float rule has matched, the value it
    denotes (`strconv.ParseFloat`: the nearest `float64`, finite, not −0) has an exact decimal expansion
    `showFloat q` that the scanner reads back as the same value. -/
theorem float_value_printable (tok : Bytes) (q : Rat) (h : floatLitValue tok = some (some q)) :
    floatLitValue (showFloat q) = some (some q) := floatLitValue_showFloat_of_lit tok q h

/-- **C08 (every float literal token is printable).** For every source text, every float literal token the scanner
    returns satisfies `floatOK`. -/
theorem float_token_printable (s : Bytes) : (lex s).1.all floatOK = true := lex_floatOK s

/-- **C08 (the parser's image is printable).** Every tree parsed from a source text is printable. -/
theorem parse_image_printable (s : Bytes) (e : Expr) (h : parseExprSource s = .ok e) : e.printable = true :=
  parse_image_printable_partial s e h (float_token_printable s)

/-- **C08 (normalisation is idempotent, text).** Whatever text parses to `e` - any spelling, any white
    space, redundant parentheses, leading zeros, any number of digits in a float literal - the printed text of `e`
    parses to `e` again. -/
theorem show_parse_source (s : Bytes) (e : Expr) (h : parseExprSource s = .ok e) : parseExprSource e.show = .ok e :=
  show_parse_source_partial s e h (float_token_printable s)

/-- the literal `0.1` denotes `tenthF64`, whose printed text is the 55-digit expansion … -/
example : floatLitValue [48, 46, 49] = some (some tenthF64) := by decide +kernel
example : showFloat tenthF64 = tenthText := by decide +kernel
/-- … which reads back as the same value (by the theorem, not by evaluation) -/
example : floatLitValue tenthText = some (some tenthF64) := by
  have := float_value_printable [48, 46, 49] tenthF64 (by decide +kernel)
  rwa [show showFloat tenthF64 = tenthText from by decide +kernel] at this
/-- `0.1` parses to a printable tree, and its printed text parses to the same tree -/
example : (Expr.lit (.flt .f64 tenthF64)).printable = true := parse_image_printable [48, 46, 49] _ parse_tenth
example : parseExprSource tenthText = .ok (.lit (.flt .f64 tenthF64)) := by
  have := show_parse_source [48, 46, 49] (.lit (.flt .f64 tenthF64)) parse_tenth
  rwa [show (Expr.lit (.flt .f64 tenthF64)).show = tenthText from by decide +kernel] at this
/-- the canonical lexemes of the tokens of `2.5 1e3 -0.1 007.250`: `1e3` is the integer `1` and the identifier `e3`
    (no exponent syntax); every float token is printable -/
example : (lex [50, 46, 53, 32, 49, 101, 51, 32, 45, 48, 46, 49, 32, 48, 48, 55, 46, 50, 53, 48]).1.map ETok.lexeme =
    [(.rFloat, [50, 46, 53]), (.rInt, [49]), (.rIdent, [101, 51]), (.rFloat, 45 :: tenthText), (.rFloat, [55, 46, 50, 53]),
     (.rAny, [59])] := by decide +kernel
example : (lex [50, 46, 53, 32, 49, 101, 51, 32, 45, 48, 46, 49, 32, 48, 48, 55, 46, 50, 53, 48]).1.all floatOK = true :=
  float_token_printable _
/-- `-0.0` has no value in the model (−0 is outside it); `1` followed by 309 zeros overflows: a syntax error, no token -/
example : floatLitValue [45, 48, 46, 48] = none := by decide +kernel
example : floatLitValue (49 :: List.replicate 309 48) = some none := by decide +kernel
