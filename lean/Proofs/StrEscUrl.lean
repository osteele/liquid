import Liquid.Filters.Str

/-! # HTML escape/unescape and URL query escape/unescape

`escape`: a byte stays or becomes one of five entities that `unescapeEntity` reads back
(`escapeByte_cases`); every other fact about `escape`/`unescape` is an induction over that.
`url_encode`: `urlDecode_encodeByte` (one byte round-trips) and `urlEncode_mem` (the output alphabet). -/

theorem upperHexDigit_spec (n : UInt8) (h : n < 16) :
    StrF.unhex (StrF.upperHexDigit n) = some n ∧
    ((48 ≤ StrF.upperHexDigit n ∧ StrF.upperHexDigit n ≤ 57) ∨
      (65 ≤ StrF.upperHexDigit n ∧ StrF.upperHexDigit n ≤ 70)) ∧ StrF.upperHexDigit n < 0x80 := by
  have := (by decide +kernel : ∀ k < 16,
    StrF.unhex (StrF.upperHexDigit (UInt8.ofNat k)) = some (UInt8.ofNat k) ∧
    ((48 ≤ StrF.upperHexDigit (UInt8.ofNat k) ∧ StrF.upperHexDigit (UInt8.ofNat k) ≤ 57) ∨
      (65 ≤ StrF.upperHexDigit (UInt8.ofNat k) ∧ StrF.upperHexDigit (UInt8.ofNat k) ≤ 70)) ∧
      StrF.upperHexDigit (UInt8.ofNat k) < 0x80) n.toNat h
  rwa [UInt8.ofNat_toNat] at this

theorem u8_div_mod_16 (c : UInt8) : (c / 16) * 16 + c % 16 = c ∧ c / 16 < 16 ∧ c % 16 < 16 := by
  have := c.toNat_lt
  simp only [← UInt8.toNat_inj, UInt8.lt_iff_toNat_lt, UInt8.toNat_add, UInt8.toNat_mul, UInt8.toNat_div,
    UInt8.toNat_mod, UInt8.reduceToNat]
  omega

theorem urlDecode_cons_ne (c : UInt8) (t : Bytes) (h : c ≠ 37) :
    StrF.urlDecode (c :: t) = (StrF.urlDecode t).map ((if c == 43 then 32 else c) :: ·) := by
  rw [StrF.urlDecode.eq_4]
  · intro a b rest hh _; exact h hh
  · intro hh; exact h hh

theorem urlDecode_pct (a b : UInt8) (t : Bytes) :
    StrF.urlDecode (37 :: a :: b :: t) =
      match StrF.unhex a, StrF.unhex b with
      | some x, some y => (StrF.urlDecode t).map ((x * 16 + y) :: ·)
      | _, _ => none := by
  rw [StrF.urlDecode]; rfl

theorem unreserved_ne (c : UInt8) (h : StrF.urlUnreserved c = true) : c ≠ 37 ∧ c ≠ 43 ∧ c ≠ 32 ∧ c < 0x80 := by
  have := c.toNat_lt
  simp only [StrF.urlUnreserved, StrF.isAlnum, Bool.or_eq_true, Bool.and_eq_true, decide_eq_true_eq, beq_iff_eq,
    UInt8.le_iff_toNat_le, ← UInt8.toNat_inj, UInt8.reduceToNat] at h
  simp only [ne_eq, ← UInt8.toNat_inj, UInt8.lt_iff_toNat_lt, UInt8.reduceToNat]
  omega

theorem urlDecode_encodeByte (c : UInt8) (t : Bytes) :
    StrF.urlDecode (StrF.urlEncodeByte c ++ t) = (StrF.urlDecode t).map (c :: ·) := by
  unfold StrF.urlEncodeByte
  by_cases h32 : c = 32
  · subst h32
    simp [urlDecode_cons_ne]
  · by_cases hu : StrF.urlUnreserved c = true
    · have := unreserved_ne c hu
      simp [h32, hu, urlDecode_cons_ne, this.1, this.2.1]
    · have hr := u8_div_mod_16 c
      simp [h32, hu, urlDecode_pct, (upperHexDigit_spec _ hr.2.1).1, (upperHexDigit_spec _ hr.2.2).1, hr.1]

theorem urlEncodeByte_alpha (c : UInt8) : ∀ b ∈ StrF.urlEncodeByte c,
    (StrF.urlUnreserved b = true ∨ b = 43 ∨ b = 37 ∨ (48 ≤ b ∧ b ≤ 57) ∨ (65 ≤ b ∧ b ≤ 70)) ∧ b < 0x80 := by
  unfold StrF.urlEncodeByte
  split
  · exact List.forall_mem_cons.2 ⟨by decide, nofun⟩
  split
  · next hu => exact List.forall_mem_cons.2 ⟨⟨.inl hu, (unreserved_ne c hu).2.2.2⟩, nofun⟩
  · have hr := u8_div_mod_16 c
    have h1 := (upperHexDigit_spec _ hr.2.1).2
    have h2 := (upperHexDigit_spec _ hr.2.2).2
    exact List.forall_mem_cons.2 ⟨by decide, List.forall_mem_cons.2 ⟨⟨.inr (.inr (.inr h1.1)), h1.2⟩,
      List.forall_mem_cons.2 ⟨⟨.inr (.inr (.inr h2.1)), h2.2⟩, nofun⟩⟩⟩

theorem urlEncode_mem (s : Bytes) : ∀ b ∈ StrF.urlEncode s,
    (StrF.urlUnreserved b = true ∨ b = 43 ∨ b = 37 ∨ (48 ≤ b ∧ b ≤ 57) ∨ (65 ≤ b ∧ b ≤ 70)) ∧ b < 0x80 := by
  induction s with
  | nil => nofun
  | cons c rest ih =>
    intro b hb
    rcases List.mem_append.1 hb with h | h
    · exact urlEncodeByte_alpha c b h
    · exact ih b h

/-- `t` starts with one of the five entities `escape` produces: &amp; &lt; &gt; &#34; &#39; -/
def EscEntityPrefix (t : Bytes) : Prop :=
  [38, 97, 109, 112, 59] <+: t ∨ [38, 108, 116, 59] <+: t ∨ [38, 103, 116, 59] <+: t ∨
  [38, 35, 51, 52, 59] <+: t ∨ [38, 35, 51, 57, 59] <+: t

/-- `escapeByte b` is `b` itself or one of the five entities, which starts with `&`, goes on in ASCII without
    another `&` and without a raw `<`, `>`, `'`, `"`, and which `unescapeEntity` reads back as `b` -/
theorem escapeByte_cases (b : UInt8) :
    (∃ tl, StrF.escapeByte b = 38 :: tl ∧ (∀ x ∈ tl, x < 0x80 ∧ x ≠ 38 ∧ x ≠ 60 ∧ x ≠ 62 ∧ x ≠ 39 ∧ x ≠ 34) ∧
      (∀ t, EscEntityPrefix (38 :: (tl ++ t))) ∧
      ∀ t, StrF.unescapeEntity (tl ++ t) = some ([b], tl.length + 1)) ∨
    (b ≠ 38 ∧ b ≠ 39 ∧ b ≠ 60 ∧ b ≠ 62 ∧ b ≠ 34 ∧ StrF.escapeByte b = [b]) := by
  by_cases h1 : b = 38
  · subst h1; exact .inl ⟨[97, 109, 112, 59], rfl, by decide +kernel, fun t => .inl ⟨t, rfl⟩, fun _ => rfl⟩
  by_cases h2 : b = 39
  · subst h2
    exact .inl ⟨[35, 51, 57, 59], rfl, by decide +kernel, fun t => .inr (.inr (.inr (.inr ⟨t, rfl⟩))), fun _ => rfl⟩
  by_cases h3 : b = 60
  · subst h3; exact .inl ⟨[108, 116, 59], rfl, by decide +kernel, fun t => .inr (.inl ⟨t, rfl⟩), fun _ => rfl⟩
  by_cases h4 : b = 62
  · subst h4; exact .inl ⟨[103, 116, 59], rfl, by decide +kernel, fun t => .inr (.inr (.inl ⟨t, rfl⟩)), fun _ => rfl⟩
  by_cases h5 : b = 34
  · subst h5
    exact .inl ⟨[35, 51, 52, 59], rfl, by decide, fun t => .inr (.inr (.inr (.inl ⟨t, rfl⟩))), fun _ => rfl⟩
  · refine .inr ⟨h1, h2, h3, h4, h5, ?_⟩
    simp only [StrF.escapeByte, beq_iff_eq, h1, h2, h3, h4, h5, if_false]

theorem escapeByte_no_raw (c : UInt8) : ∀ b ∈ StrF.escapeByte c, b ≠ 60 ∧ b ≠ 62 ∧ b ≠ 39 ∧ b ≠ 34 := by
  rcases escapeByte_cases c with ⟨tl, e, h, _⟩ | ⟨_, h39, h60, h62, h34, e⟩
  · rw [e]; exact List.forall_mem_cons.2 ⟨by decide, fun x hx => (h x hx).2.2⟩
  · rw [e]; exact List.forall_mem_cons.2 ⟨⟨h60, h62, h39, h34⟩, nofun⟩

theorem escape_eq_flatMap (s : Bytes) : StrF.escape s = s.flatMap StrF.escapeByte := by
  induction s with
  | nil => rfl
  | cons b rest ih => simp [StrF.escape, ih]

theorem escape_no_raw (s : Bytes) : ∀ b ∈ StrF.escape s, b ≠ 60 ∧ b ≠ 62 ∧ b ≠ 39 ∧ b ≠ 34 := by
  intro b hb
  rw [escape_eq_flatMap, List.mem_flatMap] at hb
  obtain ⟨c, _, hc⟩ := hb
  exact escapeByte_no_raw c b hc

theorem escapeByte_length_pos (b : UInt8) : 1 ≤ (StrF.escapeByte b).length := by
  rcases escapeByte_cases b with ⟨tl, e, _⟩ | ⟨_, _, _, _, _, e⟩ <;> rw [e] <;> exact Nat.succ_pos _

theorem escape_length_ge (s : Bytes) : s.length ≤ (StrF.escape s).length := by
  induction s with
  | nil => simp
  | cons b rest ih =>
    have := escapeByte_length_pos b
    simp only [StrF.escape, List.length_append, List.length_cons]
    omega

theorem cons_eq_append_cons {x : UInt8} (tl pre c : Bytes) (hno : x ∉ tl) (h : x :: tl = pre ++ x :: c) :
    pre = [] ∧ c = tl := by
  cases pre with
  | nil => exact ⟨rfl, (List.cons.inj h).2.symm⟩
  | cons y pre' => exact absurd ((List.cons.inj h).2 ▸ List.mem_append_right pre' List.mem_cons_self) hno

theorem escape_amp_entity (s pre post : Bytes) (h : StrF.escape s = pre ++ 38 :: post) :
    EscEntityPrefix (38 :: post) := by
  induction s generalizing pre with
  | nil => simp [StrF.escape] at h
  | cons b rest ih =>
    simp only [StrF.escape] at h
    rcases List.append_eq_append_iff.mp h with ⟨a', _, h2⟩ | ⟨c', h1, h2⟩
    · exact ih a' h2
    · cases c' with
      | nil => exact ih [] (by simpa using h2.symm)
      | cons x c'' =>
        simp only [List.cons_append, List.cons.injEq] at h2
        obtain ⟨hx, hpost⟩ := h2
        subst hx
        subst hpost
        rcases escapeByte_cases b with ⟨tl, e, hno, hpre, _⟩ | ⟨h38, _, _, _, _, e⟩
        · rw [e] at h1
          obtain ⟨_, rfl⟩ := cons_eq_append_cons _ pre c'' (fun h => (hno 38 h).2.1 rfl) h1
          exact hpre _
        · rw [e] at h1
          cases pre with
          | nil => simp at h1; exact absurd h1.1 h38
          | cons y pre' => simp at h1

theorem unescapeAux_amp (n : Nat) (rest out : Bytes) (k : Nat)
    (hE : StrF.unescapeEntity rest = some (out, k)) :
    StrF.unescapeAux (n + 1) (38 :: rest) =
      (StrF.unescapeAux n (rest.drop (k - 1))).map (out ++ ·) := by
  simp [StrF.unescapeAux, hE]

theorem unescapeAux_plain (n : Nat) (b : UInt8) (rest : Bytes) (h : b ≠ 38) :
    StrF.unescapeAux (n + 1) (b :: rest) = (StrF.unescapeAux n rest).map (b :: ·) := by
  simp [StrF.unescapeAux, h]

theorem unescapeAux_escape (s : Bytes) :
    ∀ n, (StrF.escape s).length ≤ n → StrF.unescapeAux n (StrF.escape s) = some s := by
  induction s with
  | nil => intro n _; cases n <;> rfl
  | cons b rest ih =>
    intro n hn
    simp only [StrF.escape, List.length_append] at hn ⊢
    have hpos := escapeByte_length_pos b
    obtain ⟨m, rfl⟩ : ∃ m, n = m + 1 := ⟨n - 1, by omega⟩
    have := ih m (by omega)
    rcases escapeByte_cases b with ⟨tl, e, _, _, hE⟩ | ⟨h38, _, _, _, _, e⟩
    · rw [e]
      simp [unescapeAux_amp _ _ _ _ (hE _), this]
    · rw [e]
      simp [unescapeAux_plain, h38, this]

theorem escapeOnce_some (s t : Bytes) (h : StrF.escapeOnce s = some t) :
    ∃ u, StrF.unescape s = some u ∧ StrF.escape u = t :=
  Option.map_eq_some_iff.1 h

-- `<a&` ↦ `&lt;a&amp;`
example : StrF.escape [60, 97, 38] = [38, 108, 116, 59, 97, 38, 97, 109, 112, 59] := by decide +kernel
-- `"'>` ↦ `&#34;&#39;&gt;`
example : StrF.escape [34, 39, 62] = [38, 35, 51, 52, 59, 38, 35, 51, 57, 59, 38, 103, 116, 59] := by decide +kernel
-- `&#x41;` ↦ `A`
example : StrF.unescape [38, 35, 120, 52, 49, 59] = some [65] := by decide +kernel
-- `&lt;a&amp;` ↦ `<a&`
example : StrF.unescape [38, 108, 116, 59, 97, 38, 97, 109, 112, 59] = some [60, 97, 38] := by decide +kernel
-- a bare `&` followed by a space stays
example : StrF.unescape [97, 38, 32, 98] = some [97, 38, 32, 98] := by decide +kernel
-- `&lt;<` ↦ `&lt;&lt;` (escape_once does not escape the entity twice)
example : StrF.escapeOnce [38, 108, 116, 59, 60] = some [38, 108, 116, 59, 38, 108, 116, 59] := by decide +kernel
-- whereas escape does
example : StrF.escape [38, 108, 116, 59, 60] = [38, 97, 109, 112, 59, 108, 116, 59, 38, 108, 116, 59] := by decide +kernel
-- an entity outside the modelled table: `&copy;`
example : StrF.unescape [38, 99, 111, 112, 121, 59] = none := by decide +kernel
example : EscEntityPrefix (38 :: [108, 116, 59, 97]) := by simp [EscEntityPrefix]
example : ¬ EscEntityPrefix [38, 32] := by simp [EscEntityPrefix]
-- ` éa` (Latin-1 byte E9) ↦ `+%E9a`
example : StrF.urlEncode [32, 233, 97] = [43, 37, 69, 57, 97] := by decide +kernel
example : StrF.urlDecode [43, 37, 69, 57, 97] = some [32, 233, 97] := by decide +kernel
-- lower-case hex is accepted by the decoder: `%e9`
example : StrF.urlDecode [37, 101, 57] = some [233] := by decide +kernel
-- `%z` and a trailing `%4` are `url.EscapeError`
example : StrF.urlDecode [37, 122] = none := by decide +kernel
example : StrF.urlDecode [97, 37, 52] = none := by decide +kernel
example : StrF.urlDecode [37, 71, 48] = none := by decide +kernel
-- unreserved bytes pass through: `a-_.~`
example : StrF.urlEncode [97, 45, 95, 46, 126] = [97, 45, 95, 46, 126] := by decide +kernel
example : StrF.unhex (StrF.upperHexDigit 11) = some 11 := by decide +kernel
