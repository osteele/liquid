import Proofs.TraceFin
import Proofs.RunError
import Proofs.SrcRelInclude
/-!
# Where an error of `run` stands in the tokens of the source (what the source-level theorems of C07 rest on)

* what the include handler of the engine reports is the error of `run` on the file: `ctx.RenderFile` compiles
  the file at the tag's line and renders it into a buffer of its own, exactly what `run` does with one include
  level less (`handlerEnds_renderSrcWith`, `handlerEnds_incFuel`);
* `run_err_cases`: an error of `run` stands at a tag or object token of the source, or it has the line and the path flag of
  the error `run` returns, with one include level less, for the file an include tag token of the source names. The theorems
  from source bytes (`run_error_at_tag_or_object`, `run_error_located_at_token`, `run_error_pathSet`) are readings of it;
* `ErrAt`, the chain of included files along which a line is reached (the predicate of `run_error_chain`), and
  `run_error_pathSet`: every error of `run` names the path, by induction over the include levels.

Where a compile error and the lines of a compiled tree stand in the source: Proofs/RunError.lean.
-/

/-- what the handler ends with on a source that compiles, read off the render of the root: the failure of that render with
    the sentinels made errors (what `FRender` does with them) -/
theorem handlerEnds_renderSrcWith_ok (P : Prims) (O : OutPrims) (cfg : Cfg) (inner : Nat → Bytes → Env → Prog (Status × Bytes))
    (line : Nat) (src : Bytes) (env : Env) (root : List Node) (l : Loc) (hc : compileSource cfg.delims src line = .ok root) :
    HandlerEnds (renderSrcWith P O cfg inner line src env) l ↔
      ∃ x, ((renderRoot { P := P, O := O, cfg := cfg, inc := inner } root env).bind statusToProg).pureFail = some x ∧ x.site = some l := by
  unfold renderSrcWith
  simp only [hc]
  rw [Prog.pureFail_bind, Prog.pureRet_eq_runPure, Prog.pureFail_eq_runPure]
  generalize (renderRoot { P := P, O := O, cfg := cfg, inc := inner } root env).runPure = r
  rcases r with ⟨out, o⟩
  cases o with
  | ok st => cases st <;> simp [HandlerEnds.ret_iff, statusToProg, Prog.pureFail, Status.site, RawErr.site]
  | err x => simp [HandlerEnds.fail_iff]
  | panic w => simp [HandlerEnds.not_panic]
  | unmodelled w => simp [HandlerEnds.not_unmodelled]

/-- the located error, or the sentinel, that the handler ends with on a source is the error `run` returns for it with one
    include level less -/
theorem handlerEnds_renderSrcWith (P : Prims) (O : OutPrims) (cfg : Cfg) (fs : FS) (n line : Nat) (src : Bytes) (env : Env) (l : Loc) :
    HandlerEnds (renderSrcWith P O cfg (incFuel P O cfg fs n) line src env) l ↔
      ∃ e, run P O cfg fs n src line env = .err e ∧ l = ⟨e.line, e.pathSet⟩ := by
  simp only [run_err_iff]
  cases hc : compileSource cfg.delims src line with
  | err e0 => unfold renderSrcWith; simp [hc, HandlerEnds.fail_iff, RawErr.site, eq_comm]
  | panic w | unmodelled w => unfold renderSrcWith; simp [hc, HandlerEnds.not_panic, HandlerEnds.not_unmodelled]
  | ok root =>
    simp only [reduceCtorEq, false_or, Res.ok.injEq, exists_eq_left']
    rw [handlerEnds_renderSrcWith_ok P O cfg _ line src env root l hc]
    show (∃ x, (frender P O cfg fs n root env).pureFail = some x ∧ x.site = some l) ↔ _
    constructor
    · rintro ⟨x, hx, hs⟩
      obtain ⟨se, rfl⟩ := frender_pureFail_located P O cfg fs n root env x hx
      exact ⟨se, hx, (Option.some.inj hs).symm⟩
    · rintro ⟨e, he, rfl⟩
      exact ⟨_, he, rfl⟩

/-- the located error, or the sentinel, that `RenderFile` ends with at include depth `fuel` is the error `run`
    returns for the file's source, compiled at the tag's line, with one include level less -/
theorem handlerEnds_incFuel (P : Prims) (O : OutPrims) (cfg : Cfg) (fs : FS) (fuel : Nat) (line : Nat) (f : Bytes) (env : Env) (l : Loc)
    (h : HandlerEnds (incFuel P O cfg fs fuel line f env) l) :
    ∃ n src e, fuel = n + 1 ∧ fileSource fs f = some src ∧ run P O cfg fs n src line env = .err e ∧ l = ⟨e.line, e.pathSet⟩ := by
  cases fuel with
  | zero => exact absurd ((HandlerEnds.fail_iff _ _).mp h) nofun
  | succ n =>
    refine ⟨n, ?_⟩
    revert h
    refine renderFileWith_ind (C := fun p => HandlerEnds p l → _) fs f (fun c _ h => absurd ((HandlerEnds.fail_iff _ _).mp h) nofun)
      (fun src hs h => ?_)
    obtain ⟨e, he, hl⟩ := (handlerEnds_renderSrcWith P O cfg fs n line src env l).mp h
    exact ⟨src, e, rfl, hs, he, hl⟩

/-- **where an error of `run` stands, in the tokens of the source.** At the line of a tag or object token, with the template's
    path; or the source has a tag token named `include` whose argument text parses and evaluates, in some environment, to a
    string `rel`, the file system holds a source for `dir(path)/rel`, and the error has the line and the path flag of the error
    `run` returns for that source, compiled at the tag's line, with one include level less. -/
theorem run_err_cases {P : Prims} {O : OutPrims} {cfg : Cfg} {fs : FS} {fuel : Nat} {src : Bytes} {line : Nat} {env : Env} {e : SErr}
    (h : run P O cfg fs fuel src line env = .err e) :
    (TagObjLine (scan cfg.delims src line) e.line ∧ e.pathSet = true) ∨
    ∃ la, IncTokLine (scan cfg.delims src line) la ∧ ∃ (env' : Env) (ex : Expr) (rel : Bytes) (n : Nat) (src' : Bytes) (e' : SErr),
      parseExprSource la.2 = .ok ex ∧ evaluate P env' ex = .ok (.str rel) ∧ fuel = n + 1 ∧
      fileSource fs (joinPath (dirPath cfg.path) rel) = some src' ∧ run P O cfg fs n src' la.1 env' = .err e' ∧
      e.line = e'.line ∧ e.pathSet = e'.pathSet := by
  rcases (run_err_iff ..).mp h with hc | ⟨root, hc, hf⟩
  · exact .inl (compileSource_err_line cfg.delims src line e hc)
  · obtain ⟨se, hse, hok⟩ := render_error_eline_or_handler (mkCtx P O cfg fs fuel) (incQuiet_mkCtx P O cfg fs fuel) root env _ _
      (Prog.runPure_of_pureFail _ _ hf)
    cases hse
    rcases hok with ⟨h1, h2⟩ | ⟨la, hla, s', ex, rel, hpe, hev, hh⟩
    · exact .inl ⟨compileSource_elines cfg.delims src line root hc _ h1, h2⟩
    · -- the error of an included file is the error of `run` with one include level less
      obtain ⟨n, src', e', hn, hfs, hrun', hloc⟩ := handlerEnds_incFuel P O cfg fs fuel la.1 (joinPath (dirPath cfg.path) rel) s'.env _ hh
      simp only [Loc.mk.injEq] at hloc
      exact .inr ⟨la, compileSource_ilines cfg.delims src line root hc _ hla, s'.env, ex, rel, n, src', e', hpe, hev, hn, hfs, hrun',
        hloc.1, hloc.2⟩

/-- `ErrAt cfg fs src line x`: the line `x` is reached from the source `src`, parsed at start line `line`, along a
    chain of included files: `x` is the line of a tag or object token of `src` — the start line plus the newlines
    before the token — (`here`), or `src` has a tag token `t` NAMED `include` and the file system holds (on disk, else
    in the cache) a file `dir(path)/rel` such that `x` is reached in the same way from the file's source parsed at
    start line `t.line` (`inFile`: `RenderFile` compiles an included file at the line of the include tag). -/
inductive ErrAt (cfg : Cfg) (fs : FS) : Bytes → Nat → Nat → Prop where
  | here (src : Bytes) (line : Nat) (pre : List Token) (t : Token) (rest : List Token) :
      scan cfg.delims src line = pre ++ t :: rest → (t.ty = .tag ∨ t.ty = .obj) →
      t.line = line + countNL (srcs pre) → src = srcs pre ++ (t.source ++ srcs rest) → ErrAt cfg fs src line t.line
  | inFile (src : Bytes) (line : Nat) (pre : List Token) (t : Token) (rest : List Token) (rel src' : Bytes) (x : Nat) :
      scan cfg.delims src line = pre ++ t :: rest → t.ty = .tag → t.name = nmInclude →
      t.line = line + countNL (srcs pre) → src = srcs pre ++ (t.source ++ srcs rest) →
      fileSource fs (joinPath (dirPath cfg.path) rel) = some src' → ErrAt cfg fs src' t.line x → ErrAt cfg fs src line x

theorem ErrAt.ge {cfg : Cfg} {fs : FS} {src : Bytes} {line x : Nat} (h : ErrAt cfg fs src line x) : line ≤ x := by
  induction h with
  | here src line pre t rest _ _ hl _ => rw [hl]; exact Nat.le_add_right _ _
  | inFile src line pre t rest rel src' x _ _ _ hl _ _ _ ih => rw [hl] at ih; exact Nat.le_trans (Nat.le_add_right _ _) ih

/-- every error of `run` names the configured path — also an error that comes out of an included file, at every
    include depth (induction over the include levels left) -/
theorem run_error_pathSet (P : Prims) (O : OutPrims) (cfg : Cfg) (fs : FS) (fuel : Nat) :
    ∀ (src : Bytes) (line : Nat) (env : Env) (e : SErr), run P O cfg fs fuel src line env = .err e → e.pathSet = true := by
  induction fuel using Nat.strongRecOn with
  | ind fuel ih =>
    intro src line env e h
    rcases run_err_cases h with hs | ⟨la, _, env', _, _, n, src', e', _, _, hn, _, hrun', _, hp⟩
    · exact hs.2
    · exact hp ▸ ih n (by omega) src' la.1 env' e' hrun'

theorem noIncludeTag_any_line (delims : List Bytes) (src : Bytes) (h : NoIncludeTag (scan delims src 0)) (l : Nat) :
    NoIncludeTag (scan delims src l) := by
  have hs := scan_shift delims src 0 l
  rw [Nat.zero_add] at hs
  rw [hs]
  intro t ht
  obtain ⟨t0, ht0, rfl⟩ := List.mem_map.mp ht
  rw [relTokC_ty, relTokC_name]
  exact h t0 ht0
