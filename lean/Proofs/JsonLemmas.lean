import Proofs.StdNoPanicLemmas
import Proofs.Utf8Lemmas
import Liquid.Filters.Json
/-!
# Helper lemmas about `Liquid/Filters/Json.lean`

* `json.Marshal`'s model answers, leaves the model or fails with its one error (`SoftJ`); so no `.panic` is reachable in
  it, in `%T` and in the three filter bodies;
* the entries of a map and the named values are traversals (`marshalKVs_eq_travM`, `marshalNamed_eq_travM`), so permuting
  the entries permutes the results (`travM_perm`): the inputs of `json_map_order_independent` (`Proofs/JsonFilter.lean`);
* the string escaping (`escBody`): bytes that cannot occur, valid UTF-8, the string lexer stops at
  the closing quote.
-/

namespace JsonF

/-- one entry of a map whose value type is `vt`: the key text and the value's JSON -/
def entryOf (vt : Ty) (kv : GoVal × GoVal) : R (Bytes × Bytes) :=
  match keyText kv.1 with
  | none => .unmodelled "json: map key that is neither a string nor an integer"
  | some kt =>
    match kv.2 with
    | .nil => (zeroJson vt).bind fun b => .ok (kt, b)
    | v => (marshal v).bind fun b => .ok (kt, b)

theorem marshalKVs_cons (vt : Ty) (kv : GoVal × GoVal) (r : List (GoVal × GoVal)) :
    marshalKVs vt (kv :: r) = (entryOf vt kv).bind fun e => (marshalKVs vt r).bind fun es => .ok (e :: es) := by
  obtain ⟨k, v⟩ := kv
  unfold entryOf
  by_cases hv : v = .nil
  · subst hv
    rw [marshalKVs]
    cases keyText k
    · rfl
    · cases zeroJson vt <;> rfl
  · rw [marshalKVs.eq_3 vt k v r hv]
    cases keyText k
    · rfl
    · dsimp only
      split
      · exact absurd rfl hv
      · cases marshal v <;> rfl

def SoftJ {α : Type} : R α → Prop
  | .ok _ => True
  | .unmodelled _ => True
  | .err e => e = jsonErr
  | .panic _ => False

theorem SoftJ.bind {α β : Type} {r : R α} {f : α → R β} (hr : SoftJ r) (hf : ∀ a, SoftJ (f a)) : SoftJ (r.bind f) := by
  cases r <;> first | exact hf _ | exact hr

theorem jsonFloat_softJ (k : FltKind) (q : Rat) : SoftJ (jsonFloat k q) := by
  unfold jsonFloat
  split
  · trivial
  · trivial
  · split <;> trivial

theorem jsonTime_softJ (u : Int) : SoftJ (jsonTime u) := by
  unfold jsonTime
  split
  · split <;> trivial
  · trivial

theorem zeroJson_softJ (t : Ty) : SoftJ (zeroJson t) := by
  cases t <;> simp only [zeroJson] <;> first | trivial | (split <;> trivial)

theorem marshalElems_cons (e : Ty) (x : GoVal) (xs : List GoVal) :
    marshalElems e (x :: xs) = (if x.isNil then zeroJson e else marshal x).bind fun b => (marshalElems e xs).bind fun bs => .ok (b :: bs) := by
  cases x <;> simp [marshalElems, GoVal.isNil]

mutual
theorem marshal_softJ : ∀ v : GoVal, SoftJ (marshal v)
  | .nil => by rw [marshal]; trivial
  | .bool b => by cases b <;> (rw [marshal]; trivial)
  | .int _ _ => by rw [marshal]; trivial
  | .flt k q => by rw [marshal]; exact jsonFloat_softJ k q
  | .str _ => by rw [marshal]; trivial
  | .bytes _ => by rw [marshal]; trivial
  | .slice e xs => by
      rw [marshal]
      split
      · split <;> trivial
      · exact SoftJ.bind (marshalElems_softJ e xs) (fun _ => trivial)
  | .array e xs => by rw [marshal]; exact SoftJ.bind (marshalElems_softJ e xs) (fun _ => trivial)
  | .map k v kvs => by
      rw [marshal]
      split
      · exact SoftJ.bind (marshalKVs_softJ v kvs) (fun _ => trivial)
      · trivial
  | .mapSlice kvs => by rw [marshal]; exact SoftJ.bind (marshalItems_softJ kvs) (fun _ => trivial)
  | .keyedMap kvs => by rw [marshal]; exact SoftJ.bind (marshalNamed_softJ kvs) (fun _ => trivial)
  | .range _ _ => by rw [marshal]; trivial
  | .ptr v => by rw [marshal]; exact marshal_softJ v
  | .nilPtr => by rw [marshal]; trivial
  | .drop _ => by rw [marshal]; trivial
  | .struct fs => by rw [marshal]; exact SoftJ.bind (marshalNamed_softJ fs) (fun _ => trivial)
  | .time u => by rw [marshal]; exact jsonTime_softJ u
theorem marshalElems_softJ (e : Ty) : ∀ xs : List GoVal, SoftJ (marshalElems e xs)
  | [] => by rw [marshalElems]; trivial
  | x :: xs => by
      rw [marshalElems_cons]
      refine SoftJ.bind ?_ (fun _ => SoftJ.bind (marshalElems_softJ e xs) (fun _ => trivial))
      split
      · exact zeroJson_softJ e
      · exact marshal_softJ x
theorem marshalKVs_softJ (vt : Ty) : ∀ kvs : List (GoVal × GoVal), SoftJ (marshalKVs vt kvs)
  | [] => by rw [marshalKVs]; trivial
  | (k, v) :: r => by
      rw [marshalKVs_cons]
      refine SoftJ.bind ?_ (fun _ => SoftJ.bind (marshalKVs_softJ vt r) (fun _ => trivial))
      unfold entryOf
      split
      · trivial
      · split
        · exact SoftJ.bind (zeroJson_softJ vt) (fun _ => trivial)
        · exact SoftJ.bind (marshal_softJ v) (fun _ => trivial)
theorem marshalItems_softJ : ∀ kvs : List (GoVal × GoVal), SoftJ (marshalItems kvs)
  | [] => by rw [marshalItems]; trivial
  | (k, v) :: r => by
      rw [marshalItems]
      exact SoftJ.bind (marshal_softJ k) (fun _ => SoftJ.bind (marshal_softJ v) (fun _ =>
        SoftJ.bind (marshalItems_softJ r) (fun _ => trivial)))
theorem marshalNamed_softJ : ∀ fs : List (Bytes × GoVal), SoftJ (marshalNamed fs)
  | [] => by rw [marshalNamed]; trivial
  | (k, v) :: r => by
      rw [marshalNamed]
      exact SoftJ.bind (marshal_softJ v) (fun _ => SoftJ.bind (marshalNamed_softJ r) (fun _ => trivial))
end

theorem marshalTop_softJ (v : GoVal) : SoftJ (marshalTop v) := by
  unfold marshalTop
  split
  · trivial
  · exact marshal_softJ _

theorem SoftJ.noPanic {α : Type} {r : R α} (h : SoftJ r) : NoPanicRes r := by
  cases r <;> first | trivial | exact h

theorem marshal_noPanic (v : GoVal) : NoPanicRes (marshal v) := (marshal_softJ v).noPanic
theorem marshalElems_noPanic (e : Ty) : ∀ xs : List GoVal, NoPanicRes (marshalElems e xs) := fun xs => (marshalElems_softJ e xs).noPanic
theorem marshalKVs_noPanic (vt : Ty) : ∀ kvs : List (GoVal × GoVal), NoPanicRes (marshalKVs vt kvs) := fun kvs => (marshalKVs_softJ vt kvs).noPanic
theorem marshalItems_noPanic : ∀ kvs : List (GoVal × GoVal), NoPanicRes (marshalItems kvs) := fun kvs => (marshalItems_softJ kvs).noPanic
theorem marshalNamed_noPanic : ∀ fs : List (Bytes × GoVal), NoPanicRes (marshalNamed fs) := fun fs => (marshalNamed_softJ fs).noPanic
theorem marshalTop_noPanic (v : GoVal) : NoPanicRes (marshalTop v) := (marshalTop_softJ v).noPanic

theorem optName_noPanic (w : String) (o : Option Bytes) : NoPanicRes (optName w o) := by
  cases o <;> trivial

/-- every branch of `typeName` is a constant, an `optName`, or the recursive call under a bind -/
theorem typeName_noPanic (v : GoVal) : NoPanicRes (typeName v) := by
  fun_induction typeName v <;>
    first | trivial | exact optName_noPanic _ _ | exact NoPanicRes.bind ‹_› (fun _ => trivial)

theorem json_noPanic (args : List Arg) (h : ArgsOK [.val .any] args) : NoPanicRes (json args) := by
  obtain ⟨v, rfl, _⟩ := h.val₁
  have := marshalTop_noPanic v
  simp only [json]
  cases hm : marshalTop v with
  | panic w => exact (hm ▸ this).elim
  | _ => trivial

theorem inspect_noPanic (args : List Arg) (h : ArgsOK [.val .any] args) : NoPanicRes (inspect args) := by
  obtain ⟨v, rfl, _⟩ := h.val₁
  have := marshalTop_noPanic v
  simp only [inspect]
  cases hm : marshalTop v with
  | panic w => exact (hm ▸ this).elim
  | _ => trivial

theorem typeF_noPanic (args : List Arg) (h : ArgsOK [.val .any] args) : NoPanicRes (typeF args) := by
  obtain ⟨v, rfl, _⟩ := h.val₁
  simp only [typeF]
  exact (typeName_noPanic v).bind_ok

theorem marshalKVs_eq_travM (vt : Ty) : ∀ kvs : List (GoVal × GoVal), marshalKVs vt kvs = travM (entryOf vt) kvs
  | [] => by rw [marshalKVs]; rfl
  | kv :: r => by rw [marshalKVs_cons, travM, marshalKVs_eq_travM vt r]

def namedOf (kv : Bytes × GoVal) : R (Bytes × Bytes) := (marshal kv.2).bind fun b => .ok (kv.1, b)

theorem marshalNamed_eq_travM : ∀ kvs : List (Bytes × GoVal), marshalNamed kvs = travM namedOf kvs
  | [] => by rw [marshalNamed]; rfl
  | kv :: r => by
    rw [marshalNamed, travM, marshalNamed_eq_travM r, namedOf]
    cases marshal kv.2 <;> rfl

theorem entryOf_key {vt : Ty} {kv : GoVal × GoVal} {e : Bytes × Bytes} (h : entryOf vt kv = .ok e) :
    keyText kv.1 = some e.1 := by
  unfold entryOf at h
  split at h
  · cases h
  · next kt hk =>
    rw [hk]
    split at h <;> (obtain ⟨b, _, h⟩ := Res.bind_eq_ok h; cases h; rfl)

theorem namedOf_key {kv : Bytes × GoVal} {e : Bytes × Bytes} (h : namedOf kv = .ok e) : kv.1 = e.1 := by
  unfold namedOf at h
  obtain ⟨b, _, h⟩ := Res.bind_eq_ok h
  cases h; rfl

/-- The scanner of a JSON string body (RFC 8259 §7): a backslash takes the next byte with it, the
first quote that is not taken this way ends the string; the result is what follows that quote. -/
def strEnd : Bytes → Option Bytes
  | [] => none
  | b :: t =>
    if b == 34 then some t
    else if b == 92 then
      match t with
      | [] => none
      | _ :: t' => strEnd t'
    else strEnd t

theorem strEnd_cons (b : UInt8) (t : Bytes) : strEnd (b :: t) =
    if b == 34 then some t else if b == 92 then (match t with | [] => none | _ :: t' => strEnd t') else strEnd t := by
  conv => lhs; rw [strEnd.eq_def]
  rfl

theorem strEnd_plain : ∀ (c t : Bytes), (∀ y ∈ c, y ≠ 34 ∧ y ≠ 92) → strEnd (c ++ t) = strEnd t
  | [], t, _ => rfl
  | y :: c, t, h => by
      have hy := h y (List.mem_cons_self ..)
      rw [List.cons_append, strEnd_cons, if_neg (by simpa using hy.1), if_neg (by simpa using hy.2)]
      exact strEnd_plain c t (fun z hz => h z (List.mem_cons_of_mem _ hz))

/-- the string scanner passes the chunk, whatever follows it: no free quote, and a backslash has a byte to take -/
def skips : Bytes → Bool
  | [] => true
  | [b] => b != 34 && b != 92
  | b :: x :: c => b != 34 && if b == 92 then skips c else skips (x :: c)

theorem strEnd_skips (t : Bytes) : ∀ c : Bytes, skips c = true → strEnd (c ++ t) = strEnd t
  | [], _ => rfl
  | [b], h => by
      simp only [skips, Bool.and_eq_true, bne_iff_ne, ne_eq] at h
      exact strEnd_plain [b] t (fun y hy => by rw [List.mem_singleton.mp hy]; exact h)
  | b :: x :: c, h => by
      simp only [skips, Bool.and_eq_true, bne_iff_ne, ne_eq] at h
      rw [List.cons_append, strEnd_cons, if_neg (by simpa using h.1)]
      split
      · next h92 => rw [if_pos h92] at h; exact strEnd_skips t c h.2
      · next h92 => rw [if_neg h92] at h; exact strEnd_skips t (x :: c) h.2

/-- a chunk of printable ASCII other than `<`, `>`, `&` that the string scanner passes: what an escaped or copied ASCII
byte and the three fixed escapes (`\ufffd`, `\u2028`, `\u2029`) are -/
def okChunk (c : Bytes) : Bool := c.all (fun y => 32 ≤ y && y < 128 && y != 60 && y != 62 && y != 38) && skips c

theorem okChunk_bytes {c : Bytes} (h : okChunk c = true) : ∀ y ∈ c, 32 ≤ y ∧ y < 128 ∧ y ≠ 60 ∧ y ≠ 62 ∧ y ≠ 38 := by
  simp only [okChunk, Bool.and_eq_true, List.all_eq_true, bne_iff_ne, ne_eq, decide_eq_true_eq] at h
  intro y hy
  have := h.1 y hy
  exact ⟨this.1.1.1.1, this.1.1.1.2, this.1.1.2, this.1.2, this.2⟩

theorem strEnd_okChunk {c : Bytes} (h : okChunk c = true) (t : Bytes) : strEnd (c ++ t) = strEnd t :=
  strEnd_skips t c (by simp only [okChunk, Bool.and_eq_true] at h; exact h.2)

theorem okChunk_escByte_all : ∀ n, n < 128 → okChunk (escByte n.toUInt8) = true := by decide +kernel

theorem okChunk_escByte (b : UInt8) (hb : b < 0x80) : okChunk (escByte b) = true := by
  have := okChunk_escByte_all b.toNat (by simpa [UInt8.lt_iff_toNat_lt] using hb)
  rwa [toUInt8_eq_of b.toNat b rfl] at this

/-- Induction over the chunks `appendString` emits: an escaped or copied ASCII byte or one of the three fixed escapes
(`okChunk`), or a copied well-formed multi-byte sequence. -/
theorem escAux_ind (P : Bytes → Prop) (hnil : P [])
    (hchunk : ∀ (c t : Bytes), okChunk c = true → P t → P (c ++ t))
    (hrune : ∀ (c t : Bytes), ValidUtf8 c → (∀ y ∈ c, 128 ≤ y.toNat) → P t → P (c ++ t))
    (n : Nat) (s : Bytes) : P (escAux n s) := by
  fun_induction escAux n s with
  | case1 => exact hnil
  | case2 => exact hnil
  | case3 n b rest hb ih => exact hchunk _ _ (okChunk_escByte b hb) ih
  | case4 n b rest hb r w hd hw ih => exact hchunk _ _ (by decide) ih
  | case5 n b rest hb r w hd hw hr ih => exact hchunk _ _ (by decide) ih
  | case6 n b rest hb r w hd hw _ hr ih => exact hchunk _ _ (by decide) ih
  | case7 n b rest hb r w hd hw _ _ ih =>
    have hg : Good (b :: rest) r w := good_of_decodeRune _ r w hd (fun h => hw h.2)
    have hb' : 128 ≤ b.toNat := Nat.le_of_not_lt fun h => hb (UInt8.lt_iff_toNat_lt.2 h)
    exact hrune _ _ (hg.encode ▸ validUtf8_encodeRune r) (hg.high hb') ih

end JsonF
