import Proofs.E2ESpell
/-!
# The token pattern on the spelling of one clean object or tag item

`objRe_m` / `tagRe_m`: at the head of `item.spell d ++ rest` the object resp. tag alternative of the
token pattern matches exactly the item's spelling, with the groups at the item's arguments (and name).
`matchAt_obj` / `matchAt_tag` (Proofs/E2EScan.lean) combine the two.
-/

theorem delimByte_spec {b : UInt8} (h : delimByte b = true) :
    Pred.test .space b = false ∧ Pred.test .word b = false ∧ Pred.test (.eq 45) b = false := by
  simp only [delimByte, Bool.and_eq_true, Bool.not_eq_true', bne_iff_ne, ne_eq, decide_eq_true_eq] at h
  exact ⟨h.1.1.1, h.1.1.2, by simp [Pred.test, h.1.2]⟩

theorem delim_head {l : Bytes} (hne : l ≠ []) (h : ∀ b ∈ l, delimByte b = true) : GoodHead l ∧ HeadNot .word l := by
  have hb := fun x t' (e : l = x :: t') => delimByte_spec (h x (by rw [e]; exact List.mem_cons_self ..))
  exact ⟨⟨hne, fun x t' e => (hb x t' e).1, fun x t' e => (hb x t' e).2.2⟩, fun x t' e => (hb x t' e).2.1⟩

theorem firstAt_drop {l mid : Bytes} (hf : firstAt l mid) (rest : Bytes) (i : Nat) (hi : i < mid.length) :
    ¬ l <+: (mid ++ (l ++ rest)).drop i := by
  intro h
  rw [← List.append_assoc, List.drop_append_of_le_length (by simp; omega)] at h
  exact hf i hi (List.prefix_of_prefix_length_le h (List.prefix_append _ _) (by simp; omega))

theorem firstAt_append {l mid : Bytes} (hf : firstAt l mid) (pre suf rest : Bytes)
    (h : pre ++ (l ++ suf) = mid ++ (l ++ rest)) (hlt : pre.length < mid.length) : False := by
  have h1 : (mid ++ (l ++ rest)).drop pre.length = l ++ suf := by rw [← h]; exact List.drop_left' rfl
  exact firstAt_drop hf rest _ hlt (by rw [h1]; exact List.prefix_append _ _)

theorem noPrefixSuffix_spec {tr a : Bytes} (h : noPrefixSuffix tr a) : ∀ q, q ≠ [] → q <:+ a → ¬ q <+: tr := by
  intro q hq hs hp
  have hlen : q.length ≤ tr.length := hp.length_le
  have hpos : 0 < q.length := List.length_pos_iff.mpr hq
  have := h (q.length - 1) (by omega)
  rw [show q.length - 1 + 1 = q.length by omega, ← List.prefix_iff_eq_take.mp hp] at this
  exact this hs

/-- of two ways to cut one list, the one whose first part misses a byte of the other's first part cuts earlier -/
theorem length_lt_of_mem_not_mem {α} {x y a b : List α} (h : x ++ y = a ++ b) {z : α} (hza : z ∈ a) (hzx : z ∉ x) :
    x.length < a.length := by
  refine Nat.lt_of_not_le fun hge => hzx ?_
  have hp : a <+: x ++ y := h ▸ List.prefix_append a b
  exact (List.prefix_of_prefix_length_le hp (List.prefix_append x y) hge).subset hza

theorem closer_none {R} (mf : Nat) (l args wr : Bytes) (hr : Bool) (rest : Bytes) (p : Nat) (c : Caps) (k : K R)
    (hlast : lastOk args) (hfirst : firstAt l (args ++ (wr ++ hyB hr))) (j : Nat) (hj : j < args.length) :
    (closer l).m mf ((args ++ (wr ++ (hyB hr ++ (l ++ rest)))).drop j) p c k = none := by
  cases h : (closer l).m mf ((args ++ (wr ++ (hyB hr ++ (l ++ rest)))).drop j) p c k with
  | none => rfl
  | some r =>
    exfalso
    obtain ⟨ws, b, t, hs, hws⟩ := closer_shape mf l _ p c k r h
    rw [List.drop_append_of_le_length (Nat.le_of_lt hj)] at hs
    cases hz : args.getLast? with
    | none =>
      have := List.getLast?_eq_none_iff.mp hz
      rw [this] at hj; simp at hj
    | some z =>
      have hzok : Pred.test .space z = false ∧ z ≠ 45 := by
        unfold lastOk at hlast; rw [hz] at hlast; exact hlast
      have hza : z ∈ args.drop j := List.mem_of_getLast? (by rw [List.getLast?_drop, if_neg (by omega), hz])
      -- the last byte of the arguments is not among the white space and the hyphen: the delimiter begins inside them
      have hX : z ∉ ws ++ hyB b := by
        intro hm
        rcases List.mem_append.mp hm with hm | hm
        · have := hws z hm; rw [hzok.1] at this; cases this
        · cases b with
          | true => simp [hyB] at hm; exact hzok.2 hm
          | false => simp [hyB] at hm
      have hs' : (ws ++ hyB b) ++ (l ++ t) = args.drop j ++ (wr ++ (hyB hr ++ (l ++ rest))) := by
        rw [List.append_assoc]; exact hs.symm
      have hlt := length_lt_of_mem_not_mem hs' hza hX
      refine firstAt_append hfirst (args.take j ++ (ws ++ hyB b)) t rest ?_ ?_
      · rw [List.append_assoc, hs', ← List.append_assoc, List.take_append_drop]
        simp only [List.append_assoc]
      · simp only [List.length_append, List.length_take, List.length_drop] at hlt ⊢
        omega

def objReOf (d : Delims) : Re :=
  Re.seq (Re.lit d.ol) (.seq hy (.seq sp (.seq (.group 1 (Re.plusLazy (.chr .any))) (closer d.or))))

def optArgs (tr : Bytes) : Re := Re.opt (.seq (Re.plus (.chr .space)) (.group 3 (Re.plusLazy (unitsRe tr))))

def tagReOf (d : Delims) : Re :=
  Re.seq (Re.lit d.tl) (.seq hy (.seq sp (.seq (.group 2 (Re.plus (.chr .word))) (.seq (optArgs d.tr) (closer d.tr)))))

theorem tokenRe_eq (d : Delims) : tokenRe d = .alt (objReOf d) (tagReOf d) := rfl

/-- the final continuation of `matchAt` -/
def kfin : K (Nat × Caps) := fun _ p' c => some (p', c)

theorem matchAt_eq (mf : Nat) (re : Re) (s : Bytes) (p : Nat) : re.matchAt mf s p = re.m mf s p [] kfin := rfl

theorem spell_length_obj (d : Delims) (args : Bytes) (hl hr : Bool) (wl wr : Bytes) :
    ((Item.obj args hl hr wl wr).spell d).length =
      d.ol.length + ((hyB hl).length + (wl.length + (args.length + (wr.length + ((hyB hr).length + d.or.length))))) := by
  simp only [Item.spell, List.length_append]

theorem spell_length_tag (d : Delims) (name args : Bytes) (hl hr : Bool) (wl wm wr : Bytes) :
    ((Item.tag name args hl hr wl wm wr).spell d).length =
      d.tl.length + ((hyB hl).length + (wl.length + (name.length + ((tagArgPart args wm).length +
        (wr.length + ((hyB hr).length + d.tr.length)))))) := by
  simp only [Item.spell, List.length_append]

theorem objRe_m (d : Delims) (hg : GoodDelims d) (args : Bytes) (hl hr : Bool) (wl wr rest : Bytes)
    (hci : CleanItem d (.obj args hl hr wl wr)) (hcc : CleanClose d (.obj args hl hr wl wr))
    (p mf : Nat) (hmf : wl.length + args.length + wr.length ≤ mf) :
    (objReOf d).m mf ((Item.obj args hl hr wl wr).spell d ++ rest) p [] kfin =
      some (p + ((Item.obj args hl hr wl wr).spell d).length,
        [⟨1, p + (d.ol.length + ((hyB hl).length + wl.length)), p + (d.ol.length + ((hyB hl).length + wl.length)) + args.length⟩]) := by
  obtain ⟨hwl, hwr, hane, hah, hah2, hal⟩ := hci
  obtain ⟨_, horne, _, _, _, hor, _, _, _, _⟩ := hg
  obtain ⟨x, u, rfl⟩ := List.exists_cons_of_ne_nil hane
  have hf : wl.length ≤ mf ∧ u.length ≤ mf ∧ wr.length ≤ mf := by rw [List.length_cons] at hmf; omega
  rw [spell_length_obj, Item.spell, objReOf]
  simp only [List.append_assoc]
  -- `OL -? \s*`, then the lazy group: the closing part fails inside the arguments and matches behind them
  refine opener_ok mf d.ol wl _ hl _ p [] kfin _ hwl hf.1 (headNot_cons (hah x u rfl))
    (fun h1 h2 => headNot_cons (hah2 ⟨h1, h2⟩ x u rfl)) ?_
  rw [seq_m, List.cons_append]
  refine plusLazy_any_group mf 1 x u _ _ [] _ _ hf.2.1 (fun i hi c' => ?_) ?_
  · exact closer_none mf d.or (x :: u) wr hr rest _ c' kfin hal hcc (i + 1) (Nat.succ_lt_succ hi)
  · refine closer_ok mf d.or wr rest hr _ _ kfin _ hwr hf.2.2 (delim_head horne hor).1 ?_
    simp only [kfin, List.length_cons, Nat.add_assoc]

/-- the groups of a tag match: name, and arguments when there are any -/
def tagCaps (ns : Nat) (name args wm : Bytes) : Caps :=
  if args = [] then [⟨2, ns, ns + name.length⟩]
  else [⟨3, ns + name.length + wm.length, ns + name.length + wm.length + args.length⟩, ⟨2, ns, ns + name.length⟩]

theorem tagCaps_find_name (ns : Nat) (name args wm : Bytes) : (tagCaps ns name args wm).find 2 = some (ns, ns + name.length) := by
  unfold tagCaps; split <;> rfl

theorem tagCaps_find_args (ns : Nat) (name args wm : Bytes) :
    (tagCaps ns name args wm).find 3 =
      if args = [] then none else some (ns + name.length + wm.length, ns + name.length + wm.length + args.length) := by
  unfold tagCaps; split <;> rfl

/-- `(?:\s+(EXCL+?))?\s*-?TR` where no arguments stand (at most one white-space byte, and then no hyphen, before the
    delimiter): the optional part matches nothing -/
theorem optArgs_skip {R} (mf : Nat) (tr wr rest : Bytes) (hr : Bool) (q : Nat) (c : Caps) (k : K R) (r : R)
    (htr : GoodHead tr) (hwr : AllP .space wr)
    (hlen : wr.length ≤ 1) (hwrhr : wr ≠ [] → hr = false) (hf : wr.length ≤ mf)
    (hk : k rest (q + (wr.length + ((hyB hr).length + tr.length))) c = some r) :
    (Re.seq (optArgs tr) (closer tr)).m mf (wr ++ (hyB hr ++ (tr ++ rest))) q c k = some r := by
  have hX : ∀ kk : K R, (Re.seq (Re.plus (.chr .space)) (.group 3 (Re.plusLazy (unitsRe tr)))).m mf
      (wr ++ (hyB hr ++ (tr ++ rest))) q c kk = none := by
    intro kk
    rw [seq_m, Re.plus, seq_m]
    cases wr with
    | nil => exact chr_m_stuck mf _ _ _ _ _ (headNot_hyB (by decide) hr (headNot_append_of_ne htr.1 htr.2.1))
    | cons w ws =>
      cases ws with
      | cons w2 ws2 => exact absurd hlen (by simp)
      | nil =>
        cases hwrhr (List.cons_ne_nil _ _)
        rw [show hyB false = [] from rfl, List.nil_append, List.singleton_append, chr_m_cons,
          if_pos (hwr w (List.mem_cons_self ..)), star_m,
          star_chr_stuck mf .space true mf _ _ _ _ (headNot_append_of_ne htr.1 htr.2.1), group_m, Re.plusLazy, seq_m]
        exact units_m_prefix_none mf tr rest _ _ _ htr.1
  rw [seq_m, optArgs, Re.opt, alt_m, hX, eps_m]
  exact closer_ok mf tr wr rest hr q c k r hwr hf htr hk

theorem optArgs_take {R} (mf : Nat) (tr wm args wr rest : Bytes) (hr : Bool) (q : Nat) (c : Caps) (k : K R) (r : R)
    (htr : GoodHead tr) (hwm : AllP .space wm) (hwr : AllP .space wr)
    (hane : args ≠ []) (hwmne : wm ≠ []) (hah : HeadNot .space args) (hal : lastOk args) (hnps : noPrefixSuffix tr args)
    (hfirst : firstAt tr (args ++ (wr ++ hyB hr))) (hf : wm.length + args.length + wr.length ≤ mf)
    (hk : k rest (q + wm.length + args.length + (wr.length + ((hyB hr).length + tr.length)))
      (⟨3, q + wm.length, q + wm.length + args.length⟩ :: c) = some r) :
    (Re.seq (optArgs tr) (closer tr)).m mf (wm ++ (args ++ (wr ++ (hyB hr ++ (tr ++ rest))))) q c k = some r := by
  obtain ⟨w0, ws, rfl⟩ := List.exists_cons_of_ne_nil hwmne
  have hf3 : ws.length ≤ mf ∧ args.length ≤ mf ∧ wr.length ≤ mf := by rw [List.length_cons] at hf; omega
  have hsome : (Re.seq (Re.plus (.chr .space)) (.group 3 (Re.plusLazy (unitsRe tr)))).m mf
      (w0 :: ws ++ (args ++ (wr ++ (hyB hr ++ (tr ++ rest))))) q c (fun s' p' c' => (closer tr).m mf s' p' c' k) = some r := by
    rw [seq_m, List.cons_append]
    refine plusGreedy_all mf .space w0 ws _ _ _ _ _ (hwm w0 (List.mem_cons_self ..))
      (fun x hx => hwm x (List.mem_cons_of_mem _ hx)) (headNot_append_of_ne hane hah) hf3.1 ?_
    refine plusLazy_units_group mf 3 tr args _ _ _ _ _ hane hf3.2.1 (fun i hi => ?_) (noPrefixSuffix_spec hnps)
      (fun i hi c' => closer_none mf tr args wr hr rest _ c' k hal hfirst i hi) ?_
    · have := firstAt_drop hfirst rest i (by rw [List.length_append]; omega)
      rwa [List.append_assoc, List.append_assoc] at this
    · exact closer_ok mf tr wr rest hr _ _ k _ hwr hf3.2.2 htr hk
  rw [seq_m, optArgs, Re.opt, alt_m, hsome]

theorem tagRe_m (d : Delims) (hg : GoodDelims d) (name args : Bytes) (hl hr : Bool) (wl wm wr rest : Bytes)
    (hci : CleanItem d (.tag name args hl hr wl wm wr)) (hcc : CleanClose d (.tag name args hl hr wl wm wr))
    (p mf : Nat) (hmf : wl.length + name.length + (tagArgPart args wm).length + wr.length ≤ mf) :
    (tagReOf d).m mf ((Item.tag name args hl hr wl wm wr).spell d ++ rest) p [] kfin =
      some (p + ((Item.tag name args hl hr wl wm wr).spell d).length,
        tagCaps (p + (d.tl.length + ((hyB hl).length + wl.length))) name args wm) := by
  obtain ⟨hwl, hwm, hwr, hnne, hnw, hnoargs, hargs⟩ := hci
  obtain ⟨_, _, _, htrne, _, _, _, htr, _, _⟩ := hg
  obtain ⟨htrg, htr2⟩ := delim_head htrne htr
  obtain ⟨n0, ns, rfl⟩ := List.exists_cons_of_ne_nil hnne
  have hn0 : Pred.test .word n0 = true := hnw n0 (List.mem_cons_self ..)
  rw [spell_length_tag, Item.spell, tagReOf]
  simp only [List.append_assoc]
  -- `TL -? \s*`, then the name: all its word bytes, since what follows starts with none
  refine opener_ok mf d.tl wl _ hl _ p [] kfin _ hwl (by omega) (headNot_cons (word_not_space hn0))
    (fun _ _ => headNot_cons (word_not_hyphen hn0)) ?_
  have hT : HeadNot .word (tagArgPart args wm ++ (wr ++ (hyB hr ++ (d.tr ++ rest)))) := by
    unfold tagArgPart
    split
    · rw [List.nil_append]
      exact headNot_of_all hwr (fun _ => space_not_word) fun _ => headNot_hyB (by decide) hr (headNot_append_of_ne htrne htr2)
    · next hane =>
      rw [List.append_assoc]
      exact headNot_of_all hwm (fun _ => space_not_word) (absurd · (hargs hane).1)
  rw [seq_m, group_m, List.cons_append]
  refine plusGreedy_all mf .word n0 ns _ _ [] _ _ hn0 (fun x hx => hnw x (List.mem_cons_of_mem _ hx)) hT
    (by simp only [List.length_cons] at hmf; omega) ?_
  show (Re.seq (optArgs d.tr) (closer d.tr)).m mf _ _ _ kfin = _
  unfold tagCaps tagArgPart at *
  by_cases hane : args = []
  · obtain ⟨hlen, hwrhr⟩ := hnoargs hane
    rw [if_pos hane] at hmf ⊢
    rw [if_pos hane, List.nil_append]
    refine optArgs_skip mf d.tr wr rest hr _ _ kfin _ htrg hwr hlen hwrhr (by omega) ?_
    simp only [kfin, List.length_cons, List.length_nil, Nat.add_assoc, Nat.zero_add]
  · obtain ⟨hwmne, hah, hal, hnps⟩ := hargs hane
    rw [if_neg hane] at hmf ⊢
    rw [if_neg hane, List.append_assoc]
    rw [List.length_append] at hmf
    refine optArgs_take mf d.tr wm args wr rest hr _ _ kfin _ htrg hwm hwr hane hwmne hah hal hnps (hcc hane)
      (by omega) ?_
    simp only [kfin, List.length_cons, List.length_append, Nat.add_assoc]
