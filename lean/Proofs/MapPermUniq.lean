import Proofs.MapPermFilters
import Proofs.SortFilters
/-!
# `uniq` and the order of map entries (helper lemmas for C02)

`uniq` identifies elements by `MapOrder.canonEnc`, the encoding of the value with every map in the
codec's canonical order: related elements have the same canonical form (`canonOrder_mp`).
-/

open GoVal MapOrder ArrF

theorem hasPtrKVs_eq_any (kvs : List (GoVal × GoVal)) :
    hasPtr.hasPtrKVs kvs = kvs.any (fun kv => hasPtr kv.1 || hasPtr kv.2) := by
  induction kvs with
  | nil => rfl
  | cons kv r ih => obtain ⟨k, v⟩ := kv; simp only [hasPtr.hasPtrKVs, ih, List.any_cons]

theorem hasPtr_mp_all :
    (∀ {a b : GoVal}, MP a b → hasPtr a = hasPtr b) ∧
    (∀ {xs ys : List GoVal}, MPL xs ys → hasPtr.hasPtrList xs = hasPtr.hasPtrList ys) ∧
    (∀ {xs ys : List (GoVal × GoVal)}, MPV xs ys → hasPtr.hasPtrKVs xs = hasPtr.hasPtrKVs ys) ∧
    (∀ {xs ys : List (Bytes × GoVal)}, MPF xs ys → hasPtr.hasPtrFields xs = hasPtr.hasPtrFields ys) := by
  apply MP.induction
  case refl => exact fun _ => rfl
  case slice | array => intro t xs ys _ ih; simp only [hasPtr, ih]
  case map =>
    intro kt vt kvs mid kvs' _ _ _ _ hp _ ih
    simp only [hasPtr, ih]
    rw [hasPtrKVs_eq_any, hasPtrKVs_eq_any, hp.any_eq]
  case mapVals => intro kt vt kvs kvs' _ _ _ ih; simp only [hasPtr, ih]
  case mapSlice => intro kvs kvs' _ ih; simp only [hasPtr, ih]
  case keyedMap => intro fs fs' _ _ ih; simp only [hasPtr, ih]
  case struct => intro fs fs' _ ih; simp only [hasPtr, ih]
  case ptr => exact fun _ _ => rfl
  case drop => intro v w _ ih; simp only [hasPtr, ih]
  case nilL | nilV | nilF => rfl
  case consL => intro x y xs ys _ _ ih ihs; simp only [hasPtr.hasPtrList, ih, ihs]
  case consV => intro k v w r r' _ _ ih ihs; simp only [hasPtr.hasPtrKVs, ih, ihs]
  case consF => intro k v w r r' _ _ ih ihs; simp only [hasPtr.hasPtrFields, ih, ihs]

theorem hasPtr_mp : ∀ {a b : GoVal}, MP a b → hasPtr a = hasPtr b :=
  hasPtr_mp_all.1
theorem hasPtrList_mp : ∀ {xs ys : List GoVal}, MPL xs ys → hasPtr.hasPtrList xs = hasPtr.hasPtrList ys :=
  hasPtr_mp_all.2.1
theorem hasPtrKVs_mpv : ∀ {xs ys : List (GoVal × GoVal)}, MPV xs ys → hasPtr.hasPtrKVs xs = hasPtr.hasPtrKVs ys :=
  hasPtr_mp_all.2.2.1
theorem hasPtrFields_mpf : ∀ {xs ys : List (Bytes × GoVal)}, MPF xs ys → hasPtr.hasPtrFields xs = hasPtr.hasPtrFields ys :=
  hasPtr_mp_all.2.2.2

/-- on booleans, numbers and strings the codec's order is the order of `SortedMapKeys` -/
theorem codecLess_eq_keyLess {a b : GoVal} (ha : GoodKey a) (hb : GoodKey b) : codecLess a b = keyLess a b := by
  have ra : codecRank a = keyClass a := by cases a <;> simp [GoodKey, goodKey] at ha <;> rfl
  have rb : codecRank b = keyClass b := by cases b <;> simp [GoodKey, goodKey] at hb <;> rfl
  have ca : keyClass a = 1 ∨ keyClass a = 2 ∨ keyClass a = 3 := by cases a <;> simp [GoodKey, goodKey] at ha <;> simp [keyClass]
  unfold codecLess keyLess
  simp only [ra, rb]
  by_cases hc : keyClass a = keyClass b
  · simp only [hc, bne_self_eq_false, Bool.false_eq_true, if_false]
    rcases ca with h | h | h <;> rw [hc] at h <;> simp [h] <;> simp only [← hc, keyLess, bne_self_eq_false, Bool.false_eq_true, if_false]
  · have : (keyClass a != keyClass b) = true := by simp [hc]
    simp only [this, if_true]

theorem canonOrder_goodKey {k : GoVal} (h : GoodKey k) : canonOrder k = k := by
  cases k <;> simp [GoodKey, goodKey] at h <;> rfl

theorem canonOrderKVs_eq_map (kvs : List (GoVal × GoVal)) : canonOrderKVs kvs = kvs.map fun kv => (canonOrder kv.1, canonOrder kv.2) := by
  induction kvs with
  | nil => rfl
  | cons kv r ih => obtain ⟨k, v⟩ := kv; simp [canonOrderKVs, ih]

theorem canonSort_perm {mid kvs' : List (GoVal × GoVal)} (hkm : KeysOK mid) (hp : mid.Perm kvs') :
    insertionSort (fun a b : GoVal × GoVal => codecLess a.1 b.1) (canonOrderKVs mid) =
      insertionSort (fun a b : GoVal × GoVal => codecLess a.1 b.1) (canonOrderKVs kvs') := by
  have hkeys : (canonOrderKVs mid).map (·.1) = mid.map (·.1) := by
    rw [canonOrderKVs_eq_map, List.map_map]
    exact List.map_congr_left (fun kv hkv => canonOrder_goodKey (hkm.1 kv hkv))
  have hkc : KeysOK (canonOrderKVs mid) := keysOK_of_keys_eq hkeys.symm hkm
  have hpc : (canonOrderKVs kvs').Perm (canonOrderKVs mid) := by
    rw [canonOrderKVs_eq_map, canonOrderKVs_eq_map]; exact (hp.map _).symm
  exact ((hkc.totalOn.congr fun a ha b hb => codecLess_eq_keyLess (hkc.1 a ha) (hkc.1 b hb)).insertionSort_perm hpc).symm

theorem canonOrder_mp_all :
    (∀ {a b : GoVal}, MP a b → canonOrder a = canonOrder b) ∧
    (∀ {xs ys : List GoVal}, MPL xs ys → canonOrderList xs = canonOrderList ys) ∧
    (∀ {xs ys : List (GoVal × GoVal)}, MPV xs ys → canonOrderKVs xs = canonOrderKVs ys) ∧
    (∀ {xs ys : List (Bytes × GoVal)}, MPF xs ys → canonOrderFields xs = canonOrderFields ys) := by
  apply MP.induction
  case refl => exact fun _ => rfl
  case slice | array => intro t xs ys _ ih; simp only [canonOrder, ih]
  case map =>
    intro kt vt kvs mid kvs' _ hk _ hm hp _ ih
    simp only [canonOrder, ih, canonSort_perm (keysOK_of_keys_eq hm.keys_eq hk) hp]
  case mapVals => intro kt vt kvs kvs' _ _ _ ih; simp only [canonOrder, ih]
  case mapSlice => intro kvs kvs' _ ih; simp only [canonOrder, ih]
  case keyedMap => intro fs fs' _ _ ih; simp only [canonOrder, ih]
  case struct => intro fs fs' _ ih; simp only [canonOrder, ih]
  case ptr | drop => intro v w _ ih; simp only [canonOrder, ih]
  case nilL | nilV | nilF => rfl
  case consL => intro x y xs ys _ _ ih ihs; simp only [canonOrderList, ih, ihs]
  case consV => intro k v w r r' _ _ ih ihs; simp only [canonOrderKVs, ih, ihs]
  case consF => intro k v w r r' _ _ ih ihs; simp only [canonOrderFields, ih, ihs]

theorem canonOrder_mp : ∀ {a b : GoVal}, MP a b → canonOrder a = canonOrder b :=
  canonOrder_mp_all.1
theorem canonOrderList_mp : ∀ {xs ys : List GoVal}, MPL xs ys → canonOrderList xs = canonOrderList ys :=
  canonOrder_mp_all.2.1
theorem canonOrderKVs_mpv : ∀ {xs ys : List (GoVal × GoVal)}, MPV xs ys → canonOrderKVs xs = canonOrderKVs ys :=
  canonOrder_mp_all.2.2.1
theorem canonOrderFields_mpf : ∀ {xs ys : List (Bytes × GoVal)}, MPF xs ys → canonOrderFields xs = canonOrderFields ys :=
  canonOrder_mp_all.2.2.2

theorem canonEnc_mp {a b : GoVal} (h : MP a b) : canonEnc a = canonEnc b := by
  unfold canonEnc; rw [canonOrder_mp h]

theorem uniqFormVals_eq_map (kvs : List (GoVal × GoVal)) :
    uniqFormVals kvs = kvs.map fun kv => (kv.1, uniqForm kv.2) := by
  induction kvs with
  | nil => rfl
  | cons kv r ih => obtain ⟨k, v⟩ := kv; simp [uniqFormVals, ih]

theorem uniqFormFields_eq_map (fs : List (Bytes × GoVal)) :
    uniqFormFields fs = fs.map fun kv => (GoVal.str kv.1, uniqForm kv.2) := by
  induction fs with
  | nil => rfl
  | cons kv r ih => obtain ⟨k, v⟩ := kv; simp [uniqFormFields, ih]

/-- what `uniq` compares is never the renderer's counter map: every map has become a `map[K]any` -/
theorem isPrivMap_uniqForm : ∀ v : GoVal, isPrivMap (uniqForm v) = false
  | .drop v => by simp only [ArrF.uniqForm]; exact isPrivMap_uniqForm v
  | .ptr (.drop v) => by simp only [ArrF.uniqForm]; exact isPrivMap_uniqForm v
  | .ptr .nil | .ptr (.bool _) | .ptr (.int _ _) | .ptr (.flt _ _) | .ptr (.str _) | .ptr (.bytes _)
  | .ptr (.slice _ _) | .ptr (.array _ _) | .ptr (.map _ _ _) | .ptr (.mapSlice _) | .ptr (.keyedMap _)
  | .ptr (.range _ _) | .ptr (.ptr _) | .ptr .nilPtr | .ptr (.struct _) | .ptr (.time _) => by
    simp [ArrF.uniqForm, isPrivMap]
  | .nil | .bool _ | .int _ _ | .flt _ _ | .str _ | .bytes _ | .slice _ _ | .array _ _ | .map _ _ _
  | .mapSlice _ | .keyedMap _ | .range _ _ | .nilPtr | .struct _ | .time _ => by simp [ArrF.uniqForm, isPrivMap]

theorem noPriv_uniqFormVals (kvs : List (GoVal × GoVal)) : NoPriv (uniqFormVals kvs) := by
  rw [uniqFormVals_eq_map]
  intro kv hkv
  obtain ⟨kv', _, rfl⟩ := List.mem_map.mp hkv
  exact isPrivMap_uniqForm _

theorem noPriv_uniqFormFields (fs : List (Bytes × GoVal)) : NoPriv (uniqFormFields fs) := by
  rw [uniqFormFields_eq_map]
  intro kv hkv
  obtain ⟨kv', _, rfl⟩ := List.mem_map.mp hkv
  exact isPrivMap_uniqForm _

theorem keysOK_uniqFormVals {kvs : List (GoVal × GoVal)} (hk : KeysOK kvs) : KeysOK (uniqFormVals kvs) :=
  keysOK_of_keys_eq (by rw [uniqFormVals_eq_map, List.map_map]; rfl) hk

theorem keysTyped_uniqFormVals {kt : Ty} {kvs : List (GoVal × GoVal)} (hk : KeysTyped kt kvs) :
    KeysTyped kt (uniqFormVals kvs) := by
  rw [uniqFormVals_eq_map]
  intro kv hkv
  obtain ⟨kv', hkv', rfl⟩ := List.mem_map.mp hkv
  exact hk kv' hkv'

/-- the items of two related ordered maps, as the `MapItem` structs `uniq` compares -/
theorem mapItems_mpv : ∀ {kvs kvs' : List (GoVal × GoVal)}, MPV kvs kvs' →
    MPL (kvs.map fun kv => GoVal.struct [([], kv.1), ([], kv.2)]) (kvs'.map fun kv => GoVal.struct [([], kv.1), ([], kv.2)])
  | _, _, .nil => .nil
  | _, _, .cons k hv h => .cons (.struct (.cons [] (.refl k) (.cons [] hv .nil))) (mapItems_mpv h)

theorem uniqForm_mp_all :
    (∀ {a b : GoVal}, MP a b → MP (uniqForm a) (uniqForm b)) ∧
    (∀ {xs ys : List GoVal}, MPL xs ys → MPL (uniqFormList xs) (uniqFormList ys)) ∧
    (∀ {xs ys : List (GoVal × GoVal)}, MPV xs ys → MPV (uniqFormVals xs) (uniqFormVals ys)) ∧
    (∀ {xs ys : List (Bytes × GoVal)}, MPF xs ys → MPV (uniqFormFields xs) (uniqFormFields ys)) := by
  apply MP.induction
  case refl => exact fun _ => .refl _
  case slice | array => intro t xs ys _ ih; simp only [ArrF.uniqForm]; exact .slice _ ih
  case map =>
    intro kt vt kvs mid kvs' _ hk _ _ hp ht ih
    simp only [ArrF.uniqForm]
    refine .map kt .any (by decide) (keysOK_uniqFormVals hk) (noPriv_uniqFormVals _) ih ?_ (keysTyped_uniqFormVals ht)
    rw [uniqFormVals_eq_map, uniqFormVals_eq_map]; exact hp.map _
  case mapVals =>
    intro kt vt kvs kvs' _ _ _ ih
    simp only [ArrF.uniqForm]
    exact .mapVals kt .any (by decide) (noPriv_uniqFormVals _) ih
  case mapSlice => intro kvs kvs' hm _; simp only [ArrF.uniqForm]; exact .slice _ (mapItems_mpv hm)
  case keyedMap =>
    intro fs fs' _ _ ih
    simp only [ArrF.uniqForm]
    exact .mapVals .str .any (by decide) (noPriv_uniqFormFields _) ih
  case struct => intro fs fs' hf _; exact .struct hf
  case ptr =>
    intro v w h ih
    -- a pointer to a drop is compared like the drop; any other pointer stays
    have h0 := MP.ptr h
    cases h using MP.elim with
    | refl => exact .refl _
    | drop => exact ih
    | _ => exact h0
  case drop => intro v w _ ih; exact ih
  case nilL => exact .nil
  case consL => intro x y xs ys _ _ ih ihs; exact .cons ih ihs
  case nilV | nilF => exact .nil
  case consV => intro k v w r r' _ _ ih ihs; exact .cons k ih ihs
  case consF => intro k v w r r' _ _ ih ihs; exact .cons (.str k) ih ihs

theorem MP.uniqForm : ∀ {a b : GoVal}, MP a b → MP (uniqForm a) (uniqForm b) :=
  uniqForm_mp_all.1
theorem MPL.uniqForm : ∀ {xs ys : List GoVal}, MPL xs ys → MPL (uniqFormList xs) (uniqFormList ys) :=
  uniqForm_mp_all.2.1
theorem MPV.uniqForm : ∀ {xs ys : List (GoVal × GoVal)}, MPV xs ys → MPV (uniqFormVals xs) (uniqFormVals ys) :=
  uniqForm_mp_all.2.2.1
theorem MPF.uniqForm : ∀ {xs ys : List (Bytes × GoVal)}, MPF xs ys → MPV (uniqFormFields xs) (uniqFormFields ys) :=
  uniqForm_mp_all.2.2.2

theorem uniqKey_mp {a b : GoVal} (h : MP a b) : uniqKey a = uniqKey b := canonEnc_mp h.uniqForm

theorem uniq_respectsM : ImplRespectsM [.val .anys] (eager uniq) :=
  implRespectsM_anys fun {_ ys'} hn => by
  simp only [uniq, All2.any_eq (R := MP) (fun _ _ => hasPtr_mp) hn.all2]
  cases ys'.any hasPtr with
  | true => exact RRel.unmL rfl _ _
  | false => exact MP.slice _ (hn.all2.uniqOn (fun _ _ h => uniqKey_mp h) []).mpl
