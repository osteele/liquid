import Proofs.MapPerm
import Proofs.ValView
/-!
# Lookups, truth tests and loop items do not see the order of map entries (helper lemmas for C02)

`MP.view`: what the value layer sees of two values related by `MP` (`Proofs/ValView.lean`); the operations follow.
-/

open GoVal MapOrder

abbrev OptMP : Option GoVal → Option GoVal → Prop := OptRel MP

abbrev LRelM : LRes → LRes → Prop := LRelG MP

theorem OptMP.getD {a b : Option GoVal} (h : OptMP a b) : MP (a.getD .nil) (b.getD .nil) := OptRel.getD h (.refl _)

theorem OptMP.isSome_eq {a b : Option GoVal} (h : OptMP a b) : a.isSome = b.isSome := OptRel.isSome_eq h

theorem MP.nilLike_eq {a b : GoVal} (h : MP a b) : nilLike a = nilLike b := by cases h <;> rfl

/-- two related maps have the same types, and entry lists that the value layer cannot tell apart -/
theorem MP.entRel {kt vt kt' vt' : Ty} {kvs kvs' : List (GoVal × GoVal)} (h : MP (.map kt vt kvs) (.map kt' vt' kvs')) :
    kt' = kt ∧ vt' = vt ∧ EntRel MP kvs kvs' := by
  cases h with
  | refl => exact ⟨rfl, rfl, _, All2.refl (fun _ => ⟨rfl, MP.refl _⟩) _, .inl rfl⟩
  | map _ _ _ hk _ hm hp _ => exact ⟨rfl, rfl, _, hm.all2, .inr ⟨hk, hp⟩⟩
  | mapVals _ _ _ _ hm => exact ⟨rfl, rfl, _, hm.all2, .inl rfl⟩

theorem MP.view : ∀ {a b : GoVal}, MP a b → View MP a.unwrap b.unwrap := by
  intro a b h
  induction h using MP.elim with
  | drop _ ih => exact ih
  | ptr h ih =>
    -- a pointer to a struct stays; any other pointer is followed, and a pointer to a drop unwraps like the drop
    cases h using MP.elim with
    | refl => exact .same _
    | struct hf => exact .ptrStruct hf.all2
    | _ => exact ih
  | refl => exact .same _
  | slice t h => exact .seq rfl rfl h.all2
  | array t h => exact .seq rfl rfl h.all2
  | map kt vt h => exact .map kt h.entRel.2.2
  | mapSlice h => exact .mapSlice (h.all2.imp fun _ _ h => ⟨h.1, h.2, h.2.nilLike_eq⟩)
  | keyedMap _ h => exact .keyedMap h.all2
  | struct h => exact .struct h.all2

theorem hasView_mp : HasView MP MP where
  view := MP.view
  refl := MP.refl
  ofPart h := h
  pair k _ _ h := MP.slice _ (.cons (.refl k) (.cons h .nil))

theorem mapFind_mp {kt vt kt' vt' : Ty} {kvs kvs' : List (GoVal × GoVal)} (h : MP (.map kt vt kvs) (.map kt' vt' kvs')) (k : GoVal) :
    kt' = kt ∧ vt' = vt ∧ kvs.length = kvs'.length ∧ OptMP (mapFind kvs k) (mapFind kvs' k) :=
  have ⟨h1, h2, he⟩ := h.entRel
  ⟨h1, h2, he.length_eq, he.find k⟩

theorem lookupFields_mpf : ∀ {fs fs' : List (Bytes × GoVal)}, MPF fs fs' → ∀ name, OptMP (lookupFields fs name) (lookupFields fs' name) :=
  fun h name => h.all2.lookupFields name

theorem propertyValue_mp {a b : GoVal} (h : MP a b) (name : Bytes) :
    LRelM (propertyValue a name) (propertyValue b name) := hasView_mp.propertyValue h name

theorem indexValue_mp {r r' i i' : GoVal} (hr : MP r r') (hi : MP i i') :
    LRelM (indexValue r i) (indexValue r' i') := hasView_mp.indexValue hr hi

theorem intOf_mp {a b : GoVal} (h : MP a b) : a.intOf = b.intOf := hasView_mp.intOf h

theorem test_mp {a b : GoVal} (h : MP a b) : a.test = b.test := hasView_mp.test h

theorem isNil_mp {a b : GoVal} (h : MP a b) : a.isNil = b.isNil := by
  cases h <;> rfl

theorem sortedMapEntries_mp {kt vt kt' vt' : Ty} {kvs kvs' : List (GoVal × GoVal)} (h : MP (.map kt vt kvs) (.map kt' vt' kvs')) :
    (∃ es es', (sortedMapEntries kvs : Res Cause _) = .ok es ∧ (sortedMapEntries kvs' : Res Cause _) = .ok es' ∧ MPV es es') ∨
    (∃ w, (sortedMapEntries kvs : Res Cause _) = .unmodelled w ∧ (sortedMapEntries kvs' : Res Cause _) = .unmodelled w) := by
  rcases h.entRel.2.2.sorted.false_cases with ⟨es, es', h1, h2, hs⟩ | ⟨h1, _⟩
  · exact .inl ⟨es, es', h1, h2, hs.mpv⟩
  · rcases sortedMapEntries_cases (ε := Cause) kvs with ⟨_, h2⟩ | ⟨_, w, h2⟩
    · exact .inl ⟨_, _, h2, h1 ▸ h2, MPV.refl _⟩
    · exact .inr ⟨w, h2, h1 ▸ h2⟩

theorem loopItems_mp_cases {budget : Int} {v v' : GoVal} (h : MP v v') :
    (∃ xs xs', loopItems budget v = .ok xs ∧ loopItems budget v' = .ok xs' ∧ MPL xs xs') ∨
    (loopItems budget v = loopItems budget v' ∧ ∀ xs, loopItems budget v ≠ .ok xs) := by
  have key : ∀ {u u' : GoVal}, View MP u u' →
      (∃ xs xs', loopItems budget u = .ok xs ∧ loopItems budget u' = .ok xs' ∧ MPL xs xs') ∨
      (loopItems budget u = loopItems budget u' ∧ ∀ xs, loopItems budget u ≠ .ok xs) := fun hv =>
    (hv.loopItems MP.refl hasView_mp.pair budget).false_cases.imp_left fun ⟨xs, xs', h1, h2, hl⟩ => ⟨xs, xs', h1, h2, hl.mpl⟩
  have hv := h.view
  -- a pointer and a drop are no collections; every other value is its own `unwrap`
  cases h using MP.elim with
  | ptr | drop => exact .inl ⟨_, _, rfl, rfl, .nil⟩
  | refl v => exact key (.same v)
  | _ => exact key hv
