import Liquid.Render
/-!
# C03 — rendering never modifies bindings or the template; renders are independent

The model of a render (`run`) is a function of the engine configuration, the template source,
the binding environment and the file system; the only engine state that survives a call is the
template cache written by `ParseTemplateAndCache`. The history machine below makes "other renders
happened in between" explicit and shows they cannot matter.

What this (value) model cannot express is *aliasing* of Go reference values (a filter sorting the
caller's slice in place). For slices that part of the property is proved on the slice-memory model of
`Liquid/Heap.lean` in `Proofs/C15Heap.lean` (`array_filters_do_not_write_inputs`, `pipeline_no_write`), tied by
the `alias` stream; for maps, structs and pointers it is carried by the `immut` stream, which deep-snapshots
every binding environment around every render on the real code.
-/

/-- operations on one shared engine -/
inductive EOp where
  | render (src : Bytes) (line : Nat) (env : Env)
  | parseAndCache (src : Bytes) (path : Bytes) (line : Nat)

/-- the engine state that outlives a call: the cache of `ParseTemplateAndCache` (latest first) -/
abbrev ECache := List (Bytes × Bytes)

def cacheFS (read : Bytes → FileRes) (cache : ECache) : FS :=
  { read := read, cache := fun p => (cache.find? (fun e => e.1 == p)).map (·.2) }

inductive EResult where
  | rendered (r : RunResult)
  | parsed (ok : Bool)

def estep (P : Prims) (O : OutPrims) (cfg : Cfg) (read : Bytes → FileRes) (fuel : Nat) (cache : ECache) :
    EOp → EResult × ECache
  | .render src line env => (.rendered (run P O cfg (cacheFS read cache) fuel src line env), cache)
  | .parseAndCache src path line =>
    match compileSource cfg.delims src line with
    | .ok _ => (.parsed true, (path, src) :: cache)
    | _ => (.parsed false, cache)

def erun (P : Prims) (O : OutPrims) (cfg : Cfg) (read : Bytes → FileRes) (fuel : Nat) : ECache → List EOp → List EResult
  | _, [] => []
  | cache, op :: ops =>
    let (r, cache') := estep P O cfg read fuel cache op
    r :: erun P O cfg read fuel cache' ops

def EOp.isRender : EOp → Bool
  | .render .. => true
  | _ => false

/-- a render — succeeding or failing — leaves the engine exactly as it was -/
theorem render_preserves_engine (P : Prims) (O : OutPrims) (cfg : Cfg) (read : Bytes → FileRes) (fuel : Nat) (cache : ECache)
    (src : Bytes) (line : Nat) (env : Env) :
    (estep P O cfg read fuel cache (.render src line env)).2 = cache := rfl

/-- **C03 (history independence).** In any history of renders on one engine — other templates, other
    bindings, succeeding or failing, in any number — every render returns exactly what it returns
    when it is the only operation ever performed. -/
theorem history_independent (P : Prims) (O : OutPrims) (cfg : Cfg) (read : Bytes → FileRes) (fuel : Nat) (cache : ECache) :
    ∀ (ops : List EOp), (∀ op ∈ ops, op.isRender = true) →
      erun P O cfg read fuel cache ops = ops.map (fun op => (estep P O cfg read fuel cache op).1) := by
  intro ops
  induction ops with
  | nil => intro _; rfl
  | cons op ops ih =>
    intro h
    have hop := h op (by simp)
    cases op with
    | render src line env =>
      simp only [erun, estep, List.map_cons]
      rw [ih (fun o ho => h o (by simp [ho]))]
      rfl
    | parseAndCache src path line => simp [EOp.isRender] at hop

/-- the same render repeated gives the same result each time (same bytes or same error), whatever
    renders happened in between -/
theorem rerender_same (P : Prims) (O : OutPrims) (cfg : Cfg) (read : Bytes → FileRes) (fuel : Nat) (cache : ECache)
    (src : Bytes) (line : Nat) (env : Env) (between : List EOp) (h : ∀ op ∈ between, op.isRender = true) :
    erun P O cfg read fuel cache (.render src line env :: between ++ [.render src line env]) =
      .rendered (run P O cfg (cacheFS read cache) fuel src line env) ::
        (between.map (fun op => (estep P O cfg read fuel cache op).1) ++
          [.rendered (run P O cfg (cacheFS read cache) fuel src line env)]) := by
  rw [history_independent P O cfg read fuel cache _
    (List.forall_mem_append.mpr ⟨List.forall_mem_cons.mpr ⟨rfl, h⟩, List.forall_mem_singleton.mpr rfl⟩),
    List.map_append]
  rfl

/-- **C03 (variables do not survive).** Every render starts from exactly the caller's bindings:
    what `assign`, `capture`, loops, `forloop` and `cycle` did to the variable map in an earlier
    render is not an input of a later one (`run` takes the environment as its argument and returns
    only output or an error). -/
theorem vars_reset (P : Prims) (O : OutPrims) (cfg : Cfg) (fs : FS) (fuel : Nat) (root : List Node) (env : Env) :
    frender P O cfg fs fuel root env =
      ((renderList (mkCtx P O cfg fs fuel) root { env := env, tw := {} }).bind fun (st, s) =>
        match st with
        | .done => ((wrapFailAt cfg.path invalidLoc flushM) s).bind fun _ => .ret Status.done
        | st => .ret st).bind statusToProg := rfl

example (P : Prims) (O : OutPrims) (cfg : Cfg) (read : Bytes → FileRes) :
    (erun P O cfg read 1 [] [.render [97] 0 [], .render [98] 0 []]).length = 2 := rfl
