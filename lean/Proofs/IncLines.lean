import Proofs.SrcCompileLines
/-!
# The include nodes of a compiled tree stand at the lines of the tags named `include`

`Node.ilines` (Proofs/SrcLines.lean) collects the lines and argument texts of the include nodes of a tree, `AST.itokLines`
(Proofs/Marks.lean) those of the plain tags named `include` of a parse tree. The compiler makes an include node only from such a tag, at its line
(`ipost_compileList`), and the tags of a derived tree are tokens of the source (`Derives.itokLines`).
-/

abbrev AnyErr : SErr → Prop := fun _ => True

section
-- reducible, `CPost` makes elaboration evaluate the compiler: Proofs/C07Lines.lean, at the same attribute
attribute [local irreducible] CPost

def ILines (I : List (Nat × Bytes)) (ns : List Node) : Prop := ∀ x, x ∈ ilinesList ns → x ∈ I

theorem ipost_compileNode (I : List (Nat × Bytes)) :
    ∀ a : AST, (∀ x, x ∈ a.itokLines → x ∈ I) → CPost AnyErr (ILines I) (compileNode a) :=
  fun a hI => (marks_compileNode _ a (List.Subset.refl _)).mono (fun _ _ => True.intro)
    (fun ns hr x hx => hI x (((projList ns).sub a.proj hr).2.2.1 hx))

theorem ipost_compileList (I : List (Nat × Bytes)) :
    ∀ as : List AST, (∀ x, x ∈ itokLinesList as → x ∈ I) → CPost AnyErr (ILines I) (compileList as) :=
  fun as hI => (marks_compileList _ as (List.Subset.refl _)).mono (fun _ _ => True.intro)
    (fun ns hr x hx => hI x (((projList ns).sub (aprojList as) hr).2.2.1 hx))

theorem ipost_compileClauses (I : List (Nat × Bytes)) :
    ∀ cs : List (Token × List AST), (∀ x, x ∈ itokLinesClauses cs → x ∈ I) →
      CPost AnyErr (fun r => ∀ x, x ∈ ilinesCClauses r → x ∈ I) (compileClauses cs) :=
  fun cs hI => (marks_compileClauses _ cs (List.Subset.refl _)).mono (fun _ _ => True.intro)
    (fun r hr x hx => hI x (((projCClauses r).sub (aprojClauses cs) hr).2.2.1 hx))

end

def IncTokLine (toks : List Token) (x : Nat × Bytes) : Prop := ∃ t ∈ toks, t.line = x.1 ∧ t.args = x.2 ∧ t.ty = .tag ∧ t.name = nmInclude

theorem Derives.itokLines {g : Grammar} {chk : Bytes → Option Cause} {toks : List Token} {ast : List AST}
    (h : Derives g chk toks ast) : ∀ x, x ∈ itokLinesList ast → IncTokLine toks x := by
  intro x hx
  obtain ⟨t, ht, hl, hty, hn, ha⟩ := h.marks _ (mem_ilinesOf.mp ((aprojList ast).ilines ▸ hx))
  exact ⟨t, ht, hl, ha, hty, hn⟩
