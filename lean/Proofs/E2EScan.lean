import Proofs.E2ELex
/-!
# The tokenizer on the spelling of a clean template: `scanWith (tokenRe d) d (spell d items) = tokensOf d items`

Induction on the NUMBER of items (`scanLoop_spell`, statement `LoopOk`), not structural: one round
(`round_item`) reads an optional text gap, one object or tag (`item_match` = `matchAt_*` +
`tokensOfMatch_*`) and, after a raw/comment tag, the body text item as well (`lexSkip_clean`, Proofs/E2ELex.lean).
-/

theorem ol_not_prefix_tag (d : Delims) (hg : GoodDelims d) (x : Bytes) : ¬ d.ol <+: d.tl ++ x := by
  obtain ⟨_, _, _, _, _, _, _, _, h1, h2⟩ := hg
  intro h
  rcases List.prefix_or_prefix_of_prefix h (List.prefix_append d.tl x) with h | h
  · exact h1 h
  · exact h2 h

theorem matchAt_obj (d : Delims) (hg : GoodDelims d) (args : Bytes) (hl hr : Bool) (wl wr rest : Bytes)
    (hci : CleanItem d (.obj args hl hr wl wr)) (hcc : CleanClose d (.obj args hl hr wl wr))
    (p mf : Nat) (hmf : wl.length + args.length + wr.length ≤ mf) :
    (tokenRe d).matchAt mf ((Item.obj args hl hr wl wr).spell d ++ rest) p =
      some (p + ((Item.obj args hl hr wl wr).spell d).length,
        [⟨1, p + (d.ol.length + ((hyB hl).length + wl.length)), p + (d.ol.length + ((hyB hl).length + wl.length)) + args.length⟩]) := by
  rw [tokenRe_eq, matchAt_eq, alt_m, objRe_m d hg args hl hr wl wr rest hci hcc p mf hmf]

theorem matchAt_tag (d : Delims) (hg : GoodDelims d) (name args : Bytes) (hl hr : Bool) (wl wm wr rest : Bytes)
    (hci : CleanItem d (.tag name args hl hr wl wm wr)) (hcc : CleanClose d (.tag name args hl hr wl wm wr))
    (p mf : Nat) (hmf : wl.length + name.length + (tagArgPart args wm).length + wr.length ≤ mf) :
    (tokenRe d).matchAt mf ((Item.tag name args hl hr wl wm wr).spell d ++ rest) p =
      some (p + ((Item.tag name args hl hr wl wm wr).spell d).length,
        tagCaps (p + (d.tl.length + ((hyB hl).length + wl.length))) name args wm) := by
  rw [tokenRe_eq, matchAt_eq, alt_m]
  have hnone : (objReOf d).m mf ((Item.tag name args hl hr wl wm wr).spell d ++ rest) p [] kfin = none := by
    cases h : (objReOf d).m mf ((Item.tag name args hl hr wl wm wr).spell d ++ rest) p [] kfin with
    | none => rfl
    | some r =>
      refine absurd (seq_lit_matchAt mf d.ol _ _ p r.1 r.2 h).1 ?_
      rw [Item.spell, List.append_assoc]
      exact ol_not_prefix_tag d hg _
  rw [hnone, tagRe_m d hg name args hl hr wl wm wr rest hci hcc p mf hmf]

def LastNe45 (x : Bytes) : Prop := x.getLast? ≠ some 45

theorem lastNe45_nil : LastNe45 [] := nofun

theorem lastNe45_append {a b : Bytes} (hb : LastNe45 b) (ha : b = [] → LastNe45 a) : LastNe45 (a ++ b) := by
  cases b with
  | nil => rw [List.append_nil]; exact ha rfl
  | cons x xs =>
    unfold LastNe45 at hb ⊢
    rw [List.getLast?_append]
    cases hl : (x :: xs).getLast? with
    | none => exact absurd (List.getLast?_eq_none_iff.mp hl) (List.cons_ne_nil _ _)
    | some z => exact hl ▸ hb

theorem lastNe45_of_all {pr : Pred} {ws : Bytes} (hall : AllP pr ws) (hq : ∀ x, pr.test x = true → Pred.test (.eq 45) x = false) :
    LastNe45 ws := by
  unfold LastNe45
  intro h
  exact absurd (hq 45 (hall 45 (List.mem_of_getLast? h))) (by decide)

theorem lastNe45_of_lastOk {a : Bytes} (h : lastOk a) : LastNe45 a := by
  unfold LastNe45
  unfold lastOk at h
  intro e
  rw [e] at h
  exact h.2 rfl

theorem isHyphenAt_left (l : Bytes) (b : Bool) (t : Bytes) (ht : b = false → HeadNot (.eq 45) t) :
    isHyphenAt (l ++ (hyB b ++ t)) l.length = b := by
  unfold isHyphenAt
  rw [List.getElem?_append_right (Nat.le_refl _), Nat.sub_self]
  cases b with
  | true => rfl
  | false =>
    rw [show hyB false = [] from rfl, List.nil_append]
    cases t with
    | nil => rfl
    | cons x xs =>
      have := ht rfl x xs rfl
      simp only [Pred.test] at this
      simp [this]

/-- the byte before the closing delimiter `l`, where a non-empty `inner` stands before the optional hyphen -/
theorem isHyphenAt_right (a inner : Bytes) (b : Bool) (l : Bytes) (hne : inner ≠ []) (hp : b = false → LastNe45 inner) :
    isHyphenAt (a ++ (inner ++ (hyB b ++ l))) ((a ++ (inner ++ (hyB b ++ l))).length - l.length - 1) = b := by
  have hne' : a ++ inner ≠ [] := List.append_ne_nil_of_right_ne_nil _ hne
  have hp' : b = false → LastNe45 (a ++ inner) := fun hb => lastNe45_append (hp hb) (absurd · hne)
  rw [← List.append_assoc]
  generalize a ++ inner = pre at hne' hp'
  unfold isHyphenAt
  cases b with
  | true =>
    have : (pre ++ (hyB true ++ l)).length - l.length - 1 = pre.length := by
      simp [hyB]; omega
    rw [this, List.getElem?_append_right (Nat.le_refl _), Nat.sub_self]
    rfl
  | false =>
    have hpos : 0 < pre.length := List.length_pos_iff.mpr hne'
    have : (pre ++ (hyB false ++ l)).length - l.length - 1 = pre.length - 1 := by
      simp [hyB]
    rw [this, List.getElem?_append_left (by omega), ← List.getLast?_eq_getElem?]
    have := hp' rfl
    unfold LastNe45 at this
    cases h : pre.getLast? with
    | none => rfl
    | some z =>
      rw [h] at this
      have hz : z ≠ 45 := fun e => this (by rw [e])
      simp [hz]

theorem subAt_mid (a b c : Bytes) (ts : Nat) :
    subAt (a ++ (b ++ c)) ts (ts + a.length) (ts + a.length + b.length) = b := by
  unfold subAt
  rw [show ts + a.length - ts = a.length by omega, show ts + a.length + b.length - (ts + a.length) = b.length by omega,
    List.drop_left' rfl, List.take_left' rfl]

theorem tokensOfMatch_obj (d : Delims) (args : Bytes) (hl hr : Bool) (wl wr : Bytes)
    (hci : CleanItem d (.obj args hl hr wl wr)) (p line : Nat) :
    tokensOfMatch d ((Item.obj args hl hr wl wr).spell d) p
      [⟨1, p + (d.ol.length + ((hyB hl).length + wl.length)), p + (d.ol.length + ((hyB hl).length + wl.length)) + args.length⟩] line =
    (Item.obj args hl hr wl wr).tokens d line := by
  obtain ⟨hwl, hwr, hane, hah, hah2, hal⟩ := hci
  have hpre : isPrefixOfB d.ol ((Item.obj args hl hr wl wr).spell d) = true :=
    (isPrefixOfB_iff _ _).mpr ⟨_, rfl⟩
  have hargs : subAt ((Item.obj args hl hr wl wr).spell d) p (p + (d.ol.length + ((hyB hl).length + wl.length)))
      (p + (d.ol.length + ((hyB hl).length + wl.length)) + args.length) = args := by
    have e : (Item.obj args hl hr wl wr).spell d = (d.ol ++ (hyB hl ++ wl)) ++ (args ++ (wr ++ (hyB hr ++ d.or))) := by
      simp [Item.spell, List.append_assoc]
    have := subAt_mid (d.ol ++ (hyB hl ++ wl)) args (wr ++ (hyB hr ++ d.or)) p
    simp only [List.length_append] at this
    rw [e]; exact this
  have hL : isHyphenAt ((Item.obj args hl hr wl wr).spell d) d.ol.length = hl :=
    isHyphenAt_left d.ol hl _ fun hhl =>
      headNot_of_all hwl (fun _ => space_not_hyphen) fun hwl0 => headNot_append_of_ne hane (hah2 ⟨hhl, hwl0⟩)
  have hR : isHyphenAt ((Item.obj args hl hr wl wr).spell d) (((Item.obj args hl hr wl wr).spell d).length - d.or.length - 1) = hr := by
    have e : (Item.obj args hl hr wl wr).spell d = (d.ol ++ (hyB hl ++ wl)) ++ ((args ++ wr) ++ (hyB hr ++ d.or)) := by
      simp [Item.spell, List.append_assoc]
    rw [e]
    exact isHyphenAt_right _ _ hr d.or (List.append_ne_nil_of_left_ne_nil hane _) fun _ =>
      lastNe45_append (lastNe45_of_all hwr fun _ => space_not_hyphen) fun _ => lastNe45_of_lastOk hal
  unfold tokensOfMatch
  rw [if_pos hpre]
  simp only [Caps.find, List.find?_cons, beq_self_eq_true, hargs, hL, hR]
  rfl

section tag
variable (d : Delims) (name args : Bytes) (hl hr : Bool) (wl wm wr : Bytes)

theorem spell_tag_prefix (hg : GoodDelims d) :
    isPrefixOfB d.ol ((Item.tag name args hl hr wl wm wr).spell d) = false ∧
    isPrefixOfB d.tl ((Item.tag name args hl hr wl wm wr).spell d) = true :=
  ⟨Bool.eq_false_iff.mpr fun h => ol_not_prefix_tag d hg _ ((isPrefixOfB_iff _ _).mp h), (isPrefixOfB_iff _ _).mpr ⟨_, rfl⟩⟩

theorem spell_tag_name (p : Nat) :
    subAt ((Item.tag name args hl hr wl wm wr).spell d) p (p + (d.tl.length + ((hyB hl).length + wl.length)))
      (p + (d.tl.length + ((hyB hl).length + wl.length)) + name.length) = name := by
  have := subAt_mid (d.tl ++ (hyB hl ++ wl)) name (tagArgPart args wm ++ (wr ++ (hyB hr ++ d.tr))) p
  simp only [List.length_append, List.append_assoc] at this
  exact this
end tag

theorem tokensOfMatch_tag (d : Delims) (hg : GoodDelims d) (name args : Bytes) (hl hr : Bool) (wl wm wr : Bytes)
    (hci : CleanItem d (.tag name args hl hr wl wm wr)) (p line : Nat) :
    tokensOfMatch d ((Item.tag name args hl hr wl wm wr).spell d) p
      (tagCaps (p + (d.tl.length + ((hyB hl).length + wl.length))) name args wm) line =
    (Item.tag name args hl hr wl wm wr).tokens d line := by
  obtain ⟨hwl, hwm, hwr, hnne, hnw, hnoargs, hargs⟩ := hci
  have hnpos : 0 < name.length := List.length_pos_iff.mpr hnne
  obtain ⟨hpre0, hpre⟩ := spell_tag_prefix d name args hl hr wl wm wr hg
  have hname := spell_tag_name d name args hl hr wl wm wr p
  have hL : isHyphenAt ((Item.tag name args hl hr wl wm wr).spell d) d.tl.length = hl :=
    isHyphenAt_left d.tl hl _ fun _ =>
      headNot_of_all hwl (fun _ => space_not_hyphen) fun _ => headNot_of_all hnw (fun _ => word_not_hyphen) (absurd · hnne)
  have hR : isHyphenAt ((Item.tag name args hl hr wl wm wr).spell d)
      (((Item.tag name args hl hr wl wm wr).spell d).length - d.tr.length - 1) = hr := by
    have e : (Item.tag name args hl hr wl wm wr).spell d =
        (d.tl ++ (hyB hl ++ wl)) ++ ((name ++ (tagArgPart args wm ++ wr)) ++ (hyB hr ++ d.tr)) := by
      simp only [Item.spell, List.append_assoc]
    have h1 : LastNe45 (tagArgPart args wm) := by
      unfold tagArgPart
      split
      · exact lastNe45_nil
      · next hane => exact lastNe45_append (lastNe45_of_lastOk (hargs hane).2.2.1) (absurd · hane)
    rw [e]
    exact isHyphenAt_right _ _ hr d.tr (List.append_ne_nil_of_left_ne_nil hnne _) fun _ =>
      lastNe45_append (lastNe45_append (lastNe45_of_all hwr fun _ => space_not_hyphen) fun _ => h1) fun _ =>
        lastNe45_of_all hnw fun _ => word_not_hyphen
  unfold tokensOfMatch
  rw [if_neg (by rw [hpre0]; exact Bool.false_ne_true), if_pos hpre]
  simp only [tagCaps_find_name, tagCaps_find_args, hname, hL, hR]
  by_cases hane : args = []
  · subst hane
    rfl
  · have hargsEq : subAt ((Item.tag name args hl hr wl wm wr).spell d) p
        (p + (d.tl.length + ((hyB hl).length + wl.length)) + name.length + wm.length)
        (p + (d.tl.length + ((hyB hl).length + wl.length)) + name.length + wm.length + args.length) = args := by
      have := subAt_mid (d.tl ++ (hyB hl ++ (wl ++ (name ++ wm)))) args (wr ++ (hyB hr ++ d.tr)) p
      simp only [List.length_append, List.append_assoc, ← Nat.add_assoc] at this
      simp only [Item.spell, tagArgPart, if_neg hane, List.append_assoc, ← Nat.add_assoc]
      exact this
    have hpos : p + (d.tl.length + ((hyB hl).length + wl.length)) + name.length + wm.length > 0 := by omega
    simp only [if_neg hane, hargsEq, if_pos hpos]
    rfl

theorem tagNameOfMatch_obj (d : Delims) (args : Bytes) (hl hr : Bool) (wl wr : Bytes) (p : Nat) (caps : Caps) :
    tagNameOfMatch d ((Item.obj args hl hr wl wr).spell d) p caps = none := by
  have hpre : isPrefixOfB d.ol ((Item.obj args hl hr wl wr).spell d) = true := (isPrefixOfB_iff _ _).mpr ⟨_, rfl⟩
  rw [tagNameOfMatch, if_pos hpre]

theorem tagNameOfMatch_tag (d : Delims) (hg : GoodDelims d) (name args : Bytes) (hl hr : Bool) (wl wm wr : Bytes) (p : Nat) :
    tagNameOfMatch d ((Item.tag name args hl hr wl wm wr).spell d) p
      (tagCaps (p + (d.tl.length + ((hyB hl).length + wl.length))) name args wm) = some name := by
  obtain ⟨hpre0, hpre⟩ := spell_tag_prefix d name args hl hr wl wm wr hg
  have hname := spell_tag_name d name args hl hr wl wm wr p
  unfold tagNameOfMatch
  rw [if_neg (by rw [hpre0]; exact Bool.false_ne_true), if_pos hpre]
  rw [tagCaps_find_name]
  exact congrArg some hname

/-- one round of the loop: a gap `pre` in which the pattern matches nowhere, then a match `src`, then — after a
    raw/comment tag — the `a` bytes up to the block's end tag as one text token -/
theorem scanLoop_step (mf : Nat) (re : Re) (d : Delims) (n : Nat) (pre src rest : Bytes) (p line : Nat) (caps : Caps) (a : Nat)
    (hsrc : src ≠ [])
    (hnone : ∀ i, i < pre.length → re.matchAt mf ((pre ++ (src ++ rest)).drop i) (p + i) = none)
    (hm : re.matchAt mf (src ++ rest) (p + pre.length) = some (p + pre.length + src.length, caps))
    (ha : lexSkip mf d (tagNameOfMatch d src (p + pre.length) caps) rest (p + pre.length + src.length) = a) :
    scanLoop mf re d (n + 1) (pre ++ (src ++ rest)) p line =
      (if pre.isEmpty then [] else [{ ty := .text, line := line, source := pre }]) ++
      (tokensOfMatch d src (p + pre.length) caps (line + countNL pre) ++
       ((if (rest.take a).isEmpty then [] else [{ ty := .text, line := line + countNL pre + countNL src, source := rest.take a }]) ++
        scanLoop mf re d n (rest.drop a) (p + pre.length + src.length + a)
          (line + countNL pre + countNL src + countNL (rest.take a)))) := by
  have hs : re.search mf (pre ++ (src ++ rest)) p 0 = some (pre.length, p + pre.length + src.length, caps) := by
    have := search_at mf re (p + pre.length + src.length) caps pre.length (pre ++ (src ++ rest)) p 0
      (by rw [List.length_append, List.length_append]; have := List.length_pos_iff.mpr hsrc; omega) hnone
      (by rw [List.drop_left' rfl]; exact hm)
    rwa [Nat.zero_add] at this
  have e2 : p + pre.length + src.length - (p + pre.length) = src.length := Nat.add_sub_cancel_left ..
  have hne : ¬ (p + pre.length + src.length ≤ p + pre.length) := by
    have := List.length_pos_iff.mpr hsrc; omega
  rw [scanLoop, hs]
  simp only
  rw [List.take_left' rfl, e2, List.drop_left' rfl, List.take_left' rfl, ← List.drop_drop, List.drop_left' rfl,
    List.drop_left' rfl, if_neg hne, ha, List.append_assoc]

/-- `scanLoop_step` with `a = 0`: the tokenizer does not skip (not a raw/comment tag, or no end tag ahead) -/
theorem scanLoop_step0 (mf : Nat) (re : Re) (d : Delims) (n : Nat) (pre src rest : Bytes) (p line : Nat) (caps : Caps)
    (hsrc : src ≠ [])
    (hnone : ∀ i, i < pre.length → re.matchAt mf ((pre ++ (src ++ rest)).drop i) (p + i) = none)
    (hm : re.matchAt mf (src ++ rest) (p + pre.length) = some (p + pre.length + src.length, caps))
    (h0 : lexSkip mf d (tagNameOfMatch d src (p + pre.length) caps) rest (p + pre.length + src.length) = 0) :
    scanLoop mf re d (n + 1) (pre ++ (src ++ rest)) p line =
      (if pre.isEmpty then [] else [{ ty := .text, line := line, source := pre }]) ++
      (tokensOfMatch d src (p + pre.length) caps (line + countNL pre) ++
       scanLoop mf re d n rest (p + pre.length + src.length) (line + countNL pre + countNL src)) :=
  scanLoop_step mf re d n pre src rest p line caps 0 hsrc hnone hm h0

/-- `scanLoop_step` with `a = body.length`: the tokenizer skips the body `body ≠ []` of a raw/comment block -/
theorem scanLoop_stepBody (mf : Nat) (re : Re) (d : Delims) (n : Nat) (pre src body rest : Bytes) (p line : Nat) (caps : Caps)
    (hsrc : src ≠ []) (hbody : body ≠ [])
    (hnone : ∀ i, i < pre.length → re.matchAt mf ((pre ++ (src ++ (body ++ rest))).drop i) (p + i) = none)
    (hm : re.matchAt mf (src ++ (body ++ rest)) (p + pre.length) = some (p + pre.length + src.length, caps))
    (h0 : lexSkip mf d (tagNameOfMatch d src (p + pre.length) caps) (body ++ rest) (p + pre.length + src.length) = body.length) :
    scanLoop mf re d (n + 1) (pre ++ (src ++ (body ++ rest))) p line =
      (if pre.isEmpty then [] else [{ ty := .text, line := line, source := pre }]) ++
      (tokensOfMatch d src (p + pre.length) caps (line + countNL pre) ++
       ({ ty := .text, line := line + countNL pre + countNL src, source := body } ::
        scanLoop mf re d n rest (p + pre.length + src.length + body.length) (line + countNL pre + countNL src + countNL body))) := by
  rw [scanLoop_step mf re d n pre src (body ++ rest) p line caps _ hsrc hnone hm h0, List.take_left' rfl, List.drop_left' rfl]
  obtain ⟨b, bs, rfl⟩ := List.exists_cons_of_ne_nil hbody
  rfl

theorem item_match (d : Delims) (hg : GoodDelims d) (it : Item) (hnt : it.isText = false)
    (hci : CleanItem d it) (hcc : CleanClose d it) (rest : Bytes) (p mf : Nat) (hmf : (it.spell d).length ≤ mf) :
    ∃ caps, (tokenRe d).matchAt mf (it.spell d ++ rest) p = some (p + (it.spell d).length, caps) ∧
      (∀ line, tokensOfMatch d (it.spell d) p caps line = it.tokens d line) ∧ it.spell d ≠ [] ∧
      tagNameOfMatch d (it.spell d) p caps = it.tagName := by
  cases it with
  | text s => cases hnt
  | obj args hl hr wl wr =>
    rw [spell_length_obj] at hmf
    exact ⟨_, matchAt_obj d hg args hl hr wl wr rest hci hcc p mf (by omega), tokensOfMatch_obj d args hl hr wl wr hci p,
      List.append_ne_nil_of_left_ne_nil hg.1 _, tagNameOfMatch_obj d args hl hr wl wr p _⟩
  | tag name args hl hr wl wm wr =>
    rw [spell_length_tag] at hmf
    exact ⟨_, matchAt_tag d hg name args hl hr wl wm wr rest hci hcc p mf (by omega),
      tokensOfMatch_tag d hg name args hl hr wl wm wr hci p, List.append_ne_nil_of_left_ne_nil hg.2.2.1 _,
      tagNameOfMatch_tag d hg name args hl hr wl wm wr p⟩

/-- induction statement of `scanLoop_spell`: from every offset and line the loop reads `spell d items` back as
    `tokensOf d items` -/
def LoopOk (d : Delims) (mf : Nat) (items : List Item) : Prop :=
  ∀ (n p line : Nat), (spell d items).length < n → (spell d items).length ≤ mf →
    scanLoop mf (tokenRe d) d n (spell d items) p line = tokensOf d items line

/-- one round: an optional gap `pre` (a clean text), a clean object or tag, the lexical skip, the rest -/
theorem round_item (d : Delims) (hg : GoodDelims d) (mf : Nat) (pre : Bytes) (it : Item) (r : List Item)
    (hnt : it.isText = false) (hci : CleanItem d it) (hcc : CleanClose d it) (hcl : CleanFrom d it.lexEnd r)
    (hnone : ∀ p i, i < pre.length → (tokenRe d).matchAt mf ((pre ++ (it.spell d ++ spell d r)).drop i) (p + i) = none)
    (IH : ∀ r', r'.length ≤ r.length → Clean d r' → LoopOk d mf r')
    (n p line : Nat) (hn : (pre ++ (it.spell d ++ spell d r)).length < n) (hmf : (pre ++ (it.spell d ++ spell d r)).length ≤ mf) :
    scanLoop mf (tokenRe d) d n (pre ++ (it.spell d ++ spell d r)) p line =
      (if pre.isEmpty then [] else [{ ty := .text, line := line, source := pre }]) ++
      (it.tokens d (line + countNL pre) ++ tokensOf d r (line + countNL pre + countNL (it.spell d))) := by
  rw [List.length_append, List.length_append] at hn hmf
  obtain ⟨caps, hm, htok, hsne, htn⟩ := item_match d hg it hnt hci hcc (spell d r) (p + pre.length) mf (by omega)
  have hspos := List.length_pos_iff.mpr hsne
  cases n with
  | zero => exact absurd hn (Nat.not_lt_zero _)
  | succ n =>
    have hr : (spell d r).length < n ∧ (spell d r).length ≤ mf := by omega
    rw [scanLoop_step mf (tokenRe d) d n pre (it.spell d) (spell d r) p line caps _ hsne (hnone p) hm rfl, htok, htn]
    refine congrArg (_ ++ ·) (congrArg (_ ++ ·) ?_)
    rcases lexSkip_clean d hg mf it.tagName r hcl (p + pre.length + (it.spell d).length) hr.2 with
      ⟨h0, hc⟩ | ⟨s, r', rfl, hne, hs, hc⟩
    · rw [h0]
      exact IH r (Nat.le_refl _) hc n _ _ hr.1 hr.2
    · -- the text is the body of the block
      obtain ⟨b, bs, rfl⟩ := List.exists_cons_of_ne_nil hne
      have hr' : (spell d r').length < n ∧ (spell d r').length ≤ mf := by
        rw [show spell d (.text (b :: bs) :: r') = (b :: bs) ++ spell d r' from rfl, List.length_append] at hr
        omega
      rw [hs, show spell d (.text (b :: bs) :: r') = (b :: bs) ++ spell d r' from rfl, List.take_left' rfl, List.drop_left' rfl,
        IH r' (Nat.le_succ _) hc n _ _ hr'.1 hr'.2]
      rfl

theorem scanLoop_spell (d : Delims) (hg : GoodDelims d) (mf : Nat) :
    ∀ (k : Nat) (items : List Item), items.length ≤ k → Clean d items → LoopOk d mf items := by
  have hnil : LoopOk d mf [] := by
    intro n p line hn _
    cases n with
    | zero => exact absurd hn (Nat.not_lt_zero _)
    | succ n => rfl
  intro k
  induction k with
  | zero =>
    intro items hk _
    cases List.eq_nil_of_length_eq_zero (Nat.le_zero.mp hk)
    exact hnil
  | succ k ih =>
    intro items hk hc n p line hn hmf
    cases items with
    | nil => exact hnil n p line hn hmf
    | cons x r =>
      have hkr : r.length ≤ k := Nat.le_of_succ_le_succ hk
      cases hx : x.isText with
      | false =>
        -- an object or tag at the head: a round with an empty gap
        obtain ⟨hci, hcc, _, hcl⟩ := hc
        have := round_item d hg mf [] x r hx hci hcc hcl (fun p i hi => absurd hi (Nat.not_lt_zero i))
          (fun r'' hr'' => ih r'' (Nat.le_trans hr'' hkr)) n p line hn hmf
        rw [countNL, List.count_nil, Nat.add_zero] at this
        exact this
      | true =>
        obtain ⟨s, rfl⟩ : ∃ s, x = .text s := by cases x <;> first | exact ⟨_, rfl⟩ | cases hx
        obtain ⟨hne, _, ⟨htxt, hnt⟩, htail⟩ := hc
        obtain ⟨b, bs, rfl⟩ := List.exists_cons_of_ne_nil (show s ≠ [] from hne)
        cases r with
        | nil =>
          rw [show spell d [] = [] from rfl, List.append_nil] at htxt
          rw [show spell d [.text (b :: bs)] = b :: bs from List.append_nil _, scanLoop_no_open (tokenRe_startsWithDelim d) mf n _ p line htxt]
          rfl
        | cons it r' =>
          obtain ⟨hci, hcc, _, hcl⟩ := htail
          exact round_item d hg mf (b :: bs) it r' hnt hci hcc hcl (fun p => text_no_match (tokenRe_startsWithDelim d) mf (b :: bs) _ p htxt)
            (fun r'' hr'' => ih r'' (Nat.le_trans hr'' (Nat.le_of_succ_le hkr))) n p line hn hmf

theorem scanWith_spell (d : Delims) (hg : GoodDelims d) (items : List Item) (hc : Clean d items) (line : Nat) :
    scanWith (tokenRe d) d (spell d items) line = tokensOf d items line :=
  scanLoop_spell d hg _ items.length items (Nat.le_refl _) hc _ 0 line (Nat.lt_succ_self _) (Nat.le_succ _)
