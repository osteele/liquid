import Proofs.SrcClauses
import Proofs.C06
import Proofs.C10
/-!
# Source-level helpers: conditionals that fail — a condition, subject or `when` list that fails to evaluate, and `elsif` inside `unless`

The location a failing test or `when` list gives the error (`ifB_cond_err`, `caseB_when_err`); with `run_written_single_fail`
(Proofs/SrcCompilesTo.lean) that is what `run` returns, nothing being written. `unlessChain_elsif_compile`: the block parser rejects
the `elsif` tag.
-/

theorem wrapError_plain (path : Bytes) (c : Cause) (loc : Loc) : wrapError path (.plain c) loc = ⟨loc.line, loc.pathSet, c, .byCause⟩ := rfl

/-- an `if`/`unless` node whose first test that is not falsy fails: the node fails with that error, located at the
    tag of that test (the `if`/`unless` tag or the `elsif` clause) -/
theorem ifB_cond_err (c : RCtx) (line : Nat) (s : RS) (pre : List (CondT × List Node)) (t : CondT) (body : List Node)
    (later : List (CondT × List Node)) (x : Cause)
    (hpre : ∀ b ∈ pre, condRes c.P s.env b.1 = .ok false) (ht : condRes c.P s.env t = .err x) (hl : line ≤ t.line) :
    renderNode c (.ifB line (pre ++ (t, body) :: later)) s = .fail (.located ⟨t.line, true, x, .byCause⟩) := by
  rw [renderNode]
  simp only [wrapAt, if_cond_err c s pre t body later x hpre ht, Prog.mapFail, Prog.bind, condErr, wrapError_plain,
    wrapError_keep _ _ _ _ _ hl]

/-- a `case` node whose first clause that does not miss is a `when` whose values fail to evaluate or compare: the node
    fails with that error, located at that `when` tag -/
theorem caseB_when_err (c : RCtx) (line : Nat) (subject : Expr) (s : RS) (sel : GoVal)
    (hsel : evaluate c.P s.env subject = .ok sel) (pre : List ((Nat × List Expr) × List Node)) (l : Nat) (es : List Expr)
    (body : List Node) (later : List (Option (Nat × List Expr) × List Node)) (x : Cause)
    (hpre : ∀ b ∈ pre, whenRes c.P s.env sel b.1.2 = .ok false) (ht : whenRes c.P s.env sel es = .err x) (hl : line ≤ l) :
    renderNode c (.caseB line subject (pre.map (fun b => (some b.1, b.2)) ++ (some (l, es), body) :: later)) s =
      .fail (.located ⟨l, true, x, .byCause⟩) := by
  rw [case_node_denotation c line subject _ s sel hsel]
  simp only [wrapAt, renderCases_skip c sel s pre _ hpre, renderCases_when, ht, Prog.mapFail, Prog.bind, wrapError_plain,
    wrapError_keep _ _ _ _ _ hl]

theorem caseB_subject_err (c : RCtx) (line : Nat) (subject : Expr) (cs : List (Option (Nat × List Expr) × List Node))
    (s : RS) (x : Cause) (hsel : evaluate c.P s.env subject = .err x) :
    renderNode c (.caseB line subject cs) s = .fail (.located ⟨line, true, x, .byCause⟩) := by
  rw [case_subject_err c line subject cs s x hsel]
  rfl

theorem chainSrc_eq_blockSrcK (c0 : Bytes) (w0 : Ws) (A0 : List Item) (rest : List Clause) (wE : Ws) :
    chainSrc c0 w0 A0 rest wE = blockSrcK nmElsif nmIf c0 w0 A0 rest wE := by
  unfold chainSrc blockSrcK
  rw [clauseItemsK_elsif]

/-- `{% unless c0 %}A0 clauses… {% endunless %}`; the clauses are spelled as in an `if` block (`{% else %}` for `cond = none`,
    `{% elsif t %}` for `cond = some t` — which an `unless` block does not admit) -/
def unlessChainSrc (c0 : Bytes) (w0 : Ws) (A0 : List Item) (rest : List Clause) (wE : Ws) : List Item :=
  tg nmUnless c0 w0 :: (A0 ++ (clauseItems rest ++ [tg (endPrefix ++ nmUnless) [] wE]))

theorem unlessChainSrc_eq_blockSrcK (c0 : Bytes) (w0 : Ws) (A0 : List Item) (rest : List Clause) (wE : Ws) :
    unlessChainSrc c0 w0 A0 rest wE = blockSrcK nmElsif nmUnless c0 w0 A0 rest wE := by
  unfold unlessChainSrc blockSrcK
  rw [clauseItemsK_elsif]

theorem chainK_first_cond_err (P : Prims) (O : OutPrims) (cfg : Cfg) (fs : FS) (fuel : Nat) (line : Nat) (env : Env)
    (nm : Bytes) (hn : nm = nmIf ∨ nm = nmUnless)
    (c0 : Bytes) (w0 : Ws) (A0 : List Item) (rest : List Clause) (wE : Ws) (e0 : Expr) (x : Cause)
    (hg : GoodDelims (Delims.ofList cfg.delims)) (hc : Clean (Delims.ofList cfg.delims) (blockSrcK nmElsif nm c0 w0 A0 rest wE))
    (hp : parseExprSource c0 = .ok e0)
    (hA : Compiles (Delims.ofList cfg.delims) A0 (line + countNL ((tg nm c0 w0).spell (Delims.ofList cfg.delims))))
    (hrest : ∀ c ∈ rest, c.Good (Delims.ofList cfg.delims)) (hadm : nm = nmUnless → ∀ c ∈ rest, c.cond = none)
    (hv : evaluate P env e0 = .err x) :
    run P O cfg fs fuel (spell (Delims.ofList cfg.delims) (blockSrcK nmElsif nm c0 w0 A0 rest wE)) line env =
      .err ⟨line, true, x, .byCause⟩ ∧
    written P O cfg fs fuel (spell (Delims.ofList cfg.delims) (blockSrcK nmElsif nm c0 w0 A0 rest wE)) line env = [] := by
  apply run_written_single_fail P O cfg fs fuel env hg hc (CompilesTo.chain hn hp hA hrest hadm)
  split
  · exact ifB_cond_err _ line _ [] (.expr line e0) _ _ x nofun (by simp only [condRes, mkCtx, hv]) (Nat.le_refl _)
  · exact ifB_cond_err _ line _ [] (.notExpr line e0) _ _ x nofun (by simp only [condRes, mkCtx, hv]) (Nat.le_refl _)

theorem firstUnmodelledObj_clauseItemsK (d : Delims) (kw : Bytes) : ∀ (cs : List Clause) (l : Nat) (post : List Item),
    (∀ c ∈ cs, Compiles d c.body 0) → (∀ l', firstUnmodelledObj (tokensOf d post l') = none) →
    firstUnmodelledObj (tokensOf d (clauseItemsK kw cs ++ post) l) = none
  | [], l, post, _, hp => hp l
  | c :: r, l, post, h, hp => by
    simp only [clauseItemsK, List.cons_append, List.append_assoc]
    rw [tokensOf_tagK, firstUnmodelledObj_tag _ _ (Clause.tokK_ty d kw c l), tokensOf_append, firstUnmodelledObj_append,
      (compileTokens_ok (nodesOf_spec (h c (List.mem_cons_self ..)) _)).1]
    exact firstUnmodelledObj_clauseItemsK d kw r _ post (fun x hx => h x (List.mem_cons_of_mem _ hx)) hp

/-- `{% unless c0 %}A0{% else %}… {% elsif t %}…`: the block parser stops at the `elsif` tag (`elsif not inside if; immediate
    parent is unless`), whatever `c0` and `t` are and whatever follows -/
theorem unlessChain_elsif_compile (d : Delims) (line : Nat) (c0 : Bytes) (w0 : Ws) (A0 : List Item) (pre : List Clause) (sel : Clause)
    (post : List Clause) (wE : Ws) (t : Bytes)
    (hA : Compiles d A0 0) (hbodies : ∀ c ∈ pre ++ sel :: post, Compiles d c.body 0)
    (helse : ∀ c ∈ pre, c.cond = none) (hsel : sel.cond = some t) :
    compileTokens (tokensOf d (blockSrcK nmElsif nmUnless c0 w0 A0 (pre ++ sel :: post) wE) line) =
      .err ⟨line + countNL ((tg nmUnless c0 w0).spell d) + countNL (spell d A0) + countNL (spell d (clauseItemsK nmElsif pre)),
        true, .none, .notInside⟩ := by
  have hU : firstUnmodelledObj (tokensOf d (blockSrcK nmElsif nmUnless c0 w0 A0 (pre ++ sel :: post) wE) line) = none := by
    unfold blockSrcK
    rw [tokensOf_tg, firstUnmodelledObj_tag _ _ rfl, tokensOf_append, firstUnmodelledObj_append,
      (compileTokens_ok (nodesOf_spec hA _)).1]
    exact firstUnmodelledObj_clauseItemsK d nmElsif _ _ _ hbodies (fun l' => by rw [tokensOf_tg, firstUnmodelledObj_tag _ _ rfl]; rfl)
  obtain ⟨-, astA, hdA, -⟩ := compileTokens_ok (nodesOf_spec hA (line + countNL ((tg nmUnless c0 w0).spell d)))
  have ho : stdGrammar.isOpen (tgTok d nmUnless c0 w0 line) = true := isOpen_tgTok _ _ _ _ _ (by decide) (by decide) (by decide)
  obtain ⟨segs, s1, s2, s3, -, -⟩ := clausesK_compile d nmElsif (tgTok d nmUnless c0 w0 line) pre
    (line + countNL ((tg nmUnless c0 w0).spell d) + countNL (spell d A0))
    (clauseItemsK nmElsif (sel :: post) ++ [tg (endPrefix ++ nmUnless) [] wE])
    (fun c hc => hbodies c (List.mem_append_left _ hc))
    (fun c hc l => ifK_admits d nmUnless c0 w0 line (.inr rfl) c (fun _ => helse c hc) l)
  -- the block parser on the viable prefix: the `unless` frame is open
  obtain ⟨f', cur', hf', hs⟩ := loop_blockInterior (chk := objChk) stdGrammar_OK ho ⟨_, astA, segs, hdA, s2, s3, rfl⟩ [] []
  -- the tokens: that prefix, the `elsif` tag, the rest
  have hselTok : ∀ l, sel.tokK d nmElsif l = tgTok d nmElsif t sel.w l := fun l => by
    unfold Clause.tokK
    rw [hsel]
  unfold blockSrcK at hU ⊢
  rw [tokensOf_tg, tokensOf_append, clauseItemsK_append, List.append_assoc, s1] at hU ⊢
  simp only [clauseItemsK, List.cons_append] at hU ⊢
  rw [tokensOf_tagK, hselTok, ← List.append_assoc, ← List.cons_append] at hU ⊢
  rw [compileTokens_of_parse_err hU (first_error_notInside stdGrammar objChk _ _ _ _ hs rfl rfl
    (by show stdGrammar.known nmElsif = true; decide) (by show stdGrammar.isBlock nmElsif = false; decide)
    (by show nmElsif ≠ commentName; decide) (by show nmElsif ≠ rawName; decide)
    (by
      intro f hf
      simp only [List.head?_cons, Option.mem_def, Option.some.injEq] at hf
      subst hf
      rw [hf']
      constructor <;> simp only [Grammar.isClauseOf, isEndOf, tgTok] <;> decide))]
  rfl
