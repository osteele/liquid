import Proofs.PostLemmas
/-!
# Step equations: how the render goes on at `if`, `case`, a loop and `include`

For the node forms that consult the value layer before they go on, one equation each without hypotheses on what it answers: the head
of the node is evaluated and the equation says how the render goes on in each case — the branch tests of `if` / `unless` (`evalCond_eq`, `renderBranches_cons`),
the `when` clauses of `case` (`whenMatches_eq`, `renderCases_when`), the head and the iterations of a loop (`loopRun_header`,
`iterateM_cons_pre`), the include tag (`renderNode_incl`, and `incl_handler_fail` … for what the handler answers). The forms that
assume an answer (`evaluate … = .ok v`) follow by rewriting with it. (A sequence split in two: `renderList_append`, Proofs/PostLemmas.lean.)
Text, object, `assign`, `capture` and `cycle` nodes have no equation here: where one is needed `renderNode` is unfolded
(`assign_seq`, `capture_seq`, Proofs/C12.lean; `tracedAtL_textNode`, Proofs/RunLemmas.lean).
-/

/-! ## `WrapError` -/

/-- a located error that has a line, or names a path, passes every enclosing node as it is -/
theorem wrapError_keeps (path : Bytes) (e : SErr) (loc : Loc)
    (h : e.line ≠ 0 ∨ (e.pathSet = true ∧ path ≠ [])) : wrapError path (.located e) loc = e := by
  unfold wrapError
  rcases h with h | ⟨h1, h2⟩
  · simp [h]
  · have : path.isEmpty = false := by cases path <;> simp_all
    simp [h1, this]

/-- a located error whose line is not above the line of the tag it passes is handed on unchanged: by the rule above,
    and on line 0 because it arrives at a zero location -/
theorem wrapError_keep (path : Bytes) (l l0 : Nat) (c : Cause) (m : Msg) (h : l0 ≤ l) :
    wrapError path (.located ⟨l, true, c, m⟩) ⟨l0, true⟩ = ⟨l, true, c, m⟩ := by
  cases l with
  | succ k => exact wrapError_keeps _ _ _ (.inl (Nat.succ_ne_zero k))
  | zero =>
    obtain rfl : l0 = 0 := by omega
    unfold wrapError
    simp only [Bool.true_and, Loc.isZero, Bool.not_true, Bool.false_or]
    cases path.isEmpty <;> simp

/-! ## `if` / `unless` -/

def condRes (P : Prims) (env : Env) : CondT → Res Cause Bool
  | .always => .ok true
  | .expr _ e => match evaluate P env e with
    | .ok v => .ok v.test
    | .err c => .err c
    | .panic w => .panic w
    | .unmodelled w => .unmodelled w
  | .notExpr _ e => match evaluate P env e with
    | .ok v => .ok !v.test
    | .err c => .err c
    | .panic w => .panic w
    | .unmodelled w => .unmodelled w

/-- the line of the tag a test belongs to: its evaluation errors are located there (`CondT.tagLine` of
    Proofs/RenderTrace.lean is the same function; `CondT.lines`, Proofs/C07Lines.lean, is `[t.line]`, or `[]` for `always`) -/
def CondT.line : CondT → Nat
  | .always => 0
  | .expr l _ => l
  | .notExpr l _ => l

/-- an evaluation error of a branch test, located at the branch's own tag -/
def condErr (path : Bytes) (t : CondT) (c : Cause) : RawErr := .located (wrapError path (.plain c) ⟨t.line, true⟩)

theorem evalCond_eq (P : Prims) (path : Bytes) (t : CondT) (s : RS) :
    evalCond P path t s = match condRes P s.env t with
      | .ok b => .ret (b, s)
      | .err c => .fail (condErr path t c)
      | .panic w => .panic w
      | .unmodelled w => .unmodelled w := by
  cases t with
  | always => rfl
  | expr l e =>
    simp only [evalCond, condRes, bind, M.bind, M.getEnv, Prog.bind, wrapFailAt, M.mapFail]
    cases evaluate P s.env e <;> rfl
  | notExpr l e =>
    simp only [evalCond, condRes, bind, M.bind, M.getEnv, Prog.bind, wrapFailAt, M.mapFail]
    cases evaluate P s.env e <;> rfl

theorem renderBranches_cons (c : RCtx) (t : CondT) (body : List Node) (rest : List (CondT × List Node)) (s : RS) :
    renderBranches c ((t, body) :: rest) s = match condRes c.P s.env t with
      | .ok true => renderBlockBody c body s
      | .ok false => renderBranches c rest s
      | .err e => .fail (condErr c.cfg.path t e)
      | .panic w => .panic w
      | .unmodelled w => .unmodelled w := by
  rw [renderBranches]
  simp only [bind, M.bind, evalCond_eq]
  cases condRes c.P s.env t with
  | ok b => cases b <;> rfl
  | _ => rfl


theorem renderBranches_skip (c : RCtx) (s : RS) (pre rest : List (CondT × List Node))
    (hpre : ∀ b ∈ pre, condRes c.P s.env b.1 = .ok false) :
    renderBranches c (pre ++ rest) s = renderBranches c rest s := by
  induction pre with
  | nil => rfl
  | cons b pre ih =>
    obtain ⟨bt, bb⟩ := b
    rw [List.cons_append, renderBranches_cons, hpre (bt, bb) (by simp)]
    exact ih (fun x hx => hpre x (by simp [hx]))


/-! ## `case` / `when` -/

/-- does a `when` clause list a value equal to the subject? (`.err`: a value does not evaluate or the comparison fails) -/
def whenRes (P : Prims) (env : Env) (sel : GoVal) : List Expr → Res Cause Bool
  | [] => .ok false
  | e :: es =>
    match evaluate P env e with
    | .ok v =>
      (match P.equalFn sel v with
       | .ok true => .ok true
       | .ok false => whenRes P env sel es
       | .err c => .err c
       | .panic w => .panic w
       | .unmodelled w => .unmodelled w)
    | .err c => .err c
    | .panic w => .panic w
    | .unmodelled w => .unmodelled w

theorem whenMatches_eq (c : RCtx) (sel : GoVal) (es : List Expr) (s : RS) :
    whenMatches c sel es s = match whenRes c.P s.env sel es with
      | .ok b => .ret (b, s)
      | .err x => .fail (.plain x)
      | .panic w => .panic w
      | .unmodelled w => .unmodelled w := by
  induction es with
  | nil => rfl
  | cons e es ih =>
    rw [whenMatches]
    simp only [bind, M.bind, M.getEnv, Prog.bind, whenRes]
    cases evaluate c.P s.env e with
    | ok v =>
      simp only [M.ofRes, pure, M.pure, Prog.bind]
      cases c.P.equalFn sel v with
      | ok b =>
        cases b
        · simp only [M.pure, Prog.bind, Bool.false_eq_true, if_false]
          exact ih
        · rfl
      | _ => rfl
    | _ => rfl

theorem renderCases_when (c : RCtx) (sel : GoVal) (line : Nat) (es : List Expr) (body : List Node)
    (rest : List (Option (Nat × List Expr) × List Node)) (s : RS) :
    renderCases c sel ((some (line, es), body) :: rest) s = match whenRes c.P s.env sel es with
      | .ok true => renderBlockBody c body s
      | .ok false => renderCases c sel rest s
      | .err x => .fail (.located (wrapError c.cfg.path (.plain x) ⟨line, true⟩))
      | .panic w => .panic w
      | .unmodelled w => .unmodelled w := by
  rw [renderCases]
  simp only [bind, M.bind, wrapFailAt, M.mapFail, whenMatches_eq]
  cases whenRes c.P s.env sel es with
  | ok b => cases b <;> rfl
  | _ => rfl

theorem renderCases_skip (c : RCtx) (sel : GoVal) (s : RS) (pre : List ((Nat × List Expr) × List Node))
    (rest : List (Option (Nat × List Expr) × List Node))
    (hpre : ∀ b ∈ pre, whenRes c.P s.env sel b.1.2 = .ok false) :
    renderCases c sel (pre.map (fun b => (some b.1, b.2)) ++ rest) s = renderCases c sel rest s := by
  induction pre with
  | nil => rfl
  | cons b pre ih =>
    rw [List.map_cons, List.cons_append, renderCases_when, hpre b (by simp)]
    exact ih (fun x hx => hpre x (by simp [hx]))


/-! ## `include` -/

/-- the include tag: its argument is parsed and evaluated in the current variables; for a string the handler is asked with those
    variables, and what it answers is inserted verbatim (`done`) or handed on (a `break` / `continue`) -/
theorem renderNode_incl (c : RCtx) (line : Nat) (args : Bytes) (s : RS) :
    renderNode c (.incl line args) s = wrapAt c.cfg.path ⟨line, true⟩ (fun s0 =>
      match parseExprSource args with
      | .ok e =>
        (match evaluate c.P s.env e with
         | .ok (.str rel) =>
           (c.inc line (joinPath (dirPath c.cfg.path) rel) s.env).bind fun (st, out) =>
             match st with
             | .done => (writeVerbatimM out s0).bind fun (_, s1) => .ret (.done, s1)
             | st => .ret (st, s0)
         | .ok _ => .fail (.located (errorfAt ⟨line, true⟩ .includeArg))
         | .err cause => .fail (.plain cause)
         | .panic w => .panic w
         | .unmodelled w => .unmodelled w)
      | .err _ => .fail (.plain .syntax)
      | .panic w => .panic w
      | .unmodelled w => .unmodelled w) s := by
  rw [renderNode]
  simp only [wrapAt, bind, M.bind, M.getEnv, Prog.bind]
  cases parseExprSource args with
  | ok e =>
    simp only [Res.mapErr, M.ofRes, pure, M.pure, Prog.bind]
    cases evaluate c.P s.env e with
    | ok v =>
      simp only [M.pure, Prog.bind]
      cases v with
      | str rel =>
        simp only [M.bind, Prog.bind_assoc, Prog.bind]
        congr 3
        funext r
        obtain ⟨st, out⟩ := r
        cases st <;> rfl
      | _ => rfl
    | _ => rfl
  | _ => rfl

/-- a node that only does its work and ends normally wraps failures only: there is no `break` / `continue` to re-wrap -/
theorem wrapAt_then_done {α} (path : Bytes) (loc : Loc) (m : M α) (s : RS) :
    wrapAt path loc (fun s0 => (m s0).bind fun x => .ret (.done, x.2)) s =
      wrapFailAt path loc (do let _ ← m; pure .done) s := by
  simp only [wrapAt, wrapFailAt, M.mapFail, bind, M.bind, pure, M.pure]
  generalize m s = p
  induction p with
  | call b k ih =>
    simp only [Prog.bind, Prog.mapFail]
    congr 1
    funext r
    exact ih r
  | _ => rfl

/-! What the include tag does with the answer of the handler, for an argument that evaluates to the string `rel` -/

theorem incl_handler_fail (c : RCtx) (line : Nat) (args : Bytes) (s : RS) (e : Expr) (rel : Bytes) (x : RawErr)
    (he : parseExprSource args = .ok e) (hv : evaluate c.P s.env e = .ok (.str rel))
    (hf : c.inc line (joinPath (dirPath c.cfg.path) rel) s.env = .fail x) :
    renderNode c (.incl line args) s = .fail (.located (wrapError c.cfg.path x ⟨line, true⟩)) := by
  rw [renderNode_incl]
  simp only [he, hv, wrapAt, hf, Prog.bind, Prog.mapFail]

theorem incl_handler_sentinel (c : RCtx) (line : Nat) (args : Bytes) (s : RS) (e : Expr) (rel out : Bytes) (st : Status)
    (he : parseExprSource args = .ok e) (hv : evaluate c.P s.env e = .ok (.str rel)) (hst : st ≠ .done)
    (hf : c.inc line (joinPath (dirPath c.cfg.path) rel) s.env = .ret (st, out)) :
    renderNode c (.incl line args) s = .ret (st.wrap c.cfg.path ⟨line, true⟩, s) := by
  rw [renderNode_incl]
  simp only [he, hv, wrapAt, hf, Prog.bind]
  cases st with
  | done => exact absurd rfl hst
  | brk eb => rfl
  | cont eb => rfl

theorem incl_handler_done (c : RCtx) (line : Nat) (args : Bytes) (s : RS) (e : Expr) (rel out : Bytes)
    (he : parseExprSource args = .ok e) (hv : evaluate c.P s.env e = .ok (.str rel))
    (hf : c.inc line (joinPath (dirPath c.cfg.path) rel) s.env = .ret (.done, out)) :
    renderNode c (.incl line args) s = wrapFailAt c.cfg.path ⟨line, true⟩ (do writeVerbatimM out; pure .done) s := by
  rw [renderNode_incl, ← wrapAt_then_done]
  simp only [he, hv, wrapAt, hf, Prog.bind]


/-! ## `capture` -/

theorem flushM_runPure (s : RS) : (flushM s).runPure = (s.tw.buf, .ok ((), { s with tw := { s.tw with buf := [] } })) := by
  obtain ⟨env, buf, trim⟩ := s
  cases buf <;> simp [flushM, Prog.runPure]

/-- a capture is the run of its body from an empty trim writer, then the flush: the text is what the body put out and what it left
    pending; the variables are those the body ends with; nothing of the outer trim writer is read or changed -/
theorem captureM_eq {α} (m : M α) (s : RS) :
    captureM m s = match (m { env := s.env, tw := {} }).runPure with
      | (out, .ok (a, s1)) => .ret ((a, out ++ s1.tw.buf), { s with env := s1.env })
      | (_, .err e) => .fail e
      | (_, .panic w) => .panic w
      | (_, .unmodelled w) => .unmodelled w := by
  unfold captureM
  simp only [Prog.runPure_bind, flushM_runPure, Prog.runPure, List.append_nil]
  rcases (m { env := s.env, tw := {} }).runPure with ⟨out, ⟨a, s1⟩ | e | w | w⟩ <;> rfl


/-! ## `for` / `tablerow` -/

/-- what one iteration does before the body: bind the variable and `forloop`, open the cell. (`iterateM_cons`,
    Proofs/LoopLemmas.lean, splits an iteration into `iterStart` and `iterBody`; the trace needs the cell writes of a
    tablerow, which the loop issues itself, apart from those of the body.) -/
def iterPre (var : Bytes) (cols : Option Nat) (n : Nat) (x : GoVal) (i : Nat) (cyc : List (GoVal × GoVal)) : M Unit := do
  M.setVar var x
  M.setVar nmForloop (forloopRec i n cyc)
  (match cols with
   | some c => tablerowBefore c i
   | none => pure ())

/-- …and after it: close the cell, read `forloop` back -/
def iterPost (cols : Option Nat) (n i : Nat) : M GoVal := do
  (match cols with
   | some c => tablerowAfter c i n
   | none => pure ())
  M.getVar nmForloop

theorem iterateM_cons_pre (var : Bytes) (cols : Option Nat) (body : M Status) (n : Nat) (x : GoVal) (xs : List GoVal)
    (i : Nat) (cyc : List (GoVal × GoVal)) :
    iterateM var cols body n (x :: xs) i cyc =
      (iterPre var cols n x i cyc >>= fun _ => body >>= fun st => iterPost cols n i >>= fun cur =>
        match st with
        | .brk _ => pure .done
        | _ => iterateM var cols body n xs (i + 1) (match cyclesOf cur with | some (c, _) => c | none => cyc)) := by
  conv => lhs; unfold iterateM
  simp only [iterPre, iterPost, M.bind_assoc]
  rfl

/-- the head of a loop: collection, iterator, `offset`, `limit`, the clause-count check; the items selected -/
def loopHeader (budget : Int) (P : Prims) (loc : Loc) (e : Expr) (mods : LoopMods) (tooMany : Bool) : M (List GoVal) := do
  let env ← M.getEnv
  let v ← M.ofRes (evaluate P env e)
  let items0 ← M.ofRes (loopItems budget v)
  let off ← intModifier P mods.offset loc
  let lim ← intModifier P mods.limit loc
  if tooMany then M.fail (.plain (.other "forElse")) else pure (selectItems mods.reversed off lim items0)

theorem loopRun_header {budget : Int} (P : Prims) (path : Bytes) (loc : Loc) (tablerow : Bool) (var : Bytes) (e : Expr) (mods : LoopMods)
    (bodyM : M Status) (tooMany : Bool) (elseM : Option (M Status)) :
    loopRun budget P path loc tablerow var e mods bodyM tooMany elseM =
      wrapAt path loc (loopHeader budget P loc e mods tooMany >>= fun items =>
        loopDispatch P loc tablerow var mods.cols bodyM elseM items) := by
  unfold loopRun loopHeader
  congr 1
  simp only [M.bind_assoc]
  cases tooMany
  · rfl
  · rfl


theorem else_when_empty (P : Prims) (loc : Loc) (tr : Bool) (var : Bytes) (colsE : Option Expr) (bodyM els : M Status) :
    loopDispatch P loc tr var colsE bodyM (some els) [] = els := rfl

theorem no_else_when_nonempty (P : Prims) (loc : Loc) (tr : Bool) (var : Bytes) (colsE : Option Expr)
    (bodyM : M Status) (elseM : Option (M Status)) (x : GoVal) (xs : List GoVal) :
    loopDispatch P loc tr var colsE bodyM elseM (x :: xs) = loopIterate P loc tr var colsE bodyM (x :: xs) := by
  unfold loopDispatch; rfl

theorem no_else_clause (P : Prims) (loc : Loc) (tr : Bool) (var : Bytes) (colsE : Option Expr)
    (bodyM : M Status) (items : List GoVal) :
    loopDispatch P loc tr var colsE bodyM none items = loopIterate P loc tr var colsE bodyM items := by
  unfold loopDispatch; cases items <;> rfl
