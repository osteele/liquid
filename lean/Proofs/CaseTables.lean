import Proofs.CaseTableLemmas
/-!
# The case tables of translator T6 (DESIGN 5.4): what the C16 theorems need of them

`Liquid/Generated/CaseTables.lean` is rewritten on every check run from `unicode.ToUpper` / `unicode.ToLower` of the
toolchain. Nothing here is proved rune by rune over the 1 114 112 code points: each fact is a *checker* over the few
hundred ranges (interval reasoning), proved correct for every table, and then evaluated on the generated tables by
the kernel (`decide +kernel`; the checkers are written with `Nat.ble` / `Nat.beq`, which the kernel computes on
literals directly). A toolchain with other tables either passes the same checkers — and every theorem downstream is
re-proved — or fails to build here, visibly (`case_tables_wellformed` is the obligation registered for C16 in
`checklib/props/__init__.py`; the translator names the failing fact in an `OBLIGATION … BROKEN` line).

* `case_tables_wellformed` — ranges non-empty, in ascending order, pairwise disjoint as intervals, inside
  U+0000..U+10FFFF, no range that moves nothing, alternating ranges of even span; every image interval consists of
  scalar values (does not touch the surrogates, stays below U+110000).
* `case_tables_idempotent` — no image of a range is hit by a range again.
* `case_tables_round_trip` — the exception list of `upper_lower_upper_except` (`Proofs/C16.lean`) is exact: a range of `ToLower` is undone by one range
  of `ToUpper`, or (title-case digraphs, the exceptions) its runes are tried one by one.
-/

/-- the exceptions are exceptions: each is kept by `ToUpper` and does not come back -/
def caseExceptionsExact : Bool :=
  upperLowerUpperExceptions.all fun u => Nat.beq (toUpperRune u) u && !Nat.beq (toUpperRune (toLowerRune u)) u

/-- OBLIGATION (T6): both tables are well-formed and every image is a scalar value -/
theorem case_tables_wellformed : caseTableWf upperRanges = true ∧ caseTableWf lowerRanges = true := by
  constructor <;> decide +kernel

theorem upperRanges_sorted : caseSorted upperRanges = true := (caseTableWf_parts case_tables_wellformed.1).2

theorem lowerRanges_sorted : caseSorted lowerRanges = true := (caseTableWf_parts case_tables_wellformed.2).2

/-- OBLIGATION (T6): in both tables no image is moved again -/
theorem case_tables_idempotent : caseIdemCheck upperRanges = true ∧ caseIdemCheck lowerRanges = true :=
  ⟨caseIdemCheck_of_sorted upperRanges_sorted (by decide +kernel),
    caseIdemCheck_of_sorted lowerRanges_sorted (by decide +kernel)⟩

/-- OBLIGATION (T6): `upperLowerUpperExceptions` is exactly the set of upper-case runes that do not come back -/
theorem case_tables_round_trip :
    caseRoundTripCheck upperRanges lowerRanges upperLowerUpperExceptions = true ∧ caseExceptionsExact = true :=
  ⟨allK_orK_mono (p := fun l => l.invertedBy upperRanges) (fun _ => CaseRange.invertedBy_sound) (by decide +kernel),
    by decide +kernel⟩

/-! The checkers do reject: tables that are not sorted, that map into the surrogates, whose images are moved again (`a → b`,
`b → c`), or whose exception list misses a rune (`K → k → K`, the Kelvin sign U+212A). A toolchain whose tables had one of
these defects would fail the obligations above, not pass them vacuously. -/
example : caseTableWf [⟨0x62, 0x63, false, 0x42⟩, ⟨0x61, 0x61, false, 0x41⟩] = false := by decide +kernel
example : caseTableWf [⟨0x61, 0x63, false, 0xD7FF⟩] = false := by decide +kernel
example : caseTableWf [⟨0x61, 0x64, true, 0x41⟩] = false := by decide +kernel
example : caseIdemCheck [⟨0x61, 0x61, false, 0x62⟩, ⟨0x62, 0x62, false, 0x63⟩] = false := by decide +kernel
example : caseIdemCheck [⟨0x101, 0x12F, true, 0x100⟩, ⟨0x131, 0x131, false, 0x49⟩] = true := by decide +kernel
example : caseIdemCheck [⟨0x101, 0x12F, true, 0x103⟩] = false := by decide +kernel
example : caseRoundTripCheck [⟨0x6B, 0x6B, false, 0x4B⟩] [⟨0x4B, 0x4B, false, 0x6B⟩, ⟨0x212A, 0x212A, false, 0x6B⟩] [] = false := by
  decide +kernel
example : caseRoundTripCheck [⟨0x6B, 0x6B, false, 0x4B⟩] [⟨0x4B, 0x4B, false, 0x6B⟩, ⟨0x212A, 0x212A, false, 0x6B⟩] [0x212A] = true := by
  decide +kernel
