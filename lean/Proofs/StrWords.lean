import Liquid.Filters.Str
/-!
# Lemmas about `size`, `newline_to_br`, `truncatewords` and `strip_html` (`Liquid/Filters/Str.lean`)

`wordCount` / `twLimit` are the vocabulary of `truncatewords_spec`, `sliceStart` that of `slice_spec` (`Proofs/C16.lean`).
-/

/-- number of words (maximal runs of non-white-space bytes); `prevSpace` = the previous byte was white space / start -/
def wordCountAux : Bool → Bytes → Nat
  | _, [] => 0
  | prevSpace, b :: rest =>
    if StrF.isWordSpace b then wordCountAux true rest
    else (if prevSpace then 1 else 0) + wordCountAux false rest
def wordCount (s : Bytes) : Nat := wordCountAux true s
/-- the effective word limit of the filter (`n < 1` counts as 1) -/
def twLimit (n : Int) : Nat := if n < 1 then 1 else n.toNat

/-- the effective start of `slice`: a negative start counts from the end -/
def sliceStart (L start : Int) : Int := if start < 0 then L + start else start

theorem runeCountAux_eq (n : Nat) (s : Bytes) : StrF.runeCountAux n s = (decodeRunesAux n s).length := by
  fun_induction StrF.runeCountAux n s with
  | case1 => rfl
  | case2 n h =>
    cases n with
    | zero => exact absurd rfl h
    | succ n => rfl
  | case3 n b t ih => rw [decodeRunesAux, List.length_cons, ← ih, Nat.add_comm]

theorem newlineToBr_eq_flatMap (s : Bytes) :
    StrF.newlineToBr s = s.flatMap (fun b => if b == 10 then [60, 98, 114, 32, 47, 62] else [b]) := by
  induction s with
  | nil => rfl
  | cons b t ih => rw [StrF.newlineToBr, ih, List.flatMap_cons]

theorem twLimit_pos (n : Int) : 1 ≤ twLimit n := by
  unfold twLimit; split <;> omega

theorem wordCountAux_run (p : Bool) (a x : Bytes) (ha : ∀ b ∈ a, StrF.isWordSpace b = p) :
    wordCountAux p (a ++ x) = wordCountAux p x := by
  induction a with
  | nil => rfl
  | cons b a ih =>
    obtain ⟨hb, ha⟩ := List.forall_mem_cons.1 ha
    rw [List.cons_append, wordCountAux, hb]
    cases p
    · rw [if_neg Bool.false_ne_true, ih ha]; exact Nat.zero_add _
    · rw [if_pos rfl, ih ha]

theorem wordCountAux_false_eq (x : Bytes) (hx : ∀ b, x.head? = some b → StrF.isWordSpace b = true) :
    wordCountAux false x = wordCountAux true x := by
  cases x with
  | nil => rfl
  | cons b x => rw [wordCountAux, wordCountAux, if_pos (hx b rfl), if_pos (hx b rfl)]

theorem wordCount_spaces_word (a w x : Bytes) (ha : ∀ b ∈ a, StrF.isWordSpace b = true)
    (hw : ∀ b ∈ w, StrF.isWordSpace b = false) (hne : w ≠ [])
    (hx : ∀ b, x.head? = some b → StrF.isWordSpace b = true) :
    wordCount (a ++ w ++ x) = 1 + wordCount x := by
  unfold wordCount
  rw [List.append_assoc, wordCountAux_run true a _ ha]
  cases w with
  | nil => exact absurd rfl hne
  | cons b w =>
    obtain ⟨hb, hw⟩ := List.forall_mem_cons.1 hw
    rw [List.cons_append, wordCountAux, hb, if_neg Bool.false_ne_true, wordCountAux_run false w x hw,
      wordCountAux_false_eq x hx]
    simp

theorem pos_of_mem_takeWhile {p : UInt8 → Bool} (l : Bytes) (b : UInt8) (h : b ∈ l.takeWhile p) : p b = true :=
  List.all_eq_true.mp List.all_takeWhile b h

theorem head?_dropWhile_neg {p : UInt8 → Bool} (l : Bytes) (b : UInt8) (h : (l.dropWhile p).head? = some b) :
    p b = false := by
  have := List.head?_dropWhile_not p l
  rwa [h] at this

theorem tw_decomp (s : Bytes) (hne : (s.dropWhile StrF.isWordSpace).isEmpty = false) :
    ∃ ws w s2, s = ws ++ w ++ s2 ∧
      ws = s.takeWhile StrF.isWordSpace ∧
      w = (s.dropWhile StrF.isWordSpace).takeWhile (fun c => !StrF.isWordSpace c) ∧
      s2 = (s.dropWhile StrF.isWordSpace).dropWhile (fun c => !StrF.isWordSpace c) ∧
      (∀ b ∈ ws, StrF.isWordSpace b = true) ∧ (∀ b ∈ w, StrF.isWordSpace b = false) ∧ w ≠ [] ∧
      (∀ b, s2.head? = some b → StrF.isWordSpace b = true) := by
  refine ⟨_, _, _, ?_, rfl, rfl, rfl, ?_, ?_, ?_, ?_⟩
  · rw [List.append_assoc, List.takeWhile_append_dropWhile, List.takeWhile_append_dropWhile]
  · intro b hb; exact pos_of_mem_takeWhile _ b hb
  · intro b hb; simpa using pos_of_mem_takeWhile _ b hb
  · cases hs1 : s.dropWhile StrF.isWordSpace with
    | nil => rw [hs1] at hne; simp at hne
    | cons c s1 =>
      have hc : StrF.isWordSpace c = false := head?_dropWhile_neg s c (by rw [hs1]; rfl)
      rw [List.takeWhile_cons_of_pos (by simp [hc])]
      simp
  · intro b hb
    simpa using head?_dropWhile_neg _ b hb

theorem wordCount_step (s : Bytes) :
    wordCount s = if (s.dropWhile StrF.isWordSpace).isEmpty then 0
      else 1 + wordCount ((s.dropWhile StrF.isWordSpace).dropWhile (fun c => !StrF.isWordSpace c)) := by
  cases hne : (s.dropWhile StrF.isWordSpace).isEmpty with
  | true =>
    simp only [if_true]
    have e : s = s.takeWhile StrF.isWordSpace ++ [] := by
      conv => lhs; rw [← List.takeWhile_append_dropWhile (p := StrF.isWordSpace) (l := s)]
      rw [List.isEmpty_iff.mp hne]
    rw [e]; unfold wordCount
    rw [wordCountAux_run true _ _ (fun b hb => pos_of_mem_takeWhile _ b hb)]; rfl
  | false =>
    obtain ⟨ws, w, s2, e, _, _, rfl, h1, h2, h3, h4⟩ := tw_decomp s hne
    simp only [Bool.false_eq_true, if_false]
    conv => lhs; rw [e]
    exact wordCount_spaces_word ws w _ h1 h2 h3 h4

theorem twKeep_unfold (n : Nat) (s : Bytes) : StrF.twKeep n s =
    if (s.dropWhile StrF.isWordSpace).isEmpty then none
    else match n with
      | 0 => some []
      | n + 1 =>
        (StrF.twKeep n ((s.dropWhile StrF.isWordSpace).dropWhile (fun c => !StrF.isWordSpace c))).map
          fun k => s.takeWhile StrF.isWordSpace ++
            (s.dropWhile StrF.isWordSpace).takeWhile (fun c => !StrF.isWordSpace c) ++ k := by
  conv => lhs; rw [StrF.twKeep.eq_def]
  split <;> rfl

theorem twKeep_none_iff (n : Nat) (s : Bytes) : StrF.twKeep n s = none ↔ wordCount s ≤ n := by
  induction n generalizing s with
  | zero =>
    rw [twKeep_unfold, wordCount_step]
    split <;> simp
  | succ n ih =>
    rw [twKeep_unfold, wordCount_step]
    split
    · simp
    · simp only [Option.map_eq_none_iff, ih]; omega

theorem twKeep_zero_some (s k : Bytes) (h : StrF.twKeep 0 s = some k) : k = [] := by
  rw [twKeep_unfold] at h
  split at h
  · cases h
  · cases h; rfl

theorem getLast?_append_of_ne_nil {a b : Bytes} (hb : b ≠ []) : (a ++ b).getLast? = b.getLast? := by
  rw [List.getLast?_append, Option.or_of_isSome (by simpa using hb)]

theorem twKeep_some_aux (n : Nat) : ∀ (s k : Bytes), StrF.twKeep n s = some k →
    ∃ rest, s = k ++ rest ∧ rest ≠ [] ∧ wordCount k = n ∧
      (∀ b, k.getLast? = some b → StrF.isWordSpace b = false) ∧
      (1 ≤ n → ∀ b, rest.head? = some b → StrF.isWordSpace b = true) := by
  induction n with
  | zero =>
    intro s k h
    have hk := twKeep_zero_some s k h
    subst hk
    refine ⟨s, rfl, ?_, rfl, by simp, by omega⟩
    rintro rfl
    rw [twKeep_unfold] at h; simp at h
  | succ n ih =>
    intro s k h
    rw [twKeep_unfold] at h
    split at h
    · cases h
    · rename_i hne
      obtain ⟨ws, w, s2, e, rfl, rfl, rfl, h1, h2, h3, h4⟩ := tw_decomp s (by simpa using hne)
      simp only [Option.map_eq_some_iff] at h
      obtain ⟨k', hk', rfl⟩ := h
      obtain ⟨rest, e2, hr, hc, hl, hh⟩ := ih _ k' hk'
      -- the head of `k'` (if any) is the head of `s2`: white space
      have hk'head : ∀ b, k'.head? = some b → StrF.isWordSpace b = true := by
        intro b hb
        apply h4
        rw [e2]
        cases k' with
        | nil => simp at hb
        | cons c k' => simpa using hb
      refine ⟨rest, ?_, hr, ?_, ?_, ?_⟩
      · conv => lhs; rw [e, e2]
        simp only [List.append_assoc]
      · rw [wordCount_spaces_word _ _ _ h1 h2 h3 hk'head, hc]; omega
      · intro b hb
        cases k' with
        | nil =>
          rw [List.append_nil, getLast?_append_of_ne_nil h3] at hb
          exact h2 b (List.mem_of_getLast? hb)
        | cons c k' =>
          rw [getLast?_append_of_ne_nil (List.cons_ne_nil _ _)] at hb
          exact hl b hb
      · intro _ b hb
        cases n with
        | zero =>
          have := twKeep_zero_some _ _ hk'
          subst this
          rw [List.nil_append] at e2
          exact h4 b (by rw [e2]; exact hb)
        | succ n => exact hh (by omega) b hb

/-- needs `1 ≤ n`: for `n = 0` only `k = []` holds (`twKeep_zero_some`) -/
theorem twKeep_some (n : Nat) (s k : Bytes) (hn : 1 ≤ n) (h : StrF.twKeep n s = some k) :
    k <+: s ∧ wordCount k = n ∧ (∀ b, k.getLast? = some b → StrF.isWordSpace b = false) ∧
    (∃ b rest, s = k ++ b :: rest ∧ StrF.isWordSpace b = true) := by
  obtain ⟨rest, e, hr, hc, hl, hh⟩ := twKeep_some_aux n s k h
  refine ⟨⟨rest, e.symm⟩, hc, hl, ?_⟩
  cases rest with
  | nil => exact absurd rfl hr
  | cons b rest => exact ⟨b, rest, e, hh hn b rfl⟩

theorem truncatewords_eq (s : Bytes) (n : Int) (el : Bytes) :
    StrF.truncatewords s n el =
      match StrF.twKeep (twLimit n) s with
      | none => s
      | some k => k ++ el := rfl

theorem findClose_some (s after : Bytes) (h : StrF.findClose s = some after) :
    ∃ mid, s = mid ++ 62 :: after ∧ 10 ∉ mid ∧ 62 ∉ mid := by
  fun_induction StrF.findClose s with
  | case1 => cases h
  | case2 b rest hb => cases h; exact ⟨[], by rw [beq_iff_eq.1 hb]; rfl, nofun, nofun⟩
  | case3 => cases h
  | case4 b rest hb hb2 ih =>
    obtain ⟨mid, rfl, h1, h2⟩ := ih h
    exact ⟨b :: mid, rfl, List.not_mem_cons_of_ne_of_not_mem (fun e => hb2 (beq_iff_eq.2 e.symm)) h1,
      List.not_mem_cons_of_ne_of_not_mem (fun e => hb (beq_iff_eq.2 e.symm)) h2⟩

theorem stripHtmlAux_induct {P : Bytes → Bytes → Prop} (hnil : P [] [])
    (hskip : ∀ rest after out, StrF.findClose rest = some after → P after out → P (60 :: rest) out)
    (hkeep : ∀ b rest out, (b = 60 → StrF.findClose rest = none) → P rest out → P (b :: rest) (b :: out))
    (n : Nat) (s : Bytes) (hs : s.length ≤ n) : P s (StrF.stripHtmlAux n s) := by
  fun_induction StrF.stripHtmlAux n s with
  | case1 s => rw [List.eq_nil_of_length_eq_zero (Nat.le_zero.mp hs)]; exact hnil
  | case2 => exact hnil
  | case3 n b rest hb after hf ih =>
    obtain rfl : b = 60 := beq_iff_eq.1 hb
    have := StrF.findClose_length hf
    exact hskip rest after _ hf (ih (by rw [List.length_cons] at hs; omega))
  | case4 n b rest hb hf ih => exact hkeep b rest _ (fun _ => hf) (ih (Nat.le_of_succ_le_succ hs))
  | case5 n b rest hb ih => exact hkeep b rest _ (fun e => absurd (beq_iff_eq.2 e) hb) (ih (Nat.le_of_succ_le_succ hs))

theorem stripHtml_sublist (s : Bytes) : List.Sublist (StrF.stripHtml s) s := by
  refine stripHtmlAux_induct (P := fun s o => o.Sublist s) .slnil ?_ (fun b _ _ _ h => h.cons_cons b) _ s (Nat.le_refl _)
  intro rest after out hf h
  obtain ⟨mid, rfl, _, _⟩ := findClose_some _ _ hf
  exact h.trans ((List.sublist_cons_self _ _).trans ((List.sublist_append_right _ _).trans (List.sublist_cons_self _ _)))

theorem stripHtml_length_le (s : Bytes) : (StrF.stripHtml s).length ≤ s.length :=
  (stripHtml_sublist s).length_le

theorem stripHtml_of_no_lt (s : Bytes) : 60 ∉ s → StrF.stripHtml s = s := by
  refine stripHtmlAux_induct (P := fun s o => 60 ∉ s → o = s) (fun _ => rfl) ?_ ?_ _ s (Nat.le_refl _)
  · intro rest after out _ _ h
    exact absurd (List.mem_cons_self ..) h
  · intro b rest out _ ih h
    rw [ih (fun hm => h (List.mem_cons_of_mem _ hm))]

theorem findClose_none_append : ∀ (mid post : Bytes), StrF.findClose (mid ++ 62 :: post) = none → 10 ∈ mid := by
  intro mid
  induction mid with
  | nil => intro post h; simp [StrF.findClose] at h
  | cons b mid ih =>
    intro post h
    simp only [List.cons_append, StrF.findClose] at h
    split at h
    · cases h
    · split at h
      · rename_i hb
        have : b = 10 := by simpa using hb
        rw [this]; exact List.mem_cons_self ..
      · exact List.mem_cons_of_mem _ (ih post h)

/-- no `<[^\n]*>` is left: between a `<` and a later `>` of the output there is a newline. Proved together with:
    stripping keeps "no `>` before the first newline", which is what a kept `<` rests on -/
theorem stripHtml_no_tag (s : Bytes) : ∀ pre mid post,
    StrF.stripHtml s = pre ++ 60 :: mid ++ 62 :: post → 10 ∈ mid := by
  refine (stripHtmlAux_induct (P := fun s o => (StrF.findClose s = none → StrF.findClose o = none) ∧
    ∀ pre mid post, o = pre ++ 60 :: mid ++ 62 :: post → 10 ∈ mid) ?_ ?_ ?_ _ s (Nat.le_refl _)).2
  · exact ⟨fun _ => rfl, fun pre mid post h => absurd (congrArg List.length h) (by simp)⟩
  · intro rest after out hf ih
    refine ⟨fun h => ?_, ih.2⟩
    rw [StrF.findClose, if_neg (by decide), if_neg (by decide), hf] at h
    cases h
  · intro b rest out hb ih
    constructor
    · intro h
      simp only [StrF.findClose] at h ⊢
      split
      · next hb62 => rw [if_pos hb62] at h; cases h
      · next hb62 =>
        rw [if_neg hb62] at h
        split
        · rfl
        · next hb10 => rw [if_neg hb10] at h; exact ih.1 h
    · intro pre mid post h
      cases pre with
      | nil =>
        simp only [List.nil_append, List.cons_append, List.cons.injEq] at h
        have := ih.1 (hb h.1)
        rw [h.2] at this
        exact findClose_none_append mid post this
      | cons p pre' =>
        simp only [List.cons_append, List.append_assoc, List.cons.injEq] at h
        exact ih.2 pre' mid post (by simpa using h.2)

example : StrF.truncatewords [97,32,98,32,99] 2 [46] = [97,32,98,46] := by decide +kernel
example : wordCount [32,97,32,32,98] = 2 := by decide +kernel
example : StrF.stripHtml [97,60,98,62,99] = [97,99] := by decide +kernel
example : StrF.stripHtml [60,10,62] = [60,10,62] := by decide +kernel
example : StrF.size [195,169,255] = 2 := by decide +kernel
