import Proofs.HeapLemmas
/-!
# A program logic for `Heap.Prog` on well-formed stores

`Tri N st p x Q`: the run of `p` from `st` answers as the pure computation `x` does (`Refines`), touches no array below `N`
(`Kept N`), and `Q` relates the two results. `Tri.bind` composes the `Kept` parts and hands each continuation the `Kept` it needs
to carry the caller's slices over (`In.kept`). A slice is described by the list it reads: `In N a st xs` for a slice of the caller
(array `< N`, never stored to), `Owned N r st ys` for one the call made itself (nil or array `≥ N`). Every storing operation of Go has
one rule, which says what list operation it is on an owned slice: `make` is `replicate`, `append` is `++`, `s[i] = v` is `List.set`,
`copy` and the sort's overwrite replace the contents. The `range`-and-`append` loop of most filters is `collect_tri`.
A step that loads enters by `Tri.load`, one that leaves the store alone and may fail (a conversion of values) by `Tri.pure`; a part of a
call that must also keep what earlier parts allocated is proved with the store it starts in as the caller's and enters by `Tri.lower`.
-/

namespace Heap

/-- a well-formed slice that reads `xs` -/
structure Rd (s : Slice) (st : Store) (xs : List GoVal) : Prop where
  wf : Slice.wf st s
  reads : view st s = xs

/-- a slice of the caller: its array existed before the call -/
structure In (N : Nat) (s : Slice) (st : Store) (xs : List GoVal) : Prop extends Rd s st xs where
  below : ∀ r, s = some r → r.arr < N

/-- a slice of the call itself: nil, or in an array the call allocated -/
structure Owned (N : Nat) (s : Slice) (st : Store) (xs : List GoVal) : Prop extends Rd s st xs where
  fresh : Fresh N s

def Tri {α β : Type} (N : Nat) (st : Store) (p : Prog α) (x : Res Cause β) (Q : α → Store → β → Prop) : Prop :=
  N ≤ st.length → Refines (run p st) x (fun v st' b => Kept N st st' ∧ Q v st' b)

theorem Rd.length {s : Slice} {st : Store} {xs : List GoVal} (h : Rd s st xs) : lenS s = xs.length := by
  rw [← h.reads, view_length_wf h.wf]

theorem Rd.elems {s : Slice} {st : Store} {xs : List GoVal} (h : Rd s st xs) : run (elems s) st = .ok ⟨xs, st, []⟩ :=
  h.reads ▸ run_elems h.wf

theorem Rd.index {s : Slice} {st : Store} {xs : List GoVal} (h : Rd s st xs) {i : Nat} {v : GoVal} (hv : xs[i]? = some v) :
    run (index s i) st = .ok ⟨v, st, []⟩ := by
  have hi := lt_of_getElem?_some hv
  rw [← h.length] at hi
  cases s with
  | none => cases hi
  | some r =>
    obtain ⟨_, row, hr, _⟩ := h.wf
    simp only [lenS] at hi
    rw [← h.reads, view_getElem? hr, if_pos hi] at hv
    simp [Heap.index, hi, run, readAt, hr, hv]

theorem In.kept {N : Nat} {st st' : Store} {s : Slice} {xs : List GoVal} (h : In N s st xs) (k : Kept N st st') : In N s st' xs :=
  ⟨⟨(k.slice_below h.below h.wf).1, (k.slice_below h.below h.wf).2.trans h.reads⟩, h.below⟩

theorem In.of_rd {st : Store} {s : Slice} {xs : List GoVal} (h : Rd s st xs) : In st.length s st xs :=
  ⟨h, Slice.below_of_wf h.wf⟩

theorem Owned.none (N : Nat) (st : Store) : Owned N none st [] := ⟨⟨trivial, rfl⟩, Fresh.none N⟩

theorem Owned.some {N : Nat} {st : Store} {r : SliceRef} {xs : List GoVal} (h : Owned N (some r) st xs) :
    N ≤ r.arr ∧ r.len ≤ r.cap ∧ ∃ row, st[r.arr]? = some row ∧ r.off + r.cap ≤ row.length ∧ (row.drop r.off).take r.len = xs := by
  obtain ⟨hc, row, hr, hb⟩ := h.wf
  exact ⟨h.fresh r rfl, hc, row, hr, hb, view_some hr ▸ h.reads⟩

theorem Tri.ret {α β : Type} {N : Nat} {st : Store} {a : α} {b : β} {Q : α → Store → β → Prop} (h : Q a st b) :
    Tri N st (.ret a) (.ok b) Q := fun _ => Refines.ret ⟨Kept.refl _ _, h⟩

theorem Tri.bind {α β γ δ : Type} {N : Nat} {st : Store} {p : Prog α} {f : α → Prog β} {x : Res Cause γ}
    {g : γ → Res Cause δ} {Q1 : α → Store → γ → Prop} {Q2 : β → Store → δ → Prop} (h1 : Tri N st p x Q1)
    (h2 : ∀ v st1 b, Kept N st st1 → Q1 v st1 b → Tri N st1 (f v) (g b) Q2) : Tri N st (p.bind f) (x.bind g) Q2 :=
  fun hN => Refines.bind (h1 hN) fun v st1 b ⟨k1, q1⟩ =>
    (h2 v st1 b k1 q1 (Nat.le_trans hN k1.2)).post fun _ _ _ ⟨k2, q2⟩ => ⟨k1.trans k2, q2⟩

/-- a step of the program that the pure side does not see (`make`, `append`, `copy`, …) -/
theorem Tri.step {α β δ : Type} {N : Nat} {st : Store} {p : Prog α} {f : α → Prog β} {y : Res Cause δ}
    {Q1 : α → Store → Unit → Prop} {Q2 : β → Store → δ → Prop} (h1 : Tri N st p (.ok ()) Q1)
    (h2 : ∀ v st1, Kept N st st1 → Q1 v st1 () → Tri N st1 (f v) y Q2) : Tri N st (p.bind f) y Q2 :=
  Tri.bind (g := fun _ => y) h1 fun v st1 _ => h2 v st1

theorem Tri.load {α β γ : Type} {N : Nat} {st : Store} {p : Prog α} {f : α → Prog β} {v : α} {x : Res Cause γ}
    {Q : β → Store → γ → Prop} (e : run p st = .ok ⟨v, st, []⟩) (h : Tri N st (f v) x Q) : Tri N st (p.bind f) x Q :=
  fun hN => run_load e ▸ h hN

theorem Tri.post {α β : Type} {N : Nat} {st : Store} {p : Prog α} {x : Res Cause β} {Q Q' : α → Store → β → Prop}
    (h : Tri N st p x Q) (hq : ∀ v st' b, Q v st' b → Q' v st' b) : Tri N st p x Q' :=
  fun hN => (h hN).post fun _ _ _ ⟨k, q⟩ => ⟨k, hq _ _ _ q⟩

/-- a step that leaves the store as it is and answers as the pure computation `x` does: a conversion of values, or loads followed
by one (`e` is then the equation of the reader) -/
theorem Tri.pure {α β γ : Type} {N : Nat} {st : Store} {p : Prog α} {f : α → Prog β} {x : Res Cause α} {g : α → Res Cause γ}
    {Q : β → Store → γ → Prop} (e : run p st = run (Heap.liftR x) st) (h : ∀ b, x = .ok b → Tri N st (f b) (g b) Q) :
    Tri N st (p.bind f) (x.bind g) Q := fun hN => by
  rw [run_bind, e, ← run_bind]
  cases x with
  | ok b => exact h b rfl hN
  | _ => rfl

/-- a step proved with the whole store as the caller's is a step for every smaller bound: this is how a stage of a call, which must
not touch what the earlier stages allocated, enters the triple of the call -/
theorem Tri.lower {α β : Type} {N : Nat} {st : Store} {p : Prog α} {x : Res Cause β} {Q : α → Store → β → Prop}
    (h : Tri st.length st p x Q) : Tri N st p x Q :=
  fun hN => (h (Nat.le_refl _)).post fun _ _ _ ⟨k, q⟩ => ⟨k.mono hN, q⟩

theorem Tri.alloc {α β : Type} {N : Nat} {st : Store} {row : List GoVal} {k : Nat → Prog α} {x : Res Cause β}
    {Q : α → Store → β → Prop} (h : Tri N (st ++ [row]) (k st.length) x Q) : Tri N st (.alloc row k) x Q :=
  fun hN => (h (by simp; omega)).post fun _ _ _ ⟨k1, q⟩ => ⟨((Kept.alloc st row).mono hN).trans k1, q⟩

/-! ## Go's storing operations on an owned slice -/

/-- a block store through an owned slice: its first `k` elements stay, `vs` follow (`append` in place: `k = len`; the sort's
overwrite and `copy`: `k = 0`) -/
theorem writeRange_tri {N : Nat} {st : Store} {r : SliceRef} {xs : List GoVal} (h : Owned N (some r) st xs) (k : Nat) (vs : List GoVal)
    (hk : k + vs.length ≤ r.cap) (hkl : k ≤ r.len) :
    Tri N st (writeRange r.arr (r.off + k) vs) (.ok ()) fun _ st' _ => Owned N (some { r with len := k + vs.length }) st' (xs.take k ++ vs) :=
  fun _ => by
    obtain ⟨hN, hc, row, hr, hb, hx⟩ := h.some
    have hfit : r.off + k + vs.length ≤ row.length := by omega
    obtain ⟨log, hrun⟩ := run_writeRange vs (r.off + k) hr hfit
    refine ⟨_, hrun, Kept.set hN _, ⟨⟨hk, _, List.getElem?_set_self (lt_of_getElem?_some hr), length_block hfit ▸ hb⟩, ?_⟩,
      fun _ e => by cases e; exact hN⟩
    rw [← hx, List.take_take, Nat.min_eq_left hkl]
    exact view_block hr k vs hfit

theorem make_tri {N : Nat} {st : Store} {len cap : Nat} (h : len ≤ cap) :
    Tri N st (make len cap) (.ok ()) fun r st' _ => Owned N r st' (List.replicate len .nil) := fun hN =>
  ⟨_, run_make h, (Kept.alloc st _).mono hN, ⟨wf_alloc h (by simp), by simp only [view_alloc, List.take_replicate, Nat.min_eq_left h]⟩,
    fun _ e => by cases e; exact hN⟩

theorem append_tri {N : Nat} {st : Store} {s : Slice} {xs : List GoVal} (h : Owned N s st xs) (vs : List GoVal) :
    Tri N st (append s vs) (.ok ()) fun r st' _ => Owned N r st' (xs ++ vs) := fun hN => by
  have hlen := h.length
  unfold append
  split
  · next hfit =>
    cases s with
    | none =>
      have : vs = [] := List.eq_nil_of_length_eq_zero (by simpa [lenS, capS] using hfit)
      exact Refines.ret ⟨Kept.refl _ _, by simpa [this] using h⟩
    | some r =>
      simp only [lenS, capS] at hfit hlen
      exact Tri.step (writeRange_tri h r.len vs hfit (Nat.le_refl _)) (fun _ _ _ o =>
        Tri.ret (by rwa [List.take_of_length_le (Nat.le_of_eq hlen.symm)] at o)) hN
  · refine Refines.bind_ok (run_elems h.wf) ?_
    rw [h.reads, hlen]
    have hge := growCap_ge (capS s) (xs.length + vs.length)
    refine ⟨_, rfl, (Kept.alloc st _).mono hN, ⟨wf_alloc hge (by simp; omega), ?_⟩, fun _ e => by cases e; exact hN⟩
    rw [view_alloc]
    exact List.take_left' (by simp)

theorem setIndex_tri {N : Nat} {st : Store} {s : Slice} {xs : List GoVal} (h : Owned N s st xs) {i : Nat}
    (hi : i < xs.length) (v : GoVal) :
    Tri N st (setIndex s i v) (.ok ()) fun _ st' _ => Owned N s st' (xs.set i v) := fun _ => by
  rw [← h.length] at hi
  cases s with
  | none => cases hi
  | some r =>
    simp only [lenS] at hi
    obtain ⟨hN, hc, row, hr, hb, hx⟩ := h.some
    have ha := lt_of_getElem?_some hr
    have hlt : r.off + i < row.length := by omega
    have hr' : (st.set r.arr (row.set (r.off + i) v))[r.arr]? = some (row.set (r.off + i) v) := List.getElem?_set_self ha
    refine ⟨⟨(), _, [(r.arr, r.off + i)]⟩, by simp [setIndex, hi, run, writeAt, hr, hlt, logged], Kept.set hN _,
      ⟨⟨hc, _, hr', by simpa using hb⟩, ?_⟩, h.fresh⟩
    rw [view_some hr', ← hx, List.drop_set, if_neg (by omega), Nat.add_sub_cancel_left, List.take_set]

theorem overwrite_tri {N : Nat} {st : Store} {s : Slice} {xs ys : List GoVal} (h : Owned N s st xs) (hl : ys.length = xs.length) :
    Tri N st (overwrite s ys) (.ok ()) fun _ st' _ => Owned N s st' ys := fun hN => by
  rw [← h.length] at hl
  cases s with
  | none => exact Refines.ret ⟨Kept.refl _ _, ⟨trivial, (List.eq_nil_of_length_eq_zero hl).symm ▸ rfl⟩, h.fresh⟩
  | some r =>
    obtain ⟨a, off, len, cap⟩ := r
    simp only [lenS] at hl
    have := writeRange_tri h 0 ys (by have := h.wf.1; simp only at this ⊢; omega) (Nat.zero_le _) hN
    simpa [hl, overwrite] using this

/-- `copy(d, s)` with `len(d) = len(s)` -/
theorem copy_tri {N : Nat} {st : Store} {d s : Slice} {xs ys : List GoVal} (hd : Owned N d st ys) (hs : Rd s st xs)
    (hl : ys.length = xs.length) : Tri N st (copy d s) (.ok ()) fun _ st' _ => Owned N d st' xs := fun hN => by
  have hdl := hd.length
  have hsl := hs.length
  cases d with
  | none => exact ⟨⟨0, st, []⟩, by cases s <;> rfl, Kept.refl _ _,
      ⟨trivial, (List.eq_nil_of_length_eq_zero (hl.symm.trans hdl.symm)).symm ▸ rfl⟩, hd.fresh⟩
  | some r =>
    cases s with
    | none =>
      have hx : xs = [] := List.eq_nil_of_length_eq_zero hsl.symm
      have hy : ys = [] := List.eq_nil_of_length_eq_zero (hl.trans (by simp [hx]))
      exact Refines.ret ⟨Kept.refl _ _, by simpa [hx, hy] using hd⟩
    | some q =>
      obtain ⟨_, row, hq, hb⟩ := hs.wf
      simp only [lenS] at hdl hsl
      simp only [copy, show min r.len q.len = q.len by omega]
      refine Refines.bind_ok (run_readRange hq q.len q.off (by omega)) ?_
      rw [← view_some hq, hs.reads]
      exact Tri.step (overwrite_tri hd hl.symm) (fun _ _ _ o => Tri.ret o) hN

/-! ## The loops that `append` -/

theorem collectFrom_tri {σ : Type} (step : σ → GoVal → Res Cause (σ × Option GoVal)) {N : Nat} {a : Slice} {xs : List GoVal}
    (n : Nat) : ∀ {i : Nat} {s : σ} {res : Slice} {st : Store} {l : List GoVal}, In N a st xs → Owned N res st l → i + n = xs.length →
      Tri N st (collectFrom a step n i s res) (collectP step s (xs.drop i)) fun v st' ys => Owned N v st' (l ++ ys) := by
  induction n with
  | zero =>
    intro i s res st l _ ho hin
    rw [List.drop_eq_nil_of_le (by omega)]
    exact Tri.ret (by simpa using ho)
  | succ n ih =>
    intro i s res st l ha ho hin
    have hi : i < xs.length := by omega
    rw [List.drop_eq_getElem_cons hi, collectFrom, collectP]
    refine Tri.load (ha.index (List.getElem?_eq_getElem hi)) (Tri.pure rfl fun p _ => ?_)
    cases hp : p.2 with
    | none => exact fun hN => Refines.bind_pure (ih ha ho (by omega) hN) fun _ _ _ q => q
    | some w =>
      refine Tri.step (append_tri ho [w]) fun _ _ k1 h1 hN => ?_
      exact Refines.bind_pure (ih (ha.kept k1) h1 (by omega) hN) fun _ _ _ ⟨k, q⟩ => ⟨k, by simpa using q⟩

theorem collect_tri {σ : Type} {step : σ → GoVal → Res Cause (σ × Option GoVal)} {s0 : σ} {N : Nat} {st : Store} {a res : Slice}
    {xs l : List GoVal} (ha : In N a st xs) (ho : Owned N res st l) :
    Tri N st (collect a step s0 res) (collectP step s0 xs) fun v st' ys => Owned N v st' (l ++ ys) := by
  rw [collect, ha.length]
  exact collectFrom_tri step xs.length ha ho (Nat.zero_add _)

theorem appendEach_tri {N : Nat} : ∀ (ys : List GoVal) {res : Slice} {st : Store} {l : List GoVal}, Owned N res st l →
    Tri N st (appendEach res ys) (.ok ()) fun v st' _ => Owned N v st' (l ++ ys)
  | [], _, _, _, h => Tri.ret (by simpa using h)
  | y :: ys, _, _, _, h => Tri.step (append_tri h [y]) fun _ _ _ h1 => (appendEach_tri ys h1).post fun _ _ _ h2 => by simpa using h2

end Heap
