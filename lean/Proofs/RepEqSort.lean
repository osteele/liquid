import Proofs.RepEqFilters
import Proofs.SortFilters
/-!
# `sort` and `sort_natural` respect representation equivalence (helper lemmas for C18; every `d`)

The order only looks at scalars (`values.Less`: `SortRel.of_parts`) or at printed text (`sort_natural`): `sortRel_repEq`,
`natKey_repEq_noDrop`, `natKeyBy_repEq_noDrop`. The filters follow from `SortRel.sortWith` and `sortNaturalWith_all2`
(`Proofs/SortFilters.lean`). The model answers `unmodelled` when more than 12 elements hold
ties that can be told apart by their encoding; this test sees the representation, hence "up to `unmodelled`"
(`t = true`).
The file ends with the whole table of standard filters, for every `d`: `filterRespects_upto_unmodelled` (its instances
`filterRespects_std_upto` at `d = false`, `filterRespects_std_nested` at `d = true`) and the layer built on it,
`stdPrimsOnly_respects_upto`.
-/

open GoVal Cmp

variable {d : Bool}

namespace ArrF

theorem toLiq_repEq {x x' : GoVal} (h : RepEq d x x') : RepEq d (toLiq x) (toLiq x') := by
  rw [toLiq_eq_toLiquid, toLiq_eq_toLiquid]; exact toLiquid_repEq h

theorem toLiq_noDrop (x : GoVal) : noDrop (toLiq x) = true := by
  rw [toLiq_eq_toLiquid]; exact toLiquid_noDrop x

theorem mergeSort_rel (le : GoVal → GoVal → Bool)
    (hle : ∀ a b, le a b = le (a.norm d) (b.norm d))
    {xs xs' : List GoVal} (h : normList d xs = normList d xs') :
    normList d (xs.mergeSort le) = normList d (xs'.mergeSort le) := by
  simp only [normList_eq_map] at h ⊢
  rw [List.map_mergeSort (s := le) (fun a _ b _ => hle a b), List.map_mergeSort (s := le) (fun a _ b _ => hle a b), h]

abbrev NL (d : Bool) (ys ys' : List GoVal) : Prop := normList d ys = normList d ys'

theorem NL.reverse {ys ys' : List GoVal} (h : NL d ys ys') : NL d ys.reverse ys'.reverse :=
  normList_of_all2 (all2_of_normList h).reverse

theorem keyIndex_noDrop (key : Bytes) (x : GoVal) : noDrop (keyIndex key x) = true := by
  unfold keyIndex
  split
  · exact toLiquid_noDrop _
  · exact toLiquid_noDrop _
  · rfl

theorem keyIndex_repEq (key : Bytes) {x x' : GoVal} (h : RepEq d x x') :
    RepEq d (keyIndex key x) (keyIndex key x') := by
  unfold keyIndex
  rcases repEq_noDrop_inv (toLiquid_noDrop x) (toLiquid_noDrop x') (toLiquid_repEq h) with
    e | ⟨xs, xs', hs, hs', _⟩ | ⟨kt, vt, vt', kvs, kvs', e, e', hn⟩
  · rw [e]; exact RepEq.refl _
  · rcases Cmp.seqElems_cases hs with ⟨t, e⟩ | ⟨t, e⟩ <;> rcases Cmp.seqElems_cases hs' with ⟨t', e'⟩ | ⟨t', e'⟩ <;>
      rw [e, e'] <;> exact RepEq.refl _
  · rw [e, e']
    cases kt <;> first | exact toLiquid_repEq (mapFind_rel hn _).1 | exact RepEq.refl _

theorem keyIndex_isNil (key : Bytes) {x x' : GoVal} (h : RepEq d x x') : (keyIndex key x).isNil = (keyIndex key x').isNil :=
  isNil_repEq_noDrop (keyIndex_noDrop key x) (keyIndex_noDrop key x') (keyIndex_repEq key h)

theorem sortRel_repEq : SortRel (RepEq d) :=
  .of_parts (fun {x x'} h => (RepEq.view (toLiq_noDrop x) (toLiq_noDrop x') (toLiq_repEq h)).cases_rigid.imp_right fun h => ⟨h.1.1, h.2.1⟩)
    keyIndex_repEq keyIndex_isNil

theorem lessByKeyM_repEq (key : Bytes) {a a' b b' : GoVal} (ha : RepEq d a a') (hb : RepEq d b b') :
    lessByKeyM key a b = lessByKeyM key a' b' :=
  sortRel_repEq.lessByKeyM key ha hb

theorem sortM_rel {xs xs' : List GoVal} (h : NL d xs xs') : RRel false (NL d) (sortM xs) (sortM xs') :=
  (sortRel_repEq.sortM (all2_of_normList h)).mono fun _ _ => normList_of_all2

theorem sortByM_rel (key : Bytes) {xs xs' : List GoVal} (h : NL d xs xs') : RRel false (NL d) (sortByM key xs) (sortByM key xs') :=
  (sortRel_repEq.sortByM key (all2_of_normList h)).mono fun _ _ => normList_of_all2

/-- `sort`, `sort: key`: related results; exactly (`t = false`) when the array has at most 12
    elements, up to the `unmodelled` tie test beyond -/
theorem sortWith_rel_gen (t : Bool) {xs xs' : List GoVal} {k k' : GoVal} (hx : NL d xs xs') (hk : URel d k k')
    (ht : t = true ∨ xs.length ≤ maxInsertion) :
    RRel t (SR d) (sortWith true [.slice .any xs, k]) (sortWith true [.slice .any xs', k']) :=
  sortRel_repEq.sortWith (fun h => sr_slice (normList_of_all2 h)) true (all2_of_normList hx) (urel_nil_iff hk)
    (.of_eq (fun _ => rfl) (sprintR_repEq hk.2.2)) ht

theorem sortWith_rel {xs xs' : List GoVal} {k k' : GoVal} (hx : NL d xs xs') (hk : URel d k k') :
    RRel true (SR d) (sortWith true [.slice .any xs, k]) (sortWith true [.slice .any xs', k']) :=
  sortWith_rel_gen true hx hk (.inl rfl)

theorem sortWith_rel_short {xs xs' : List GoVal} {k k' : GoVal} (hx : NL d xs xs') (hk : URel d k k')
    (hlen : xs.length ≤ maxInsertion) :
    RRel false (SR d) (sortWith true [.slice .any xs, k]) (sortWith true [.slice .any xs', k']) :=
  sortWith_rel_gen false hx hk (.inr hlen)

theorem sort_respects (d : Bool) : ImplRespects true d [.val .anys, .val .any] (eager sort) :=
  implRespects_anys2 fun hx _ _ hk => sortWith_rel hx hk

/-! ## `sort_natural`

`sortNaturalFilter` looks at its elements as they are (`v == nil`, `reflect.ValueOf(m)`): it relies on `Convert` to
`[]any` having passed every element through `ToLiquid`. So the sort texts of two related elements agree when neither
is a drop at the top (`natKey_repEq_noDrop`, `natKeyBy_repEq_noDrop`), and "no element is a drop" is carried through
the insertion sort and the decoration (`NLD`: the elements are related by `SR`). With `d = false` related elements
are the same drop or no drops (`repEq_false_cases`), so there the lists need no such hypothesis. -/

/-- lists related element by element, none of whose elements is a drop at the top (a converted `[]any`) -/
def NLD (d : Bool) (ys ys' : List GoVal) : Prop := NL d ys ys' ∧ NoDrops ys ∧ NoDrops ys'

theorem NLD.all2 {ys ys' : List GoVal} (h : NLD d ys ys') : All2 (SR d) ys ys' := by
  obtain ⟨hn, hy, hy'⟩ := h
  have h2 := all2_of_normList hn
  clear hn
  induction h2 with
  | nil => exact .nil
  | cons hx _ ih => exact .cons ⟨hx, hy.head, hy'.head⟩ (ih hy.tail hy'.tail)

theorem NLD.of_all2 {ys ys' : List GoVal} (h : All2 (SR d) ys ys') : NLD d ys ys' :=
  ⟨normList_of_all2 (h.imp fun _ _ h => h.1), fun y hy => have ⟨_, _, hs⟩ := h.mem_left y hy; hs.2.1,
    fun y hy => have ⟨_, _, hs⟩ := h.mem_right y hy; hs.2.2⟩

theorem NLD.reverse {ys ys' : List GoVal} (h : NLD d ys ys') : NLD d ys.reverse ys'.reverse :=
  NLD.of_all2 h.all2.reverse

def LessRespectsND (d : Bool) (less : GoVal → GoVal → R Bool) : Prop :=
  ∀ a a' b b', noDrop a = true → noDrop a' = true → noDrop b = true → noDrop b' = true →
    RepEq d a a' → RepEq d b b' → less a b = less a' b'

theorem insertionSortM_relD {less : GoVal → GoVal → R Bool} (hl : LessRespectsND d less)
    {xs xs' : List GoVal} (h : NLD d xs xs') : RRel false (NLD d) (insertionSortM less xs) (insertionSortM less xs') :=
  (insertionSortM_all2 (fun a a' b b' ha hb =>
      RRel.of_eq (fun _ => rfl) (hl a a' b b' ha.2.1 ha.2.2 hb.2.1 hb.2.2 ha.1 hb.1)) h.all2).mono
    fun _ _ => NLD.of_all2

theorem natKey_of_isContainer {c : GoVal} (h : isContainer c = true) :
    natKey c = (sprintR c).bind fun s => caseRes (StrF.upcase s) := by
  rcases isContainer_cases h with ⟨t, xs, rfl⟩ | ⟨t, xs, rfl⟩ | ⟨kt, vt, kvs, rfl⟩ <;> rfl

/-- the sort text of `sort_natural`: related elements that went through `ToLiquid` have the same text — a drop that
    yields nil IS nil there, and the text of anything else is `fmt.Sprint(values.ResolveDrops(·))` -/
theorem natKey_repEq_noDrop {x x' : GoVal} (nx : noDrop x = true) (nx' : noDrop x' = true) (h : RepEq d x x') :
    natKey x = natKey x' := by
  rcases repEq_noDrop_cases nx nx' h with rfl | ⟨hc, hc'⟩
  · rfl
  · rw [natKey_of_isContainer hc, natKey_of_isContainer hc', sprintR_repEq h]

theorem natKeyBy_seq (name : Bytes) {m : GoVal} {xs : List GoVal} (h : Cmp.seqElems m = some xs) : natKeyBy name m = .ok [] := by
  rcases Cmp.seqElems_cases h with ⟨t, rfl⟩ | ⟨t, rfl⟩ <;> rfl

/-- the sort text of `sort_natural: key`: the entry of a string-keyed map goes through `ToLiquid` before the string
    test, so related maps (entries that are drops, drops of drops, drops that yield nil) have the same text -/
theorem natKeyBy_repEq_noDrop (name : Bytes) {m m' : GoVal} (nm : noDrop m = true) (nm' : noDrop m' = true)
    (h : RepEq d m m') : natKeyBy name m = natKeyBy name m' := by
  rcases repEq_noDrop_inv nm nm' h with rfl | ⟨xs, xs', hs, hs', _⟩ | ⟨kt, vt, vt', kvs, kvs', rfl, rfl, hn⟩
  · rfl
  · rw [natKeyBy_seq name hs, natKeyBy_seq name hs']
  · cases kt <;> try rfl
    have hf := mapFind_rel hn (.str name)
    simp only [natKeyBy]
    cases e1 : mapFind kvs (.str name) <;> cases e2 : mapFind kvs' (.str name) <;> simp [e1, e2] at hf
    · rfl
    · next v v' =>
      -- the entries, after `ToLiquid`: the same value, or two containers (no strings)
      exact (RepEq.view (toLiquid_noDrop v) (toLiquid_noDrop v') (toLiquid_repEq hf)).congr (c := .ok [])
        (f := fun w => match some w with | some (.str s) => caseRes (StrF.downcase s) | _ => .ok [])
        (fun u hu => by cases u <;> first | rfl | cases hu)

def KeyRespectsND (d : Bool) (f : GoVal → R Bytes) : Prop :=
  ∀ x x', noDrop x = true → noDrop x' = true → RepEq d x x' → f x = f x'

def dnormD (d : Bool) (p : Bytes × GoVal) : Bytes × GoVal := (p.1, p.2.norm d)

theorem dnormD_of_all2 {ds ds' : List (Bytes × GoVal)} (h : All2 (KV (SR d)) ds ds') : ds.map (dnormD d) = ds'.map (dnormD d) := by
  induction h with
  | nil => rfl
  | cons hx _ ih => simp only [List.map_cons, dnormD, hx.1, show _ = _ from hx.2.1, ih]

/-- a sort text that respects the equivalence on values that are no drops, as `sortNatM_all2` asks for it -/
theorem KeyRespectsND.rrel {t : Bool} {f : GoVal → R Bytes} (hf : KeyRespectsND d f) (x x' : GoVal) (h : SR d x x') : RRel t Eq (f x) (f x') :=
  .of_eq (fun _ => rfl) (hf x x' h.2.1 h.2.2 h.1)

theorem decorate_relD {f : GoVal → R Bytes} (hf : KeyRespectsND d f) :
    ∀ {xs xs' : List GoVal}, NLD d xs xs' →
      RRel false (fun ds ds' => ds.map (dnormD d) = ds'.map (dnormD d)) (decorate f xs) (decorate f xs') :=
  fun h => (decorate_all2 hf.rrel h.all2).mono fun _ _ => dnormD_of_all2

theorem sortNatM_relD (t : Bool) {f : GoVal → R Bytes} (hf : KeyRespectsND d f)
    {xs xs' : List GoVal} (hx : NLD d xs xs') (ht : t = true ∨ xs.length ≤ maxInsertion) :
    RRel t (NL d) (sortNatM true f xs) (sortNatM true f xs') :=
  (sortNatM_all2 true hf.rrel hx.all2 ht).mono fun _ _ h => normList_of_all2 (h.imp fun _ _ h => h.1)

/-- for every `d` (drops nested in the elements, in the entries under the key, in the key argument) -/
theorem sortNaturalWith_relD_gen (t : Bool) {xs xs' : List GoVal} {k k' : GoVal} (hx : NLD d xs xs') (hk : URel d k k')
    (ht : t = true ∨ xs.length ≤ maxInsertion) :
    RRel t (SR d) (sortNaturalWith true [.slice .any xs, k]) (sortNaturalWith true [.slice .any xs', k']) :=
  sortNaturalWith_all2 (fun h => sr_slice (normList_of_all2 (h.imp fun _ _ h => h.1))) true
    (KeyRespectsND.rrel fun _ _ => natKey_repEq_noDrop) (fun nm => KeyRespectsND.rrel fun _ _ => natKeyBy_repEq_noDrop nm)
    hx.all2 (urel_nil_iff hk) (.of_eq (fun _ => rfl) (sprintR_repEq hk.2.2)) ht

theorem sortNaturalWith_relD_short {xs xs' : List GoVal} {k k' : GoVal} (hx : NLD d xs xs') (hk : URel d k k')
    (hlen : xs.length ≤ maxInsertion) :
    RRel false (SR d) (sortNaturalWith true [.slice .any xs, k]) (sortNaturalWith true [.slice .any xs', k']) :=
  sortNaturalWith_relD_gen false hx hk (.inr hlen)

theorem sortNatural_respects_gen (d : Bool) : ImplRespects true d [.val .anys, .val .any] (eager sortNatural) :=
  implRespects_anys2 fun hx nx nx' hk => sortNaturalWith_relD_gen true ⟨hx, nx, nx'⟩ hk (.inl rfl)

theorem noDrop_norm_false (u : GoVal) : noDrop (u.norm false) = noDrop u := by
  cases hu : noDrop u with
  | true =>
    cases hc : isContainer u with
    | false => rw [norm_of_rigid hu hc, hu]
    | true => rcases isContainer_cases (isContainer_norm (d := false) hc) with ⟨t, xs, e⟩ | ⟨t, xs, e⟩ | ⟨kt, vt, kvs, e⟩ <;> rw [e] <;> rfl
  | false =>
    cases u with
    | drop w => rw [norm_drop_false]; rfl
    | _ => cases hu

theorem repEq_false_cases {u u' : GoVal} (h : RepEq false u u') : u' = u ∨ SR false u u' := by
  have hn : noDrop u = noDrop u' := by rw [← noDrop_norm_false u, h, noDrop_norm_false]
  cases hu : noDrop u with
  | true => exact .inr ⟨h, hu, hn ▸ hu⟩
  | false =>
    rw [hu] at hn
    cases u with
    | drop w =>
      cases u' with
      | drop w' => rw [RepEq, norm_drop_false, norm_drop_false] at h; exact .inl h.symm
      | _ => cases hn
    | _ => cases hu

theorem sortNaturalWith_rel_gen (t : Bool) {xs xs' : List GoVal} {k k' : GoVal} (hx : NL false xs xs') (hk : URel false k k')
    (ht : t = true ∨ xs.length ≤ maxInsertion) :
    RRel t (RepEq false) (sortNaturalWith true [.slice .any xs, k]) (sortNaturalWith true [.slice .any xs', k']) := by
  -- with `d = false` related elements are the same drop, or no drops
  have up : ∀ {f : GoVal → R Bytes}, KeyRespectsND false f → ∀ x x', RepEq false x x' → RRel t Eq (f x) (f x') := fun hf x x' h => by
    rcases repEq_false_cases h with rfl | h
    · exact rrel_eq_refl _
    · exact hf.rrel x x' h
  exact sortNaturalWith_all2 (fun h => slice_any_rel (normList_of_all2 h)) true (up fun _ _ => natKey_repEq_noDrop)
    (fun nm => up fun _ _ => natKeyBy_repEq_noDrop nm) (all2_of_normList hx) (urel_nil_iff hk) (.of_eq (fun _ => rfl) (sprintR_repEq hk.2.2)) ht

theorem sortNaturalWith_rel {xs xs' : List GoVal} {k k' : GoVal} (hx : NL false xs xs') (hk : URel false k k') :
    RRel true (RepEq false) (sortNaturalWith true [.slice .any xs, k]) (sortNaturalWith true [.slice .any xs', k']) :=
  sortNaturalWith_rel_gen true hx hk (.inl rfl)

theorem sortNaturalWith_rel_short {xs xs' : List GoVal} {k k' : GoVal} (hx : NL false xs xs') (hk : URel false k k')
    (hlen : xs.length ≤ maxInsertion) :
    RRel false (RepEq false) (sortNaturalWith true [.slice .any xs, k]) (sortNaturalWith true [.slice .any xs', k']) :=
  sortNaturalWith_rel_gen false hx hk (.inr hlen)

end ArrF

/-- the two sorts included; "up to `unmodelled`" is their tie order beyond 12 elements -/
theorem filterRespects_upto_unmodelled (d : Bool) (name : Bytes) (h : name ∉ reprFilters) : FilterRespects true d name :=
  filterRespects_of_impl name (fun sg f hs hf =>
    goodEntry_table true d reprFilters
      (fun _ => ArrF.sort_respects d) (fun _ => ArrF.sortNatural_respects_gen d)
      (fun hn => absurd (by simp [reprFilters]) hn)
      (fun hn => absurd (by simp [reprFilters]) hn)
      (fun hn => absurd (by simp [reprFilters]) hn)
      (name, f) (lookupImpl_mem hf) h sg hs)

/-- every standard filter except those that observe the Go representation (`reprFilters`: `json`, `inspect`,
    `type`) respects representation equivalence up to `unmodelled` (`d = false`), for every name (registered or
    not) -/
theorem filterRespects_std_upto (name : Bytes) (h : name ∉ reprFilters) : FilterRespects true false name :=
  filterRespects_upto_unmodelled false name h

/-- the filters left out of the theorem for drops nested in containers (`d = true`): the filters that observe the Go
    representation — the same list as `reprFilters` (`nestedDropsOpen_eq_reprFilters`) -/
def nestedDropsOpen : List Bytes := [JsonF.bn "json", JsonF.bn "inspect", JsonF.bn "type"]

theorem nestedDropsOpen_eq_reprFilters : nestedDropsOpen = reprFilters := rfl

def withoutNestedOpen (n : Bytes) : Bool := !nestedDropsOpen.contains n

theorem withoutNestedOpen_eq_withoutRepr : withoutNestedOpen = withoutRepr := rfl

/-- every standard filter except `json`, `inspect`, `type` — `sort`, `sort: key`, `sort_natural` and `sort_natural: key`
    included — respects representation equivalence WITH drops nested in containers, up to `unmodelled` (the tie order
    of the two sorts beyond 12 elements), for every name (registered or not) -/
theorem filterRespects_std_nested (name : Bytes) (h : name ∉ nestedDropsOpen) : FilterRespects true true name :=
  filterRespects_upto_unmodelled true name h

theorem stdPrimsOnly_respects_upto (d : Bool) (allowed : Bytes → Bool) (hrepr : ∀ n ∈ reprFilters, allowed n = false) :
    PrimsRespect true d (stdPrimsOnly allowed) :=
  stdPrimsOnly_respects allowed fun n _ ha => filterRespects_upto_unmodelled d n fun hn => by
    rw [hrepr n hn] at ha
    cases ha
