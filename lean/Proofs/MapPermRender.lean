import Proofs.MapPermOps
import Proofs.RepEqRender
/-!
# Two renders against environments that differ in the order of map entries, in lock step (helper
lemmas for C02)

The instance of the lock-step congruence (`Proofs/RenderSim.lean`) in which bindings and loop items are related
by `MP` (`Proofs/MapPerm.lean`) and results of `Evaluate` by `UMP`, in one context; `MRelM t` (below) is
`MSim (.both t) Eq (EnvRelG MP)` spelled out (`MSim.toMRelM`).
-/

open GoVal MapOrder

variable {t : Bool}

theorem MPL.drop : ∀ (n : Nat) {xs ys : List GoVal}, MPL xs ys → MPL (xs.drop n) (ys.drop n) :=
  fun n _ _ h => (h.all2.drop n).mpl

theorem MPL.take : ∀ (n : Nat) {xs ys : List GoVal}, MPL xs ys → MPL (xs.take n) (ys.take n) :=
  fun n _ _ h => (h.all2.take n).mpl

theorem selectItems_mp {xs ys : List GoVal} (h : MPL xs ys) (rev : Bool) (off lim : Option Int) :
    MPL (selectItems rev off lim xs) (selectItems rev off lim ys) :=
  (h.all2.selectItems rev off lim).mpl

def EnvRelM (env env' : Env) : Prop := ∀ x, MP (env.get x) (env'.get x)

theorem EnvRelM.refl (env : Env) : EnvRelM env env := fun _ => MP.refl _

structure SRelM (s s' : RS) : Prop where
  env : EnvRelM s.env s'.env
  tw : s.tw = s'.tw

def MRelM (t : Bool) {α} (R : α → α → Prop) (m m' : M α) : Prop :=
  ∀ s s', SRelM s s' → PRel t (fun r r' : α × RS => R r.1 r'.1 ∧ SRelM r.2 r'.2) (m s) (m' s')

theorem MSim.toMRelM {α} {S : α → α → Prop} {m m' : M α} (h : MSim (.both t) Eq (EnvRelG MP) S m m') : MRelM t S m m' :=
  fun s s' hs => ((h s s' ⟨hs.env, hs.tw⟩).mono (fun _ _ hr => ⟨hr.1, hr.2.env, hr.2.tw⟩)).toPRel

/-- related values that are both unwrapped (results of `Evaluate`, filter inputs) -/
def UMP (a b : GoVal) : Prop := Unw a ∧ Unw b ∧ MP a b

theorem UMP.refl_unw {a : GoVal} (h : Unw a) : UMP a a := ⟨h, h, MP.refl a⟩

/-- what the congruence theorem needs from the comparison and filter layers: related operands
    give the same answer, related filter inputs give related results (`t`: up to `unmodelled`) -/
structure PrimsRespectM (t : Bool) (P : Prims) : Prop where
  equal : ∀ a a' b b', MP a a' → MP b b' → RRel t Eq (P.equal a b) (P.equal a' b')
  less : ∀ a a' b b', MP a a' → MP b b' → RRel t Eq (P.less a b) (P.less a' b')
  contains : ∀ a a' b b', MP a a' → MP b b' → RRel t Eq (P.contains a b) (P.contains a' b')
  /-- the operands of `case`/`when` are results of `Evaluate` (unwrapped) -/
  equalFn : ∀ a a' b b', UMP a a' → UMP b b' → RRel t Eq (P.equalFn a b) (P.equalFn a' b')
  /-- receiver and arguments reach a filter unwrapped -/
  applyFilter : ∀ name r r' as as', UMP r r' → All2 UMP as as' →
    RRel t MP (P.applyFilter name r as) (P.applyFilter name r' as')

theorem evalRel_mp {T : Tol} : EvalRel T MP MP UMP :=
  hasView_mp.evalRel (fun h => h.toLiquid) (fun h => ⟨Unw.unwrap _, Unw.unwrap _, h.unwrap⟩)

theorem PrimsRespectM.toG {P : Prims} (h : PrimsRespectM t P) : PrimsRespectG (.both t) MP UMP P P where
  equal _ _ _ _ ha hb := (h.equal _ _ _ _ ha hb).sim
  less _ _ _ _ ha hb := (h.less _ _ _ _ ha hb).sim
  contains _ _ _ _ ha hb := (h.contains _ _ _ _ ha hb).sim
  equalFn _ _ _ _ ha hb := (h.equalFn _ _ _ _ ha hb).sim
  hasFilter _ := .inl rfl
  applyFilter _ _ _ _ _ hr has := (h.applyFilter _ _ _ _ _ hr has).sim

theorem evalList_mp (P : Prims) (hP : PrimsRespectM t P) {env env' : Env} (he : EnvRelM env env') :
    ∀ es : List Expr, RRel t (All2 MP) (evalList P env es) (evalList P env' es) :=
  fun es => (evalRel_mp.evalList hP.toG he es).rrel

/-- what the congruence theorem needs from the output layer: related values print alike -/
structure OutRespectM (t : Bool) (O : OutPrims) : Prop where
  chunks : ∀ v v', UMP v v' → RRel t Eq (O.chunks v) (O.chunks v')

def IncRespectM (t : Bool) (c : RCtx) : Prop :=
  ∀ line f env env', EnvRelM env env' → PRel t Eq (c.inc line f env) (c.inc line f env')

theorem UMP.view {v v' : GoVal} (h : UMP v v') : View MP v v' := by
  have := h.2.2.view
  rwa [h.1, h.2.1] at this

theorem valRel_mp : ValSim (EnvRelG MP) MP UMP MP :=
  valSim_of_view UMP.view MP.refl (fun h => h.2.2) (fun h => h) MP.cyclesOf

theorem ctxSim_mp (c : RCtx) (hP : PrimsRespectM t c.P) (hO : OutRespectM t c.O) (inc' : Nat → Bytes → Env → Prog (Status × Bytes)) :
    CtxSim (.both t) (EnvRelG MP) UMP MP c { c with inc := inc' } :=
  ctxSim_same c (fun he e => evalRel_mp.evaluate hP.toG he e) (fun hs hv => hP.equalFn _ _ _ _ hs hv) (hO.chunks _ _)
    (hasView_mp.loopItems UMP.view) inc'

theorem IncRespectM.sim {c : RCtx} (h : IncRespectM t c) : IncSim (.both t) (EnvRelG MP) c.inc c.inc :=
  fun line f _ _ he => (h line f _ _ he).sim

theorem mp_renderNode (c : RCtx) (hP : PrimsRespectM t c.P) (hO : OutRespectM t c.O) (hI : IncRespectM t c) :
    ∀ n : Node, MRelM t Eq (renderNode c n) (renderNode c n) :=
  fun n => (valRel_mp.renderNode (ctxSim_mp c hP hO c.inc) hI.sim n).toMRelM

theorem mp_renderBlockBody (c : RCtx) (hP : PrimsRespectM t c.P) (hO : OutRespectM t c.O) (hI : IncRespectM t c) (body : List Node) :
    MRelM t Eq (renderBlockBody c body) (renderBlockBody c body) :=
  (valRel_mp.renderBlockBody (ctxSim_mp c hP hO c.inc) hI.sim body).toMRelM

theorem mp_renderBranches (c : RCtx) (hP : PrimsRespectM t c.P) (hO : OutRespectM t c.O) (hI : IncRespectM t c) :
    ∀ bs : List (CondT × List Node), MRelM t Eq (renderBranches c bs) (renderBranches c bs) :=
  fun bs => (valRel_mp.renderBranches (ctxSim_mp c hP hO c.inc) hI.sim bs).toMRelM

theorem mp_renderCases (c : RCtx) (hP : PrimsRespectM t c.P) (hO : OutRespectM t c.O) (hI : IncRespectM t c)
    {sel sel' : GoVal} (hs : UMP sel sel') :
    ∀ cs : List (Option (Nat × List Expr) × List Node), MRelM t Eq (renderCases c sel cs) (renderCases c sel' cs) :=
  fun cs => (valRel_mp.renderCases (ctxSim_mp c hP hO c.inc) hI.sim hs cs).toMRelM

theorem run_mp (P : Prims) (O : OutPrims) (cfg : Cfg) (fs : FS) (fuel : Nat) (hP : PrimsRespectM t P) (hO : OutRespectM t O)
    (src : Bytes) (line : Nat) {env env' : Env} (he : EnvRelM env env') :
    RunAgree t (run P O cfg fs fuel src line env) (run P O cfg fs fuel src line env') :=
  RunAgree.of_frender P O cfg fs fuel src line fun root =>
    valRel_mp.frender fs rfl (fun inner inner' => ctxSim_mp { P := P, O := O, cfg := cfg, inc := inner } hP hO inner') fuel root he
