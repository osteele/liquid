import Proofs.NumLemmas
/-!
# `roundFloat` returns a nearest value of the format (helper lemmas for `Proofs/C17.lean`)

`roundHalfEven` returns a nearest integer (`rhe_near_up`, `rhe_near_down`); every value of the format at or above a
positive `q` lies on the grid `2^E` in which `q` is rounded, and no value of the format lies strictly between
`⌊q/2^E⌋ · 2^E` and `q` (the claim inside `roundPos_nearest`). Hence `|r - q| ≤ |r' - q|` for the rounding `r` of `q`
and every value `r'` of the format (`rounding_nearest` in `Proofs/C17.lean`).
-/

theorem rhe_near_up (z : Rat) (K : Int) (h : z ≤ (K : Rat)) :
    (roundHalfEven z : Rat) ≤ (K : Rat) ∧ z - (roundHalfEven z : Rat) ≤ (K : Rat) - z := by
  refine ⟨Rat.intCast_le_intCast.2 (roundHalfEven_le_of_le z K h), ?_⟩
  have f1 := Rat.floor_le z
  have f2 := Rat.lt_floor_add_one z
  -- unless `z` is an integer, `K` is at least the next one
  have hK : z = (z.floor : Rat) ∨ ((z.floor + 1 : Int) : Rat) ≤ (K : Rat) := by
    by_cases hz : z = (z.floor : Rat)
    · exact Or.inl hz
    · have : (z.floor : Rat) < (K : Rat) := Std.lt_of_lt_of_le (Rat.lt_of_le_of_ne f1 (Ne.symm hz)) h
      exact Or.inr (Rat.intCast_le_intCast.2 (Rat.intCast_lt_intCast.1 this))
  rcases roundHalfEven_cases z with ⟨e, hh⟩ | ⟨e, hh⟩ <;> rw [e] <;> grind

theorem rhe_near_down (z : Rat) (K : Int) (h : (K : Rat) ≤ z) :
    (K : Rat) ≤ (roundHalfEven z : Rat) ∧ (roundHalfEven z : Rat) - z ≤ z - (K : Rat) := by
  refine ⟨Rat.intCast_le_intCast.2 (roundHalfEven_ge z K h), ?_⟩
  have f1 := Rat.floor_le z
  have hK : (K : Rat) ≤ (z.floor : Rat) := Rat.intCast_le_intCast.2 (Rat.le_floor_iff.2 h)
  rcases roundHalfEven_cases z with ⟨e, hh⟩ | ⟨e, hh⟩ <;> rw [e] <;> grind

theorem onGrid_of_roundPos {p : Nat} {emin : Int} {r' : Rat} (h : roundPos p emin r' = r') {E : Int}
    (hE : E ≤ fexpC p emin r') : OnGrid E r' :=
  OnGrid.of_le ⟨_, h.symm⟩ hE

theorem roundPos_nearest (p : Nat) (hp : 1 ≤ p) (emin : Int) (q r' : Rat) (hq : 0 < q) (hr' : 0 < r')
    (h' : roundPos p emin r' = r') : Num.ratAbs (roundPos p emin q - q) ≤ Num.ratAbs (r' - q) := by
  obtain ⟨_, _, g3⟩ := fexpC_ge p emin q
  obtain ⟨g1', g2', _⟩ := fexpC_ge p emin r'
  have hmono := fexpC_mono p hp emin q r' hq
  have s1 := fun g : fexpC p emin q = fexp1 p q => g ▸ (fexp1_spec p hp q hq).1
  unfold roundPos
  generalize fexpC p emin q = E at *
  have hz : q = (q / pow2 E) * pow2 E := (Rat.div_mul_cancel (pow2_ne_zero E)).symm
  generalize hzz : q / pow2 E = z at *
  rcases Rat.le_total (a := q) (b := r') with hle | hle
  · obtain ⟨K, hK⟩ := onGrid_of_roundPos h' (hmono hle)
    obtain ⟨n1, n2⟩ := rhe_near_up z K (by rw [← hzz, div_pow2_le_iff, ← hK]; exact hle)
    have m1 := mul_pow2_le n1 E
    have m2 := mul_pow2_le n2 E
    exact ratAbs_le_of (by grind) (by grind)
  · obtain ⟨n1, n2⟩ := rhe_near_down z z.floor (Rat.floor_le z)
    -- no value of the format lies strictly between `⌊z⌋ · 2^E` and `q`
    have claim : r' ≤ (z.floor : Rat) * pow2 E := by
      apply Rat.not_lt.1
      intro hgt
      have hE' : E ≤ fexpC p emin r' := by
        rcases g3 with g | g
        · omega
        · have hfz := Rat.intCast_le_intCast.2 (Rat.le_floor_iff.2 (pow2_pred_int p hp ▸ s1 g))
          rw [← pow2_pred_int p hp] at hfz
          have lo := mul_pow2_le hfz E
          rw [← pow2_add] at lo
          have := pow2_lt_iff.1 (Std.lt_of_le_of_lt lo (Std.lt_trans hgt (fexp1_bracket p hp r' hr').2))
          omega
      have := OnGrid.add_le ⟨z.floor, rfl⟩ (onGrid_of_roundPos h' hE') hgt
      have := mul_pow2_lt (Rat.lt_floor_add_one z) E
      grind
    have m1 := mul_pow2_le n1 E
    have m2 := mul_pow2_le n2 E
    exact ratAbs_le_of_neg (by grind) (by grind)

theorem roundPos_le_double (p : Nat) (emin : Int) (q : Rat) (hq : 0 < q) : roundPos p emin q - q ≤ q := by
  unfold roundPos
  generalize fexpC p emin q = E
  have hz : q = (q / pow2 E) * pow2 E := (Rat.div_mul_cancel (pow2_ne_zero E)).symm
  obtain ⟨_, near⟩ := rhe_near_down (q / pow2 E) 0 (le_div_pow2_iff.2 (by grind))
  have m1 := mul_pow2_le near E
  grind
