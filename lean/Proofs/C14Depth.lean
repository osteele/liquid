import Proofs.IncludeDepthLemmas
import Proofs.RunError
/-!
# C14 / C01 — the include nesting limit: cyclic layouts end in an error

`rendererContext.RenderFile` (`render/context.go`) refuses with the plain error
`include nesting too deep (more than 100 levels) at <filename>` when the render it is called from is already
nested in `maxIncludeDepth` (= 100) include tags; the test comes BEFORE the file is read. In the model the
remaining levels are the fuel of `incFuel` (`fuel = maxIncludeDepth - depth`): at fuel 0 the handler fails with
`Cause.includeDepth`, and the include node wraps that error at its tag like every other handler failure.
No theorem here has an acyclicity hypothesis on the file layout.
-/

/-- **C14 (depth limit).** At fuel 0 — the render is nested in `maxIncludeDepth` include tags — every include
    tag whose argument evaluates to a string fails with the depth error located at that tag (its line, the
    including template's path; cause: the plain error of `RenderFile`), whatever the file system holds: a file
    that is missing, unreadable, does not compile or would render is not even looked at. (The ARGUMENT is
    evaluated first: a tag whose argument fails or is not a string reports that, see `include_nonstring_err`.) -/
theorem include_depth_error (P : Prims) (O : OutPrims) (cfg : Cfg) (fs : FS) (line : Nat) (args : Bytes) (s : RS)
    (e : Expr) (rel : Bytes) (he : parseExprSource args = .ok e) (hv : evaluate P s.env e = .ok (.str rel)) :
    renderNode (mkCtx P O cfg fs 0) (.incl line args) s = .fail (.located ⟨line, true, .includeDepth, .byCause⟩) :=
  include_plain_err_located (mkCtx P O cfg fs 0) line args s e rel _ he hv rfl

/-- `{% include "f" %}` at line 4 of `d/t` at the limit: the depth error at line 4, on a file system that has the
    file … -/
example (P : Prims) (O : OutPrims) :
    renderNode (mkCtx P O { path := [100, 47, 116] } ⟨fun _ => .content [104, 105], fun _ => none⟩ 0) (.incl 4 [34, 102, 34]) ⟨[], {}⟩ =
      .fail (.located ⟨4, true, .includeDepth, .byCause⟩) :=
  include_depth_error P O { path := [100, 47, 116] } ⟨fun _ => .content [104, 105], fun _ => none⟩ 4 [34, 102, 34] ⟨[], {}⟩
    (.lit (.str [102])) [102] (by decide +kernel) rfl
/-- … and on one that does not: the depth test comes before the read (one level higher the same tag reports
    not-exist, `include_missing_located`) -/
example (P : Prims) (O : OutPrims) :
    renderNode (mkCtx P O { path := [100, 47, 116] } ⟨fun _ => .notExist, fun _ => none⟩ 0) (.incl 4 [34, 102, 34]) ⟨[], {}⟩ =
      .fail (.located ⟨4, true, .includeDepth, .byCause⟩) :=
  include_depth_error P O { path := [100, 47, 116] } ⟨fun _ => .notExist, fun _ => none⟩ 4 [34, 102, 34] ⟨[], {}⟩
    (.lit (.str [102])) [102] (by decide +kernel) rfl

/-- **C14/C01 (a file that includes itself fails, at every fuel).** The template `{% include "a" %}` (either quote,
    any white space, any good delimiters) on a layout where `dir(path)/a` holds a source that compiles to literal
    text (possibly none) followed by an include tag with the same literal argument — the file includes itself
    unconditionally; what follows the tag is arbitrary — returns an ERROR for every fuel, start line and
    environment: never output, never `unmodelled`, never a panic. The recursion ends because the handler of
    fuel 0 is the depth error; no acyclicity is assumed (the layout IS cyclic). -/
theorem include_cycle_fails (P : Prims) (O : OutPrims) (cfg : Cfg) (fs : FS) (fuel : Nat) (line : Nat) (env : Env)
    (q : UInt8) (a : Bytes) (w : Ws) (hq : q = 34 ∨ q = 39) (hn : q ∉ a)
    (hg : GoodDelims (Delims.ofList cfg.delims)) (hc : Clean (Delims.ofList cfg.delims) [includeItem q a w])
    (body : Bytes) (pre rest : List Node) (l0 : Nat)
    (hfile : fileSource fs (joinPath (dirPath cfg.path) a) = some body)
    (hbody : compileSource cfg.delims body 0 = .ok (pre ++ Node.incl l0 (q :: a ++ [q]) :: rest))
    (hpre : ∀ t ∈ pre, ∃ tl b, t = Node.text tl b) :
    ∃ e, run P O cfg fs fuel (spell (Delims.ofList cfg.delims) [includeItem q a w]) line env = .err e := by
  rw [run_of_compilesTo P O cfg fs fuel env hg hc (CompilesTo.incl _ w)]
  have hnode := incl_cycle_fails_nodes P O cfg fs a body (q :: a ++ [q]) (.lit (.str a)) (l0 + ·) (Q := fun _ _ _ => True) hfile
    (string_literal_denotes q a hq hn) (fun _ => rfl) (shape_at_every_line cfg.delims body _ pre rest l0 hbody hpre)
    (fun _ => trivial) (fun _ _ _ _ => trivial) fuel
  obtain ⟨out, x, -, hx⟩ := renderList_texts_then_fail (mkCtx P O cfg fs fuel) (.incl line (q :: a ++ [q])) [] (hnode line) []
    (fun _ h => by cases h) ⟨env, {}⟩
  have hpf := frender_pureFail_of_renderRoot P O cfg fs fuel _ env out x (renderRoot_err_of_list_err _ _ env out x hx)
  obtain ⟨se, rfl⟩ := frender_pureFail_located P O cfg fs fuel _ env x hpf
  exact ⟨se, (runRoot_err_iff ..).mpr hpf⟩

/-! ### The self-including file of the defect: `a ↦ T{% include "a" %}` -/

/-- **C01/C14 (the defect's input, closed form).** The file `a` holds `T{% include "a" %}` (literal text `T`,
    then an include of itself) and the template is `{% include "a" %}` at `line`. For EVERY fuel `n` the render
    is the depth error, and it comes from exactly `n` nested levels: its line is `line + n · (newlines of T)`,
    the line of the include tag of the `n`-th nested copy of the file, where `RenderFile` refused. With the
    standard fuel `maxIncludeDepth` that is the 100th nested copy (`self_include_fails_at_100`). -/
theorem self_include_depth_error (P : Prims) (O : OutPrims) (cfg : Cfg) (fs : FS) (n : Nat) (line : Nat) (env : Env)
    (q : UInt8) (a : Bytes) (w w' : Ws) (T : Bytes) (hq : q = 34 ∨ q = 39) (hn : q ∉ a)
    (hg : GoodDelims (Delims.ofList cfg.delims)) (hc : Clean (Delims.ofList cfg.delims) [includeItem q a w])
    (hcf : Clean (Delims.ofList cfg.delims) [.text T, includeItem q a w'])
    (hfile : fileSource fs (joinPath (dirPath cfg.path) a) = some (spell (Delims.ofList cfg.delims) [.text T, includeItem q a w'])) :
    run P O cfg fs n (spell (Delims.ofList cfg.delims) [includeItem q a w]) line env =
      .err ⟨line + n * countNL T, true, .includeDepth, .byCause⟩ := by
  rw [run_of_compilesTo P O cfg fs n env hg hc (CompilesTo.incl _ w)]
  obtain ⟨out, _, rfl, hx⟩ := renderList_texts_then_fail (mkCtx P O cfg fs n) (.incl line (q :: a ++ [q])) []
    (Q := (· = .located (depthErrAt (line + n * countNL T))))
    (fun s => ⟨_, rfl, self_include_node_err P O cfg fs q a w' T hq hn hg hcf hfile n line s⟩) [] (fun _ h => by cases h) ⟨env, {}⟩
  exact (runRoot_err_iff ..).mpr (frender_pureFail_of_renderRoot P O cfg fs n _ env out _ (renderRoot_err_of_list_err _ _ env out _ hx))

/-! ## Non-vacuity, on concrete bytes -/

/-- the layout of the defect: `a` holds `x⏎{% include "a" %}` -/
def selfFs : FS := ⟨fun p => if p = [97] then .content [120, 10, 123, 37, 32, 105, 110, 99, 108, 117, 100, 101, 32, 34, 97, 34, 32, 37, 125] else .notExist, fun _ => none⟩

example : spell Delims.default [.text [120, 10], includeItem 34 [97] Ws.std] =
    [120, 10, 123, 37, 32, 105, 110, 99, 108, 117, 100, 101, 32, 34, 97, 34, 32, 37, 125] := by decide +kernel

/-- `{% include "a" %}` at line 1 with `a ↦ x⏎{% include "a" %}`, every value layer, every fuel `n`: the depth error
    at line `1 + n` -/
example (P : Prims) (O : OutPrims) (n : Nat) (env : Env) :
    run P O {} selfFs n [123, 37, 32, 105, 110, 99, 108, 117, 100, 101, 32, 34, 97, 34, 32, 37, 125] 1 env =
      .err ⟨1 + n * 1, true, .includeDepth, .byCause⟩ :=
  self_include_depth_error P O {} selfFs n 1 env 34 [97] Ws.std Ws.std [120, 10] (.inl rfl) (by decide +kernel) (by decide +kernel) (by decide +kernel)
    (by decide +kernel) rfl

/-- the same evaluated for the standard value layer at the small fuel 3: the error is reported at line 4, the tag
    of the third nested copy -/
example : run stdPrims stdOut {} selfFs 3 [123, 37, 32, 105, 110, 99, 108, 117, 100, 101, 32, 34, 97, 34, 32, 37, 125] 1 [] =
      .err ⟨4, true, .includeDepth, .byCause⟩ :=
  self_include_depth_error stdPrims stdOut {} selfFs 3 1 [] 34 [97] Ws.std Ws.std [120, 10] (.inl rfl) (by decide +kernel) (by decide +kernel)
    (by decide +kernel) (by decide +kernel) rfl

/-- `include_cycle_fails` on the same layout: the file compiles (at line 0) to the text `x⏎` and the include tag -/
example (P : Prims) (O : OutPrims) (fuel : Nat) (env : Env) :
    ∃ e, run P O {} selfFs fuel [123, 37, 32, 105, 110, 99, 108, 117, 100, 101, 32, 34, 97, 34, 32, 37, 125] 1 env = .err e :=
  include_cycle_fails P O {} selfFs fuel 1 env 34 [97] Ws.std (.inl rfl) (by decide +kernel) (by decide +kernel) (by decide +kernel)
    [120, 10, 123, 37, 32, 105, 110, 99, 108, 117, 100, 101, 32, 34, 97, 34, 32, 37, 125]
    [.text 0 [120, 10]] [] 1 rfl
    (by
      have h := compileSource_spell [] [.text [120, 10], includeItem 34 [97] Ws.std] 0 (by decide +kernel) (by decide +kernel)
      exact h.trans ((CompilesTo.text _).cons ((CompilesTo.incl _ _).cons .nil)))
    (fun t ht => by simp only [List.mem_singleton] at ht; exact ⟨0, _, ht⟩)
