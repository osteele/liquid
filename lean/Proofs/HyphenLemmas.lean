import Proofs.HyphenTrace
import Proofs.RenderSteps
/-!
# Hyphens at template level: definitions and the paired-trace calculus (helpers for C13)

A whitespace-control hyphen is a `.trim` node of the compiled tree (`Node.trim true` = `{{-`/`{%-`,
`Node.trim false` = `-}}`/`-%}`). `stripTrims` removes every such node at every depth of one
source (an included file is a separate source and is not touched).

The render of a tree does not look at the trim writer (`TracedAtL`, `Proofs/RunLemmas.lean`): from
given variables it performs a fixed list of trim-writer operations, issues exactly their
underlying calls, and ends with a fixed result.
`GPair R m m'` says that two renders `m`, `m'` end, from every variable map, with the SAME result
after operation lists related by `R`. The combinators below build such pairs along the structure
of the renderer; `Proofs/HyphenLemmas2.lean` instantiates them with `HypRel V`
(`ops' = eraseTrims ops`, every chunk written satisfies `V`) for a tree and its hyphen-free
version, `Proofs/HyphenFace.lean` with `FaceRel`.
-/

mutual
/-- the node with the hyphens of its bodies removed (a `.trim` node itself is removed by `stripTrims`) -/
def stripNode : Node → Node
  | .text l s => .text l s
  | .obj l e => .obj l e
  | .raw sl => .raw sl
  | .trim b => .trim b
  | .assign l x e => .assign l x e
  | .capture l x body => .capture l x (stripTrims body)
  | .ifB l bs => .ifB l (stripBranches bs)
  | .caseB l s cs => .caseB l s (stripCases cs)
  | .loop l t v e m body cls => .loop l t v e m (stripTrims body) (stripClauses cls)
  | .cycle l g v0 r => .cycle l g v0 r
  | .brk l => .brk l
  | .cont l => .cont l
  | .incl l a => .incl l a
/-- remove every `.trim` node, at every depth -/
def stripTrims : List Node → List Node
  | [] => []
  | n :: ns =>
    match n with
    | .trim _ => stripTrims ns
    | n => stripNode n :: stripTrims ns
def stripBranches : List (CondT × List Node) → List (CondT × List Node)
  | [] => []
  | (t, body) :: rest => (t, stripTrims body) :: stripBranches rest
def stripCases : List (Option (Nat × List Expr) × List Node) → List (Option (Nat × List Expr) × List Node)
  | [] => []
  | (w, body) :: rest => (w, stripTrims body) :: stripCases rest
def stripClauses : List (List Node) → List (List Node)
  | [] => []
  | body :: rest => stripTrims body :: stripClauses rest
end

mutual
/-- does a `.trim` node occur, at any depth? -/
def hasTrimNode : Node → Bool
  | .text _ _ => false
  | .obj _ _ => false
  | .raw _ => false
  | .trim _ => true
  | .assign _ _ _ => false
  | .capture _ _ body => hasTrim body
  | .ifB _ bs => hasTrimBranches bs
  | .caseB _ _ cs => hasTrimCases cs
  | .loop _ _ _ _ _ body cls => hasTrim body || hasTrimClauses cls
  | .cycle _ _ _ _ => false
  | .brk _ => false
  | .cont _ => false
  | .incl _ _ => false
def hasTrim : List Node → Bool
  | [] => false
  | n :: ns => hasTrimNode n || hasTrim ns
def hasTrimBranches : List (CondT × List Node) → Bool
  | [] => false
  | (_, body) :: rest => hasTrim body || hasTrimBranches rest
def hasTrimCases : List (Option (Nat × List Expr) × List Node) → Bool
  | [] => false
  | (_, body) :: rest => hasTrim body || hasTrimCases rest
def hasTrimClauses : List (List Node) → Bool
  | [] => false
  | body :: rest => hasTrim body || hasTrimClauses rest
end

mutual
/-- no `.trim` node occurs inside the body of a `capture` block (at any depth) -/
def capTrimFreeNode : Node → Bool
  | .text _ _ => true
  | .obj _ _ => true
  | .raw _ => true
  | .trim _ => true
  | .assign _ _ _ => true
  | .capture _ _ body => !hasTrim body
  | .ifB _ bs => capTrimFreeBranches bs
  | .caseB _ _ cs => capTrimFreeCases cs
  | .loop _ _ _ _ _ body cls => capTrimFree body && capTrimFreeClauses cls
  | .cycle _ _ _ _ => true
  | .brk _ => true
  | .cont _ => true
  | .incl _ _ => true
def capTrimFree : List Node → Bool
  | [] => true
  | n :: ns => capTrimFreeNode n && capTrimFree ns
def capTrimFreeBranches : List (CondT × List Node) → Bool
  | [] => true
  | (_, body) :: rest => capTrimFree body && capTrimFreeBranches rest
def capTrimFreeCases : List (Option (Nat × List Expr) × List Node) → Bool
  | [] => true
  | (_, body) :: rest => capTrimFree body && capTrimFreeCases rest
def capTrimFreeClauses : List (List Node) → Bool
  | [] => true
  | body :: rest => capTrimFree body && capTrimFreeClauses rest
end

mutual
/-- the literal chunks a tree can write: texts, raw slices, the values of `cycle` tags -/
def litNode : Node → List Bytes
  | .text _ s => [s]
  | .obj _ _ => []
  | .raw sl => sl
  | .trim _ => []
  | .assign _ _ _ => []
  | .capture _ _ body => litChunks body
  | .ifB _ bs => litBranches bs
  | .caseB _ _ cs => litCases cs
  | .loop _ _ _ _ _ body cls => litChunks body ++ litClauses cls
  | .cycle _ _ v0 r => v0 :: r
  | .brk _ => []
  | .cont _ => []
  | .incl _ _ => []
def litChunks : List Node → List Bytes
  | [] => []
  | n :: ns => litNode n ++ litChunks ns
def litBranches : List (CondT × List Node) → List Bytes
  | [] => []
  | (_, body) :: rest => litChunks body ++ litBranches rest
def litCases : List (Option (Nat × List Expr) × List Node) → List Bytes
  | [] => []
  | (_, body) :: rest => litChunks body ++ litCases rest
def litClauses : List (List Node) → List Bytes
  | [] => []
  | body :: rest => litChunks body ++ litClauses rest
end

/-- the chunks a `tablerow` loop writes around its cells -/
def DecoChunk (b : Bytes) : Prop :=
  (∃ n, b = bs "<tr class=\"row" ++ natBytes n ++ bs "\">") ∨ (∃ n, b = bs "<td class=\"col" ++ natBytes n ++ bs "\">") ∨
  b = bs "</td>" ∨ b = bs "</tr>"

/-- every chunk the context can contribute to the output satisfies `W`: the chunks of printed
    values, the text an `include` hands back, the decoration of `tablerow` — and the empty chunk
    (the empty `Write` with which `WriteVerbatim` drops a pending right trim before a value or a raw
    body) -/
structure CtxChunks (W : Bytes → Prop) (c : RCtx) : Prop where
  emp : W []
  obj : ∀ v cs, c.O.chunks v = .ok cs → ∀ b ∈ cs, W b
  inc : ∀ line f env out, c.inc line f env = .ret (.done, out) → W out
  deco : ∀ b, DecoChunk b → W b

mutual
theorem stripNode_of_noTrim : ∀ n : Node, hasTrimNode n = false → stripNode n = n
  | .text .., _ | .obj .., _ | .raw _, _ | .trim _, _ | .assign .., _ | .cycle .., _ | .brk _, _ | .cont _, _ | .incl .., _ => rfl
  | .capture l x body, h => congrArg (Node.capture l x) (stripTrims_of_noTrim body h)
  | .ifB l bs, h => congrArg (Node.ifB l) (stripBranches_of_noTrim bs h)
  | .caseB l e cs, h => congrArg (Node.caseB l e) (stripCases_of_noTrim cs h)
  | .loop l t v e m body cls, h => by
    have h := Bool.or_eq_false_iff.1 h
    rw [stripNode, stripTrims_of_noTrim body h.1, stripClauses_of_noTrim cls h.2]
theorem stripTrims_of_noTrim : ∀ ns : List Node, hasTrim ns = false → stripTrims ns = ns
  | [], _ => rfl
  | n :: ns, h => by
    have h := Bool.or_eq_false_iff.1 h
    rw [stripTrims, stripNode_of_noTrim n h.1, stripTrims_of_noTrim ns h.2]
    rintro b rfl
    cases h.1
theorem stripBranches_of_noTrim : ∀ bs : List (CondT × List Node), hasTrimBranches bs = false → stripBranches bs = bs
  | [], _ => rfl
  | (t, body) :: rest, h => by
    have h := Bool.or_eq_false_iff.1 h
    rw [stripBranches, stripTrims_of_noTrim body h.1, stripBranches_of_noTrim rest h.2]
theorem stripCases_of_noTrim : ∀ cs : List (Option (Nat × List Expr) × List Node), hasTrimCases cs = false →
    stripCases cs = cs
  | [], _ => rfl
  | (w, body) :: rest, h => by
    have h := Bool.or_eq_false_iff.1 h
    rw [stripCases, stripTrims_of_noTrim body h.1, stripCases_of_noTrim rest h.2]
theorem stripClauses_of_noTrim : ∀ cls : List (List Node), hasTrimClauses cls = false → stripClauses cls = cls
  | [], _ => rfl
  | body :: rest, h => by
    have h := Bool.or_eq_false_iff.1 h
    rw [stripClauses, stripTrims_of_noTrim body h.1, stripClauses_of_noTrim rest h.2]
end

def GPair {α} (R : List WOp → List WOp → Prop) (m m' : M α) : Prop :=
  ∀ env, ∃ ops ops' o, TracedAtL m env ops o ∧ TracedAtL m' env ops' o ∧ R ops ops'

/-- what the calculus needs of the relation: it holds of empty lists, is compatible with
    concatenation, and relates a write of an allowed chunk (`W`) / a flush to itself -/
structure RelOK (W : Bytes → Prop) (R : List WOp → List WOp → Prop) : Prop where
  nil : R [] []
  app : ∀ {a a' b b'}, R a a' → R b b' → R (a ++ b) (a' ++ b')
  write : ∀ b, W b → R [.write b] [.write b]
  flush : R [.flush] [.flush]

section pair
variable {W : Bytes → Prop} {R : List WOp → List WOp → Prop}

theorem gpair_quiet {α} (hR : RelOK W R) {m : M α} (hq : Quiet m) : GPair R m m := by
  intro env
  obtain ⟨o, h⟩ := hq env
  exact ⟨[], [], o, h, h, hR.nil⟩

theorem gpair_pure {α} (hR : RelOK W R) {a : α} : GPair R (pure a : M α) (pure a) := gpair_quiet hR quiet_closed.pure

theorem gpair_bind {α β} (hR : RelOK W R) {m m' : M α} {f f' : α → M β} (hm : GPair R m m')
    (hf : ∀ a, GPair R (f a) (f' a)) : GPair R (m >>= f) (m' >>= f') := by
  intro env
  obtain ⟨ops1, ops1', o1, h1, h1', r1⟩ := hm env
  cases o1 with
  | ok a env1 =>
    obtain ⟨ops2, ops2', o2, h2, h2', r2⟩ := hf a env1
    exact ⟨ops1 ++ ops2, ops1' ++ ops2', o2, tracedAtL_bind_ok h1 h2, tracedAtL_bind_ok h1' h2', hR.app r1 r2⟩
  | err e => exact ⟨ops1, ops1', .err e, tracedAtL_bind_err h1, tracedAtL_bind_err h1', r1⟩
  | panic w => exact ⟨ops1, ops1', .panic w, tracedAtL_bind_panic h1, tracedAtL_bind_panic h1', r1⟩
  | unmodelled w => exact ⟨ops1, ops1', .unmodelled w, tracedAtL_bind_unmodelled h1, tracedAtL_bind_unmodelled h1', r1⟩

theorem gpair_mapFail {α} {m m' : M α} (g : RawErr → RawErr) (hm : GPair R m m') :
    GPair R (M.mapFail g m) (M.mapFail g m') := by
  intro env
  obtain ⟨ops, ops', o, h, h', r⟩ := hm env
  exact ⟨ops, ops', o.mapErr g, tracedAtL_mapFail g h, tracedAtL_mapFail g h', r⟩

theorem gpair_wrapFailAt {α} (path : Bytes) (loc : Loc) {m m' : M α} (hm : GPair R m m') :
    GPair R (wrapFailAt path loc m) (wrapFailAt path loc m') := gpair_mapFail _ hm

theorem gpair_wrapAt (hR : RelOK W R) (path : Bytes) (loc : Loc) {m m' : M Status} (hm : GPair R m m') :
    GPair R (wrapAt path loc m) (wrapAt path loc m') := by
  rw [wrapAt_eq, wrapAt_eq]
  exact gpair_bind hR (gpair_mapFail _ hm) (fun _ => gpair_pure hR)

theorem gpair_write (hR : RelOK W R) (b : Bytes) (hb : W b) : GPair R (writeM b) (writeM b) :=
  fun env => ⟨_, _, _, tracedAtL_write b env, tracedAtL_write b env, hR.write b hb⟩

theorem gpair_flush (hR : RelOK W R) : GPair R flushM flushM :=
  fun env => ⟨_, _, _, tracedAtL_flush env, tracedAtL_flush env, hR.flush⟩

theorem gpair_writeVerbatim (hR : RelOK W R) (h0 : W []) (b : Bytes) (hb : W b) :
    GPair R (writeVerbatimM b) (writeVerbatimM b) := by
  unfold writeVerbatimM
  exact gpair_bind hR (gpair_write hR [] h0) (fun _ => gpair_bind hR (gpair_write hR b hb) (fun _ => gpair_flush hR))

theorem gpair_writeAll (hR : RelOK W R) (h0 : W []) : ∀ cs : List Bytes, (∀ b ∈ cs, W b) → GPair R (writeAllM cs) (writeAllM cs)
  | [], _ => gpair_pure hR
  | c :: cs, h => by
    unfold writeAllM
    exact gpair_bind hR (gpair_writeVerbatim hR h0 c (h c (by simp))) (fun _ => gpair_writeAll hR h0 cs (fun b hb => h b (by simp [hb])))

theorem gpair_tablerowBefore (hR : RelOK W R) (hd : ∀ b, DecoChunk b → W b) (cols i : Nat) :
    GPair R (tablerowBefore cols i) (tablerowBefore cols i) := by
  unfold tablerowBefore
  dsimp only
  split
  · exact gpair_bind hR (gpair_write hR _ (hd _ (.inl ⟨_, rfl⟩))) (fun _ => gpair_write hR _ (hd _ (.inr (.inl ⟨_, rfl⟩))))
  · exact gpair_bind hR (gpair_pure hR) (fun _ => gpair_write hR _ (hd _ (.inr (.inl ⟨_, rfl⟩))))

theorem gpair_tablerowAfter (hR : RelOK W R) (hd : ∀ b, DecoChunk b → W b) (cols i l : Nat) :
    GPair R (tablerowAfter cols i l) (tablerowAfter cols i l) := by
  unfold tablerowAfter
  refine gpair_bind hR (gpair_write hR _ (hd _ (.inr (.inr (.inl rfl))))) (fun _ => ?_)
  split
  · exact gpair_write hR _ (hd _ (.inr (.inr (.inr rfl))))
  · exact gpair_pure hR

theorem gpair_iterate (hR : RelOK W R) (hd : ∀ b, DecoChunk b → W b) (var : Bytes) (cols : Option Nat)
    {body body' : M Status} (hb : GPair R body body') (n : Nat) :
    ∀ xs i cyc, GPair R (iterateM var cols body n xs i cyc) (iterateM var cols body' n xs i cyc) := by
  intro xs
  induction xs with
  | nil => intro i cyc; exact gpair_pure hR
  | cons x xs ih =>
    intro i cyc
    unfold iterateM
    refine gpair_bind hR (gpair_quiet hR (quiet_setVar _ _)) (fun _ =>
      gpair_bind hR (gpair_quiet hR (quiet_setVar _ _)) (fun _ => ?_))
    refine gpair_bind hR ?_ (fun _ => gpair_bind hR hb (fun st => gpair_bind hR ?_ (fun _ =>
      gpair_bind hR (gpair_quiet hR quiet_closed.getVar) (fun cur => ?_))))
    · cases cols with
      | none => exact gpair_pure hR
      | some c => exact gpair_tablerowBefore hR hd c i
    · cases cols with
      | none => exact gpair_pure hR
      | some c => exact gpair_tablerowAfter hR hd c i n
    · cases st with
      | brk e => exact gpair_pure hR
      | done => exact ih _ _
      | cont e => exact ih _ _

theorem gpair_loopRun {budget : Int} (hR : RelOK W R) (hd : ∀ b, DecoChunk b → W b) (P : Prims) (path : Bytes) (loc : Loc) (tr : Bool)
    (var : Bytes) (e : Expr) (mods : LoopMods) {bodyM bodyM' : M Status} (hb : GPair R bodyM bodyM') (tooMany : Bool)
    {elseM elseM' : Option (M Status)} (he : Option.Rel (GPair R) elseM elseM') :
    GPair R (loopRun budget P path loc tr var e mods bodyM tooMany elseM) (loopRun budget P path loc tr var e mods bodyM' tooMany elseM') := by
  rw [loopRun_header, loopRun_header]
  refine gpair_wrapAt hR _ _ (gpair_bind hR
    (gpair_quiet hR (quiet_closed.loopHeader (fun _ _ => trivial) (fun _ => trivial) trivial)) fun items => ?_)
  have hit : ∀ items, GPair R (loopIterate P loc tr var mods.cols bodyM items) (loopIterate P loc tr var mods.cols bodyM' items) := by
    intro items
    unfold loopIterate restoreLoopVars
    exact gpair_bind hR (gpair_quiet hR (quiet_closed.tablerowCols (fun _ _ => trivial) trivial)) (fun cols =>
      gpair_bind hR (gpair_quiet hR quiet_closed.getVar) (fun pl =>
      gpair_bind hR (gpair_quiet hR quiet_closed.getVar) (fun pv =>
      gpair_bind hR (gpair_iterate hR hd _ _ hb _ _ _ _) (fun st =>
      gpair_bind hR (gpair_quiet hR (quiet_bind (quiet_setVar _ _) fun _ => quiet_setVar _ _)) (fun _ => gpair_pure hR)))))
  cases he with
  | none =>
    rw [no_else_clause, no_else_clause]
    exact hit items
  | some he =>
    cases items with
    | nil => exact he
    | cons x xs => exact hit (x :: xs)

end pair
