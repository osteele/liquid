import Proofs.RenderSim
import Proofs.RenderS
import Proofs.RepEqEval
/-!
# The render is monotone in the layers it consults

The value layer `P`, the output layer `O` and the include handler are oracles of the renderer. `PrimsBelow T P P'`: `P'` answers
wherever `P` does, and the same, up to what `T` lets `P` leave open: `unmodelled`, and (for `Tol.oracle`) the error of an undefined
filter, which is what a layer that knows no filter says when asked; every error wrapper keeps that cause (`wrapError_isUF`).
Evaluation and the whole render are monotone (`EvalRel.eval` of Proofs/RepEqEval.lean with equal variables; `ctxSim_below` with `ValSim.renderRoot`). So an answer given with the
layers that know and answer nothing (`botPrims`, `botOut`, `botCtx`), if it is neither `unmodelled` nor an undefined-filter error, is
the answer with every `P`, `O`, file system and include depth: `frender_of_bot`, `run_of_bot`, `run_of_runBot`.
-/

def Cause.isUF : Cause → Bool
  | .undefinedFilter _ => true
  | _ => false

def RawErr.isUF : RawErr → Bool
  | .plain c => c.isUF
  | .located e => e.cause.isUF

theorem wrapError_isUF (path : Bytes) (loc : Loc) (e : RawErr) (h : e.isUF = true) :
    (RawErr.located (wrapError path e loc)).isUF = true := by
  cases e with
  | plain c => exact h
  | located e =>
    have hc : e.cause.isUF = true := h
    have h0 : (e.cause == Cause.none) = false := by
      cases hcc : e.cause <;> rw [hcc] at hc <;> first | rfl | cases hc
    show (wrapError path (.located e) loc).cause.isUF = true
    unfold wrapError
    simp only [h0]
    split <;> exact hc

/-- the left run may leave the model, or fail because a filter is undefined, where the right one answers -/
def Tol.oracle : Tol := ⟨true, false, fun e => e.isUF = true, wrapError_isUF⟩

variable {T : Tol}

/-- `P'` answers wherever `P` does, and the same (`PrimsRespectG`, Proofs/RepEqEval.lean, on equal operands) -/
abbrev PrimsBelow (T : Tol) (P P' : Prims) : Prop := PrimsRespectG T Eq Eq P P'

/-- with equality for every relation, evaluation asks nothing of the value layer's lookups -/
theorem evalRel_eq : EvalRel T Eq Eq Eq where
  refl _ := rfl
  ofVar h := h ▸ rfl
  unwrap h := h ▸ rfl
  property _ h := h ▸ .refl
  index hr hi := hr ▸ hi ▸ .refl
  intOf h := h ▸ rfl
  test h := h ▸ rfl

theorem all2_eq {α : Type} {xs ys : List α} (h : All2 Eq xs ys) : xs = ys := by
  induction h with
  | nil => rfl
  | cons hx _ ih => rw [hx, ih]

/-- evaluation is monotone in the value layer: `EvalRel.evalList` (Proofs/RepEqEval.lean) with equal variables -/
theorem evalList_below {P P' : Prims} (h : PrimsBelow T P P') (env : Env) (es : List Expr) :
    RSim T Eq (evalList P env es) (evalList P' env es) :=
  PSim.mono (evalRel_eq.evalList h (fun _ => rfl) es) fun _ _ => all2_eq

theorem PrimsBelow.refl {T : Tol} (P : Prims) : PrimsBelow T P P where
  equal _ _ _ _ ha hb := ha ▸ hb ▸ .refl
  less _ _ _ _ ha hb := ha ▸ hb ▸ .refl
  contains _ _ _ _ ha hb := ha ▸ hb ▸ .refl
  equalFn _ _ _ _ ha hb := ha ▸ hb ▸ .refl
  hasFilter _ := .inl rfl
  applyFilter _ _ _ _ _ hr has := hr ▸ all2_eq has ▸ .refl

/-- two contexts of which the second answers wherever the first does: the lock-step congruence applies with equal variables -/
theorem ctxSim_below {c c' : RCtx} (hP : PrimsBelow T c.P c'.P) (hO : ∀ v, RSim T Eq (c.O.chunks v) (c'.O.chunks v))
    (hpath : c'.cfg.path = c.cfg.path) (hstrict : c'.cfg.strict = c.cfg.strict)
    (hli : ∀ v, RSim T (All2 Eq) (loopItems c.cfg.budget v) (loopItems c'.cfg.budget v)) : CtxSim T Eq Eq Eq c c' where
  path := hpath
  strict := hstrict
  evaluate he e := he ▸ evalRel_eq.evaluate hP (fun _ => rfl) e
  equalFn ha hb := hP.equalFn _ _ _ _ ha hb
  chunks hv := hv ▸ hO _
  loopItems hv := hv ▸ hli _

/-! ## The layers that know and answer nothing -/

def botPrims : Prims :=
  { equal := fun _ _ => .unmodelled "", less := fun _ _ => .unmodelled "", contains := fun _ _ => .unmodelled "",
    equalFn := fun _ _ => .unmodelled "", applyFilter := fun _ _ _ => .unmodelled "", hasFilter := fun _ => false }

def botOut : OutPrims := { chunks := fun _ => .unmodelled "" }

/-- neither layer, and an include handler that answers nothing: no file system, no include depth -/
def botCtx (cfg : Cfg) : RCtx := { P := botPrims, O := botOut, cfg := cfg, inc := fun _ _ _ => .unmodelled "" }

theorem botPrims_below (P : Prims) : PrimsBelow .oracle botPrims P where
  equal _ _ _ _ _ _ := .unmL rfl _ _
  less _ _ _ _ _ _ := .unmL rfl _ _
  contains _ _ _ _ _ _ := .unmL rfl _ _
  equalFn _ _ _ _ _ _ := .unmL rfl _ _
  hasFilter _ := .inr ⟨rfl, rfl⟩
  applyFilter _ _ _ _ _ _ _ := .unmL rfl _ _

theorem ctxSim_bot {P : Prims} {O : OutPrims} {cfg : Cfg} {inc inc' : Nat → Bytes → Env → Prog (Status × Bytes)} :
    CtxSim .oracle Eq Eq Eq { P := botPrims, O := botOut, cfg := cfg, inc := inc } { P := P, O := O, cfg := cfg, inc := inc' } :=
  ctxSim_below (botPrims_below P) (fun _ => .unmL rfl _ _) rfl rfl fun _ => .of_eq (All2.refl fun _ => rfl) rfl

/-- an end of a run that did not depend on the layers: not `unmodelled`, not the error of an undefined filter -/
def Prog.Outcome.definite {α : Type} : Prog.Outcome α → Bool
  | .err e => !e.isUF
  | .unmodelled _ => false
  | _ => true

def RunResult.definite : RunResult → Bool
  | .err e => !e.cause.isUF
  | .unmodelled _ => false
  | _ => true

theorem PSim.runPure_of_definite {α : Type} {p q : Prog α} (h : PSim .oracle Eq Eq p q) {out : Bytes} {o : Prog.Outcome α}
    (hp : p.runPure = (out, o)) (hd : o.definite = true) : q.runPure = (out, o) := by
  refine h.runPure_elim (C := fun x y => x = (out, o) → y = (out, o)) (fun _ _ _ e => e ▸ id) (fun _ _ _ e => e ▸ id)
    (fun _ _ => id) (fun _ _ => id) (fun _ _ _ _ e => ?_) nofun (fun _ _ _ he e => ?_) hp
  · cases e; cases hd
  · cases e
    rw [Prog.Outcome.definite, show _ = true from he] at hd
    cases hd

/-- **what a tree renders without consulting the layers or the files, it renders in every engine context** -/
theorem frender_of_bot (P : Prims) (O : OutPrims) (cfg : Cfg) (fs : FS) (fuel : Nat) (root : List Node) (env : Env) {out : Bytes}
    {o : Prog.Outcome Unit} (h : ((renderRoot (botCtx cfg) root env).bind statusToProg).runPure = (out, o)) (hd : o.definite = true) :
    (frender P O cfg fs fuel root env).runPure = (out, o) :=
  ((valSim_eq.renderRoot (c' := mkCtx P O cfg fs fuel) ctxSim_bot (fun _ _ _ _ _ => .unmL rfl _ _) root rfl).bind
    fun _ _ e => e ▸ .refl (fun _ => rfl) (fun _ => rfl) _).runPure_of_definite h hd

theorem resultOf_definite {x : Bytes × Prog.Outcome Unit} (h : (resultOf x).definite = true) : x.2.definite = true := by
  obtain ⟨_, o⟩ := x
  cases o with
  | err e => cases e <;> exact h
  | _ => exact h

/-- **an answer given with the layers that answer nothing is the answer with every layer** (same file system and include depth) -/
theorem run_of_bot (P : Prims) (O : OutPrims) (cfg : Cfg) (fs : FS) (fuel : Nat) (src : Bytes) (line : Nat) (env : Env) {r : RunResult}
    (h : run botPrims botOut cfg fs fuel src line env = r) (hr : r.definite = true) : run P O cfg fs fuel src line env = r := by
  unfold run at h ⊢
  cases hc : compileSource cfg.delims src line with
  | ok root =>
    rw [hc] at h
    change resultOf _ = r at h
    change resultOf _ = r
    rw [(valSim_eq.frender fs rfl (fun _ _ => ctxSim_bot) fuel root rfl).runPure_of_definite (Prod.eta _).symm
      (resultOf_definite (h ▸ hr))]
    exact h
  | _ => rw [hc] at h; exact h

/-- `run` with neither layer, no file system and no include depth, on the structurally recursive twin of the renderer: closed
    for a concrete source, so the kernel evaluates it -/
def runBot (cfg : Cfg) (src : Bytes) (line : Nat) (env : Env) : RunResult :=
  runS (botCtx cfg) src line env

theorem run_of_runBot (P : Prims) (O : OutPrims) (cfg : Cfg) (fs : FS) (fuel : Nat) (src : Bytes) (line : Nat) (env : Env) {r : RunResult}
    (h : runBot cfg src line env = r) (hr : r.definite = true) : run P O cfg fs fuel src line env = r := by
  unfold runBot runS at h
  rw [show (botCtx cfg).cfg = cfg from rfl] at h
  unfold run
  cases hc : compileSource cfg.delims src line with
  | ok root =>
    rw [hc] at h
    change resultOf _ = r at h
    rw [← renderRoot_eq_S] at h
    change resultOf _ = r
    rw [frender_of_bot P O cfg fs fuel root env (Prod.eta _).symm (resultOf_definite (h ▸ hr))]
    exact h
  | _ => rw [hc] at h; exact h

/-- `frender_of_bot` one level down: the root sequence, with the loop sentinel it may end in -/
theorem renderRoot_of_bot (P : Prims) (O : OutPrims) (cfg : Cfg) (fs : FS) (fuel : Nat) (root : List Node) (env : Env) {out : Bytes}
    {o : Prog.Outcome Status} (h : (renderRoot (botCtx cfg) root env).runPure = (out, o)) (hd : o.definite = true) :
    (renderRoot (mkCtx P O cfg fs fuel) root env).runPure = (out, o) :=
  (valSim_eq.renderRoot (c' := mkCtx P O cfg fs fuel) ctxSim_bot (fun _ _ _ _ _ => .unmL rfl _ _) root rfl).runPure_of_definite h hd

/-- a context whose include handler answers nothing is below the engine's context with the same layers and configuration,
    whatever the file system and the include depth -/
theorem renderRoot_sim_quiet (c : RCtx) (hq : ∀ l f e, ∃ w, c.inc l f e = .unmodelled w) (fs : FS) (fuel : Nat) (root : List Node)
    (env : Env) : PSim .oracle Eq Eq (renderRoot c root env) (renderRoot (mkCtx c.P c.O c.cfg fs fuel) root env) :=
  valSim_eq.renderRoot (c' := mkCtx c.P c.O c.cfg fs fuel)
    (ctxSim_below (.refl c.P) (fun _ => .refl) rfl rfl fun _ => .of_eq (All2.refl fun _ => rfl) rfl)
    (fun l f e _ _ => by obtain ⟨w, hw⟩ := hq l f e; rw [hw]; exact .unmL rfl _ _) root rfl

theorem PSim.calls_of_definite {α : Type} {p q : Prog α} (h : PSim .oracle Eq Eq p q) (hd : p.runPure.2.definite = true) :
    q.calls = p.calls := by
  induction h with
  | call b _ ih => exact congrArg (b :: ·) (ih .ok hd)
  | unmL _ w p' => cases hd
  | unmR ht _ _ => cases ht
  | failL he p' => rw [Prog.runPure, Prog.Outcome.definite, show _ = true from he] at hd; cases hd
  | _ => rfl

theorem renderRoot_of_quiet (c : RCtx) (hq : ∀ l f e, ∃ w, c.inc l f e = .unmodelled w) (fs : FS) (fuel : Nat) (root : List Node)
    (env : Env) {out : Bytes} {o : Prog.Outcome Status} (h : (renderRoot c root env).runPure = (out, o)) (hd : o.definite = true) :
    (renderRoot (mkCtx c.P c.O c.cfg fs fuel) root env).runPure = (out, o) :=
  (renderRoot_sim_quiet c hq fs fuel root env).runPure_of_definite h hd

theorem renderRoot_calls_of_quiet (c : RCtx) (hq : ∀ l f e, ∃ w, c.inc l f e = .unmodelled w) (fs : FS) (fuel : Nat) (root : List Node)
    (env : Env) (hd : (renderRoot c root env).runPure.2.definite = true) :
    (renderRoot (mkCtx c.P c.O c.cfg fs fuel) root env).calls = (renderRoot c root env).calls :=
  (renderRoot_sim_quiet c hq fs fuel root env).calls_of_definite hd
