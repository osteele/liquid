import Proofs.C14Source
/-!
# Include nesting limit: helper lemmas

`rendererContext.RenderFile` refuses with a plain error when the render it is called from is already nested in
`maxIncludeDepth` include tags (`incFuel … 0`). These lemmas follow that error outward: the include node wraps
it at its tag, every enclosing include passes the located error on, and a file whose first construct (after
literal text) is an include of itself therefore fails at every fuel. Property theorems: `Proofs/C14Depth.lean`.
-/

/-- the depth error as the include tag at `line` reports it: located at the tag, the plain error as cause -/
def depthErrAt (line : Nat) : SErr := ⟨line, true, .includeDepth, .byCause⟩

theorem renderList_texts_then_fail (c : RCtx) (n : Node) (rest : List Node) {Q : RawErr → Prop}
    (hn : ∀ s, ∃ x, Q x ∧ renderNode c n s = .fail x) :
    ∀ (pre : List Node), (∀ t ∈ pre, ∃ tl b, t = Node.text tl b) → ∀ s : RS,
      ∃ out x, Q x ∧ (renderList c (pre ++ n :: rest) s).runPure = (out, .err x)
  | [], _, s => by
    obtain ⟨x, hq, hx⟩ := hn s
    refine ⟨[], x, hq, ?_⟩
    simp only [List.nil_append, renderList, bind, M.bind, hx, Prog.bind, Prog.runPure]
  | t :: pre, h, ⟨env, tw⟩ => by
    obtain ⟨tl, b, rfl⟩ := h t (List.mem_cons_self ..)
    obtain ⟨out, x, hq, ih⟩ := renderList_texts_then_fail c n rest hn pre (fun t ht => h t (List.mem_cons_of_mem _ ht))
      ⟨env, (TW.run tw [.write b]).1⟩
    refine ⟨(TW.run tw [.write b]).2.flatten ++ out, x, hq, ?_⟩
    simp only [List.cons_append, renderList, bind, M.bind, Prog.runPure_bind, (tracedAtL_textNode c tl b env).toTracedAt tw,
      EOut.withTw, ih]

theorem renderRoot_err_of_list_err (c : RCtx) (root : List Node) (env : Env) (out : Bytes) (x : RawErr)
    (h : (renderList c root ⟨env, {}⟩).runPure = (out, .err x)) :
    (renderRoot c root env).runPure = (out, .err x) := by
  unfold renderRoot
  rw [Prog.runPure_bind, h]

/-- **a file that includes itself unconditionally fails at every fuel** (node level). The file `rel`, resolved
    from the includer's directory, has a source that compiles — at whatever line `l` the including tag stands —
    to literal text followed by an include tag (at line `next l`) with the same argument `args`, a string that names
    the file in every environment. Then the include node fails under the engine's context of every fuel: at fuel 0 with
    the depth error, at fuel n+1 because the file's own include node fails at fuel n. No output, no `unmodelled`.
    `Q fuel l x` is what is known of the error: nothing (`include_cycle_fails`), or its line (`self_include_depth_error`,
    Proofs/C14Depth.lean); it has to hold of the depth error at fuel 0 and to pass the wrapper of the include tag. -/
theorem incl_cycle_fails_nodes (P : Prims) (O : OutPrims) (cfg : Cfg) (fs : FS) (rel src args : Bytes) (e : Expr)
    {Q : Nat → Nat → RawErr → Prop} (next : Nat → Nat)
    (hfile : fileSource fs (joinPath (dirPath cfg.path) rel) = some src)
    (he : parseExprSource args = .ok e) (hv : ∀ env, evaluate P env e = .ok (.str rel))
    (hshape : ∀ l, ∃ pre rest, compileSource cfg.delims src l = .ok (pre ++ Node.incl (next l) args :: rest) ∧
      ∀ t ∈ pre, ∃ tl b, t = Node.text tl b)
    (h0 : ∀ l, Q 0 l (.located (depthErrAt l)))
    (hstep : ∀ n l x, Q n (next l) x → Q (n + 1) l (.located (wrapError cfg.path x ⟨l, true⟩))) :
    ∀ (fuel l : Nat) (s : RS), ∃ x, Q fuel l x ∧ renderNode (mkCtx P O cfg fs fuel) (.incl l args) s = .fail x := by
  intro fuel
  induction fuel with
  | zero =>
    intro l s
    exact ⟨_, h0 l, incl_handler_fail (mkCtx P O cfg fs 0) l args s e rel _ he (hv s.env) rfl⟩
  | succ n ih =>
    intro l s
    obtain ⟨pre, rest, hc, hpre⟩ := hshape l
    obtain ⟨out, x, hq, hx⟩ := renderList_texts_then_fail (mkCtx P O cfg fs n) (.incl (next l) args) rest (ih (next l)) pre hpre
      ⟨s.env, {}⟩
    refine ⟨_, hstep n l x hq, incl_handler_fail (mkCtx P O cfg fs (n + 1)) l args s e rel x he (hv s.env) ?_⟩
    exact renderFileWith_compiled P O cfg fs (incFuel P O cfg fs n) l _ s.env src _ out _ hfile hc
      (renderRoot_err_of_list_err _ _ _ out x hx)

/-- the hypothesis `hshape` of `incl_cycle_fails_nodes` from one compilation at line 0 (`compileSource_shift`) -/
theorem shape_at_every_line (delims : List Bytes) (src args : Bytes) (pre rest : List Node) (l0 : Nat)
    (hc : compileSource delims src 0 = .ok (pre ++ Node.incl l0 args :: rest))
    (hpre : ∀ t ∈ pre, ∃ tl b, t = Node.text tl b) :
    ∀ l, ∃ pre' rest', compileSource delims src l = .ok (pre' ++ Node.incl (l0 + l) args :: rest') ∧
      ∀ t ∈ pre', ∃ tl b, t = Node.text tl b := by
  intro l
  have h := compileSource_shift delims src 0 l
  rw [Nat.zero_add, hc] at h
  refine ⟨relNodes (· + l) pre, relNodes (· + l) rest, ?_, ?_⟩
  · rw [h]
    simp only [CRes.rel, relNodes_append, relNodes, Node.rel]
  · intro t ht
    clear h hc
    induction pre with
    | nil => simp [relNodes] at ht
    | cons p ps ih =>
      simp only [relNodes, List.mem_cons] at ht
      rcases ht with rfl | ht
      · obtain ⟨tl, b, rfl⟩ := hpre p (List.mem_cons_self ..)
        exact ⟨tl + l, b, by simp [Node.rel]⟩
      · exact ih (fun t ht => hpre t (List.mem_cons_of_mem _ ht)) ht

/-- the include node of `T{% include "a" %}`'s own tag, under the context of fuel `m`: the depth error, raised
    `m` levels further in, i.e. `m · (newlines of T)` lines further down -/
theorem self_include_node_err (P : Prims) (O : OutPrims) (cfg : Cfg) (fs : FS)
    (q : UInt8) (a : Bytes) (w : Ws) (T : Bytes) (hq : q = 34 ∨ q = 39) (hn : q ∉ a)
    (hg : GoodDelims (Delims.ofList cfg.delims))
    (hcf : Clean (Delims.ofList cfg.delims) [.text T, includeItem q a w])
    (hfile : fileSource fs (joinPath (dirPath cfg.path) a) = some (spell (Delims.ofList cfg.delims) [.text T, includeItem q a w]))
    (m l : Nat) (s : RS) :
    renderNode (mkCtx P O cfg fs m) (.incl l (q :: a ++ [q])) s = .fail (.located (depthErrAt (l + m * countNL T))) := by
  obtain ⟨_, rfl, h⟩ := incl_cycle_fails_nodes P O cfg fs a _ (q :: a ++ [q]) (.lit (.str a)) (· + countNL T)
    (Q := fun n l x => x = .located (depthErrAt (l + n * countNL T))) hfile (string_literal_denotes q a hq hn) (fun _ => rfl)
    (fun l => ⟨[Node.text l T], [], (compileSource_spell cfg.delims _ l hg hcf).trans
      ((CompilesTo.text T).cons ((CompilesTo.incl _ w).cons .nil)), fun t ht => ⟨l, T, List.mem_singleton.mp ht⟩⟩)
    (fun l => by rw [Nat.zero_mul, Nat.add_zero])
    (fun n l x hx => by
      -- the error comes from further down, so the wrapper of the tag at `l` hands it on as it is
      rw [hx, depthErrAt, wrapError_keep cfg.path _ l _ _ (by omega), depthErrAt, Nat.succ_mul]
      congr 2
      omega)
    m l s
  exact h

/-- **where an `unmodelled` of the include handler comes from**: never from the nesting limit. If `RenderFile` with
    `n` levels left leaves the model, then `n = m + 1`, the file was found (disk, or cache) and either its source
    does not compile inside the model or the render of its root, with `m` levels left, left the model. -/
theorem incFuel_unmodelled_origin (P : Prims) (O : OutPrims) (cfg : Cfg) (fs : FS) (n line : Nat) (f : Bytes) (env : Env)
    (w : String) (h : incFuel P O cfg fs n line f env = .unmodelled w) :
    ∃ m src, n = m + 1 ∧ fileSource fs f = some src ∧
      (compileSource cfg.delims src line = .unmodelled w ∨
       ∃ root, compileSource cfg.delims src line = .ok root ∧
         ((renderRoot (mkCtx P O cfg fs m) root env).runPure).2 = .unmodelled w) := by
  cases n with
  | zero => cases h
  | succ m =>
    revert h
    refine renderFileWith_ind (C := fun p => p = .unmodelled w → _) fs f (fun _ _ => nofun) fun src hsrc h' =>
      ⟨m, src, rfl, hsrc, ?_⟩
    unfold renderSrcWith at h'
    cases hc : compileSource cfg.delims src line with
    | err e => simp only [hc] at h'; cases h'
    | panic w' => simp only [hc] at h'; cases h'
    | unmodelled w' =>
      simp only [hc] at h'
      injection h' with h'
      exact Or.inl (by rw [h'])
    | ok root =>
      refine Or.inr ⟨root, rfl, ?_⟩
      simp only [hc] at h'
      show ((renderRoot { P := P, O := O, cfg := cfg, inc := incFuel P O cfg fs m } root env).runPure).2 = _
      rcases hr : (renderRoot { P := P, O := O, cfg := cfg, inc := incFuel P O cfg fs m } root env).runPure with ⟨out, o⟩
      rw [hr] at h'
      cases o with
      | ok st => cases st <;> cases h'
      | err e => cases h'
      | panic w' => cases h'
      | unmodelled w' => injection h' with h'; rw [h']
