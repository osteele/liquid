import Proofs.DecEq
import Proofs.RenderS
import Proofs.RenderTrace
import Proofs.TraceSites
import Proofs.C20
import Liquid.Driver
/-!
# C20, the error VALUE — a render that stops at a failed write returns a located error that names the
node which issued the write

`frender_faulty` (Proofs/C20.lean) says the render ends with an error whose cause is the writer's failure.
Here the whole error is determined: it is `⟨l.line, l.pathSet, .io, .byCause⟩` — a `parser.Error` with the
writer's error as `Cause()` and `Error()` text, located at `l` — where `l` is the `k`-th entry of
`faultSites`, a list computed from the compiled tree by walking it in render order (`traceRoot`,
Proofs/RenderTrace.lean):

* a write issued while a text, object, `cycle` or `include` node runs (the trim writer hands the PREVIOUS
  pending text to the caller's writer when the next text arrives, so the bytes of call `k` are usually those of
  an earlier node) is located at that node: `⟨line, true⟩`;
* the cell tags of a `tablerow` are written by the loop tag: `⟨line of the tablerow, true⟩`;
* a raw block, a left trim marker and the flush at the end of a block body or of the whole render have no
  location of their own (`invalidLoc = ⟨0, false⟩`); every enclosing block re-locates such an error at its own
  tag (`relocate`), so below a block the error names the innermost enclosing block tag, and at top level it
  stays line 0 without a path;
* `relocate` is `parser.WrapError` on locations: on line 0 of a template parsed WITHOUT a path a located error
  carries no information either and is re-located by the enclosing block in the same way.

The `faults` stream compares exactly this value (line, path or none) with the real `FRender` for every call
index of every case (result field `flocs`, driver function `Prog.faultErrs`).
-/

/-- for every `Write` call of the fault-free render, in order: where the error is located when that call fails -/
def faultSites (c : RCtx) (root : List Node) (env : Env) : List Loc := (traceRoot c root env).calls.filterMap id

theorem traceRoot_calls (c : RCtx) (root : List Node) (env : Env) :
    (traceRoot c root env).calls = (faultSites c root env).map some := by
  -- keeping the sites that are `some` keeps all of them: none is missing
  rw [faultSites, List.map_filterMap_some_eq_filter_map_isSome, List.map_id]
  exact (List.filter_eq_self.mpr fun l hl => Option.isSome_iff_ne_none.mpr ((located_traceRoot c root env).1 l hl)).symm

/-- one site per call of the fault-free render -/
theorem faultSites_length (P : Prims) (O : OutPrims) (cfg : Cfg) (fs : FS) (fuel : Nat) (root : List Node) (env : Env) :
    (faultSites (mkCtx P O cfg fs fuel) root env).length = (frender P O cfg fs fuel root env).calls.length := by
  have := (sp_frender P O cfg fs fuel root env).io.length
  rw [traceRoot_calls, List.length_map] at this
  exact this

/-- **C20 (the error is a located SourceError naming the node that issued the write).** For every compiled
    template, environment, configuration, file system and include depth, every write index `k` below the number
    of writes of the fault-free render and every number `acc` of bytes the failing call accepts: `FRender` on the
    writer that fails at call `k` returns the error with cause = the writer's error, message = the cause's text,
    located at `faultSites[k]` — line and path of the node that issued that write, seen through `WrapError` of
    the enclosing blocks (see the head of this file). -/
theorem frender_faulty_located (P : Prims) (O : OutPrims) (cfg : Cfg) (fs : FS) (fuel : Nat) (root : List Node) (env : Env)
    (k acc : Nat) (hk : k < (frender P O cfg fs fuel root env).calls.length) :
    ∃ l : Loc, (faultSites (mkCtx P O cfg fs fuel) root env)[k]? = some l ∧
      (runFaulty (frender P O cfg fs fuel root env) (some k) acc).1 = .err (.located ⟨l.line, l.pathSet, .io, .byCause⟩) := by
  have hlen := faultSites_length P O cfg fs fuel root env
  have hk' : k < (faultSites (mkCtx P O cfg fs fuel) root env).length := by rw [hlen]; exact hk
  refine ⟨(faultSites (mkCtx P O cfg fs fuel) root env)[k], List.getElem?_eq_getElem hk', ?_⟩
  have hio := (sp_frender P O cfg fs fuel root env).io
  rw [traceRoot_calls] at hio
  exact hio.faulty k acc (some (faultSites (mkCtx P O cfg fs fuel) root env)[k]) (by simp [hk'])

/-- the `flocs` field of the `faults` stream prints this list: the driver's `Prog.faultErrs` of the model's
    `FRender` is, call by call, the writer's error located at `faultSites` -/
theorem faultErrs_are_faultSites (P : Prims) (O : OutPrims) (cfg : Cfg) (fs : FS) (fuel : Nat) (root : List Node) (env : Env) :
    (frender P O cfg fs fuel root env).faultErrs =
      (faultSites (mkCtx P O cfg fs fuel) root env).map (fun l => some (.located ⟨l.line, l.pathSet, .io, .byCause⟩)) := by
  have hio := (sp_frender P O cfg fs fuel root env).io
  rw [traceRoot_calls] at hio
  generalize frender P O cfg fs fuel root env = p at hio
  generalize faultSites (mkCtx P O cfg fs fuel) root env = ls at hio
  induction ls generalizing p with
  | nil =>
    cases hio <;> rfl
  | cons l ls ih =>
    cases hio with
    | call b k _ _ hk hrest =>
      simp only [Prog.faultErrs, hk 0, List.map_cons]
      exact congrArg _ (ih _ hrest)

/-! ### What the sites are, node by node (each by unfolding `traceNode`) -/

/-- every write issued while a text node runs is located at the text -/
theorem faultSite_text (c : RCtx) (line : Nat) (src : Bytes) (s : RS) :
    (traceNode c (.text line src) s).calls = List.replicate (renderNode c (.text line src) s).calls.length (some ⟨line, true⟩) := by
  unfold traceNode; rfl

/-- …while an object runs: at the object — every call it issues through `WriteVerbatim`: the flush of the text
    that was pending before the value (issued by the empty `Write` that drops a pending right trim) and the flush of
    each chunk of the value -/
theorem faultSite_obj (c : RCtx) (line : Nat) (e : Expr) (s : RS) :
    (traceNode c (.obj line e) s).calls = List.replicate (renderNode c (.obj line e) s).calls.length (some ⟨line, true⟩) := by
  unfold traceNode; rfl

/-- a raw block has no location of its own: every call it issues through `WriteVerbatim` (the flush of the text
    pending before the body, then one flush per non-empty slice) carries the invalid location -/
theorem faultSite_raw (c : RCtx) (slices : List Bytes) (s : RS) :
    (traceNode c (.raw slices) s).calls = List.replicate (renderNode c (.raw slices) s).calls.length (some invalidLoc) := by
  unfold traceNode; rfl

/-- nor has a trim marker -/
theorem faultSite_trim (c : RCtx) (l : Bool) (s : RS) :
    (traceNode c (.trim l) s).calls = List.replicate (renderNode c (.trim l) s).calls.length (some invalidLoc) := by
  unfold traceNode; rfl

/-- below an `if`/`unless` block every site is seen through the block tag's `WrapError` -/
theorem faultSite_if (c : RCtx) (line : Nat) (bs : List (CondT × List Node)) (s : RS) :
    (traceNode c (.ifB line bs) s).calls =
      (traceBranches c bs s).calls.map (fun l => some (relocate c.cfg.path l ⟨line, true⟩)) := by
  unfold traceNode; rfl

/-- a site without any information (a raw block, a trim marker, a flush; or line 0 of a template without a
    path) takes the location of the enclosing block tag, when that has a line or a path (`relocate_invalidLoc`,
    Proofs/TraceLemmas.lean, under the name the C20 claim uses) -/
theorem relocate_invalid (path : Bytes) (line : Nat) (h : line ≠ 0 ∨ path ≠ []) :
    relocate path (some invalidLoc) ⟨line, true⟩ = ⟨line, true⟩ := relocate_invalidLoc path line h

/-- a site that has a line, or a path, is kept by every enclosing block (`relocate_keeps`, Proofs/TraceLemmas.lean,
    under the name the C20 claim uses) -/
theorem relocate_located (path : Bytes) (l outer : Loc) (h : l.line ≠ 0 ∨ (l.pathSet = true ∧ path ≠ [])) :
    relocate path (some l) outer = l := relocate_keeps path l outer h

/-! ### Line 0: only a write that no located node and no block encloses -/

/-- **C20 (every site is a location of the tree, or the invalid location).** In a template that has a path, or
    none of whose nodes stands at line 0: the error of every single-fault run is located at `⟨x, true⟩` for the
    line `x` of a node of the tree (it names the template's path), or it is the invalid location — line 0, no
    path. -/
theorem fault_site_in_tree (P : Prims) (O : OutPrims) (cfg : Cfg) (fs : FS) (fuel : Nat) (root : List Node) (env : Env)
    (hpos : cfg.path ≠ [] ∨ ∀ x ∈ linesList root, x ≠ 0) :
    ∀ l ∈ faultSites (mkCtx P O cfg fs fuel) root env, l = invalidLoc ∨ (l.pathSet = true ∧ l.line ∈ linesList root) := by
  intro l hl
  have h := (reloc_traceBlockBody (mkCtx P O cfg fs fuel) (· ∈ linesList root) (fun _ => True) (ilinesList root) root
    { env := env, tw := {} } ⟨fun _ hx => hx, fun _ _ => trivial, fun _ hx => hx⟩).callsIn
  have hm : some l ∈ (traceRoot (mkCtx P O cfg fs fuel) root env).calls := by
    rw [traceRoot_calls]; exact List.mem_map.mpr ⟨l, hl, rfl⟩
  rcases h (some l) hm with h | h | ⟨x, hx, h⟩
  · cases h
  · exact Or.inl (Option.some.inj h)
  · have := Option.some.inj h
    subst this
    exact Or.inr ⟨rfl, hx⟩

/-- **C20 (a node that has a location never yields the invalid location).** Every write issued below a text,
    object, tag or block — however deep — is located at a line of that node (with the template's path). So the
    error of a single-fault run has the invalid location (line 0, no path) only when the failing write was issued
    by a raw block or a left trim marker AT TOP LEVEL, or by the final flush (`fault_sites_of_sequence`,
    `fault_sites_of_root`: the sites of the render are those of its top-level nodes, in order, then the final
    flush). -/
theorem located_node_fault_sites (c : RCtx) (n : Node) (s : RS) (hn : n.hasLoc = true)
    (hpos : c.cfg.path ≠ [] ∨ ∀ x ∈ n.lines, x ≠ 0) :
    ∀ l ∈ (traceNode c n s).calls, ∃ x ∈ n.lines, l = some ⟨x, true⟩ :=
  ((reloc_traceNode c (· ∈ n.lines) (fun _ => True) n.ilines n s ⟨fun _ hx => hx, fun _ _ => trivial, fun _ hx => hx⟩).2 hn).callsAt hpos

/-- the sites of a sequence: those of its first node, then — when that node returned `done` — of the rest -/
theorem fault_sites_of_sequence (c : RCtx) (n : Node) (ns : List Node) (s : RS) :
    (traceList c (n :: ns) s).calls = (traceNode c n s).calls ++
      (match (renderNode c n s).pureRet with
       | some (.done, s') => (traceList c ns s').calls
       | _ => []) := by
  conv => lhs; unfold traceList
  cases h : (renderNode c n s).pureRet with
  | none => simp [Tr.bind]
  | some a =>
    obtain ⟨st, s'⟩ := a
    cases st <;> simp [Tr.bind]

/-- the sites of the whole render: those of the root sequence, then the final flush at the invalid location -/
theorem fault_sites_of_root (c : RCtx) (root : List Node) (env : Env) :
    (traceRoot c root env).calls = (traceList c root { env := env, tw := {} }).calls ++
      (match (renderList c root { env := env, tw := {} }).pureRet with
       | some (.done, s') => List.replicate (flushM s').calls.length (some invalidLoc)
       | _ => []) := by
  unfold traceRoot traceBlockBody
  cases h : (renderList c root { env := env, tw := {} }).pureRet with
  | none => simp [Tr.bind]
  | some a =>
    obtain ⟨st, s'⟩ := a
    cases st <;> simp [Tr.bind, ownTr]

/-! ### A concrete instance

`a{% if … %}⏎b{% raw %}x{% endraw %}{% endif %}⏎c` compiled with the `if` at line 3, the text inside it at line 4:
the fault-free render makes four calls — `a` (flushed when the text `b` is written), `b` (flushed by the raw block
before it writes: the empty `Write` of `WriteVerbatim`), `x` (flushed by the raw block itself, at once), `c` (the
final flush; the flush at the end of the block body finds nothing pending). A failure of the first is reported at
the text (line 4), of the second and third at the `if` tag (line 3: the raw block has no location), of the last at
line 0 without a path (the final flush, top level). -/
def c20ExRoot : List Node := [.text 1 [97], .ifB 3 [(.always, [.text 4 [98], .raw [[120]]])], .text 5 [99]]
def c20ExFs : FS := ⟨fun _ => .notExist, fun _ => none⟩

theorem c20Ex_calls : (frender trivPrims trivOut {} c20ExFs 1 c20ExRoot []).calls = [[97], [98], [120], [99]] := by
  rw [frender, renderRoot_eq_S]; decide +kernel

theorem c20Ex_sites : (frender trivPrims trivOut {} c20ExFs 1 c20ExRoot []).faultErrs =
    [some (.located ⟨4, true, .io, .byCause⟩), some (.located ⟨3, true, .io, .byCause⟩),
     some (.located ⟨3, true, .io, .byCause⟩), some (.located ⟨0, false, .io, .byCause⟩)] := by
  rw [frender, renderRoot_eq_S]; decide +kernel

/-- the theorem on this instance: the hypothesis holds for `k = 0, 1, 2, 3`, and the sites are those above -/
example : faultSites (mkCtx trivPrims trivOut {} c20ExFs 1) c20ExRoot [] = [⟨4, true⟩, ⟨3, true⟩, ⟨3, true⟩, ⟨0, false⟩] := by
  have h := faultErrs_are_faultSites trivPrims trivOut {} c20ExFs 1 c20ExRoot []
  rw [c20Ex_sites] at h
  have hinj : ∀ a b : Loc, (some (RawErr.located ⟨a.line, a.pathSet, .io, .byCause⟩) : Option RawErr) =
      some (RawErr.located ⟨b.line, b.pathSet, .io, .byCause⟩) → a = b := by
    intro a b hab
    simp only [Option.some.injEq, RawErr.located.injEq, SErr.mk.injEq, and_true] at hab
    cases a; cases b; simp_all
  exact (List.map_inj_right hinj).mp (h.symm.trans rfl)

example : ∃ l : Loc, (faultSites (mkCtx trivPrims trivOut {} c20ExFs 1) c20ExRoot [])[2]? = some l ∧
    (runFaulty (frender trivPrims trivOut {} c20ExFs 1 c20ExRoot []) (some 2) 0).1 = .err (.located ⟨l.line, l.pathSet, .io, .byCause⟩) :=
  frender_faulty_located trivPrims trivOut {} c20ExFs 1 c20ExRoot [] 2 0 (by rw [c20Ex_calls]; decide)

/-- `fault_site_in_tree` on this instance: no node at line 0 -/
example : ∀ l ∈ faultSites (mkCtx trivPrims trivOut {} c20ExFs 1) c20ExRoot [],
    l = invalidLoc ∨ (l.pathSet = true ∧ l.line ∈ linesList c20ExRoot) :=
  fault_site_in_tree trivPrims trivOut {} c20ExFs 1 c20ExRoot [] (Or.inr (by decide))

/-- `located_node_fault_sites` on the `if` block of this instance: every write below it is located at line 3 or 4 -/
example (c : RCtx) (s : RS) : ∀ l ∈ (traceNode c (.ifB 3 [(.always, [.text 4 [98], .raw [[120]]])]) s).calls,
    ∃ x ∈ (Node.ifB 3 [(.always, [.text 4 [98], .raw [[120]]])]).lines, l = some ⟨x, true⟩ :=
  located_node_fault_sites c _ s rfl (Or.inr (by decide))
