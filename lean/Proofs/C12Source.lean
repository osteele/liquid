import Proofs.DecEq
import Proofs.SrcTags
/-!
# C12, from source bytes — capture-and-print renders what the body renders; assign binds for what follows

Lifts `capture_equiv_root_iff` and `assign_seq` (`Proofs/C12.lean`, statements about compiled trees)
through the tokenizer, the block parser and the compiler to statements about `run` on template source text
(`spell d items`, any good delimiter set).
-/

/-- `{% capture v %}F{% endcapture %}{{ v }}` -/
def captureSrc (v : Bytes) (F : List Item) (w1 w2 w3 : Ws) : List Item :=
  tg nmCapture v w1 :: (F ++ [tg nmEndcapture [] w2, ob v w3])

/-- **C12 (capture equivalence), from source bytes.** Let `F` be any self-contained template piece
    (`Compiles`: well nested on its own, …) and `v` a variable name (`hv`: the bytes `v` parse to the
    variable `v`). The source

    `{% capture v %}F{% endcapture %}{{ v }}`

    renders normally exactly when `F` — as a template of its own, starting at the line where it stands —
    renders normally, and then to exactly the same bytes. For every value layer `P`, every output layer
    that prints a string as its bytes (`hO`; the standard one does, `stdOut_str`), every configuration with
    good delimiters, file system, include fuel and environment. No side condition on trim markers: at the
    start of a render nothing is pending (`capture_equiv_root`). -/
theorem capture_source (P : Prims) (O : OutPrims) (cfg : Cfg) (fs : FS) (fuel : Nat) (line : Nat) (env : Env)
    (hO : ∀ b, O.chunks (.str b) = .ok [b]) (v : Bytes) (F : List Item) (w1 w2 w3 : Ws)
    (hg : GoodDelims (Delims.ofList cfg.delims))
    (hc : Clean (Delims.ofList cfg.delims) (captureSrc v F w1 w2 w3)) (hcF : Clean (Delims.ofList cfg.delims) F)
    (hv : parseExprSource v = .ok (.var v))
    (hF : Compiles (Delims.ofList cfg.delims) F (line + countNL ((tg nmCapture v w1).spell (Delims.ofList cfg.delims))))
    (out : Bytes) :
    run P O cfg fs fuel (spell (Delims.ofList cfg.delims) (captureSrc v F w1 w2 w3)) line env = .ok out ↔
    run P O cfg fs fuel (spell (Delims.ofList cfg.delims) F)
      (line + countNL ((tg nmCapture v w1).spell (Delims.ofList cfg.delims))) env = .ok out := by
  have hF := CompilesTo.of_compiles hF
  rw [run_of_compilesTo P O cfg fs fuel env hg hcF hF,
    run_of_compilesTo P O cfg fs fuel env hg hc (CompilesTo.capture hF ((CompilesTo.ob w3 hv).cons .nil)),
    runRoot_ok_iff, runRoot_ok_iff]
  exact capture_equiv_root_iff (mkCtx P O cfg fs fuel) (incQuiet_mkCtx P O cfg fs fuel) hO _ _ v _ env out

theorem capture_source_std (P : Prims) (cfg : Cfg) (fs : FS) (fuel : Nat) (line : Nat) (env : Env)
    (v : Bytes) (F : List Item) (w1 w2 w3 : Ws)
    (hg : GoodDelims (Delims.ofList cfg.delims))
    (hc : Clean (Delims.ofList cfg.delims) (captureSrc v F w1 w2 w3)) (hcF : Clean (Delims.ofList cfg.delims) F)
    (hv : parseExprSource v = .ok (.var v))
    (hF : Compiles (Delims.ofList cfg.delims) F (line + countNL ((tg nmCapture v w1).spell (Delims.ofList cfg.delims))))
    (out : Bytes) :
    run P stdOut cfg fs fuel (spell (Delims.ofList cfg.delims) (captureSrc v F w1 w2 w3)) line env = .ok out ↔
    run P stdOut cfg fs fuel (spell (Delims.ofList cfg.delims) F)
      (line + countNL ((tg nmCapture v w1).spell (Delims.ofList cfg.delims))) env = .ok out :=
  capture_source P stdOut cfg fs fuel line env stdOut_str v F w1 w2 w3 hg hc hcF hv hF out

/-- **C12 (assign binds for the rest of the render), from source bytes.** If the arguments of
    `{% assign … %}` parse to the assignment `x = ex` and `ex` evaluates (in the environment of the render)
    to `v`, then the source `{% assign … %}R` gives exactly the result of `R` — any self-contained item
    list, at any nesting depth inside it — run as a template of its own with `x` bound to `v`: same output
    or same located error. If `ex` fails to evaluate with cause `c`, the render fails with `c`, located at the
    line of the assign tag (the start line), and nothing is rendered. -/
theorem assign_source (P : Prims) (O : OutPrims) (cfg : Cfg) (fs : FS) (fuel : Nat) (line : Nat) (env : Env)
    (args x : Bytes) (ex : Expr) (R : List Item) (w : Ws)
    (hg : GoodDelims (Delims.ofList cfg.delims))
    (hc : Clean (Delims.ofList cfg.delims) (tg nmAssign args w :: R))
    (hR : Compiles (Delims.ofList cfg.delims) R (line + countNL ((tg nmAssign args w).spell (Delims.ofList cfg.delims))))
    (hp : parseStatement kwAssign args = .ok (.assign x ex)) :
    (∀ v, evaluate P env ex = .ok v →
      run P O cfg fs fuel (spell (Delims.ofList cfg.delims) (tg nmAssign args w :: R)) line env =
      run P O cfg fs fuel (spell (Delims.ofList cfg.delims) R)
        (line + countNL ((tg nmAssign args w).spell (Delims.ofList cfg.delims))) (env.set x v)) ∧
    (∀ c, evaluate P env ex = .err c →
      run P O cfg fs fuel (spell (Delims.ofList cfg.delims) (tg nmAssign args w :: R)) line env =
        .err ⟨line, true, c, .byCause⟩) := by
  have hR := CompilesTo.of_compiles hR
  rw [run_of_compilesTo P O cfg fs fuel env hg hc ((CompilesTo.assign w hp).cons hR)]
  exact ⟨fun v hv => by rw [run_of_compilesTo P O cfg fs fuel _ hg (Clean_tail hc rfl) hR]; exact runRoot_assign P O cfg fs fuel line x ex _ env v hv,
    fun c hv => runRoot_assign_err P O cfg fs fuel line x ex _ env c hv⟩

/-! ## Non-vacuity, on concrete bytes (default delimiters) -/

/-- `a {{- y }}{% if y %}b{% endif %}`: a body with a trim marker and a nested block -/
def c12F : List Item := [.text [97, 32], .obj [121] true false [32] [32], tg nmIf [121], .text [98], tg (endPrefix ++ nmIf) []]

example : spell Delims.default (captureSrc [118] c12F Ws.std Ws.std Ws.std) =
    [123, 37, 32, 99, 97, 112, 116, 117, 114, 101, 32, 118, 32, 37, 125,
     97, 32, 123, 123, 45, 32, 121, 32, 125, 125, 123, 37, 32, 105, 102, 32, 121, 32, 37, 125, 98, 123, 37, 32, 101, 110, 100, 105, 102, 32, 37, 125,
     123, 37, 32, 101, 110, 100, 99, 97, 112, 116, 117, 114, 101, 32, 37, 125, 123, 123, 32, 118, 32, 125, 125] := by decide +kernel

/-- `{% capture v %}a {{- y }}{% if y %}b{% endif %}{% endcapture %}{{ v }}` renders what the body renders,
    for every value layer and environment -/
example (P : Prims) (fs : FS) (env : Env) (out : Bytes) :
    run P stdOut {} fs 1 (spell Delims.default (captureSrc [118] c12F Ws.std Ws.std Ws.std)) 1 env = .ok out ↔
    run P stdOut {} fs 1 (spell Delims.default c12F) 1 env = .ok out :=
  capture_source_std P {} fs 1 1 env [118] c12F Ws.std Ws.std Ws.std (by decide +kernel) (by decide +kernel) (by decide +kernel) (by decide +kernel) (by decide +kernel) out

/-- `{% assign x = 1 %}{{ x }}⏎{% if x %}{{ x }}{% endif %}` is `{{ x }}⏎{% if x %}{{ x }}{% endif %}` run with `x` = 1 -/
def c12R : List Item := [ob [120], .text [10], tg nmIf [120], ob [120], tg (endPrefix ++ nmIf) []]

example (P : Prims) (O : OutPrims) (fs : FS) (env : Env) :
    run P O {} fs 1 (spell Delims.default (tg nmAssign [120, 32, 61, 32, 49] :: c12R)) 1 env =
    run P O {} fs 1 (spell Delims.default c12R) 1 (env.set [120] (.int .int 1)) :=
  (assign_source P O {} fs 1 1 env [120, 32, 61, 32, 49] [120] (.lit (.int .int 1)) c12R Ws.std (by decide +kernel) (by decide +kernel) (by decide +kernel)
    (by decide +kernel)).1 (.int .int 1) rfl
