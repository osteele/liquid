import Proofs.SrcLoop
/-!
# C11, from source bytes — `{% for i in (a..b) %}{{ i }}{% endfor %}` renders the numerals `a … b`

Lifts `for_denotation` (`Proofs/C11.lean`) through the tokenizer, the block parser, the compiler and the
expression parser to `run` on source text: the loop over a literal integer range, the body printing the loop
variable, with the modifiers `reversed`, `offset:`, `limit:` when their arguments are integer literals.
-/

/-- `{% for ARGS %}{{ i }}{% endfor %}` -/
def forPrintSrc (args ivar : Bytes) (w1 w2 w3 : Ws) : List Item := [tg nmFor args w1, ob ivar w2, tg nmEndfor [] w3]

/-- loop modifiers whose arguments are integer literals -/
def litMods (rev : Bool) (off lim : Option Int) : LoopMods :=
  { reversed := rev, offset := off.map (fun o => .lit (.int .int o)), limit := lim.map (fun o => .lit (.int .int o)) }

theorem intModifier_lit (P : Prims) (o : Option Int) (loc : Loc) (s : RS) :
    intModifier P (o.map (fun o => .lit (.int .int o))) loc s = .ret (o, s) := by
  cases o with
  | none => rfl
  | some o => simp [intModifier, bind, M.bind, M.getEnv, Prog.bind, evaluate, eval, GoVal.unwrap, M.ofRes, pure, M.pure]

/-- **C11 (a `for` over a literal range, with literal modifiers), from source bytes.** If the arguments of
    the `for` tag parse to the loop variable `i`, the range of the integer literals `a`, `b` and the modifiers
    `reversed` (or not), `offset: off`, `limit: lim` (integer literals, or absent), then the source

    `{% for ARGS %}{{ i }}{% endfor %}`

    renders the decimal numerals of `selectItems reversed off lim [a, a+1, …, b]` — reverse first, then skip
    `off`, then take `lim` (`select_spec`) — concatenated, with nothing in between: every iteration binds
    `i` to the item and the body prints it. For every value layer `P`, every output layer that prints
    a Go `int` as its `strconv.Itoa` text (`hO`; the standard one does, `stdOut_int`), every configuration
    with good delimiters, file system and environment.

    Side conditions: `i` is not the name `forloop` (the loop binds `forloop` after `i`); `b - a ≤ cfg.budget`
    — `cfg.budget` is a parameter of the EXECUTABLE model without a counterpart in the code (beyond it `loopItems`
    answers `unmodelled`), and it is arbitrary here: for every range there is a budget, and raising the budget never
    changes an answer (`range_loop_any_size`, `budget_monotone` in `Proofs/C11.lean`). -/
theorem for_range_source (P : Prims) (O : OutPrims) (cfg : Cfg) (fs : FS) (fuel : Nat) (line : Nat) (env : Env)
    (hO : ∀ n, O.chunks (.int .int n) = .ok [intDec n])
    (args ivar : Bytes) (a b : Int) (rev : Bool) (off lim : Option Int) (w1 w2 w3 : Ws)
    (hp : parseStatement kwLoop args = .ok (.loop ivar (.range (.lit (.int .int a)) (.lit (.int .int b))) (litMods rev off lim)))
    (hvar : parseExprSource ivar = .ok (.var ivar)) (hnf : ivar ≠ nmForloop) (hsmall : b - a ≤ cfg.budget)
    (hg : GoodDelims (Delims.ofList cfg.delims)) (hc : Clean (Delims.ofList cfg.delims) (forPrintSrc args ivar w1 w2 w3)) :
    run P O cfg fs fuel (spell (Delims.ofList cfg.delims) (forPrintSrc args ivar w1 w2 w3)) line env =
      .ok ((selectItems rev off lim (rangeItems a b)).map decOf).flatten := by
  rw [run_of_compilesTo P O cfg fs fuel env hg hc (CompilesTo.loop (F := [ob ivar w2]) hp (.ob w2 hvar))]
  refine runRoot_for_prints P O cfg fs fuel line ivar _ (litMods rev off lim) _ env (.range a b) (rangeItems a b) off lim decOf
    (by simp [evaluate, eval, GoVal.intOf, bind, Res.bind, GoVal.unwrap]) (loopItems_range _ a b hsmall)
    (intModifier_lit P off _ _) (intModifier_lit P lim _ _)
    (fun x hx n env' idx cyc => ⟨(iterStart ivar ⟨env', ⟨[], false⟩⟩ x idx n cyc).env, ?_⟩)
  -- the item is an integer `k`, the loop variable is bound to it, and `k` prints as its numeral
  obtain ⟨k, rfl⟩ := rangeItems_ints a b x (selectItems_mem _ _ _ _ x hx)
  have hev : evaluate P (iterStart ivar ⟨env', ⟨[], false⟩⟩ (.int .int k) idx n cyc).env (.var ivar) = .ok (.int .int k) := by
    simp only [evaluate, eval, iterStart_var ivar _ _ idx n cyc hnf]
    rfl
  exact (blockBody_obj_clear (mkCtx P O cfg fs fuel) _ (.var ivar) _ _ [intDec k] hev rfl (hO k)).trans (by simp [decOf])

theorem rangeItems_decs (a b : Int) (hab : a ≤ b) :
    (rangeItems a b).map decOf = (List.range (b - a + 1).toNat).map (fun k : Nat => intDec (a + k)) := by
  unfold rangeItems
  rw [if_neg (by omega), List.map_map]
  rfl

/-- **C11 (the numerals `a … b`), from source bytes.** For integers `a ≤ b` (in the `int64` range; `b - a ≤ cfg.budget`, for every budget `cfg.budget` of the executable model)
    and an identifier `i` other than `forloop`, the source

    `{% for i in (a..b) %}{{ i }}{% endfor %}`

    — `a`, `b` written in decimal (`intDec`, the text of `strconv.Itoa`), any white space inside the
    delimiters, any good delimiter set — renders exactly the decimal numerals of `a, a+1, …, b` concatenated.
    Unlike `for_range_source` this has no hypothesis about parsing: the arguments are parsed by the scanner and
    grammar model (`parse_rangeArgs`). -/
theorem for_range_numerals_source (P : Prims) (O : OutPrims) (cfg : Cfg) (fs : FS) (fuel : Nat) (line : Nat) (env : Env)
    (hO : ∀ n, O.chunks (.int .int n) = .ok [intDec n])
    (ivar : Bytes) (a b : Int) (w1 w2 w3 : Ws)
    (hiv : Lexeme .rIdent ivar) (hnf : ivar ≠ nmForloop)
    (ha : IntKind.i64.inRange a = true) (hb : IntKind.i64.inRange b = true) (hab : a ≤ b) (hsmall : b - a ≤ cfg.budget)
    (hg : GoodDelims (Delims.ofList cfg.delims))
    (hc : Clean (Delims.ofList cfg.delims) (forPrintSrc (rangeArgs ivar a b) ivar w1 w2 w3)) :
    run P O cfg fs fuel (spell (Delims.ofList cfg.delims) (forPrintSrc (rangeArgs ivar a b) ivar w1 w2 w3)) line env =
      .ok ((List.range (b - a + 1).toNat).map (fun k : Nat => intDec (a + k))).flatten := by
  rw [for_range_source P O cfg fs fuel line env hO (rangeArgs ivar a b) ivar a b false none none w1 w2 w3
    (parse_rangeArgs ivar a b hiv ha hb) (parseExprSource_ident ivar hiv) hnf hsmall hg hc, select_plain, rangeItems_decs a b hab]

theorem for_range_numerals_source_std (P : Prims) (cfg : Cfg) (fs : FS) (fuel : Nat) (line : Nat) (env : Env)
    (ivar : Bytes) (a b : Int) (w1 w2 w3 : Ws)
    (hiv : Lexeme .rIdent ivar) (hnf : ivar ≠ nmForloop)
    (ha : IntKind.i64.inRange a = true) (hb : IntKind.i64.inRange b = true) (hab : a ≤ b) (hsmall : b - a ≤ cfg.budget)
    (hg : GoodDelims (Delims.ofList cfg.delims))
    (hc : Clean (Delims.ofList cfg.delims) (forPrintSrc (rangeArgs ivar a b) ivar w1 w2 w3)) :
    run P stdOut cfg fs fuel (spell (Delims.ofList cfg.delims) (forPrintSrc (rangeArgs ivar a b) ivar w1 w2 w3)) line env =
      .ok ((List.range (b - a + 1).toNat).map (fun k : Nat => intDec (a + k))).flatten :=
  for_range_numerals_source P stdOut cfg fs fuel line env stdOut_int ivar a b w1 w2 w3 hiv hnf ha hb hab hsmall hg hc

/-- **C11 (range loop with `reversed`, `offset:`, `limit:`), from source bytes.** For integers
    `a`, `b` and optional integers `off`, `lim` (all in the `int64` range), the source

    `{% for i in (a..b) reversed offset: off limit: lim %}{{ i }}{% endfor %}`   (each modifier optional)

    renders the numerals of `selectItems rev off lim [a, …, b]`: reversed first, then the offset skipped, then
    at most `limit` items (`select_spec`). The arguments are parsed by the scanner and grammar model
    (`parse_rangeArgs_mods`): this is `for_range_source` without its hypothesis about parsing. -/
theorem for_range_mods_source (P : Prims) (O : OutPrims) (cfg : Cfg) (fs : FS) (fuel : Nat) (line : Nat) (env : Env)
    (hO : ∀ n, O.chunks (.int .int n) = .ok [intDec n])
    (ivar : Bytes) (a b : Int) (rev : Bool) (off lim : Option Int) (w1 w2 w3 : Ws)
    (hiv : Lexeme .rIdent ivar) (hnf : ivar ≠ nmForloop)
    (ha : IntKind.i64.inRange a = true) (hb : IntKind.i64.inRange b = true)
    (hoff : ∀ o, off = some o → IntKind.i64.inRange o = true) (hlim : ∀ l, lim = some l → IntKind.i64.inRange l = true)
    (hsmall : b - a ≤ cfg.budget)
    (hg : GoodDelims (Delims.ofList cfg.delims))
    (hc : Clean (Delims.ofList cfg.delims) (forPrintSrc (rangeArgs ivar a b ++ modsText rev off lim) ivar w1 w2 w3)) :
    run P O cfg fs fuel (spell (Delims.ofList cfg.delims) (forPrintSrc (rangeArgs ivar a b ++ modsText rev off lim) ivar w1 w2 w3))
      line env = .ok ((selectItems rev off lim (rangeItems a b)).map decOf).flatten :=
  for_range_source P O cfg fs fuel line env hO _ ivar a b rev off lim w1 w2 w3
    (parse_rangeArgs_mods ivar a b rev off lim hiv ha hb hoff hlim) (parseExprSource_ident ivar hiv) hnf hsmall hg hc

theorem lexeme_i : Lexeme .rIdent [105] := Lexeme.word 105 [] [] (by decide +kernel) (by decide +kernel) (Or.inl rfl)

example : spell Delims.default (forPrintSrc (rangeArgs [105] 8 11) [105] Ws.std Ws.std Ws.std) =
    [123, 37, 32, 102, 111, 114, 32, 105, 32, 105, 110, 32, 40, 56, 46, 46, 49, 49, 41, 32, 37, 125,
     123, 123, 32, 105, 32, 125, 125, 123, 37, 32, 101, 110, 100, 102, 111, 114, 32, 37, 125] := by decide +kernel

/-- `{% for i in (8..11) %}{{ i }}{% endfor %}` renders `891011`, in every value layer and environment -/
example (P : Prims) (fs : FS) (env : Env) :
    run P stdOut {} fs 1 [123, 37, 32, 102, 111, 114, 32, 105, 32, 105, 110, 32, 40, 56, 46, 46, 49, 49, 41, 32, 37, 125,
      123, 123, 32, 105, 32, 125, 125, 123, 37, 32, 101, 110, 100, 102, 111, 114, 32, 37, 125] 1 env =
      .ok [56, 57, 49, 48, 49, 49] :=
  for_range_numerals_source_std P {} fs 1 1 env [105] 8 11 Ws.std Ws.std Ws.std lexeme_i (by decide +kernel) (by decide +kernel) (by decide +kernel)
    (by decide +kernel) (by decide +kernel) (by decide +kernel) (by decide +kernel)

/-- `{% for i in (-1..1) %}{{ i }}{% endfor %}` renders `-101` -/
example (P : Prims) (fs : FS) (env : Env) :
    run P stdOut {} fs 1 (spell Delims.default (forPrintSrc (rangeArgs [105] (-1) 1) [105] Ws.std Ws.std Ws.std)) 1 env =
      .ok [45, 49, 48, 49] :=
  for_range_numerals_source_std P {} fs 1 1 env [105] (-1) 1 Ws.std Ws.std Ws.std lexeme_i (by decide +kernel) (by decide +kernel) (by decide +kernel)
    (by decide +kernel) (by decide +kernel) (by decide +kernel) (by decide +kernel)

/-- `{% for i in (1..5) reversed offset: 1 limit: 3 %}{{ i }}{% endfor %}` renders `432`: reversed first, then the
    offset, then the limit -/
example (P : Prims) (fs : FS) (env : Env) :
    run P stdOut {} fs 1 (spell Delims.default (forPrintSrc
      [105, 32, 105, 110, 32, 40, 49, 46, 46, 53, 41, 32, 114, 101, 118, 101, 114, 115, 101, 100, 32,
       111, 102, 102, 115, 101, 116, 58, 32, 49, 32, 108, 105, 109, 105, 116, 58, 32, 51] [105] Ws.std Ws.std Ws.std)) 1 env =
      .ok [52, 51, 50] :=
  for_range_source P stdOut {} fs 1 1 env stdOut_int _ [105] 1 5 true (some 1) (some 3) Ws.std Ws.std Ws.std (by decide +kernel) (by decide +kernel) (by decide +kernel)
    (by decide +kernel) (by decide +kernel) (by decide +kernel)

/-- the same source built by `rangeArgs` / `modsText`, through `for_range_mods_source` (no parsing hypothesis to discharge) -/
example (P : Prims) (fs : FS) (env : Env) :
    run P stdOut {} fs 1 (spell Delims.default (forPrintSrc (rangeArgs [105] 1 5 ++ modsText true (some 1) (some 3)) [105]
      Ws.std Ws.std Ws.std)) 1 env = .ok [52, 51, 50] :=
  for_range_mods_source P stdOut {} fs 1 1 env stdOut_int [105] 1 5 true (some 1) (some 3) Ws.std Ws.std Ws.std lexeme_i
    (by decide +kernel) (by decide +kernel) (by decide +kernel) (by intro o h; cases h; decide) (by intro o h; cases h; decide) (by decide +kernel)
    (by decide +kernel) (by decide +kernel)
example : rangeArgs [105] 1 5 ++ modsText true (some 1) (some 3) =
    [105, 32, 105, 110, 32, 40, 49, 46, 46, 53, 41, 32, 114, 101, 118, 101, 114, 115, 101, 100, 32,
     111, 102, 102, 115, 101, 116, 58, 32, 49, 32, 108, 105, 109, 105, 116, 58, 32, 51] := by decide +kernel

/-! ## The side condition `i ≠ forloop` is needed

`{% for forloop in (1..1) %}{{ forloop }}{% endfor %}`: the loop binds its variable and THEN `forloop` (the record with
`index`, `length`, …), so the body prints the record, not the numeral. With an output layer that prints integers
as their decimal text and nothing else, the output is empty instead of `1` (the standard layer prints the Go map). -/
def intOut : OutPrims := { chunks := fun v => match v with | .int _ n => .ok [intDec n] | _ => .ok [] }

example : ∀ n, intOut.chunks (.int .int n) = .ok [intDec n] := fun _ => rfl

/-- **C11 (counterexample without `i ≠ forloop`).** -/
theorem for_var_named_forloop (P : Prims) (fs : FS) (env : Env) :
    run P intOut {} fs 1 (spell Delims.default (forPrintSrc (rangeArgs nmForloop 1 1) nmForloop Ws.std Ws.std Ws.std)) 1 env = .ok [] := by
  have hl : Lexeme .rIdent nmForloop := Lexeme.word 102 [111, 114, 108, 111, 111, 112] [] (by decide) (by decide) (Or.inl rfl)
  rw [show Delims.default = Delims.ofList ({} : Cfg).delims from rfl,
    run_of_compilesTo (src := forPrintSrc (rangeArgs nmForloop 1 1) nmForloop Ws.std Ws.std Ws.std) P intOut {} fs 1 env
      (by decide +kernel) (by decide +kernel)
      (CompilesTo.loop (F := [ob nmForloop Ws.std]) (parse_rangeArgs nmForloop 1 1 hl (by decide) (by decide))
        (.ob Ws.std (parseExprSource_ident nmForloop hl)))]
  refine (runRoot_for_prints P intOut {} fs 1 1 nmForloop _ {} _ env (.range 1 1) (rangeItems 1 1) none none (fun _ => []) rfl rfl rfl rfl
    (fun x _ n env' idx cyc => ⟨(iterStart nmForloop ⟨env', ⟨[], false⟩⟩ x idx n cyc).env, ?_⟩)).trans (by decide)
  -- `forloop` is bound to the loop record after the item: the body prints the record, of which `intOut` prints nothing
  exact blockBody_obj_clear (mkCtx P intOut {} fs 1) _ (.var nmForloop) _ (forloopRec idx n cyc) []
    (congrArg Res.ok (iterStart_forloop nmForloop ⟨env', ⟨[], false⟩⟩ x idx n cyc).1) rfl rfl

/-- the budget is a parameter of the executable model, not of the code: beyond it the model gives no answer — under the
    driver's default the range `(0..100001)` has none, under any budget from 100001 on it has (`range_loop_any_size`) -/
example : loopItems ({} : Cfg).budget (.range 0 100001) = .unmodelled "huge range" := by rfl
example : ∃ xs, loopItems 100001 (.range 0 100001) = .ok xs := ⟨_, rfl⟩

/-- non-vacuity of `budget_monotone`: `{% for i in (8..11) %}{{ i }}{% endfor %}` renders `891011` under the budget 3 (the
    smallest that lets the range through), and therefore under every larger budget — in every value layer and environment -/
example (P : Prims) (fs : FS) (env : Env) (m : Int) (hm : 3 ≤ m) :
    run P stdOut { budget := m } fs 1 (spell Delims.default (forPrintSrc (rangeArgs [105] 8 11) [105] Ws.std Ws.std Ws.std)) 1 env =
      .ok [56, 57, 49, 48, 49, 49] := by
  have h0 : run P stdOut { budget := 3 } fs 1 (spell Delims.default (forPrintSrc (rangeArgs [105] 8 11) [105] Ws.std Ws.std Ws.std)) 1 env =
      .ok [56, 57, 49, 48, 49, 49] :=
    for_range_numerals_source_std P { budget := 3 } fs 1 1 env [105] 8 11 Ws.std Ws.std Ws.std lexeme_i (by decide +kernel) (by decide +kernel)
      (by decide +kernel) (by decide +kernel) (by decide +kernel) (by decide +kernel) (by decide +kernel)
  have h := budget_monotone P stdOut { budget := 3 } fs 1 _ 1 env m hm (by rw [h0]; intro w hw; cases hw)
  rw [h0] at h
  exact h
