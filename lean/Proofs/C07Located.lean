import Proofs.DecEq
import Proofs.Oracles
import Proofs.C07Source
/-!
# C07, from source bytes, for templates WITH include tags — the error is located at a token of the template or of an included file

`run_error_at_tag_or_object` (Proofs/C07Source.lean) is about sources without an `include` tag. Here every source:
an error of `run` is located at a tag or object token of the source itself — successful includes elsewhere in the
template do not shift lines —, or it is the error of an included file, and that is the error of `run` on the
file's source, parsed at the line of a tag token of the including source (`ctx.RenderFile` compiles the file with the
include tag's `SourceLoc`), with one include level less: the same theorem applies to it again.
-/

/-- **C07 (the error is located at a token of the template, or it is the error of an included file), from source
    bytes.** For every source — `include` tags allowed —, delimiter set, value layer, file system, include depth,
    start line and environment: whenever `run` returns an error `e`, compile-time or render-time, it names the
    configured path (`e.pathSet = true`) and there is a token `t` of the source that is a TAG or an OBJECT,
    `t.line = line + countNL (srcs pre)` (the start line plus the newlines of the source before `t`; the token
    sources partition the source), such that
    * `e.line = t.line`: the failing construct is `t`, in the template itself; or
    * the failing construct is inside the file included by `t`: `t` is a tag NAMED `include`, its argument text parses
      to an expression `ex` that evaluates — in some environment `env'` — to a string `rel`,
      the file system holds (on disk, else in the cache) a source `src'` for `dir(path)/rel`, and `run`, with one
      include level less, on `src'` parsed at start line `t.line` with `env'` returns an error `e'` that has the line
      and the path flag of `e`. (So the line is counted inside the file from the include tag's line: apply this
      theorem again, or `run_error_at_tag_or_object` when the file has no include tag — `run_error_located_in_file_token`.)
    `e` and `e'` are related by line and path flag only (they are the same error whenever `e'` has a line or a path:
    `include_located_err_passes`, Proofs/C14.lean). -/
theorem run_error_located_at_token (P : Prims) (O : OutPrims) (cfg : Cfg) (fs : FS) (fuel : Nat) (src : Bytes) (line : Nat)
    (env : Env) (e : SErr) (h : run P O cfg fs fuel src line env = .err e) :
    e.pathSet = true ∧
    ∃ pre t rest, scan cfg.delims src line = pre ++ t :: rest ∧ (t.ty = .tag ∨ t.ty = .obj) ∧
      t.line = line + countNL (srcs pre) ∧ src = srcs pre ++ (t.source ++ srcs rest) ∧
      (e.line = t.line ∨
       ∃ n ex rel src' env' e', t.ty = .tag ∧ t.name = nmInclude ∧ parseExprSource t.args = .ok ex ∧
         evaluate P env' ex = .ok (.str rel) ∧ fuel = n + 1 ∧ fileSource fs (joinPath (dirPath cfg.path) rel) = some src' ∧
         run P O cfg fs n src' t.line env' = .err e' ∧ e.line = e'.line ∧ e.pathSet = e'.pathSet) := by
  refine ⟨run_error_pathSet P O cfg fs fuel src line env e h, ?_⟩
  rcases run_err_cases h with hs | ⟨la, hla, env', ex, rel, n, src', e', hpe, hev, hn, hfs, hrun', hl, hp⟩
  · obtain ⟨pre, t, rest, h1, h2, h3, h4, h5⟩ := tagObjLine_split cfg.delims src line _ hs.1
    exact ⟨pre, t, rest, h1, h2, h4, h5, Or.inl h3.symm⟩
  · obtain ⟨pre, t, rest, g1, g2, g3, g4, g5, g6, g7⟩ := incTokLine_split cfg.delims src line la hla
    exact ⟨pre, t, rest, g1, Or.inl g2, g6, g7, Or.inr ⟨n, ex, rel, src', env', e', g2, g3, by rw [g5]; exact hpe, hev, hn, hfs,
      by rw [g4]; exact hrun', hl, hp⟩⟩

/-- **C07 (the chain of files), from source bytes, every nesting depth.** Whenever `run` returns an error `e`, its line
    is reached along a chain of included files (`ErrAt`, Proofs/C07LocatedLemmas.lean): it is the line of a tag or
    object token of the source — start line plus the newlines before the token —, or the source has a tag token `t`
    named `include` and the file system a file `dir(path)/rel` such that the same holds of the file's source parsed at
    start line `t.line`, and so on, through as many files as the failing construct is nested in (at most the include
    depth). -/
theorem run_error_chain (P : Prims) (O : OutPrims) (cfg : Cfg) (fs : FS) (fuel : Nat) :
    ∀ (src : Bytes) (line : Nat) (env : Env) (e : SErr), run P O cfg fs fuel src line env = .err e → ErrAt cfg fs src line e.line := by
  induction fuel using Nat.strongRecOn with
  | ind fuel ih =>
    intro src line env e h
    obtain ⟨_, pre, t, rest, h1, h2, h3, h4, h5⟩ := run_error_located_at_token P O cfg fs fuel src line env e h
    rcases h5 with h5 | ⟨n, ex, rel, src', env', e', hty, hnm, _, _, hn, hfs, hrun', hl, _⟩
    · rw [h5]; exact ErrAt.here src line pre t rest h1 h2 h3 h4
    · rw [hl]
      exact ErrAt.inFile src line pre t rest rel src' _ h1 hty hnm h3 h4 hfs (ih n (by omega) src' t.line env' e' hrun')

/-- **C07 (no line 0), from source bytes, include tags allowed.** For every source and every start line: the line
    of an error of `run` is at least the start line — so it is not 0 when the template was parsed with a start line
    of at least 1, also when the failing construct is inside an included file, at any depth
    (`run_error_line_ge_start` is the same for sources without an include tag). -/
theorem run_error_line_ge_start_incl (P : Prims) (O : OutPrims) (cfg : Cfg) (fs : FS) (fuel : Nat) (src : Bytes) (line : Nat)
    (env : Env) (e : SErr) (h : run P O cfg fs fuel src line env = .err e) : line ≤ e.line :=
  (run_error_chain P O cfg fs fuel src line env e h).ge

/-- **C07 (the token inside the included file), one level.** On a file system none of whose files contains an
    `include` tag (a decidable condition on the file's tokens, independent of the start line: `noIncludeTag_any_line`;
    includes are nested at most one deep): whenever `run` returns an error `e` there is a tag or object token `t` of
    the source, `t.line = line + countNL (srcs pre)`, such that `e.line = t.line`, or `t` is a tag named `include`
    and there are a file `dir(path)/rel` with source `src'` and a tag or object token `t'` of `src'` scanned from
    start line `t.line` such that `e.line = t.line + countNL (srcs pre')`: the include tag's line plus the newlines
    of the FILE before the failing token (the token sources partition the file). -/
theorem run_error_located_in_file_token (P : Prims) (O : OutPrims) (cfg : Cfg) (fs : FS) (fuel : Nat) (src : Bytes) (line : Nat)
    (env : Env) (e : SErr)
    (hfiles : ∀ f src', fileSource fs f = some src' → NoIncludeTag (scan cfg.delims src' 0))
    (h : run P O cfg fs fuel src line env = .err e) :
    e.pathSet = true ∧
    ∃ pre t rest, scan cfg.delims src line = pre ++ t :: rest ∧ (t.ty = .tag ∨ t.ty = .obj) ∧
      t.line = line + countNL (srcs pre) ∧ src = srcs pre ++ (t.source ++ srcs rest) ∧
      (e.line = t.line ∨
       ∃ rel src' pre' t' rest', t.ty = .tag ∧ t.name = nmInclude ∧ fileSource fs (joinPath (dirPath cfg.path) rel) = some src' ∧
         scan cfg.delims src' t.line = pre' ++ t' :: rest' ∧
         (t'.ty = .tag ∨ t'.ty = .obj) ∧ e.line = t.line + countNL (srcs pre') ∧
         src' = srcs pre' ++ (t'.source ++ srcs rest')) := by
  obtain ⟨hp, pre, t, rest, h1, h2, h3, h4, h5⟩ := run_error_located_at_token P O cfg fs fuel src line env e h
  refine ⟨hp, pre, t, rest, h1, h2, h3, h4, ?_⟩
  rcases h5 with h5 | ⟨n, ex, rel, src', env', e', hty, hnm, _, _, _, hfs, hrun', hl, _⟩
  · exact Or.inl h5
  · obtain ⟨pre', t', rest', g1, g2, g3, g4, g5, _⟩ :=
      run_error_at_tag_or_object P O cfg fs n src' t.line env' e' (noIncludeTag_any_line cfg.delims src' (hfiles _ src' hfs) t.line) hrun'
    exact Or.inr ⟨rel, src', pre', t', rest', hty, hnm, hfs, g1, g2, by rw [hl, g3, g4], g5⟩

/-! ## Concrete instances

(1) `a⏎{% include "f" %}⏎{{ y }}` with strict variables, `y` unbound, the file `f` = `A⏎B⏎`: the include succeeds and
inserts two lines; the object fails at line 3 = start line 1 + the two newlines of the SOURCE before it — the lines of
the included text do not count. (2) `include_error_line` (Proofs/C07Source.lean): `{% include "f" %}` with `f` =
`⏎⏎{{ y }}`: the error has line 3 = the tag's line 1 + the two newlines of the FILE before the object. -/
def c07IncOkFs : FS := ⟨fun p => if p = [102] then .content [65, 10, 66, 10] else .notExist, fun _ => none⟩

def c07IncOkSrc : Bytes := [97, 10, 123, 37, 32, 105, 110, 99, 108, 117, 100, 101, 32, 34, 102, 34, 32, 37, 125, 10, 123, 123, 32, 121, 32, 125, 125]

theorem c07IncOk_run (P : Prims) (O : OutPrims) :
    run P O strictCfg c07IncOkFs 1 c07IncOkSrc 1 [] = .err ⟨3, true, .other "undefinedVariable", .byCause⟩ :=
  run_of_bot P O _ _ _ _ _ _ (by rw [run_eq_S]; decide +kernel) rfl

/-- (1) the error is at a token of the source: the theorem's witness has `t.line = 1 + countNL (srcs pre)` -/
example (P : Prims) (O : OutPrims) :
    true = true ∧
    ∃ pre t rest, scan strictCfg.delims c07IncOkSrc 1 = pre ++ t :: rest ∧ (t.ty = .tag ∨ t.ty = .obj) ∧
      t.line = 1 + countNL (srcs pre) ∧ c07IncOkSrc = srcs pre ++ (t.source ++ srcs rest) ∧
      ((3 : Nat) = t.line ∨
       ∃ n ex rel src' env' e', t.ty = .tag ∧ t.name = nmInclude ∧ parseExprSource t.args = .ok ex ∧
         evaluate P env' ex = .ok (.str rel) ∧ 1 = n + 1 ∧ fileSource c07IncOkFs (joinPath (dirPath strictCfg.path) rel) = some src' ∧
         run P O strictCfg c07IncOkFs n src' t.line env' = .err e' ∧ (3 : Nat) = e'.line ∧ true = e'.pathSet) :=
  run_error_located_at_token P O strictCfg c07IncOkFs 1 c07IncOkSrc 1 [] _ (c07IncOk_run P O)

/-- (1) every file of `c07IncOkFs` is include-free: the one-level form applies -/
example (P : Prims) (O : OutPrims) :
    true = true ∧
    ∃ pre t rest, scan strictCfg.delims c07IncOkSrc 1 = pre ++ t :: rest ∧ (t.ty = .tag ∨ t.ty = .obj) ∧
      t.line = 1 + countNL (srcs pre) ∧ c07IncOkSrc = srcs pre ++ (t.source ++ srcs rest) ∧
      ((3 : Nat) = t.line ∨
       ∃ rel src' pre' t' rest', t.ty = .tag ∧ t.name = nmInclude ∧ fileSource c07IncOkFs (joinPath (dirPath strictCfg.path) rel) = some src' ∧
         scan strictCfg.delims src' t.line = pre' ++ t' :: rest' ∧
         (t'.ty = .tag ∨ t'.ty = .obj) ∧ (3 : Nat) = t.line + countNL (srcs pre') ∧
         src' = srcs pre' ++ (t'.source ++ srcs rest')) :=
  run_error_located_in_file_token P O strictCfg c07IncOkFs 1 c07IncOkSrc 1 [] _
    (by
      intro f src' hf
      have : src' = [65, 10, 66, 10] := by
        unfold fileSource c07IncOkFs at hf
        simp only at hf
        split at hf
        · next h => split at h <;> simp_all
        · next h => split at h <;> simp_all
        · cases hf
      subst this
      decide)
    (c07IncOk_run P O)

/-- (2) the failing construct is in the included file: `run_error_chain` and the lower bound on `include_error_line` -/
example (P : Prims) (O : OutPrims) : ErrAt strictCfg c07IncFs (spell Delims.default [tg nmInclude [34, 102, 34]]) 1 3 :=
  run_error_chain P O strictCfg c07IncFs 1 _ 1 [] _ (include_error_line P O).1

example (P : Prims) (O : OutPrims) : 1 ≤ (3 : Nat) :=
  run_error_line_ge_start_incl P O strictCfg c07IncFs 1 _ 1 [] ⟨3, true, .other "undefinedVariable", .byCause⟩ (include_error_line P O).1

/-- (2) on `include_error_line` the theorem's second alternative holds: no token of the source stands at line 3, so the
    error is that of `run` (no include level left below) on the source of the file named by the include tag -/
example (P : Prims) (O : OutPrims) :
    ∃ t rel src' env' e', t ∈ scan strictCfg.delims (spell Delims.default [tg nmInclude [34, 102, 34]]) 1 ∧ t.name = nmInclude ∧
      fileSource c07IncFs (joinPath (dirPath strictCfg.path) rel) = some src' ∧
      run P O strictCfg c07IncFs 0 src' t.line env' = .err e' ∧ e'.line = 3 := by
  obtain ⟨_, pre, t, rest, h1, _, _, _, h5⟩ :=
    run_error_located_at_token P O strictCfg c07IncFs 1 _ 1 [] _ (include_error_line P O).1
  have hm : t ∈ scan strictCfg.delims (spell Delims.default [tg nmInclude [34, 102, 34]]) 1 := by rw [h1]; simp
  rcases h5 with h5 | ⟨n, ex, rel, src', env', e', _, hnm, _, _, hn, hfs, hrun, hl, _⟩
  · exact absurd h5.symm ((include_error_line P O).2 t hm)
  · have : n = 0 := by omega
    subst this
    exact ⟨t, rel, src', env', e', hm, hnm, hfs, hrun, hl.symm⟩
