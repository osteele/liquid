import Liquid.TrimGeneric
/-!
# Lemmas about the generic trim-writer machine (`Liquid/TrimGeneric.lean`)

Everything is stated on `outFrom t ops`, what reaches the writer from state `t`: one equation per
operation (`outFrom_write` … `outFrom_flush`), the commit lemma `outFrom_commit` (buffered text no `TrimLeft`
can reach counts as written), the invariant `outFrom_wsDeletion` (erasure law) and the two-operation rewrites
`outFrom_write_trimLeft` / `outFrom_trimRight_write` (adjacency laws).
-/

namespace Gen

variable {α : Type} (sp : α → Bool)

theorem WsDeletion.refl : ∀ a : List α, WsDeletion sp a a
  | [] => .nil
  | c :: a => .keep c (WsDeletion.refl a)

theorem WsDeletion.trans {a b c : List α} (h1 : WsDeletion sp a b) (h2 : WsDeletion sp b c) :
    WsDeletion sp a c := by
  induction h1 generalizing c with
  | nil => exact h2
  | keep x _ ih =>
    cases h2 with
    | keep _ h => exact .keep x (ih h)
    | drop _ hx h => exact .drop x hx (ih h)
  | drop x hx _ ih => exact .drop x hx (ih h2)

theorem WsDeletion.append {a b c d : List α} (h1 : WsDeletion sp a b) (h2 : WsDeletion sp c d) :
    WsDeletion sp (a ++ c) (b ++ d) := by
  induction h1 with
  | nil => exact h2
  | keep x _ ih => exact .keep x ih
  | drop x hx _ ih => exact .drop x hx ih

theorem WsDeletion.stripWS_eq {a b : List α} (h : WsDeletion sp a b) : stripWS sp a = stripWS sp b := by
  induction h with
  | nil => rfl
  | keep x _ ih => simp only [stripWS, List.filter_cons] at *; rw [ih]
  | drop x hx _ ih => simp only [stripWS, List.filter_cons, hx] at *; simpa using ih

theorem WsDeletion.sublist {a b : List α} (h : WsDeletion sp a b) : b.Sublist a := by
  induction h with
  | nil => exact .slnil
  | keep x _ ih => exact .cons_cons x ih
  | drop x _ _ ih => exact .cons x ih

theorem WsDeletion.length_le {a b : List α} (h : WsDeletion sp a b) : b.length ≤ a.length :=
  (h.sublist sp).length_le

theorem wsDeletion_lstrip (b : List α) : WsDeletion sp b (lstrip sp b) := by
  unfold lstrip
  induction b with
  | nil => exact .nil
  | cons x xs ih =>
    cases hx : sp x
    · rw [List.dropWhile_cons_of_neg (by simp [hx])]; exact WsDeletion.refl sp _
    · rw [List.dropWhile_cons_of_pos hx]; exact .drop x hx ih

theorem WsDeletion.reverse {a b : List α} (h : WsDeletion sp a b) : WsDeletion sp a.reverse b.reverse := by
  induction h with
  | nil => exact .nil
  | keep x _ ih =>
    rw [List.reverse_cons, List.reverse_cons]
    exact ih.append sp (WsDeletion.refl sp [x])
  | drop x hx _ ih =>
    rw [List.reverse_cons]
    have : WsDeletion sp [x] [] := .drop x hx .nil
    simpa using ih.append sp this

theorem wsDeletion_rstrip (b : List α) : WsDeletion sp b (rstrip sp b) := by
  have := (wsDeletion_lstrip sp b.reverse).reverse sp
  simpa [rstrip, lstrip] using this

theorem stripWS_append (a b : List α) : stripWS sp (a ++ b) = stripWS sp a ++ stripWS sp b := by
  simp [stripWS]

theorem stripWS_lstrip (b : List α) : stripWS sp (lstrip sp b) = stripWS sp b :=
  ((wsDeletion_lstrip sp b).stripWS_eq sp).symm

theorem stripWS_rstrip (b : List α) : stripWS sp (rstrip sp b) = stripWS sp b :=
  ((wsDeletion_rstrip sp b).stripWS_eq sp).symm

theorem dropWhile_append_of_stable (x y : List α) (h : y.dropWhile sp = y ∨ (x.any fun c => !sp c) = true) :
    (x ++ y).dropWhile sp = x.dropWhile sp ++ y := by
  induction x with
  | nil =>
    rcases h with h | h
    · simpa using h
    · simp at h
  | cons a x ih =>
    cases ha : sp a
    · simp [ha]
    · simp only [List.cons_append, List.dropWhile_cons, ha, if_true]
      apply ih
      rcases h with h | h
      · exact .inl h
      · right; simpa [ha] using h

theorem rstrip_append (c b : List α) (h : rstrip sp c = c ∨ hasInk sp b = true) :
    rstrip sp (c ++ b) = c ++ rstrip sp b := by
  unfold rstrip
  rw [List.reverse_append, dropWhile_append_of_stable, List.reverse_append, List.reverse_reverse]
  rcases h with h | h
  · left
    have := congrArg List.reverse h
    simpa [rstrip] using this
  · right; simpa [hasInk] using h

theorem lstrip_idem (b : List α) : lstrip sp (lstrip sp b) = lstrip sp b := by
  unfold lstrip
  induction b with
  | nil => rfl
  | cons x xs ih =>
    cases hx : sp x
    · simp [hx]
    · simpa [List.dropWhile_cons, hx] using ih

theorem rstrip_idem (b : List α) : rstrip sp (rstrip sp b) = rstrip sp b := by
  unfold rstrip
  rw [List.reverse_reverse]
  exact congrArg List.reverse (lstrip_idem sp b.reverse)

theorem rstrip_nil : rstrip sp ([] : List α) = [] := rfl
theorem lstrip_nil : lstrip sp ([] : List α) = [] := rfl

theorem hasInk_append (a b : List α) : hasInk sp (a ++ b) = (hasInk sp a || hasInk sp b) := by
  simp [hasInk]

theorem hasInk_eq_false_iff (b : List α) : hasInk sp b = false ↔ ∀ c ∈ b, sp c = true := by
  simp [hasInk]

theorem hasInk_lstrip (b : List α) : hasInk sp (lstrip sp b) = hasInk sp b := by
  unfold lstrip
  induction b with
  | nil => rfl
  | cons x xs ih =>
    cases hx : sp x
    · simp [hx]
    · simpa [List.dropWhile_cons, hx, hasInk] using ih

theorem hasInk_reverse (b : List α) : hasInk sp b.reverse = hasInk sp b := by
  simp [hasInk]

theorem hasInk_rstrip (b : List α) : hasInk sp (rstrip sp b) = hasInk sp b := by
  unfold rstrip
  rw [hasInk_reverse]
  have := hasInk_lstrip sp b.reverse
  rw [hasInk_reverse] at this
  exact this

theorem lstrip_of_no_ink (b : List α) (h : hasInk sp b = false) : lstrip sp b = [] := by
  have := List.dropWhile_append_of_pos (l₂ := []) ((hasInk_eq_false_iff sp b).1 h)
  rwa [List.append_nil] at this

theorem rstrip_of_no_ink (b : List α) (h : hasInk sp b = false) : rstrip sp b = [] := by
  unfold rstrip
  have := lstrip_of_no_ink sp b.reverse (by rw [hasInk_reverse]; exact h)
  unfold lstrip at this
  rw [this]; rfl

theorem lstrip_head_ink (b : List α) (h : hasInk sp b = true) :
    ∃ x t, lstrip sp b = x :: t ∧ sp x = false := by
  unfold lstrip
  induction b with
  | nil => simp [hasInk] at h
  | cons x xs ih =>
    cases hx : sp x
    · exact ⟨x, xs, by simp [hx], hx⟩
    · rw [List.dropWhile_cons_of_pos hx]
      apply ih
      simpa [hasInk, hx] using h

theorem rstrip_cons (x : α) (xs : List α) (h : sp x = false ∨ hasInk sp xs = true) :
    rstrip sp (x :: xs) = x :: rstrip sp xs :=
  rstrip_append sp [x] xs (h.imp_left fun hx => by simp [rstrip, hx])

theorem lstrip_rstrip_comm (b : List α) : lstrip sp (rstrip sp b) = rstrip sp (lstrip sp b) := by
  induction b with
  | nil => rfl
  | cons x xs ih =>
    cases hx : sp x
    · rw [rstrip_cons sp x xs (.inl hx)]
      simp [lstrip, hx, rstrip_cons sp x xs (.inl hx)]
    · cases h : hasInk sp xs
      · have hb : hasInk sp (x :: xs) = false := by simp [hasInk, hx] at h ⊢; exact h
        rw [rstrip_of_no_ink sp _ hb, lstrip_of_no_ink sp _ hb]
        rfl
      · rw [rstrip_cons sp x xs (.inr h)]
        simpa [lstrip, hx] using ih

theorem rstrip_stable_append_rstrip (c b : List α) (hb : hasInk sp b = true) :
    rstrip sp (c ++ rstrip sp b) = c ++ rstrip sp b := by
  rw [rstrip_append sp c _ (.inr (by rw [hasInk_rstrip]; exact hb)), rstrip_idem]

theorem run_append (t : GTW α) (xs ys : List (GOp α)) :
    GTW.run sp t (xs ++ ys) =
      ((GTW.run sp (GTW.run sp t xs).1 ys).1, (GTW.run sp t xs).2 ++ (GTW.run sp (GTW.run sp t xs).1 ys).2) := by
  induction xs generalizing t with
  | nil => simp [GTW.run]
  | cons op xs ih =>
    simp only [List.cons_append, GTW.run]
    rw [ih]
    simp [List.append_assoc]

theorem outFrom_nil (t : GTW α) : GTW.outFrom sp t [] = t.buf := by
  cases t with | mk buf trim =>
  cases buf <;> simp [GTW.outFrom, GTW.run, GTW.step]

theorem outFrom_cons (t : GTW α) (op : GOp α) (ops : List (GOp α)) :
    GTW.outFrom sp t (op :: ops) = (t.step sp op).2.flatten ++ GTW.outFrom sp (t.step sp op).1 ops := by
  simp [GTW.outFrom, GTW.run]

theorem outFrom_append (t : GTW α) (xs ys : List (GOp α)) :
    GTW.outFrom sp t (xs ++ ys) = (GTW.run sp t xs).2.flatten ++ GTW.outFrom sp (GTW.run sp t xs).1 ys := by
  simp only [GTW.outFrom, List.append_assoc]
  rw [run_append]
  simp

theorem flatten_flushCalls (b : List α) : (if b.isEmpty then [] else [b] : List (List α)).flatten = b := by
  cases b <;> simp

theorem outFrom_write (t : GTW α) (b : List α) (ops : List (GOp α)) :
    GTW.outFrom sp t (.write b :: ops) =
      t.buf ++ GTW.outFrom sp { buf := if t.trim then lstrip sp b else b, trim := false } ops := by
  rw [outFrom_cons]
  simp only [GTW.step, flatten_flushCalls]

theorem outFrom_trimLeft (t : GTW α) (ops : List (GOp α)) :
    GTW.outFrom sp t (.trimLeft :: ops) = rstrip sp t.buf ++ GTW.outFrom sp { t with buf := [] } ops := by
  rw [outFrom_cons]; simp [GTW.step]

theorem outFrom_trimRight (t : GTW α) (ops : List (GOp α)) :
    GTW.outFrom sp t (.trimRight :: ops) = GTW.outFrom sp { t with trim := true } ops := by
  rw [outFrom_cons]; simp [GTW.step]

theorem outFrom_flush (t : GTW α) (ops : List (GOp α)) :
    GTW.outFrom sp t (.flush :: ops) = t.buf ++ GTW.outFrom sp { t with buf := [] } ops := by
  rw [outFrom_cons]; simp [GTW.step]
  split <;> simp_all

/-- **commit lemma**: a part `c` of the buffer that no later `TrimLeft` can reach (because `c` ends
    with ink, or because ink follows it in the buffer) may as well have been written already -/
theorem outFrom_commit (ops : List (GOp α)) : ∀ (c b : List α) (f : Bool),
    (rstrip sp c = c ∨ hasInk sp b = true) →
    GTW.outFrom sp { buf := c ++ b, trim := f } ops = c ++ GTW.outFrom sp { buf := b, trim := f } ops := by
  induction ops with
  | nil => intro c b f _; simp [outFrom_nil]
  | cons op ops ih =>
    intro c b f h
    cases op with
    | write u =>
      rw [outFrom_write, outFrom_write]
      simp only [List.append_assoc]
    | trimLeft =>
      rw [outFrom_trimLeft, outFrom_trimLeft]
      simp only
      rw [rstrip_append sp c b h, List.append_assoc]
    | trimRight =>
      rw [outFrom_trimRight, outFrom_trimRight]
      exact ih c b true h
    | flush =>
      rw [outFrom_flush, outFrom_flush]
      simp

theorem writes_append (xs ys : List (GOp α)) : writes (xs ++ ys) = writes xs ++ writes ys := by
  induction xs with
  | nil => rfl
  | cons op xs ih => cases op <;> simp [writes, ih]

theorem mem_writes {ops : List (GOp α)} {x : α} : x ∈ writes ops ↔ ∃ b, GOp.write b ∈ ops ∧ x ∈ b := by
  induction ops with
  | nil => simp [writes]
  | cons op ops ih =>
    cases op with
    | write b =>
      simp only [writes, List.mem_append, ih, List.mem_cons, GOp.write.injEq, or_and_right, exists_or, exists_eq_left]
    | _ => simp only [writes, ih, List.mem_cons, reduceCtorEq, false_or]

theorem writes_eraseTrims (ops : List (GOp α)) : writes (eraseTrims ops) = writes ops := by
  unfold eraseTrims
  induction ops with
  | nil => rfl
  | cons op ops ih => cases op <;> simp [writes, ih]

theorem outFrom_eraseTrims (ops : List (GOp α)) : ∀ (buf : List α),
    GTW.outFrom sp { buf := buf, trim := false } (eraseTrims ops) = buf ++ writes ops := by
  unfold eraseTrims
  induction ops with
  | nil => intro buf; simp [outFrom_nil, writes]
  | cons op ops ih =>
    intro buf
    cases op <;> simp [outFrom_write, outFrom_flush, ih, writes]

/-- the simulation invariant: whatever is buffered is a whitespace-deletion of `pre`; then the
    whole output is a whitespace-deletion of `pre ++ writes ops` -/
theorem outFrom_wsDeletion (ops : List (GOp α)) : ∀ (t : GTW α) (pre : List α),
    WsDeletion sp pre t.buf → WsDeletion sp (pre ++ writes ops) (GTW.outFrom sp t ops) := by
  induction ops with
  | nil => intro t pre h; simpa [outFrom_nil, writes] using h
  | cons op ops ih =>
    intro t pre h
    cases op with
    | write u =>
      rw [outFrom_write]
      refine h.append sp (ih _ u ?_)
      cases t.trim
      · exact WsDeletion.refl sp u
      · exact wsDeletion_lstrip sp u
    | trimLeft =>
      rw [outFrom_trimLeft]
      exact (h.trans sp (wsDeletion_rstrip sp t.buf)).append sp (ih { t with buf := [] } [] .nil)
    | trimRight =>
      rw [outFrom_trimRight]
      exact ih { t with trim := true } pre h
    | flush =>
      rw [outFrom_flush]
      exact h.append sp (ih { t with buf := [] } [] .nil)

theorem out_wsDeletion (ops : List (GOp α)) : WsDeletion sp (writes ops) (out sp ops) := by
  have := outFrom_wsDeletion sp ops {} [] .nil
  simpa [out] using this

theorem out_append (xs ys : List (GOp α)) :
    out sp (xs ++ ys) = (GTW.run sp {} xs).2.flatten ++ GTW.outFrom sp (GTW.run sp {} xs).1 ys :=
  outFrom_append sp {} xs ys

/-- a `TrimLeft` directly after a write acts as the write of the right-stripped text — in EVERY
    state, for EVERY text (the previous buffer was flushed by the write, so the `TrimLeft` sees
    this text only) -/
theorem outFrom_write_trimLeft (t : GTW α) (u : List α) (post : List (GOp α)) :
    GTW.outFrom sp t (.write u :: .trimLeft :: post) = GTW.outFrom sp t (.write (rstrip sp u) :: post) := by
  rw [outFrom_write, outFrom_write, outFrom_trimLeft]
  congr 1
  have key : ∀ v : List α, rstrip sp v ++ GTW.outFrom sp { buf := [], trim := false } post =
      GTW.outFrom sp { buf := rstrip sp v, trim := false } post := by
    intro v
    have := outFrom_commit sp post (rstrip sp v) [] false (.inl (rstrip_idem sp v))
    rw [List.append_nil] at this
    exact this.symm
  cases t.trim
  · exact key u
  · simp only [if_true]
    rw [lstrip_rstrip_comm]
    exact key (lstrip sp u)

/-- a `TrimRight` directly before a write acts as the write of the left-stripped text — in EVERY
    state, for EVERY text (a write always consumes the flag) -/
theorem outFrom_trimRight_write (t : GTW α) (u : List α) (post : List (GOp α)) :
    GTW.outFrom sp t (.trimRight :: .write u :: post) = GTW.outFrom sp t (.write (lstrip sp u) :: post) := by
  rw [outFrom_trimRight, outFrom_write, outFrom_write]
  cases t.trim <;> simp [lstrip_idem]

theorem outFrom_write_barrier (t : GTW α) (u : List α) (rest : List (GOp α)) :
    GTW.outFrom sp t (.write u :: rest) =
      t.buf ++ GTW.outFrom sp { buf := [], trim := t.trim } (.write u :: rest) := by
  rw [outFrom_write, outFrom_write]; rfl

theorem outFrom_trimRight_write_barrier (t : GTW α) (u : List α) (rest : List (GOp α)) :
    GTW.outFrom sp t (.trimRight :: .write u :: rest) =
      t.buf ++ GTW.outFrom sp { buf := [], trim := t.trim } (.trimRight :: .write u :: rest) := by
  rw [outFrom_trimRight, outFrom_trimRight, outFrom_write, outFrom_write]; rfl

end Gen
