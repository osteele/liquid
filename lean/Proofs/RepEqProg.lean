import Proofs.RepEqOps
import Proofs.ProgSim
/-!
# Two renders in lock step (helper definitions and lemmas for C18)

`PRel R p p'`: the interaction trees `p` and `p'` make the same write calls, fail, panic or leave
the model in the same way, and return `R`-related results whatever the writer answers.
`MRel t d R m m'` lifts this to the render monad: from related states (`SRel`: related variables, the
same trim-writer state) to related results and related states. It is the form in which `rel_renderNode` …
(Proofs/RepEqRender.lean) are stated. `PRel t R` is `PSim (.both t) Eq R` of Proofs/ProgSim.lean (`PRel.sim`, `PSim.toPRel` below), `RRel t R`
on results of the value layer is `RSim (.both t) R` (`RRel.sim`, `RSim.rrel`), and the proofs go through `PSim`, `RSim` and `MSim`
(Proofs/RenderSim.lean). `RRel` is also the result relation of the filter layer for every relation (Proofs/FilterLogic.lean).
-/

/-- `t`: tolerate `unmodelled` — a run that leaves the model is related to every run (the model
    makes no claim about it); with `t = false` both runs must leave the model at the same point -/
inductive PRel (t : Bool) {α : Type} (R : α → α → Prop) : Prog α → Prog α → Prop where
  | ret {a a' : α} : R a a' → PRel t R (.ret a) (.ret a')
  | fail (e : RawErr) : PRel t R (.fail e) (.fail e)
  | panic (w : String) : PRel t R (.panic w) (.panic w)
  | unmodelled (w : String) : PRel t R (.unmodelled w) (.unmodelled w)
  | call (b : Bytes) {k k' : WriteRes → Prog α} : (∀ r, PRel t R (k r) (k' r)) → PRel t R (.call b k) (.call b k')
  | unmL (ht : t = true) (w : String) (p' : Prog α) : PRel t R (.unmodelled w) p'
  | unmR (ht : t = true) (p : Prog α) (w : String) : PRel t R p (.unmodelled w)

variable {t : Bool}

theorem PRel.sim {α} {R : α → α → Prop} {p q : Prog α} (h : PRel t R p q) : PSim (.both t) Eq R p q := by
  induction h with
  | ret hr => exact .ret hr
  | fail e => exact .fail rfl
  | panic w => exact .panic w
  | unmodelled w => exact .unmodelled w
  | call b _ ih => exact .call b (fun r => ih r)
  | unmL ht w p' => exact .unmL ht w _
  | unmR ht p w => exact .unmR ht _ w

theorem PSim.toPRel {α} {R : α → α → Prop} {p q : Prog α} (h : PSim (.both t) Eq R p q) : PRel t R p q := by
  induction h with
  | ret hr => exact .ret hr
  | fail he => subst he; exact .fail _
  | panic w => exact .panic w
  | unmodelled w => exact .unmodelled w
  | call b _ ih => exact .call b (fun r => ih r)
  | unmL ht w p' => exact .unmL ht w _
  | unmR ht p w => exact .unmR ht _ w
  | failL he => exact he.elim

/-- results of the value layer: two answers related by `R`, the same error, the same panic; `t` as for `PRel` (with `t`
    an `unmodelled` result is related to every result, without it only to the same `unmodelled`) -/
def RRel (t : Bool) {α} (R : α → α → Prop) : Res Cause α → Res Cause α → Prop
  | .ok a, .ok a' => R a a'
  | .err e, .err e' => e = e'
  | .panic w, .panic w' => w = w'
  | .unmodelled w, .unmodelled w' => t = true ∨ w = w'
  | .unmodelled _, _ => t = true
  | _, .unmodelled _ => t = true
  | _, _ => False

theorem RRel.sim {α} {R : α → α → Prop} {r r' : Res Cause α} (h : RRel t R r r') : RSim (.both t) R r r' := by
  cases r <;> cases r' <;> simp only [RRel] at h <;> first
    | exact .ret h
    | (subst h; first | exact .fail rfl | exact .panic _)
    | exact .unmL h _ _
    | exact .unmR h _ _
    | exact h.elim (.unmL · _ _) (· ▸ .unmodelled _)

theorem RSim.ok {T : Tol} {α} {R : α → α → Prop} {a a' : α} (h : R a a') : RSim T R (.ok a) (.ok a') := PSim.ret h

theorem RSim.rrel {α} {R : α → α → Prop} {r r' : Res Cause α} (h : RSim (.both t) R r r') : RRel t R r r' := by
  unfold RSim at h
  generalize hp : r.prog = p at h
  generalize hq : r'.prog = q at h
  cases h with
  | ret hr => cases r <;> cases hp; cases r' <;> cases hq; exact hr
  | fail he => cases r <;> cases hp; cases r' <;> cases hq; cases he; rfl
  | panic w => cases r <;> cases hp; cases r' <;> cases hq; rfl
  | unmodelled w => cases r <;> cases hp; cases r' <;> cases hq; exact .inr rfl
  | call b _ => cases r <;> cases hp
  | unmL ht w _ => cases r <;> cases hp; cases r' <;> first | exact ht | exact .inl ht
  | unmR ht _ w => cases r' <;> cases hq; cases r <;> first | exact ht | exact .inl ht
  | failL he _ => exact he.elim

theorem RRel.of_eq {α} {R : α → α → Prop} (hR : ∀ a, R a a) {r r' : Res Cause α} (h : r = r') : RRel t R r r' :=
  (RSim.of_eq hR h).rrel

theorem rrel_eq_refl {α} (r : Res Cause α) : RRel t Eq r r := RSim.refl.rrel

theorem RRel.unmR {α} {R : α → α → Prop} (ht : t = true) (r : Res Cause α) (w : String) : RRel t R r (.unmodelled w) :=
  RSim.rrel (PSim.unmR ht _ w)

theorem RRel.unmL {α} {R : α → α → Prop} (ht : t = true) (w : String) (r : Res Cause α) : RRel t R (.unmodelled w) r :=
  RSim.rrel (PSim.unmL ht w _)

/-- the continuations need to be related on the two answers only -/
theorem RRel.bind_ok {α β} {R : α → α → Prop} {S : β → β → Prop} {r r' : Res Cause α} {f f' : α → Res Cause β}
    (hr : RRel t R r r') (hf : ∀ a a', r = .ok a → r' = .ok a' → R a a' → RRel t S (f a) (f' a')) :
    RRel t S (r.bind f) (r'.bind f') := by
  cases r <;> cases r' <;> simp only [RRel] at hr <;> simp only [Res.bind] <;> first
    | exact hf _ _ rfl rfl hr
    | exact RRel.unmR hr _ _
    | exact RRel.unmL hr _ _
    | (simp only [RRel]; exact hr)

theorem RRel.bind {α β} {R : α → α → Prop} {S : β → β → Prop} {r r' : Res Cause α} {f f' : α → Res Cause β}
    (hr : RRel t R r r') (hf : ∀ a a', R a a' → RRel t S (f a) (f' a')) : RRel t S (r.bind f) (r'.bind f') :=
  hr.bind_ok fun a a' _ _ => hf a a'

theorem RRel.eq {α} {r r' : Res Cause α} (h : RRel false Eq r r') : r = r' := by
  cases r <;> cases r' <;> simp_all [RRel]

theorem RRel.mono {α} {R S : α → α → Prop} (hRS : ∀ a a', R a a' → S a a') {r r' : Res Cause α}
    (h : RRel t R r r') : RRel t S r r' :=
  RSim.rrel (PSim.mono h.sim hRS)

theorem RRel.weaken {α} {R : α → α → Prop} {r r' : Res Cause α} (h : RRel false R r r') : RRel t R r r' := by
  cases r <;> cases r' <;> simp_all [RRel]

/-- two results related exactly: two values, or the same result that is no value -/
theorem RRel.false_cases {α : Type} {S : α → α → Prop} {r r' : Res Cause α} (h : RRel false S r r') :
    (∃ a a', r = .ok a ∧ r' = .ok a' ∧ S a a') ∨ (r = r' ∧ ∀ a, r ≠ .ok a) := by
  cases r <;> cases r' <;> simp only [RRel] at h <;> first
    | exact .inl ⟨_, _, rfl, rfl, h⟩
    | exact .inr ⟨congrArg _ h, nofun⟩
    | exact .inr ⟨congrArg _ (h.resolve_left nofun), nofun⟩
    | cases h

theorem rrel_refl_of {α} {R : α → α → Prop} {t : Bool} (r : Res Cause α) (h : ∀ a, r = .ok a → R a a) : RRel t R r r := by
  cases r <;> simp [RRel]
  exact h _ rfl

variable {d : Bool}

def EnvRel (d : Bool) (env env' : Env) : Prop := ∀ x, ERel d (env.get x) (env'.get x)

theorem EnvRel.refl (env : Env) : EnvRel d env env := fun _ => ERel.refl _

structure SRel (d : Bool) (s s' : RS) : Prop where
  env : EnvRel d s.env s'.env
  tw : s.tw = s'.tw

def MRel (t d : Bool) {α} (R : α → α → Prop) (m m' : M α) : Prop :=
  ∀ s s', SRel d s s' → PRel t (fun r r' : α × RS => R r.1 r'.1 ∧ SRel d r.2 r'.2) (m s) (m' s')
