import Proofs.ProgLemmas
/-!
# `AllRet`: a property of every result a program can return, whatever the writer answers

With it what every file about rendering uses: reading a variable map after `set` (`Env.get_set`), and how a sequence and
`Render` decompose (`renderList_append`, `renderRoot_eq_blockBody`).
-/

/-- `bytes.TrimLeftFunc` of the empty string (the `Write("")` part of `WriteVerbatim`) -/
@[simp] theorem trimLeftSpace_nil : trimLeftSpace [] = [] := rfl

/-- `bytes.TrimRightFunc` of the empty string: what a `TrimLeft` strips when a verbatim write went before -/
theorem trimRightSpace_nil : trimRightSpace [] = [] := rfl

inductive AllRet {α : Type} (Q : α → Prop) : Prog α → Prop where
  | ret (a) : Q a → AllRet Q (.ret a)
  | fail (e) : AllRet Q (.fail e)
  | panic (w) : AllRet Q (.panic w)
  | unmodelled (w) : AllRet Q (.unmodelled w)
  | call (b k) : (∀ r, AllRet Q (k r)) → AllRet Q (.call b k)

theorem AllRet.bind {α β} {Q : α → Prop} {R : β → Prop} {p : Prog α} {f : α → Prog β}
    (hp : AllRet Q p) (hf : ∀ a, Q a → AllRet R (f a)) : AllRet R (p.bind f) := by
  induction hp with
  | ret a ha => exact hf a ha
  | call b k _ ih => exact .call _ _ ih
  | _ => constructor

theorem AllRet.mapFail {α} {Q : α → Prop} {p : Prog α} (g : RawErr → RawErr) (hp : AllRet Q p) :
    AllRet Q (p.mapFail g) := by
  induction hp with
  | ret a ha => exact .ret a ha
  | call b k _ ih => exact .call _ _ ih
  | _ => constructor

theorem AllRet.mono {α} {Q R : α → Prop} {p : Prog α} (hp : AllRet Q p) (h : ∀ a, Q a → R a) : AllRet R p := by
  induction hp with
  | ret a ha => exact .ret a (h a ha)
  | call b k _ ih => exact .call _ _ ih
  | _ => constructor

theorem AllRet.trivial {α} (p : Prog α) : AllRet (fun _ => True) p := by
  induction p with
  | ret a => exact .ret a True.intro
  | call b k ih => exact .call _ _ ih
  | _ => constructor

theorem AllRet.and {α} {Q R : α → Prop} {p : Prog α} (h1 : AllRet Q p) (h2 : AllRet R p) :
    AllRet (fun a => Q a ∧ R a) p := by
  induction h1 with
  | ret a ha => cases h2 with | ret _ hb => exact .ret a ⟨ha, hb⟩
  | call b k _ ih => cases h2 with | call _ _ hk => exact .call _ _ (fun r => ih r (hk r))
  | _ => constructor

theorem Env.get_set_same (env : Env) (x : Bytes) (v : GoVal) : (env.set x v).get x = v := by
  simp [Env.set, Env.get]

theorem Env.get_set_other (env : Env) (x y : Bytes) (v : GoVal) (h : y ≠ x) : (env.set x v).get y = env.get y := by
  have hxy : ((x == y) = false) := by simp [Ne.symm h]
  simp only [Env.set, Env.get, List.find?_cons, hxy, List.find?_filter]
  congr 2
  funext kv
  by_cases hk : kv.1 = y <;> simp [hk, h]

theorem Env.get_set (env : Env) (x y : Bytes) (v : GoVal) : (env.set x v).get y = if y = x then v else env.get y := by
  split
  · next h => subst h; exact Env.get_set_same env y v
  · next h => exact Env.get_set_other env x y v h

theorem Env.set_set (env : Env) (t : Bytes) (a b : GoVal) : (env.set t a).set t b = env.set t b := by
  simp only [Env.set, List.filter_cons, bne_self_eq_false, Bool.false_eq_true, if_false, List.filter_filter, Bool.and_self]

/-- a sibling is reached only when everything before it returned `done`; a `break` / `continue` ends the sequence -/
theorem renderList_append (c : RCtx) (a b : List Node) :
    renderList c (a ++ b) = renderList c a >>= fun st => match st with
      | .done => renderList c b
      | st => pure st := by
  induction a with
  | nil => rw [renderList]; rfl
  | cons n a ih =>
    rw [List.cons_append, renderList, renderList, ih, M.bind_assoc]
    congr 1
    funext st
    cases st <;> rfl

theorem renderRoot_eq_blockBody (c : RCtx) (root : List Node) (env : Env) :
    renderRoot c root env = (renderBlockBody c root ⟨env, {}⟩).bind (fun r => .ret r.1) := by
  unfold renderRoot renderBlockBody
  simp only [bind, M.bind, Prog.bind_assoc]
  congr 1
  funext r
  obtain ⟨st, s⟩ := r
  cases st with
  | done =>
    show _ = ((wrapFailAt c.cfg.path invalidLoc flushM s).bind (fun r => M.pure Status.done r.2)).bind fun r => Prog.ret r.fst
    rw [Prog.bind_assoc]
    rfl
  | brk e => rfl
  | cont e => rfl
