import Proofs.NumLemmas
import Proofs.SprintLemmas
import Proofs.F64Mono
import Proofs.F64Nearest
import Proofs.NumRound
/-!
# C17 — numeric filters compute exact arithmetic and report impossible operations

The filter bodies are `Num.plus`, … of `Liquid/Filters/Num.lean` (tied to
`filters/standard_filters.go` by the `filter` and `numf` streams); `fv q` is a `float64` argument
holding the rational `q`, `Representable q` says `q` is a `float64` value. All statements are for
arbitrary rationals / integers (no bounds).

Helper lemmas: `Proofs/F64Lemmas.lean`, `F64Mono.lean`, `F64Nearest.lean` (what `roundF64` is), `NumLemmas.lean`, `NumRound.lean`
(the bodies; `round` step by step), `SprintLemmas.lean` (the float formatter on whole numbers).
-/

/-! ## plus, minus, times: exact whenever the exact result is representable; in general the
IEEE-754 rounding of the exact result -/

theorem plus_rounds (a b r : Rat) (h : roundF64 (a + b) = some r) :
    Num.plus [fv a, fv b] = ret (.flt .f64 r) :=
  fltResult_of_round h false (fun _ => rfl)

/-- the exact sum, whenever it is a float64: a float64 rounds to itself (`Representable q` is `roundF64 q = some q`) -/
theorem plus_spec (a b : Rat) (h : Representable (a + b)) :
    Num.plus [fv a, fv b] = ret (.flt .f64 (a + b)) := plus_rounds a b (a + b) h

example : Representable ((1 : Rat) / 4 + 5 / 2) := by decide +kernel
example : roundF64 (mkRat 3602879701896397 36028797018963968 + mkRat 3602879701896397 18014398509481984)
    = some (mkRat 1351079888211149 4503599627370496) := by decide +kernel   -- 0.1 + 0.2 = 0.30000000000000004

theorem minus_rounds (a b r : Rat) (h : roundF64 (a - b) = some r) :
    Num.minus [fv a, fv b] = ret (.flt .f64 r) :=
  fltResult_of_round h false (fun _ => rfl)

theorem minus_spec (a b : Rat) (h : Representable (a - b)) :
    Num.minus [fv a, fv b] = ret (.flt .f64 (a - b)) := minus_rounds a b (a - b) h

example : Representable ((7 : Rat) - 9 / 2) := by decide +kernel

/-- `times` in general: the IEEE-754 product, i.e. the exact product correctly rounded (`roundF64`). The only
rounded product the model does not give is a zero Go signs negative (operands of opposite sign whose product is zero
or underflows to zero), excluded by `hz`. `times_spec` below is the case `r = a * b`. -/
theorem times_rounds (a b r : Rat) (h : roundF64 (a * b) = some r) (hz : r = 0 → (a < 0 ↔ b < 0)) :
    Num.times [fv a, fv b] = ret (.flt .f64 r) :=
  fltResult_of_round h _ (fun h0 => signFlag_eq_false (hz h0))

/-- `times`: the exact product whenever that is a float64 (a float64 rounds to itself); the only exact product the
model does not give is the one Go signs negative zero (`0 * -1`), excluded by `hz`. -/
theorem times_spec (a b : Rat) (h : Representable (a * b)) (hz : a * b = 0 → 0 ≤ a ∧ 0 ≤ b) :
    Num.times [fv a, fv b] = ret (.flt .f64 (a * b)) :=
  times_rounds a b (a * b) h (fun h0 => by
    have ⟨ha, hb⟩ := hz h0
    simp [Rat.not_lt.mpr ha, Rat.not_lt.mpr hb])

example : Representable ((3 : Rat) / 2 * (-4)) ∧ ((3 : Rat) / 2 * (-4) = 0 → (0 : Rat) ≤ 3 / 2 ∧ (0 : Rat) ≤ -4) := by
  decide +kernel

example : roundF64 (mkRat 3602879701896397 36028797018963968 * 3) = some (mkRat 2702159776422298 9007199254740992)
    ∧ ((mkRat 2702159776422298 9007199254740992 : Rat) = 0 → ((mkRat 3602879701896397 36028797018963968 : Rat) < 0 ↔ (3 : Rat) < 0)) := by
  decide +kernel   -- 0.1 * 3 = 0.30000000000000004

/-! ### What `roundF64` is: correctly rounded, and where it overflows

`roundF64 q = some r` says: `r` is a float64 (`rounds_to_float64`), no float64 is nearer to `q` (`rounding_nearest`;
which of two equally near ones is taken — the even one — is the definition `roundHalfEven`), none lies strictly between
`q` and `r` (`rounding_faithful`), and a float64 is returned unchanged (the `_spec` theorems: `Representable q` IS
`roundF64 q = some q`). It is `none` exactly on overflow: never for `|q| ≤ math.MaxFloat64` (`float_op_in_range`),
exactly for `|q| ≥ 2^1024 - 2^970` (`float_op_overflow`: there the real code computes ±Inf and prints `+Inf` /
`-Inf`; the model answers `unmodelled`, which the comparison skips — `arith_overflow_unmodelled`). -/

theorem rounds_to_float64 (q r : Rat) (h : roundF64 q = some r) : Representable r := roundF64_idem q r h

theorem rounding_faithful (q r r' : Rat) (h : roundF64 q = some r) (hr' : Representable r') :
    (r' ≤ q → r' ≤ r) ∧ (q ≤ r' → r ≤ r') :=
  ⟨fun hle => roundF64_mono hle hr' h, fun hle => roundF64_mono hle h hr'⟩

/-- round to NEAREST: no float64 is nearer to the exact result than the one returned -/
theorem rounding_nearest (q r r' : Rat) (h : roundF64 q = some r) (hr' : Representable r') :
    Num.ratAbs (r - q) ≤ Num.ratAbs (r' - q) := by
  have pos : ∀ q r r' : Rat, 0 < q → roundF64 q = some r → roundF64 r' = some r' →
      Num.ratAbs (r - q) ≤ Num.ratAbs (r' - q) := by
    intro q r r' hq h hr'
    obtain ⟨rfl, _⟩ := (roundF64_pos_iff hq).1 h
    by_cases hp : 0 < r'
    · exact roundPos_nearest 53 (by decide) (-1074) q r' hq hp ((roundF64_pos_iff hp).1 hr').1
    · have h1 := roundPos_le_double 53 (-1074) q hq
      have h2 := roundPos_nonneg 53 (-1074) q hq
      have h3 := Rat.not_lt.1 hp
      exact ratAbs_le_of_neg (by grind) (by grind)
  rcases Std.lt_trichotomy q 0 with hq | rfl | hq
  · have := pos (-q) (-r) (-r') (by grind) (roundF64_neg_some q r h) (roundF64_neg_some r' r' hr')
    rwa [show -r - -q = -(r - q) by grind, show -r' - -q = -(r' - q) by grind, ratAbs_neg, ratAbs_neg] at this
  · rw [roundF64_zero] at h; cases h
    rw [Rat.sub_self]
    exact ratAbs_nonneg _
  · exact pos q r r' hq h hr'

theorem float_op_in_range (q : Rat) (h1 : -maxF64 ≤ q) (h2 : q ≤ maxF64) :
    ∃ r, roundF64 q = some r ∧ Representable r ∧ -maxF64 ≤ r ∧ r ≤ maxF64 := by
  obtain ⟨r, e1, e2, e3⟩ := roundF64_no_overflow q h1 h2
  exact ⟨r, e1, roundF64_idem q r e1, e2, e3⟩

/-- 0.1 + 0.2: the exact sum lies half way between the float64s 0.3 and 0.30000000000000004 and goes to the even one -/
example :
    let q : Rat := mkRat 3602879701896397 36028797018963968 + mkRat 3602879701896397 18014398509481984
    let r : Rat := mkRat 1351079888211149 4503599627370496
    let r' : Rat := mkRat 5404319552844595 18014398509481984
    roundF64 q = some r ∧ Representable r' ∧ r' ≤ q ∧ Num.ratAbs (r - q) ≤ Num.ratAbs (r' - q) ∧ -maxF64 ≤ q ∧ q ≤ maxF64 := by
  decide +kernel

/-- between `math.MaxFloat64` and the threshold the result is `math.MaxFloat64` -/
theorem float_op_saturates (q : Rat) (h1 : maxF64 ≤ q) (h2 : q < overflowF64) : roundF64 q = some maxF64 := by
  have hq : 0 < q := Std.lt_of_lt_of_le (by decide +kernel : (0 : Rat) < maxF64) h1
  refine (roundF64_pos_iff hq).2 ⟨?_, by decide +kernel⟩
  -- `2^1023 ≤ q < 2^1024`: the exponent is 971
  obtain ⟨b1, b2⟩ := fexp1_bracket 53 (by decide) q hq
  have := pow2_lt_iff.1 (Std.lt_of_le_of_lt (Rat.le_trans (by decide +kernel : pow2 1023 ≤ maxF64) h1) b2)
  have := pow2_lt_iff.1 (Std.lt_of_le_of_lt b1 (Std.lt_trans h2 (by decide +kernel : overflowF64 < pow2 1024)))
  obtain ⟨_, _, _⟩ := fexpC_ge 53 (-1074) q
  have hE : fexpC 53 (-1074) q = 971 := by omega
  unfold roundPos
  rw [hE, roundHalfEven_below_half _ (2 ^ 53 - 1) (le_div_pow2_iff.2 h1)
    (div_pow2_lt_iff.2 (Std.lt_of_lt_of_le h2 (by decide +kernel)))]
  rfl

theorem float_op_overflow (q : Rat) : roundF64 q = none ↔ (overflowF64 ≤ q ∨ q ≤ -overflowF64) := by
  refine ⟨fun h => Classical.byContradiction fun hn => ?_, roundF64_overflow q⟩
  rw [not_or, Rat.not_le, Rat.not_le] at hn
  by_cases c1 : maxF64 ≤ q
  · rw [float_op_saturates q c1 hn.1] at h; cases h
  · by_cases c2 : q ≤ -maxF64
    · have := roundF64_neg_some _ _ (float_op_saturates (-q) (by grind) (by grind))
      rw [Rat.neg_neg, h] at this; cases this
    · obtain ⟨r, hr, _⟩ := roundF64_no_overflow q (by grind) (by grind)
      rw [h] at hr; cases hr

/-- on overflow of the exact result all four float operations leave the model (the real code yields ±Inf, printed
`+Inf` / `-Inf`: `{{ 1e300 | times: 1e300 }}` renders `+Inf`) -/
theorem arith_overflow_unmodelled (a b : Rat) :
    (roundF64 (a + b) = none → Num.plus [fv a, fv b] = .unmodelled "float64: overflow to ±Inf") ∧
    (roundF64 (a - b) = none → Num.minus [fv a, fv b] = .unmodelled "float64: overflow to ±Inf") ∧
    (roundF64 (a * b) = none → Num.times [fv a, fv b] = .unmodelled "float64: overflow to ±Inf") ∧
    (∀ k, b ≠ 0 → roundF64 (a / b) = none →
      Num.dividedBy [fv a, .val (.flt k b)] = .unmodelled "float64: overflow to ±Inf") := by
  refine ⟨fun h => fltResult_overflow h _, fun h => fltResult_overflow h _, fun h => fltResult_overflow h _,
    fun k hb h => ?_⟩
  simp [Num.dividedBy, Num.divFloat, hb, fltResult_overflow h]

example : maxF64 = 179769313486231570814527423731704356798070567525844996598917476803157260780028538760589558632766878171540458953514382464234321326889464182768467546703537516986049910576551282076245490090389328944075868508455133942304583236903222948165808559332123348274797826204144723168738177180919299881250404026184124858368
    ∧ overflowF64 ≤ (10 ^ 300 : Nat) * (10 ^ 300 : Nat) := by decide +kernel

/-! ## divided_by: integer division for an integer divisor, real division for a float divisor -/

/-- integer divisor of any integer kind: the receiver is truncated to `int64`, then Go's `/`
(truncation toward zero), with the two's-complement wrap of `MinInt64 / -1` -/
theorem divided_by_int (a : Rat) (k : IntKind) (q : Int) (hq : q ≠ 0) (ha : inInt64 (ratTrunc a) = true) :
    Num.dividedBy [fv a, .val (.int k q)] = ret (.int .i64 (wrapInt64 (Int.tdiv (ratTrunc a) q))) := by
  simp [Num.dividedBy, Num.divInt, hq, floatToInt64, ha, ret]

/-- … which is the mathematical truncated quotient whenever that fits (always, except `MinInt64 / -1`) -/
theorem divided_by_int_exact (a : Rat) (k : IntKind) (q : Int) (hq : q ≠ 0) (ha : inInt64 (ratTrunc a) = true)
    (hr : inInt64 (Int.tdiv (ratTrunc a) q) = true) :
    Num.dividedBy [fv a, .val (.int k q)] = ret (.int .i64 (Int.tdiv (ratTrunc a) q)) := by
  rw [divided_by_int a k q hq ha, wrapInt64_of_inRange hr]

example : ratTrunc (15 / 2) = 7 ∧ Int.tdiv (ratTrunc (15 / 2)) 2 = 3 ∧ Int.tdiv (ratTrunc (-15 / 2)) 2 = -3 := by decide +kernel

/-- `divided_by` with a float divisor in general: the correctly rounded quotient; as for `times`, the one result
the model does not give is a zero that Go signs negative, excluded by `hz` -/
theorem dividedBy_flt_rounds (a q r : Rat) (k : FltKind) (hq : q ≠ 0) (h : roundF64 (a / q) = some r)
    (hz : r = 0 → (a < 0 ↔ q < 0)) : Num.dividedBy [fv a, .val (.flt k q)] = ret (.flt .f64 r) := by
  simp [Num.dividedBy, Num.divFloat, hq, fltResult_of_round h _ (fun h0 => signFlag_eq_false (hz h0))]

theorem divided_by_flt (a q : Rat) (k : FltKind) (hq : q ≠ 0) (h : Representable (a / q)) (hz : a = 0 → 0 < q) :
    Num.dividedBy [fv a, .val (.flt k q)] = ret (.flt .f64 (a / q)) := by
  refine dividedBy_flt_rounds a q (a / q) k hq h fun h0 => ?_
  have ha : a = 0 := by
    have := Rat.div_mul_cancel (a := a) hq
    rwa [h0, Rat.zero_mul, eq_comm] at this
  simp [ha, Rat.not_lt.mpr (Rat.le_of_lt (hz ha)), Rat.lt_irrefl]

theorem divided_by_flt_rounds (a q r : Rat) (k : FltKind) (hq : q ≠ 0) (h : roundF64 (a / q) = some r) (hr : r ≠ 0) :
    Num.dividedBy [fv a, .val (.flt k q)] = ret (.flt .f64 r) :=
  dividedBy_flt_rounds a q r k hq h (fun h0 => absurd h0 hr)

example : Representable ((7 : Rat) / (5 / 2) * 0 + 15 / 2 / 2) := by decide +kernel

/-- a zero divisor — integer of any width, or float — is the error "division by zero", whatever the receiver -/
theorem divided_by_zero_err (a : Rat) :
    (∀ k, Num.dividedBy [fv a, .val (.int k 0)] = retErr .divZero) ∧
    (∀ k, Num.dividedBy [fv a, .val (.flt k 0)] = retErr .divZero) := by
  constructor <;> intro k <;> simp [Num.dividedBy, Num.divInt, Num.divFloat]

/-- a divisor that is not a number (string, bool, nil, array …) is the error "invalid divisor" -/
theorem divided_by_non_number (a : Rat) (b : GoVal) (hi : ∀ k n, b ≠ .int k n) (hf : ∀ k q, b ≠ .flt k q) :
    Num.dividedBy [fv a, .val b] = retErr (.other "invalid divisor") := by
  cases b with
  | int k n => exact absurd rfl (hi k n)
  | flt k q => exact absurd rfl (hf k q)
  | _ => rfl

theorem modulo_zero_err (a : Rat) : Num.modulo [fv a, fv 0] = retErr .divZero := by
  simp [Num.modulo]

/-- `modulo` is `a - b·trunc(a/b)` (`math.Mod`: the sign of the dividend); the zero remainder of a
negative dividend is Go's −0, excluded by `hz` -/
theorem modulo_spec (a b : Rat) (hb : b ≠ 0) (h : Representable (Num.ratMod a b)) (hz : Num.ratMod a b = 0 → 0 ≤ a) :
    Num.modulo [fv a, fv b] = ret (.flt .f64 (a - b * (ratTrunc (a / b) : Rat))) := by
  unfold Representable at h
  have h2 : ¬(Num.ratMod a b = 0 ∧ a < 0) := fun ⟨h0, ha⟩ => absurd (hz h0) (Rat.not_le.mpr ha)
  simp only [Num.modulo]
  simp only [Num.ratMod] at h h2
  simp [hb, h, h2, ret, Num.ratMod]

example : Representable (Num.ratMod (-7) 2) ∧ Num.ratMod (-7) 2 = -1 ∧ Num.ratMod 7 (-2) = 1 ∧ Num.ratMod (15 / 2) 2 = 3 / 2 := by decide +kernel

/-- the remainder has the sign of the dividend and is smaller than the divisor in magnitude -/
theorem modulo_sign (a b : Rat) (hb : b ≠ 0) :
    (0 ≤ a → 0 ≤ Num.ratMod a b) ∧ (a ≤ 0 → Num.ratMod a b ≤ 0) ∧ Num.ratAbs (Num.ratMod a b) < Num.ratAbs b := by
  rw [ratMod_abs_right a b hb]
  have hc := ratAbs_pos hb
  generalize Num.ratAbs b = c at *
  have hpos : 0 ≤ a → 0 ≤ Num.ratMod a c ∧ Num.ratMod a c < c := fun ha => ratMod_pos a c ha hc
  have hneg : a ≤ 0 → Num.ratMod a c ≤ 0 ∧ -c < Num.ratMod a c := by
    intro ha
    have h := ratMod_pos (-a) c (by grind) hc
    rw [ratMod_neg_left] at h
    constructor <;> grind
  refine ⟨fun ha => (hpos ha).1, fun ha => (hneg ha).1, ?_⟩
  unfold Num.ratAbs
  rcases Rat.le_total (a := 0) (b := a) with ha | ha
  · have := hpos ha; split <;> grind
  · have := hneg ha; split <;> grind

theorem abs_spec (a : Rat) :
    Num.abs [fv a] = ret (.flt .f64 (Num.ratAbs a)) ∧ 0 ≤ Num.ratAbs a ∧ (Num.ratAbs a = a ∨ Num.ratAbs a = -a) := by
  refine ⟨by simp [Num.abs], ratAbs_nonneg a, ?_⟩
  unfold Num.ratAbs; split <;> simp

/-- `floor` returns a Go `int` `n` with `n ≤ a < n + 1` -/
theorem floor_spec (a : Rat) (h : inInt64 a.floor = true) :
    Num.floor [fv a] = ret (.int .int a.floor) ∧ (a.floor : Rat) ≤ a ∧ a < ((a.floor + 1 : Int) : Rat) := by
  exact ⟨by simp [Num.floor, Num.intResult, h], Rat.floor_le a, Rat.lt_floor_add_one a⟩

/-- `ceil` returns a Go `int` `n` with `n - 1 < a ≤ n` -/
theorem ceil_spec (a : Rat) (h : inInt64 a.ceil = true) :
    Num.ceil [fv a] = ret (.int .int a.ceil) ∧ a ≤ (a.ceil : Rat) ∧ ((a.ceil - 1 : Int) : Rat) < a := by
  exact ⟨by simp [Num.ceil, Num.intResult, h], Rat.le_ceil, Rat.lt_ceil_iff.mp (by omega)⟩

theorem floor_le_ceil (a : Rat) : a.floor ≤ a.ceil :=
  Rat.intCast_le_intCast.mp (Rat.le_trans (Rat.floor_le a) Rat.le_ceil)

example : (7 / 2 : Rat).floor = 3 ∧ (7 / 2 : Rat).ceil = 4 ∧ (-7 / 2 : Rat).floor = -4 ∧ (-7 / 2 : Rat).ceil = -3
    ∧ inInt64 (7 / 2 : Rat).floor = true := by decide +kernel

/-! ### ceil and floor return integers: on every receiver in the `int64` range, and only there

Go's `int(f)` is defined for `f` in the range of `int` only; outside it the result is implementation-defined (on
amd64 `{{ 1e19 | ceil }}`, `{{ -1e19 | floor }}` and `{{ 9223372036854775808.0 | floor }}` all print
-9223372036854775808) and the model answers `unmodelled`. -/

theorem intResult_of_not_inInt64 {n : Int} (h : ¬ inInt64 n = true) :
    Num.intResult n = .unmodelled "float→int conversion out of range is implementation-defined" := by
  simp [Num.intResult, h]

theorem inInt64_floor_iff (a : Rat) :
    inInt64 a.floor = true ↔ ((-(2 ^ 63) : Int) : Rat) ≤ a ∧ a < ((2 ^ 63 : Int) : Rat) := by
  rw [inInt64_iff, ← Rat.le_floor_iff, ← Rat.floor_lt_iff]
  omega

theorem inInt64_ceil_iff (a : Rat) :
    inInt64 a.ceil = true ↔ ((-(2 ^ 63) - 1 : Int) : Rat) < a ∧ a ≤ ((2 ^ 63 - 1 : Int) : Rat) := by
  rw [inInt64_iff, ← Rat.lt_ceil_iff, ← Rat.ceil_le_iff]
  omega

theorem floor_ceil_return_int (a : Rat) (h1 : ((-(2 ^ 63) : Int) : Rat) ≤ a) (h2 : a ≤ ((2 ^ 63 - 1 : Int) : Rat)) :
    Num.floor [fv a] = ret (.int .int a.floor) ∧ Num.ceil [fv a] = ret (.int .int a.ceil) := by
  have f2 : a < ((2 ^ 63 : Int) : Rat) := Std.lt_of_le_of_lt h2 (Rat.intCast_lt_intCast.2 (by decide))
  have c1 : ((-(2 ^ 63) - 1 : Int) : Rat) < a := Std.lt_of_lt_of_le (Rat.intCast_lt_intCast.2 (by decide)) h1
  exact ⟨(floor_spec a ((inInt64_floor_iff a).2 ⟨h1, f2⟩)).1, (ceil_spec a ((inInt64_ceil_iff a).2 ⟨c1, h2⟩)).1⟩

/-- exactly: `floor` returns an integer iff `-2^63 ≤ a < 2^63`, and is outside the model otherwise -/
theorem floor_range (a : Rat) :
    (((-(2 ^ 63) : Int) : Rat) ≤ a ∧ a < ((2 ^ 63 : Int) : Rat) → Num.floor [fv a] = ret (.int .int a.floor)) ∧
    (a < ((-(2 ^ 63) : Int) : Rat) ∨ ((2 ^ 63 : Int) : Rat) ≤ a →
      Num.floor [fv a] = .unmodelled "float→int conversion out of range is implementation-defined") := by
  refine ⟨fun h => (floor_spec a ((inInt64_floor_iff a).2 h)).1, fun h => intResult_of_not_inInt64 fun hin => ?_⟩
  obtain ⟨f1, f2⟩ := (inInt64_floor_iff a).1 hin
  rcases h with h | h
  · exact Rat.not_le.2 h f1
  · exact Rat.not_le.2 f2 h

/-- exactly: `ceil` returns an integer iff `-2^63 - 1 < a ≤ 2^63 - 1`, and is outside the model otherwise -/
theorem ceil_range (a : Rat) :
    (((-(2 ^ 63) - 1 : Int) : Rat) < a ∧ a ≤ ((2 ^ 63 - 1 : Int) : Rat) → Num.ceil [fv a] = ret (.int .int a.ceil)) ∧
    (a ≤ ((-(2 ^ 63) - 1 : Int) : Rat) ∨ ((2 ^ 63 - 1 : Int) : Rat) < a →
      Num.ceil [fv a] = .unmodelled "float→int conversion out of range is implementation-defined") := by
  refine ⟨fun h => (ceil_spec a ((inInt64_ceil_iff a).2 h)).1, fun h => intResult_of_not_inInt64 fun hin => ?_⟩
  obtain ⟨c1, c2⟩ := (inInt64_ceil_iff a).1 hin
  rcases h with h | h
  · exact Rat.not_le.2 c1 h
  · exact Rat.not_le.2 h c2

example : (((-(2 ^ 63) : Int) : Rat) ≤ -9223372036854775808 ∧ (-9223372036854775808 : Rat) < ((2 ^ 63 : Int) : Rat))
    ∧ ((2 ^ 63 : Int) : Rat) ≤ (10 ^ 19 : Nat) ∧ ((2 ^ 63 - 1 : Int) : Rat) < (10 ^ 19 : Nat) := by decide +kernel

/-! ## round: half up to the requested number of places -/

/-- the value `round` computes when every step is exact: `⌊x·10ᵖ + 1/2⌋ / 10ᵖ` -/
def roundHalfUp (x : Rat) (p : Nat) : Rat := roundHalfUpE x (p10 p)

/-- `round: p` for `0 ≤ p ≤ 22` (where `math.Pow10` is exact), every intermediate representable -/
theorem round_spec (x : Rat) (p : Nat) (hp : p ≤ 22)
    (h1 : Representable (x * p10 p)) (h2 : Representable (x * p10 p + 1 / 2)) (h3 : Representable (roundHalfUp x p)) :
    Num.round [fv x, .fn (some (.ok (.int .int p)))] = ret (.flt .f64 (roundHalfUp x p)) :=
  (round_places x p).trans (roundTo_exact x (p10 p) p (pow10Go_small p hp) (Rat.ne_of_gt (p10_pos p)) h1 h2 h3)

/-- without an argument `round` rounds to an integer -/
theorem round_default (x : Rat) (h1 : Representable (x * p10 0)) (h2 : Representable (x * p10 0 + 1 / 2))
    (h3 : Representable (roundHalfUp x 0)) :
    Num.round [fv x, .fn none] = ret (.flt .f64 (roundHalfUp x 0)) :=
  (round_no_places x).trans
    (roundTo_exact x (p10 0) (0 : Nat) (pow10Go_small 0 (by omega)) (Rat.ne_of_gt (p10_pos 0)) h1 h2 h3)

example : Representable ((5 / 2 : Rat) * p10 0) ∧ Representable ((5 / 2 : Rat) * p10 0 + 1 / 2)
    ∧ roundHalfUp (5 / 2) 0 = 3 ∧ roundHalfUp (-5 / 2) 0 = -2 ∧ roundHalfUp (9 / 8) 2 = 113 / 100 ∧ roundHalfUp (5 / 4) 1 = 13 / 10 := by
  decide +kernel

/-- the rounded value is within half a unit of the last place of `x`; the upper bound is attained (half up) -/
theorem round_err (x : Rat) (p : Nat) :
    roundHalfUp x p - x ≤ (1 / 2) / p10 p ∧ -(1 / 2) / p10 p < roundHalfUp x p - x :=
  roundHalfUpE_err x (p10 p) (p10_pos p)

/-! ### round for every float and every number of places

`math.Floor(n*exp + 0.5) / exp` rounds half UP, toward +∞: `{{ -2.5 | round }}` is -2 and `{{ -3.5 | round }}` is -3 on
the real engine (Go's `math.Round`, which rounds half away from zero, is not used). -/

/-- `round` without an argument (and `round: 0`) on EVERY float64 `x` with `-2^52 ≤ x ≤ 2^52 - 1` other than
0.49999999999999994 (`1/2 - 2^-54`): the result is `⌊x + 1/2⌋` — no `Representable` hypothesis on the intermediate
`x + 1/2`, which Go may round. -/
theorem round_half_up (x : Rat) (hx : Representable x) (h1 : ((-(2 ^ 52) : Int) : Rat) ≤ x)
    (h2 : x ≤ ((2 ^ 52 - 1 : Int) : Rat)) (hne : x ≠ 1 / 2 - pow2 (-54)) :
    Num.round [fv x, .fn none] = ret (.flt .f64 ((x + 1 / 2).floor : Rat)) ∧
    Num.round [fv x, .fn (some (.ok (.int .int 0)))] = ret (.flt .f64 ((x + 1 / 2).floor : Rat)) :=
  ⟨(round_no_places x).trans (roundTo_half_up x hx h1 h2 hne), (round_places x 0).trans (roundTo_half_up x hx h1 h2 hne)⟩

example : Representable (-5 / 2 : Rat) ∧ ((-5 / 2 : Rat) + 1 / 2).floor = -2 ∧ ((-7 / 2 : Rat) + 1 / 2).floor = -3
    ∧ ((5 / 2 : Rat) + 1 / 2).floor = 3 ∧ ((-1 / 2 : Rat) + 1 / 2).floor = 0 ∧ (-5 / 2 : Rat) ≠ 1 / 2 - pow2 (-54) := by
  decide +kernel

/-- in particular a whole number in that range is returned unchanged -/
theorem round_whole (n : Int) (h1 : -(2 ^ 52) ≤ n) (h2 : n ≤ 2 ^ 52 - 1) :
    Num.round [fv (n : Rat), .fn none] = ret (.flt .f64 (n : Rat)) := by
  have hrep : Representable (n : Rat) := representable_intCast n (by omega) (by omega)
  have hne : (n : Rat) ≠ 1 / 2 - pow2 (-54) :=
    fun h => absurd (h ▸ Rat.den_intCast n : (1 / 2 - pow2 (-54) : Rat).den = 1) (by decide +kernel)
  have hfl : ((n : Rat) + 1 / 2).floor = n := by
    rw [Rat.add_comm, Rat.floor_add_intCast]
    have : ((1 : Rat) / 2).floor = 0 := by decide +kernel
    omega
  have h := (round_half_up (n : Rat) hrep (Rat.intCast_le_intCast.2 h1) (Rat.intCast_le_intCast.2 h2) hne).1
  rwa [hfl] at h

/-- the two families the statement excludes are real deviations from "rounds half up" (model = real engine):
`{{ 0.49999999999999994 | round }}` is 1, not 0 (`x + 0.5` rounds up to 1.0), and above 2^52 an odd whole number is
not returned unchanged: `{{ 4503599627370497.0 | round }}` is 4503599627370498 (`x + 0.5` is a tie, rounded to even) -/
theorem round_half_up_exceptions :
    okFlt (Num.round [fv (1 / 2 - pow2 (-54)), .fn none]) = some 1 ∧ ((1 / 2 - pow2 (-54) : Rat) + 1 / 2).floor = 0 ∧
    okFlt (Num.round [fv 4503599627370497, .fn none]) = some 4503599627370498 := by decide +kernel

/-- `round: p` for ANY `p` whose scale `math.Pow10(p)` is a non-zero float64 `e` (−323 ≤ p ≤ 308; for p < 0 and p > 22
`e` is the float nearest to 10^p, not 10^p): the product, the sum and the quotient are each correctly rounded,
`RN(⌊RN(RN(x·e) + 1/2)⌋ / e)`. `round_spec` is the case where all three are exact. -/
theorem round_stepwise (x : Rat) (p : Int) (e a b c : Rat) (hpow : Num.pow10Go p = .ok e) (he : e ≠ 0)
    (h1 : roundF64 (x * e) = some a) (hz : a = 0 → ¬ x < 0) (h2 : roundF64 (a + 1 / 2) = some b)
    (h3 : roundF64 ((b.floor : Rat) / e) = some c) :
    Num.round [fv x, .fn (some (.ok (.int .int p)))] = ret (.flt .f64 c) :=
  (round_places x p).trans (roundTo_steps x p e a b c hpow he h1 hz h2 h3)

/-- the hypotheses of `round_stepwise` at p = −2 and p = 23: the scale is the float64 nearest to 1/100, resp. 10^23,
and differs from it -/
example :
    (match Num.pow10Go (-2) with
      | .ok e => decide (roundF64 (mkRat 1 100) = some e ∧ e ≠ mkRat 1 100 ∧ e ≠ 0)
      | _ => false) = true ∧
    (match Num.pow10Go 23 with
      | .ok e => decide (roundF64 ((10 ^ 23 : Nat) : Rat) = some e ∧ e ≠ ((10 ^ 23 : Nat) : Rat) ∧ e ≠ 0)
      | _ => false) = true := by decide +kernel

/-- outside −323 ≤ p ≤ 308 `math.Pow10` is 0 or +Inf and the real filter yields NaN for every receiver
(`{{ 1234.5678 | round: 309 }}` and `{{ 0 | round: 400 }}` print `NaN`): outside the model -/
theorem round_places_out_of_range (x : Rat) (p : Int) (hp : p < -323 ∨ 308 < p) :
    Num.round [fv x, .fn (some (.ok (.int .int p)))]
      = .unmodelled "math.Pow10: +Inf or 0 scale (the filter yields NaN)" := by
  rw [round_places, Num.roundTo, pow10Go_out_of_range p hp]
  rfl

/-- evaluated on the model, equal to what the real engine prints for 1234.5678: negative places round to tens and
hundreds (`round: -1` = 1230, `round: -2` = 1200, `round: -4` = 0), places beyond the fractional digits return the
receiver (`round: 23`, `round: 300`), `round: 308` overflows (`+Inf` in Go, unmodelled here), `round: -323` is 0 -/
example :
    let x : Rat := mkRat 5429502395555911 4398046511104
    let r (p : Int) := Num.round [fv x, .fn (some (.ok (.int .int p)))]
    Representable x ∧ okFlt (r (-1)) = some 1230 ∧ okFlt (r (-2)) = some 1200 ∧ okFlt (r (-4)) = some 0
      ∧ okFlt (r 23) = some x ∧ okFlt (r 300) = some x ∧ isUnmodelled (r 308) = true ∧ okFlt (r (-323)) = some 0
      ∧ isUnmodelled (r (-324)) = true := by
  decide +kernel

/-- `x | plus: b | minus: b` gives `x` back -/
theorem plus_minus (a b : Rat) (h1 : Representable (a + b)) (h2 : Representable a) :
    Num.plus [fv a, fv b] = ret (.flt .f64 (a + b)) ∧ Num.minus [fv (a + b), fv b] = ret (.flt .f64 a) := by
  refine ⟨plus_spec a b h1, ?_⟩
  have h := minus_spec (a + b) b (by rw [Rat.add_sub_cancel]; exact h2)
  rwa [Rat.add_sub_cancel] at h

/-- `x | times: b | divided_by: b` (float `b ≠ 0`) gives `x` back -/
theorem times_div (a b : Rat) (hb : b ≠ 0) (h1 : Representable (a * b)) (h2 : Representable a)
    (hz : a = 0 → 0 < b) :
    Num.times [fv a, fv b] = ret (.flt .f64 (a * b)) ∧
    Num.dividedBy [fv (a * b), .val (.flt .f64 b)] = ret (.flt .f64 a) := by
  have ha0 : a * b = 0 → a = 0 := fun h0 => (Rat.mul_eq_zero.mp h0).resolve_right hb
  refine ⟨times_spec a b h1 fun h0 => ⟨by rw [ha0 h0]; exact Rat.le_refl, Rat.le_of_lt (hz (ha0 h0))⟩, ?_⟩
  have h := divided_by_flt (a * b) b .f64 hb (by rw [Rat.mul_div_cancel hb]; exact h2) (fun h0 => hz (ha0 h0))
  rwa [Rat.mul_div_cancel hb] at h

example : Representable ((3 / 2 : Rat) + 1 / 4) ∧ Representable (3 / 2 : Rat) ∧ Representable ((3 / 2 : Rat) * (1 / 4)) := by
  decide +kernel

/-! ## strings: a receiver that spells a number is that number; anything else is an error -/

/-- For each of the nine numeric filters: a string receiver whose text is a decimal spelling of `q`
behaves exactly as the `float64` nearest to `q` (`strconv.ParseFloat`), whatever the arguments and
the filter table. -/
theorem numeric_string_recv (impls : Bytes → Option FilterImpl) (name : Bytes) (hname : name ∈ numericNames)
    (s : Bytes) (q r : Rat) (args : List GoVal)
    (hn : readNumber s = .num q) (hr : roundF64 q = some r) (hz : r = 0 → s.head? ≠ some 45) :
    applyFilter impls name (.str s) args = applyFilter impls name (.flt .f64 r) args := by
  obtain ⟨sg, ps, hs, hp⟩ := numeric_sig_head name hname
  unfold applyFilter
  simp only [hs, hp, List.length_cons]
  rw [convertArgs_val_cons (by simp), convertArgs_val_cons (by simp), convert_str_f64 hn hr hz, convert_flt_f64]

example : readNumber [50, 46, 53] = .num (5 / 2) ∧ roundF64 (5 / 2) = some (5 / 2)
    ∧ readNumber [49, 101, 50] = .num 100 ∧ readNumber [45, 46, 53] = .num (-1 / 2) := by decide +kernel   -- "2.5", "1e2", "-.5"

/-- a string receiver that does not spell a number makes each numeric filter fail with a
`TypeError` (not a `FilterError`), provided the argument count is admissible -/
theorem non_numeric_err (impls : Bytes → Option FilterImpl) (name : Bytes) (hname : name ∈ numericNames)
    (s : Bytes) (args : List GoVal) (hn : readNumber s = .bad) :
    applyFilter impls name (.str s) args = .err .typeErr ∨
    applyFilter impls name (.str s) args = .err (.filterErr name .parity) := by
  obtain ⟨sg, ps, hs, hp⟩ := numeric_sig_head name hname
  unfold applyFilter
  simp only [hs, hp, List.length_cons]
  split
  · exact Or.inr rfl
  · left
    rw [convertArgs_val_cons (by simp), convert_str_f64_bad hn]
    rfl

/-- … and so does a non-numeric string *operand* of `plus`, `minus`, `times`, `modulo` -/
theorem non_numeric_operand_err (impls : Bytes → Option FilterImpl) (name : Bytes) (hname : name ∈ binaryNames)
    (a : Rat) (k : FltKind) (s : Bytes) (hn : readNumber s = .bad) :
    applyFilter impls name (.flt k a) [.str s] = .err .typeErr := by
  obtain ⟨sg, hs, hp⟩ := binary_sig name hname
  unfold applyFilter
  simp only [hs, hp, List.length_cons, List.length_nil]
  rw [convertArgs_val_cons (by simp), convert_flt_f64]
  simp only [Res.bind]
  rw [convertArgs_val_cons (by simp), convert_str_f64_bad hn]
  rfl

example : readNumber [120] = .bad ∧ readNumber [] = .bad ∧ readNumber [32, 49] = .bad ∧ readNumber [49, 46, 50, 46, 51] = .bad := by
  decide +kernel   -- "x", "", " 1", "1.2.3"

/-! ## end to end: zero divisors through `ApplyFilter` -/

theorem dividedBy_zero (a : Rat) {z : GoVal} (hz : (∃ k, z = .int k 0) ∨ (∃ k, z = .flt k 0)) :
    Num.dividedBy [fv a, .val z] = retErr .divZero := by
  rcases hz with ⟨k, rfl⟩ | ⟨k, rfl⟩
  · exact (divided_by_zero_err a).1 k
  · exact (divided_by_zero_err a).2 k

/-- `divided_by` and `modulo` with a zero divisor, for a nil receiver (the body sees 0.0) or one that converts -/
theorem zero_divisor_err {recv z : GoVal} {a : Rat}
    (h1 : Heap.convArgVal .f64 (some recv) = .ok (.flt .f64 a)) (hz : (∃ k, z = .int k 0) ∨ (∃ k, z = .flt k 0)) :
    applyFilter (lookupImpl Num.impls) (Num.bn "divided_by") recv [z]
      = .err (.filterErr (Num.bn "divided_by") .divZero) ∧
    applyFilter (lookupImpl Num.impls) (Num.bn "modulo") recv [z]
      = .err (.filterErr (Num.bn "modulo") .divZero) := by
  obtain ⟨hany, hf64⟩ := zero_converts hz
  exact ⟨applyFilter_two_err sig_divided_by rfl numImpl_divided_by h1 hany (dividedBy_zero a hz),
    applyFilter_two_err sig_modulo rfl numImpl_modulo h1 hf64 (modulo_zero_err a)⟩

/-- `{{ x | divided_by: 0 }}`: for every numeric receiver and every integer kind (or float) of the
zero, the result is the error `FilterError{"divided_by", division by zero}` -/
theorem divided_by_zero_filter (a : Rat) (kr : FltKind) (z : GoVal)
    (hz : (∃ k, z = .int k 0) ∨ (∃ k, z = .flt k 0)) :
    applyFilter (lookupImpl Num.impls) (Num.bn "divided_by") (.flt kr a) [z]
      = .err (.filterErr (Num.bn "divided_by") .divZero) :=
  (zero_divisor_err (recv := .flt kr a) (convert_flt_f64 kr a) hz).1

/-- `{{ x | modulo: 0 }}` is the same error (the D17 repair), for an integer or float zero -/
theorem modulo_zero_filter (a : Rat) (kr : FltKind) (z : GoVal)
    (hz : (∃ k, z = .int k 0) ∨ (∃ k, z = .flt k 0)) :
    applyFilter (lookupImpl Num.impls) (Num.bn "modulo") (.flt kr a) [z]
      = .err (.filterErr (Num.bn "modulo") .divZero) :=
  (zero_divisor_err (recv := .flt kr a) (convert_flt_f64 kr a) hz).2

/-! ### … for every receiver

The receiver parameter of both filters is a `float64`: `ApplyFilter` converts the receiver first (`convert recv .f64`)
and the body sees only the float. So a zero divisor is the error whatever kind the receiver has. -/

/-- the receiver is any value that `Convert` turns into a float64 `a` -/
theorem divided_by_zero_recv (recv z : GoVal) (a : Rat) (hn : recv ≠ .nil)
    (hc : convert recv .f64 = .ok (.flt .f64 a)) (hz : (∃ k, z = .int k 0) ∨ (∃ k, z = .flt k 0)) :
    applyFilter (lookupImpl Num.impls) (Num.bn "divided_by") recv [z]
      = .err (.filterErr (Num.bn "divided_by") .divZero) :=
  (zero_divisor_err ((convArgVal_of_ne_nil .f64 hn).trans hc) hz).1

theorem modulo_zero_recv (recv z : GoVal) (a : Rat) (hn : recv ≠ .nil)
    (hc : convert recv .f64 = .ok (.flt .f64 a)) (hz : (∃ k, z = .int k 0) ∨ (∃ k, z = .flt k 0)) :
    applyFilter (lookupImpl Num.impls) (Num.bn "modulo") recv [z]
      = .err (.filterErr (Num.bn "modulo") .divZero) :=
  (zero_divisor_err ((convArgVal_of_ne_nil .f64 hn).trans hc) hz).2

/-- a numeric receiver: an integer of any Go kind (within the range of its kind), a float of either width, or a
string that spells a decimal number within the float64 range (not a spelling of −0, which is outside the model) -/
inductive NumericRecv : GoVal → Prop where
  | int (k : IntKind) (n : Int) (h : k.inRange n = true) : NumericRecv (.int k n)
  | flt (k : FltKind) (a : Rat) : NumericRecv (.flt k a)
  | str (s : Bytes) (q r : Rat) (hn : readNumber s = .num q) (hr : roundF64 q = some r)
      (hz : r = 0 → s.head? ≠ some 45) : NumericRecv (.str s)

theorem numericRecv_converts (recv : GoVal) (h : NumericRecv recv) :
    recv ≠ .nil ∧ ∃ a, convert recv .f64 = .ok (.flt .f64 a) := by
  cases h with
  | int k n hk => obtain ⟨r, _, e⟩ := convert_int_f64 k n hk; exact ⟨by simp, r, e⟩
  | flt k a => exact ⟨by simp, a, convert_flt_f64 k a⟩
  | str s q r hn hr hz => exact ⟨by simp, r, convert_str_f64 hn hr hz⟩

/-- `divided_by: 0`, `divided_by: 0.0`, `modulo: 0`, `modulo: 0.0` (a zero of any integer kind or float width) with
an int, uint, float or numeric-string receiver: the error "division by zero", for all 16 combinations at once -/
theorem zero_divisor_every_receiver (recv z : GoVal) (hr : NumericRecv recv)
    (hz : (∃ k, z = .int k 0) ∨ (∃ k, z = .flt k 0)) :
    applyFilter (lookupImpl Num.impls) (Num.bn "divided_by") recv [z]
      = .err (.filterErr (Num.bn "divided_by") .divZero) ∧
    applyFilter (lookupImpl Num.impls) (Num.bn "modulo") recv [z]
      = .err (.filterErr (Num.bn "modulo") .divZero) := by
  obtain ⟨hn, a, hc⟩ := numericRecv_converts recv hr
  exact ⟨divided_by_zero_recv recv z a hn hc hz, modulo_zero_recv recv z a hn hc hz⟩

example : NumericRecv (.int .int 7) ∧ NumericRecv (.int .u64 (2 ^ 64 - 1)) ∧ NumericRecv (.flt .f32 (15 / 2))
    ∧ NumericRecv (.str [55, 46, 53]) :=
  ⟨.int _ _ (by decide), .int _ _ (by decide), .flt _ _,
   .str _ (15 / 2) (15 / 2) (by decide +kernel) (by decide +kernel) (by decide +kernel)⟩   -- 7, MaxUint64, 7.5, "7.5"

/-- … and for EVERY receiver whatsoever (nil, a bool, a string that spells no number or −0 or overflows, an array …)
a zero divisor never produces output: the result of the filter is not a value -/
theorem zero_divisor_never_output (recv z v : GoVal) (hz : (∃ k, z = .int k 0) ∨ (∃ k, z = .flt k 0)) :
    applyFilter (lookupImpl Num.impls) (Num.bn "divided_by") recv [z] ≠ .ok v ∧
    applyFilter (lookupImpl Num.impls) (Num.bn "modulo") recv [z] ≠ .ok v := by
  have ne_ok : ∀ {r : Res Cause GoVal} {c : Cause}, r = .err c → r ≠ .ok v := fun h => h ▸ nofun
  by_cases hn : recv = .nil
  · -- a nil receiver is the zero value of the parameter, 0.0
    have e := zero_divisor_err (recv := recv) (a := 0) (by rw [hn]; rfl) hz
    exact ⟨ne_ok e.1, ne_ok e.2⟩
  · by_cases hc : ∃ c, convert recv .f64 = .ok c
    · obtain ⟨c, hc⟩ := hc
      obtain ⟨a, rfl⟩ := convert_f64_shape recv c hc
      have e := zero_divisor_err ((convArgVal_of_ne_nil .f64 hn).trans hc) hz
      exact ⟨ne_ok e.1, ne_ok e.2⟩
    · have hc : ∀ c, convert recv .f64 ≠ .ok c := fun c h => hc ⟨c, h⟩
      exact ⟨applyFilter_recv_fails sig_divided_by rfl hn hc, applyFilter_recv_fails sig_modulo rfl hn hc⟩

/-! ## printing: a whole-number result is written without a fractional part or exponent -/

/-- `{{ x }}` for a float (either width) holding a whole number below 10²¹ (after the D23 repair of
`writeObject`): whenever the value is printed, the text consists of decimal digits with at most a
leading minus sign — no `.`, no `e`, no `+`. -/
theorem whole_prints_int (k : FltKind) (q : Rat) (hden : q.den = 1) (hlt : q.num.natAbs < 10 ^ 21)
    (b : Bytes) (h : writeObject (.flt k q) = .ok b) :
    ∃ body, allDigits body ∧ (b = body ∨ b = 45 :: body) := by
  have hw : isWholeSmall q = true := by simp [isWholeSmall, hden, hlt]
  simp only [writeObject, GoVal.toLiquid, writeObjectL, hw, ↓reduceIte, fmtFloatF] at h
  split at h
  · simp at h
  · simp only [Res.ok.injEq] at h
    exact ⟨[48], by intro c hc; simp at hc; subst hc; decide, Or.inl h.symm⟩
  · rename_i neg ds dp hne hs
    have ⟨hd, hl⟩ := shortestDigits_whole _ _ q hden neg ds dp hs
    have hbody := fmtF_whole ds dp hd (fun h0 => hne h0) hl
    simp only [Res.ok.injEq] at h
    refine ⟨fmtF ds dp, hbody, ?_⟩
    cases neg <;> simp_all

/-- in particular the text contains no `.` (46), `e` (101) or `+` (43) -/
theorem whole_prints_no_point (k : FltKind) (q : Rat) (hden : q.den = 1) (hlt : q.num.natAbs < 10 ^ 21)
    (b : Bytes) (h : writeObject (.flt k q) = .ok b) : (46 : UInt8) ∉ b ∧ (101 : UInt8) ∉ b ∧ (43 : UInt8) ∉ b := by
  obtain ⟨body, hd, hb⟩ := whole_prints_int k q hden hlt b h
  have key : ∀ c : UInt8, c ∈ b → c = 45 ∨ (48 ≤ c.toNat ∧ c.toNat ≤ 57) := by
    intro c hc
    rcases hb with hb | hb <;> subst hb
    · exact Or.inr (hd c hc)
    · rcases List.mem_cons.mp hc with h1 | h1
      · exact Or.inl h1
      · exact Or.inr (hd c h1)
  refine ⟨fun hc => ?_, fun hc => ?_, fun hc => ?_⟩ <;>
    · rcases key _ hc with h1 | h1
      · exact absurd h1 (by decide)
      · exact absurd h1 (by decide)

example : okBytes (writeObject (.flt .f64 1234567)) = some [49, 50, 51, 52, 53, 54, 55] ∧
    okBytes (writeObject (.flt .f64 (-1000000))) = some [45, 49, 48, 48, 48, 48, 48, 48] ∧
    okBytes (sprint (.flt .f64 1000000)) = some [49, 101, 43, 48, 54] := by decide +kernel   -- 1234567, -1000000; fmt: 1e+06
