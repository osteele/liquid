import Proofs.RenderSim
import Proofs.RepEqEval
import Proofs.InsertionSort
import Proofs.MapOrder
/-!
# What the value layer sees of two related values (shared by C18 and C02)

`View R u u'`: `u` and `u'` (results of `unwrap`) are the same value, or have the same shape with `R`-related
parts: two sequences (a slice or a fixed array, of any element type) with related elements; two maps of one key
type whose entries have the same keys and related values, in the same order or (distinct scalar keys) in any order;
two ordered maps, keyed maps or structs with related values. Lookup, index, truth test, `intOf`, `isNil` and loop
items are proved once for `View R`; a relation on values takes part by showing that related unwrapped values have
related views (`RepEq.view`, `MP.view`); the last section hands the views to the lock step of `Proofs/RenderSim.lean`
(`valSim_of_view`, `ctxSim_same`).
-/

open GoVal MapOrder

variable {R : GoVal → GoVal → Prop}

/-! ## Facts about the entries of one map -/

theorem find?_unique_perm {α : Type} {p : α → Bool} {l l' : List α} (h : l.Perm l')
    (hu : ∀ x ∈ l, ∀ y ∈ l, p x = true → p y = true → x = y) : l.find? p = l'.find? p := by
  cases h1 : l.find? p with
  | none =>
    symm
    rw [List.find?_eq_none] at h1 ⊢
    intro x hx
    exact h1 x (h.symm.subset hx)
  | some x =>
    have hx := List.find?_some h1
    have hxm := List.mem_of_find?_eq_some h1
    cases h2 : l'.find? p with
    | none =>
      rw [List.find?_eq_none] at h2
      exact absurd hx (h2 x (h.subset hxm))
    | some y =>
      have hy := List.find?_some h2
      have hym := h.symm.subset (List.mem_of_find?_eq_some h2)
      rw [hu x hxm y hym hx hy]

theorem keysOK_of_keys_eq {kvs mid : List (GoVal × GoVal)} (he : kvs.map (·.1) = mid.map (·.1)) (hk : KeysOK kvs) : KeysOK mid := by
  constructor
  · intro kv hkv
    have : kv.1 ∈ mid.map (·.1) := List.mem_map_of_mem hkv
    rw [← he] at this
    obtain ⟨kv', hkv', e⟩ := List.mem_map.mp this
    rw [← e]
    exact hk.1 kv' hkv'
  · have h2 := hk.2
    have : (kvs.map (·.1)).Pairwise (· ≠ ·) := by
      rw [List.pairwise_map]; exact h2
    rw [he, List.pairwise_map] at this
    exact this

def KV (R : GoVal → GoVal → Prop) {κ : Type} (a b : κ × GoVal) : Prop := a.1 = b.1 ∧ R a.2 b.2

def nilLike : GoVal → Bool
  | .nil | .nilPtr => true
  | _ => false

/-- related, and nil together: `PropertyValue` of an ordered map asks whether the item it found is nil -/
def NilAlike (R : GoVal → GoVal → Prop) (v v' : GoVal) : Prop := R v v' ∧ nilLike v = nilLike v'

/-- the entry lists of two maps that the value layer cannot tell apart: `mid` has the keys of `kvs` with related
    values, and `kvs'` is `mid`, or any permutation of it when the keys are distinct scalars -/
def EntRel (R : GoVal → GoVal → Prop) (kvs kvs' : List (GoVal × GoVal)) : Prop :=
  ∃ mid, All2 (KV R) kvs mid ∧ (mid = kvs' ∨ (KeysOK kvs ∧ mid.Perm kvs'))

inductive View (R : GoVal → GoVal → Prop) : GoVal → GoVal → Prop
  | same (v : GoVal) : View R v v
  | seq {u u' : GoVal} {xs xs' : List GoVal} : Cmp.seqElems u = some xs → Cmp.seqElems u' = some xs' → All2 R xs xs' → View R u u'
  | map (kt : Ty) {vt vt' : Ty} {kvs kvs' : List (GoVal × GoVal)} : EntRel R kvs kvs' → View R (.map kt vt kvs) (.map kt vt' kvs')
  | mapSlice {kvs kvs' : List (GoVal × GoVal)} : All2 (KV (NilAlike R)) kvs kvs' → View R (.mapSlice kvs) (.mapSlice kvs')
  | keyedMap {fs fs' : List (Bytes × GoVal)} : All2 (KV R) fs fs' → View R (.keyedMap fs) (.keyedMap fs')
  | struct {fs fs' : List (Bytes × GoVal)} : All2 (KV R) fs fs' → View R (.struct fs) (.struct fs')
  | ptrStruct {fs fs' : List (Bytes × GoVal)} : All2 (KV R) fs fs' → View R (.ptr (.struct fs)) (.ptr (.struct fs'))

def LRelG (R : GoVal → GoVal → Prop) : LRes → LRes → Prop
  | .val a, .val b => R a b
  | .unmodelled w, .unmodelled w' => w = w'
  | _, _ => False

theorem LRelG.refl (hr : ∀ v, R v v) : ∀ r : LRes, LRelG R r r
  | .val v => hr v
  | .unmodelled _ => rfl

def OptRel (R : GoVal → GoVal → Prop) : Option GoVal → Option GoVal → Prop
  | some a, some b => R a b
  | none, none => True
  | _, _ => False

/-! ## Lists of related elements and entries -/

theorem All2.keys_eq {κ : Type} {xs ys : List (κ × GoVal)} (h : All2 (KV R) xs ys) : xs.map (·.1) = ys.map (·.1) := by
  induction h with
  | nil => rfl
  | cons hx _ ih => simp [hx.1, ih]

theorem All2.getD (hn : R .nil .nil) {xs ys : List GoVal} (h : All2 R xs ys) : ∀ n : Nat, R (xs.getD n .nil) (ys.getD n .nil) := by
  induction h with
  | nil => exact fun _ => hn
  | cons hx _ ih => intro n; cases n with
    | zero => exact hx
    | succ n => simpa using ih n

theorem All2.head (hn : R .nil .nil) {xs ys : List GoVal} (h : All2 R xs ys) : R (xs.head?.getD .nil) (ys.head?.getD .nil) := by
  cases h with
  | nil => exact hn
  | cons hx _ => exact hx

theorem All2.getLast (hn : R .nil .nil) {xs ys : List GoVal} (h : All2 R xs ys) : R (xs.getLast?.getD .nil) (ys.getLast?.getD .nil) := by
  simpa [List.head?_reverse] using h.reverse.head hn

theorem LRelG.mono {S : GoVal → GoVal → Prop} {r r' : LRes} (h : LRelG S r r') (hS : ∀ a b, S a b → R a b) : LRelG R r r' := by
  cases r <;> cases r' <;> first | exact hS _ _ h | exact h

theorem indexValue_seq_unwrap {u : GoVal} {xs : List GoVal} (h : Cmp.seqElems u = some xs) (i : GoVal) :
    indexValue u i = indexValue.indexList xs i.unwrap := by
  unfold indexValue
  rcases Cmp.seqElems_cases h with ⟨t, rfl⟩ | ⟨t, rfl⟩ <;> rfl

theorem All2.vals {κ : Type} {S : GoVal → GoVal → Prop} (hS : ∀ v v', S v v' → R v v') {xs ys : List (κ × GoVal)}
    (h : All2 (KV S) xs ys) : All2 R (xs.map (·.2)) (ys.map (·.2)) :=
  h.map fun _ _ hx => hS _ _ hx.2

theorem OptRel.getD {a b : Option GoVal} (h : OptRel R a b) (hn : R .nil .nil) : R (a.getD .nil) (b.getD .nil) := by
  cases a <;> cases b <;> first | exact h | exact h.elim | exact hn

theorem OptRel.isSome_eq {a b : Option GoVal} (h : OptRel R a b) : a.isSome = b.isSome := by
  cases a <;> cases b <;> first | rfl | exact h.elim

theorem All2.find {κ : Type} (p : κ → Bool) {xs ys : List (κ × GoVal)} (h : All2 (KV R) xs ys) :
    OptRel R ((xs.find? fun kv => p kv.1).map (·.2)) ((ys.find? fun kv => p kv.1).map (·.2)) := by
  induction h with
  | nil => trivial
  | @cons a b _ _ hx _ ih =>
    simp only [List.find?_cons, ← hx.1]
    cases p a.1 with
    | true => exact hx.2
    | false => exact ih

theorem mapFind_eq (kvs : List (GoVal × GoVal)) (k : GoVal) :
    mapFind kvs k = (kvs.find? fun kv => ifaceEq kv.1 k == some true).map (·.2) := by
  unfold mapFind; cases kvs.find? _ <;> rfl

theorem lookupFields_eq (fs : List (Bytes × GoVal)) (name : Bytes) :
    lookupFields fs name = (fs.find? fun kv => kv.1 == name).map (·.2) := by
  unfold lookupFields; cases fs.find? _ <;> rfl

theorem All2.lookupFields {fs fs' : List (Bytes × GoVal)} (h : All2 (KV R) fs fs') (name : Bytes) :
    OptRel R (lookupFields fs name) (lookupFields fs' name) := by
  rw [lookupFields_eq, lookupFields_eq]; exact h.find (· == name)

theorem All2.mapSliceFind (hn : R .nil .nil) {kvs kvs' : List (GoVal × GoVal)} (h : All2 (KV R) kvs kvs') (e : GoVal) :
    LRelG R (mapSliceFind kvs e) (mapSliceFind kvs' e) := by
  induction h with
  | nil => exact hn
  | @cons a b _ _ hx _ ih =>
    obtain ⟨k, v⟩ := a
    obtain ⟨k', v'⟩ := b
    obtain ⟨rfl, hv⟩ : k = k' ∧ R v v' := hx
    unfold GoVal.mapSliceFind
    split
    · exact hv
    · exact ih
    · exact ih

/-- a sort that looks at the keys only makes the same moves on two lists with the same keys: they are the two sides of one
    list of pairs, sorted by the key -/
theorem All2.insertionSort_key {κ : Type} (lt : κ → κ → Bool) {xs ys : List (κ × GoVal)} (h : All2 (KV R) xs ys) :
    All2 (KV R) (insertionSort (fun a b => lt a.1 b.1) xs) (insertionSort (fun a b => lt a.1 b.1) ys) := by
  obtain ⟨l, rfl, rfl, hl⟩ := h.zip
  obtain ⟨m, hm, e1, e2⟩ := insertionSort_rel (lt := fun a b => lt a.1 b.1) (lt' := fun a b => lt a.1 b.1) (·.1) (·.2) l
    fun c hc d hd => by rw [(hl c hc).1, (hl d hd).1]
  rw [e1, e2]
  exact .of_zip m fun p hp => hl p (hm.subset hp)

/-! ## The entries of a map: size, lookup by key, sorted iteration -/

namespace EntRel

theorem length_eq {kvs kvs' : List (GoVal × GoVal)} (h : EntRel R kvs kvs') : kvs.length = kvs'.length := by
  obtain ⟨mid, hm, rfl | ⟨_, hp⟩⟩ := h
  · exact hm.length_eq
  · rw [hm.length_eq, hp.length_eq]

/-- a lookup by a predicate that at most one key of a map can meet -/
theorem findP (p : GoVal → Bool) (hp : ∀ a b, GoodKey b → p a = true → p b = true → a = b)
    {kvs kvs' : List (GoVal × GoVal)} (h : EntRel R kvs kvs') :
    OptRel R ((kvs.find? fun kv => p kv.1).map (·.2)) ((kvs'.find? fun kv => p kv.1).map (·.2)) := by
  obtain ⟨mid, hm, hk⟩ := h
  have hf := hm.find p
  rcases hk with rfl | ⟨hk, hpm⟩
  · exact hf
  · have hkm := keysOK_of_keys_eq hm.keys_eq hk
    rwa [← find?_unique_perm hpm fun x hx y hy px py => hkm.entry_unique hx hy (hp _ _ (hkm.1 y hy) px py)]

theorem find {kvs kvs' : List (GoVal × GoVal)} (h : EntRel R kvs kvs') (k : GoVal) :
    OptRel R (mapFind kvs k) (mapFind kvs' k) := by
  rw [mapFind_eq, mapFind_eq]
  exact h.findP (fun x => ifaceEq x k == some true) fun a b _ pa pb => by
    rw [(ifaceEq_true (eq_of_beq pa)).1, (ifaceEq_true (eq_of_beq pb)).1]

theorem mem_left {kvs kvs' : List (GoVal × GoVal)} (h : EntRel R kvs kvs') : ∀ e ∈ kvs, ∃ e' ∈ kvs', e'.1 = e.1 ∧ R e.2 e'.2 := by
  obtain ⟨mid, hm, hk⟩ := h
  intro e he
  obtain ⟨e', he', hx⟩ := hm.mem_left e he
  exact ⟨e', hk.elim (· ▸ he') (·.2.subset he'), hx.1.symm, hx.2⟩

theorem mem_right {kvs kvs' : List (GoVal × GoVal)} (h : EntRel R kvs kvs') : ∀ e' ∈ kvs', ∃ e ∈ kvs, e'.1 = e.1 ∧ R e.2 e'.2 := by
  obtain ⟨mid, hm, hk⟩ := h
  intro e' he'
  obtain ⟨e, he, hx⟩ := hm.mem_right e' (hk.elim (· ▸ he') (·.2.symm.subset he'))
  exact ⟨e, he, hx.1.symm, hx.2⟩

theorem sorted {kvs kvs' : List (GoVal × GoVal)} (h : EntRel R kvs kvs') :
    RRel false (All2 (KV R)) (sortedMapEntries kvs) (sortedMapEntries kvs') := by
  obtain ⟨mid, hm, hk⟩ := h
  have key : RRel false (All2 (KV R)) (sortedMapEntries kvs) (sortedMapEntries mid) := by
    unfold sortedMapEntries
    rw [manyClass4_keys hm.keys_eq]
    split
    · exact .inr rfl
    · exact hm.insertionSort_key keyLess
  rcases hk with rfl | ⟨hk, hp⟩
  · exact key
  · rwa [sortedMapEntries_perm (ε := Cause) hp.symm (keysOK_of_keys_eq hm.keys_eq hk)]

end EntRel

/-! ## The operations of the value layer on related views -/

theorem noLit_of_rigidM {v : GoVal} (h : rigidM v = false) : NoLit v :=
  ⟨fun n e => by subst e; simp [rigidM] at h, fun b e => by subst e; simp [rigidM] at h⟩

namespace View

/-- related views: the same value, or two values with parts, each its own `unwrap` -/
theorem cases_rigid {u u' : GoVal} (h : View R u u') :
    u' = u ∨ ((rigidM u = false ∧ u.unwrap = u) ∧ (rigidM u' = false ∧ u'.unwrap = u')) := by
  cases h with
  | same => exact .inl rfl
  | seq hs hs' _ =>
    rcases Cmp.seqElems_cases hs with ⟨_, rfl⟩ | ⟨_, rfl⟩ <;> rcases Cmp.seqElems_cases hs' with ⟨_, rfl⟩ | ⟨_, rfl⟩ <;>
      exact .inr ⟨⟨rfl, rfl⟩, rfl, rfl⟩
  | _ => exact .inr ⟨⟨rfl, rfl⟩, rfl, rfl⟩

/-- a function of the unwrapped value that is constant on values with parts -/
theorem congr {α : Type} {f : GoVal → α} {c : α} (hf : ∀ u, rigidM u = false → f u = c) {u u' : GoVal} (h : View R u u') :
    f u = f u' := by
  rcases h.cases_rigid with rfl | ⟨h1, h2⟩
  · rfl
  · rw [hf u h1.1, hf u' h2.1]

theorem test {u u' : GoVal} (h : View R u u') : u.test = u'.test := by
  rcases h.cases_rigid with rfl | ⟨h1, h2⟩
  · rfl
  · unfold GoVal.test; rw [h1.2, h2.2]
    exact congr (f := fun u => match u with | .nil => false | .bool false => false | _ => true) (c := true)
      (fun u hu => by cases u <;> first | rfl | cases hu) h

theorem isNil {u u' : GoVal} (h : View R u u') : u.isNil = u'.isNil :=
  h.congr (c := false) (fun u hu => by cases u <;> first | rfl | cases hu)

theorem noLit {u u' : GoVal} (h : View R u u') : u' = u ∨ (NoLit u ∧ NoLit u') :=
  h.cases_rigid.imp_right fun h => ⟨noLit_of_rigidM h.1.1, noLit_of_rigidM h.2.1⟩

variable (hr : ∀ v, R v v)
include hr

theorem propList {xs ys : List GoVal} (h : All2 R xs ys) (name : Bytes) :
    LRelG R (propertyValue.propList name xs) (propertyValue.propList name ys) := by
  unfold propertyValue.propList
  rw [h.length_eq]
  split
  · exact h.head (hr _)
  · split
    · exact h.getLast (hr _)
    · split <;> exact hr _

/-- the entry of that name, or else the number of entries under the name `size` -/
theorem foundOrSize {o o' : Option GoVal} (h : OptRel R o o') (name : Bytes) (n : Nat) :
    LRelG R (match (generalizing := false) o with
        | some v => .val v
        | none => if name == sizeKey then .val (.int .int n) else .val .nil)
      (match (generalizing := false) o' with
        | some v => .val v
        | none => if name == sizeKey then .val (.int .int n) else .val .nil) := by
  cases o <;> cases o' <;> first | exact h.elim | exact h | skip
  cases name == sizeKey <;> exact hr _

theorem propertyValue {u u' : GoVal} (h : View R u u') (name : Bytes) :
    LRelG R (propertyValue u name) (propertyValue u' name) := by
  cases h with
  | same => exact LRelG.refl hr _
  | seq hs hs' hl => rw [propertyValue_seq hs, propertyValue_seq hs']; exact propList hr hl name
  | map kt he =>
    simp only [GoVal.propertyValue, unwrap, he.length_eq]
    refine foundOrSize hr ?_ name _
    cases kt <;> first | exact he.find _ | trivial
  | @mapSlice kvs kvs' hm =>
    -- the item of that name; a nil item named `size` gives way to the number of items
    simp only [GoVal.propertyValue, unwrap, hm.length_eq]
    have hf := hm.mapSliceFind (R := NilAlike R) ⟨hr _, rfl⟩ (.str name)
    generalize mapSliceFind kvs (.str name) = r, mapSliceFind kvs' (.str name) = r' at hf ⊢
    cases r <;> cases r' <;> first | exact hf.elim | exact hf | skip
    next v v' =>
      obtain ⟨hv, he⟩ : NilAlike R v v' := hf
      show LRelG R (if (nilLike v && name == sizeKey) = true then _ else _) (if (nilLike v' && name == sizeKey) = true then _ else _)
      rw [← he]
      cases nilLike v && name == sizeKey
      · exact hv
      · exact hr _
  | keyedMap hf =>
    simp only [GoVal.propertyValue, unwrap, hf.length_eq]
    exact foundOrSize hr (hf.lookupFields name) name _
  | struct hf => exact (hf.lookupFields name).getD (hr _)
  | ptrStruct hf => exact (hf.lookupFields name).getD (hr _)

theorem indexList {xs ys : List GoVal} (h : All2 R xs ys) (i : GoVal) :
    LRelG R (indexValue.indexList xs i) (indexValue.indexList ys i) := by
  unfold indexValue.indexList
  simp only [h.length_eq]
  repeat' split
  all_goals first | exact hr _ | rfl | exact h.getD (hr _) _

theorem fieldIndex {fs fs' : List (Bytes × GoVal)} (hf : All2 (KV R) fs fs') (i : GoVal) :
    LRelG R (match i with | .str s => .val ((lookupFields fs s).getD .nil) | _ => .val .nil)
      (match i with | .str s => .val ((lookupFields fs' s).getD .nil) | _ => .val .nil) := by
  split
  · exact (hf.lookupFields _).getD (hr _)
  · exact hr _

theorem indexValue {u u' : GoVal} (h : View R u u') (i : GoVal) : LRelG R (indexValue u i) (indexValue u' i) := by
  cases h with
  | same => exact LRelG.refl hr _
  | seq hs hs' hl => rw [indexValue_seq_unwrap hs, indexValue_seq_unwrap hs']; exact indexList hr hl _
  | map kt he =>
    simp only [GoVal.indexValue, unwrap]
    split
    · exact hr _
    · split
      · rfl
      · exact hr _
      · exact (he.find _).getD (hr _)
  | mapSlice hm => exact (hm.mapSliceFind ⟨hr _, rfl⟩ _).mono fun _ _ h => h.1
  | keyedMap hf => exact fieldIndex hr hf _
  | struct hf => exact fieldIndex hr hf _
  | ptrStruct hf => exact fieldIndex hr hf _

/-- the items of a loop; `hp`: the pair a loop over a map visits -/
theorem loopItems (hp : ∀ k {v v'}, R v v' → R (mkPair k v) (mkPair k v')) (budget : Int) {u u' : GoVal} (h : View R u u') :
    RRel false (All2 R) (loopItems budget u) (loopItems budget u') := by
  have pairs : ∀ {S : GoVal → GoVal → Prop} {es es' : List (GoVal × GoVal)}, (∀ v v', S v v' → R v v') → All2 (KV S) es es' →
      All2 R (es.map fun kv => mkPair kv.1 kv.2) (es'.map fun kv => mkPair kv.1 kv.2) :=
    fun hS h => h.map fun a b hx => by show R (mkPair a.1 a.2) (mkPair b.1 b.2); rw [← hx.1]; exact hp _ (hS _ _ hx.2)
  cases h with
  | same => exact RRel.of_eq (All2.refl hr) rfl
  | seq hs hs' hl => rw [loopItems_seq hs, loopItems_seq hs']; exact hl
  | map kt he => exact RRel.bind he.sorted fun _ _ h => pairs (fun _ _ h => h) h
  | mapSlice hm => exact pairs (fun _ _ h => h.1) hm
  | keyedMap hf =>
    exact (hf.insertionSort_key fun a b => decide (a < b)).map fun a b h => by
      show R (.str a.1) (.str b.1); rw [h.1]; exact hr _
  | struct | ptrStruct => exact .nil

end View

/-! ## Relations that have views -/

/-- `W` relates values at the top of an expression, `R` their parts: related values have related views once unwrapped,
    and related parts are related values -/
structure HasView (W R : GoVal → GoVal → Prop) : Prop where
  view {a b : GoVal} : W a b → View R a.unwrap b.unwrap
  refl (v : GoVal) : R v v
  ofPart {a b : GoVal} : R a b → W a b
  pair (k : GoVal) {v v' : GoVal} : R v v' → R (mkPair k v) (mkPair k v')

theorem liftL_relG {T : Tol} {W : GoVal → GoVal → Prop} (hW : ∀ a b, R a b → W a b) {r r' : LRes} (h : LRelG R r r') :
    RSim T W (liftL r) (liftL r') := by
  cases r <;> cases r' <;> simp only [LRelG] at h
  · exact .ok (hW _ _ h)
  · exact h ▸ .unmodelled _

namespace HasView
variable {W : GoVal → GoVal → Prop} (H : HasView W R)
include H

theorem propertyValue {a b : GoVal} (h : W a b) (name : Bytes) : LRelG R (propertyValue a name) (propertyValue b name) := by
  rw [propertyValue_eq_unwrap a, propertyValue_eq_unwrap b]
  exact (H.view h).propertyValue H.refl name

theorem indexValue {r r' i i' : GoVal} (hr : W r r') (hi : W i i') : LRelG R (indexValue r i) (indexValue r' i') := by
  rw [indexValue_eq_unwrap r i, indexValue_eq_unwrap r' i']
  rcases (H.view hi).cases_rigid with e | ⟨h1, h2⟩
  · rw [e]; exact (H.view hr).indexValue H.refl _
  · rw [indexValue_container h1.1 h1.2, indexValue_container h2.1 h2.2]; exact H.refl _

theorem intOf {a b : GoVal} (h : W a b) : a.intOf = b.intOf :=
  (H.view h).congr (f := fun u => match u with | .int .int n => some n | _ => none) (c := none)
    (fun u hu => by cases u <;> first | rfl | cases hu)

theorem test {a b : GoVal} (h : W a b) : a.test = b.test :=
  (H.view h).congr (f := fun u => match u with | .nil => false | .bool false => false | _ => true) (c := true)
    (fun u hu => by cases u <;> first | rfl | cases hu)

end HasView

/-! ## Evaluation and rendering need no more of a relation than its views -/

namespace HasView
variable {W E U V : GoVal → GoVal → Prop} {T : Tol} {t : Bool} (H : HasView W R)
include H

theorem evalRel (hE : ∀ {a b}, E a b → W a.toLiquid b.toLiquid) (hU : ∀ {a b}, W a b → U a.unwrap b.unwrap) : EvalRel T E W U where
  refl v := H.ofPart (H.refl v)
  ofVar := hE
  unwrap := hU
  property name h := liftL_relG (fun _ _ => H.ofPart) (H.propertyValue h name)
  index hr hi := liftL_relG (fun _ _ => H.ofPart) (H.indexValue hr hi)
  intOf := H.intOf
  test := H.test

/-- the items of a loop over related values, as `ctxSim_same` asks for them -/
theorem loopItems (hV : ∀ {v v'}, V v v' → View R v v') {budget : Int} {v v' : GoVal} (h : V v v') :
    RRel t (All2 R) (loopItems budget v) (loopItems budget v') :=
  ((hV h).loopItems H.refl H.pair budget).weaken

end HasView

/-- the lock-step congruence asks of the results of `Evaluate` what their views answer -/
theorem valSim_of_view {E V : GoVal → GoVal → Prop} (hV : ∀ {v v'}, V v v' → View R v v') (reflE : ∀ v, E v v) (ofVal : ∀ {v v'}, V v v' → E v v')
    (ofItem : ∀ {v v'}, R v v' → E v v') (cyc : ∀ {v v'}, E v v' → v = v' ∨ (cyclesOf v = none ∧ cyclesOf v' = none)) :
    ValSim (EnvRelG E) E V R :=
  { envSim_pointwise with
    refl := reflE
    ofVal := ofVal
    ofItem := ofItem
    isNil := fun h => (hV h).isNil
    test := fun h => (hV h).test
    shape := fun h => (hV h).noLit
    cyclesOf := cyc }

/-- one value layer, output layer and configuration on both sides: what `CtxSim` asks, from the facts about that one layer -/
theorem ctxSim_same {t : Bool} {E V I : GoVal → GoVal → Prop} (c : RCtx)
    (evaluate : ∀ {env env' : Env}, EnvRelG E env env' → ∀ e, RSim (.both t) V (evaluate c.P env e) (evaluate c.P env' e))
    (equalFn : ∀ {a a' b b' : GoVal}, V a a' → V b b' → RRel t Eq (c.P.equalFn a b) (c.P.equalFn a' b'))
    (chunks : ∀ {v v' : GoVal}, V v v' → RRel t Eq (c.O.chunks v) (c.O.chunks v'))
    (loopItems : ∀ {budget : Int} {v v' : GoVal}, V v v' → RRel t (All2 I) (loopItems budget v) (loopItems budget v'))
    (inc' : Nat → Bytes → Env → Prog (Status × Bytes)) : CtxSim (.both t) (EnvRelG E) V I c { c with inc := inc' } where
  path := rfl
  strict := rfl
  evaluate he e := evaluate he e
  equalFn ha hb := (equalFn ha hb).sim
  chunks hv := (chunks hv).sim
  loopItems hv := (loopItems hv).sim
