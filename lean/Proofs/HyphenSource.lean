import Proofs.SrcItems
/-!
# Hyphens of the SOURCE and `.trim` nodes of the compiled tree (helpers for `Proofs/C13Source.lean`)

`dropHyphens items` clears every hyphen flag of an item list: `spell d (dropHyphens items)` is the source
`spell d items` with the hyphen bytes that stand next to a delimiter deleted (`hyphen_source_bytes`, `Proofs/C13Source.lean`).
This file proves what that deletion does to the tokens and to the syntax tree:

* tokens: the token list of the hyphen-free items is the token list of the items without its trim markers, up
  to the `source` field of tag and object tokens (`tokensOf_dropHyphens`);
* block parser: dropping the trim markers of a token list drops the `.trim` nodes of the syntax tree, at every
  depth — provided that no trim marker is met in raw mode, where it would be kept as an empty slice of the
  raw body (`parseTokens_dropTrims`, `rawTrimFree`).

The compiler layer (`compileList_stripAsts`) is in `Proofs/HyphenSourceCompile.lean`.
-/

def Item.dropHy : Item → Item
  | .text s => .text s
  | .obj args _ _ wl wr => .obj args false false wl wr
  | .tag name args _ _ wl wm wr => .tag name args false false wl wm wr

def dropHyphens (items : List Item) : List Item := items.map Item.dropHy

def Item.hyphens : Item → Nat
  | .text _ => 0
  | .obj _ hl hr _ _ => hl.toNat + hr.toNat
  | .tag _ _ hl hr _ _ _ => hl.toNat + hr.toNat

theorem dropHyphens_cons (it : Item) (r : List Item) : dropHyphens (it :: r) = it.dropHy :: dropHyphens r := rfl

theorem dropHyphens_append (a b : List Item) : dropHyphens (a ++ b) = dropHyphens a ++ dropHyphens b := by
  simp [dropHyphens]

theorem Item.dropHy_idem (it : Item) : it.dropHy.dropHy = it.dropHy := by cases it <;> rfl

theorem dropHyphens_idem (items : List Item) : dropHyphens (dropHyphens items) = dropHyphens items := by
  simp [dropHyphens, Item.dropHy_idem]

theorem Item.dropHy_of_no_hyphens (it : Item) (h : it.hyphens = 0) : it.dropHy = it := by
  cases it with
  | text s => rfl
  | obj args hl hr wl wr => cases hl <;> cases hr <;> first | rfl | cases h
  | tag name args hl hr wl wm wr => cases hl <;> cases hr <;> first | rfl | cases h

theorem dropHyphens_of_no_hyphens : ∀ (items : List Item), (∀ it ∈ items, it.hyphens = 0) → dropHyphens items = items :=
  fun items h => (List.map_congr_left fun it hit => it.dropHy_of_no_hyphens (h it hit)).trans (List.map_id' items)

def markBytes (m : Bool) (s : Bytes) : List (UInt8 × Bool) := s.map (fun b => (b, m))

/-- the spelling of an item, every byte marked: `true` on the whitespace-control hyphens, `false` elsewhere -/
def Item.spellMarked (d : Delims) : Item → List (UInt8 × Bool)
  | .text s => markBytes false s
  | .obj args hl hr wl wr =>
    markBytes false d.ol ++ (markBytes true (hyB hl) ++ (markBytes false (wl ++ (args ++ wr)) ++
      (markBytes true (hyB hr) ++ markBytes false d.or)))
  | .tag name args hl hr wl wm wr =>
    markBytes false d.tl ++ (markBytes true (hyB hl) ++ (markBytes false (wl ++ (name ++ (tagArgPart args wm ++ wr))) ++
      (markBytes true (hyB hr) ++ markBytes false d.tr)))

def spellMarked (d : Delims) : List Item → List (UInt8 × Bool)
  | [] => []
  | it :: r => it.spellMarked d ++ spellMarked d r

theorem markBytes_fst (m : Bool) (s : Bytes) : (markBytes m s).map (·.1) = s := by
  simp [markBytes, Function.comp_def]

theorem mem_markBytes {m : Bool} {s : Bytes} {p : UInt8 × Bool} : p ∈ markBytes m s ↔ p.1 ∈ s ∧ p.2 = m := by
  obtain ⟨b, m'⟩ := p
  simp only [markBytes, List.mem_map, Prod.mk.injEq]
  exact ⟨fun ⟨_, ha, hb, hm⟩ => ⟨hb ▸ ha, hm.symm⟩, fun ⟨hb, hm⟩ => ⟨b, hb, rfl, hm.symm⟩⟩

theorem markBytes_keep (s : Bytes) : (markBytes false s).filter (fun p => !p.2) = markBytes false s :=
  List.filter_eq_self.2 fun p hp => by simp [(mem_markBytes.1 hp).2]

theorem markBytes_drop (s : Bytes) : (markBytes true s).filter (fun p => !p.2) = [] :=
  List.filter_eq_nil_iff.2 fun p hp => by simp [(mem_markBytes.1 hp).2]

theorem Item.spellMarked_fst (d : Delims) (it : Item) : (it.spellMarked d).map (·.1) = it.spell d := by
  cases it <;> simp [Item.spellMarked, Item.spell, markBytes_fst]

theorem Item.spellMarked_unmarked (d : Delims) (it : Item) :
    ((it.spellMarked d).filter (fun p => !p.2)).map (·.1) = it.dropHy.spell d := by
  cases it <;> simp [Item.spellMarked, Item.spell, Item.dropHy, markBytes_keep, markBytes_drop, markBytes_fst, hyB]

/-- a marked byte lies in one of the two `hyB` segments, the only ones marked `true` -/
theorem Item.spellMarked_hyphen (d : Delims) (it : Item) : ∀ p ∈ it.spellMarked d, p.2 = true → p.1 = 45 := by
  intro p hp hm
  have hy : ∀ b, p.1 ∈ hyB b → p.1 = 45 := by intro b; cases b <;> simp [hyB]
  cases it <;> simp only [Item.spellMarked, List.mem_append, mem_markBytes, hm, and_true, and_false, or_false, false_or,
    Bool.true_eq_false] at hp
  all_goals rcases hp with h | h <;> exact hy _ h

theorem countNL_hyB (b : Bool) : countNL (hyB b) = 0 := by cases b <;> rfl

theorem Item.spell_dropHy_nl (d : Delims) (it : Item) : countNL (it.dropHy.spell d) = countNL (it.spell d) := by
  cases it with
  | text s => rfl
  | obj args hl hr wl wr => simp only [Item.dropHy, Item.spell, countNL_append, countNL_hyB]
  | tag name args hl hr wl wm wr => simp only [Item.dropHy, Item.spell, countNL_append, countNL_hyB]

def dropTrimToks (toks : List Token) : List Token := toks.filter (fun t => !t.isTrim)

theorem dropTrimToks_cons_keep {t : Token} (ts : List Token) (h : t.isTrim = false) :
    dropTrimToks (t :: ts) = t :: dropTrimToks ts := List.filter_cons_of_pos (by simp [h])

theorem dropTrimToks_cons_trim {t : Token} (ts : List Token) (h : t.isTrim = true) :
    dropTrimToks (t :: ts) = dropTrimToks ts := List.filter_cons_of_neg (by simp [h])

theorem dropTrimToks_append (a b : List Token) : dropTrimToks (a ++ b) = dropTrimToks a ++ dropTrimToks b := by
  simp [dropTrimToks]

theorem Item.tokens_dropHy (d : Delims) (line : Nat) (it : Item) :
    (it.dropHy.tokens d line).map unsrc = (dropTrimToks (it.tokens d line)).map unsrc := by
  cases it with
  | text s => rfl
  | obj args hl hr wl wr => cases hl <;> cases hr <;> rfl
  | tag name args hl hr wl wm wr => cases hl <;> cases hr <;> rfl

/-- **tokens.** The tokens of the hyphen-free items are the tokens of the items without the trim markers: same
    kinds, names, arguments, LINES and texts; the `source` field of a tag or object token (which has lost its
    hyphens) is the only difference. -/
theorem tokensOf_dropHyphens (d : Delims) : ∀ (items : List Item) (line : Nat),
    (tokensOf d (dropHyphens items) line).map unsrc = (dropTrimToks (tokensOf d items line)).map unsrc
  | [], _ => rfl
  | it :: r, line => by
    simp only [dropHyphens_cons, tokensOf, List.map_append, dropTrimToks_append, Item.tokens_dropHy, Item.spell_dropHy_nl,
      tokensOf_dropHyphens d r]

mutual
/-- the syntax tree with the trim nodes of its bodies removed -/
def AST.strip : AST → AST
  | .text t => .text t
  | .obj t => .obj t
  | .tag t => .tag t
  | .trim l => .trim l
  | .raw sl => .raw sl
  | .block t body cls => .block t (stripAsts body) (stripAstClauses cls)
/-- remove every `.trim` node of a list of syntax trees, at every depth -/
def stripAsts : List AST → List AST
  | [] => []
  | n :: ns =>
    match n with
    | .trim _ => stripAsts ns
    | n => n.strip :: stripAsts ns
def stripAstClauses : List (Token × List AST) → List (Token × List AST)
  | [] => []
  | (t, b) :: cs => (t, stripAsts b) :: stripAstClauses cs
end

def AST.isTrim : AST → Bool
  | .trim _ => true
  | _ => false

theorem stripAsts_eq : ∀ ns : List AST, stripAsts ns = (ns.filter fun n => !n.isTrim).map AST.strip
  | [] => by rw [stripAsts]; rfl
  | n :: ns => by
    cases n with
    | trim l => rw [stripAsts, stripAsts_eq ns]; rfl
    | _ => rw [stripAsts, stripAsts_eq ns]; rfl; nofun

theorem stripAsts_cons_trim (l : Bool) (ns : List AST) : stripAsts (.trim l :: ns) = stripAsts ns := by
  rw [stripAsts]

theorem stripAsts_cons_of_not_trim (n : AST) (ns : List AST) (h : n.isTrim = false) :
    stripAsts (n :: ns) = n.strip :: stripAsts ns := by
  simp [stripAsts_eq, h]

theorem stripAsts_reverse (a : List AST) : stripAsts a.reverse = (stripAsts a).reverse := by
  simp [stripAsts_eq, List.filter_reverse]

theorem stripAstClauses_eq : ∀ cs : List (Token × List AST), stripAstClauses cs = cs.map fun p => (p.1, stripAsts p.2)
  | [] => by rw [stripAstClauses]; rfl
  | (t, b) :: cs => by rw [stripAstClauses, stripAstClauses_eq cs]; rfl

def Frame.strip (f : Frame) : Frame :=
  { tok := f.tok, outer := stripAsts f.outer, body := f.body.map stripAsts, clauses := stripAstClauses f.clauses, cur := f.cur }

def PState.strip (s : PState) : PState :=
  { cur := stripAsts s.cur, stack := s.stack.map Frame.strip, mode := s.mode }

theorem closeFrame_isTrim (f : Frame) (cur : List AST) : (closeFrame f cur).isTrim = false := by
  unfold closeFrame
  split <;> rfl

theorem closeFrame_strip (f : Frame) (cur : List AST) :
    closeFrame f.strip (stripAsts cur) = (closeFrame f cur).strip := by
  obtain ⟨tok, outer, body, clauses, fc⟩ := f
  cases fc with
  | none => simp [closeFrame, Frame.strip, AST.strip, stripAsts_reverse, stripAstClauses]
  | some c =>
    cases body with
    | none =>
      simp [closeFrame, Frame.strip, AST.strip, stripAsts_reverse, stripAstClauses_eq, stripAsts]
    | some b =>
      simp [closeFrame, Frame.strip, AST.strip, stripAsts_reverse, stripAstClauses_eq]

theorem parentOk_strip (cs : Syn) (st : List Frame) :
    parentOk cs (st.map Frame.strip).head? = parentOk cs st.head? := by
  cases st with
  | nil => rfl
  | cons f fs => cases cs <;> simp [parentOk, Frame.strip]

theorem parseStep_strip (g : Grammar) (chk : Bytes → Option Cause) (s : PState) (t : Token) (ht : t.isTrim = false) :
    parseStep g chk s.strip t = (parseStep g chk s t).mapOk PState.strip := by
  obtain ⟨cur, st, mode⟩ := s
  cases mode with
  | raw o sl | comment o =>
    simp only [parseStep, PState.strip]
    split <;> rfl
  | normal =>
    cases hty : t.ty with
    | text =>
      simp only [parseStep, hty, PState.strip, Res.mapOk]
      rfl
    | trimL => simp [Token.isTrim, hty] at ht
    | trimR => simp [Token.isTrim, hty] at ht
    | obj =>
      simp only [parseStep, hty, PState.strip]
      cases chk t.args with
      | some c => rfl
      | none => rfl
    | tag =>
      simp only [parseStep, hty, PState.strip]
      cases hsyn : g.syntaxOf t.name with
      | none => rfl
      | some cs =>
        simp only [apply_ite (Res.mapOk PState.strip), parentOk_strip]
        refine ite_congr rfl (fun _ => rfl) fun _ => ite_congr rfl (fun _ => rfl) fun _ => ite_congr rfl (fun _ => rfl) fun _ => ?_
        cases cs with
        | start n => simp [Res.mapOk, PState.strip, Frame.strip, stripAsts, stripAstClauses]
        | clause n ps =>
          cases st with
          | nil => rfl
          | cons f fs =>
            obtain ⟨tok, outer, body, clauses, fc⟩ := f
            cases fc <;>
              simp [Res.mapOk, PState.strip, Frame.strip, stripAsts, stripAstClauses, stripAsts_reverse]
        | end_ n sn =>
          cases st with
          | nil => rfl
          | cons f fs =>
            simp only [List.map_cons, Res.mapOk, PState.strip]
            rw [stripAsts_cons_of_not_trim _ _ (closeFrame_isTrim f cur), ← closeFrame_strip]
            rfl

theorem Token.isTrim_ty {t : Token} (h : t.isTrim = true) :
    (t.ty == .tag) = false ∧ (t.ty == .obj) = false ∧ isEndRaw t = false := by
  simp only [Token.isTrim, Bool.or_eq_true, beq_iff_eq] at h
  rcases h with h | h <;> simp only [isEndRaw, h] <;> exact ⟨rfl, rfl, rfl⟩

theorem parseStep_trim (g : Grammar) (chk : Bytes → Option Cause) (s : PState) (t : Token) (ht : t.isTrim = true)
    (hm : s.mode.isRaw = false) : ∃ s', parseStep g chk s t = .ok s' ∧ s'.strip = s.strip ∧ s'.mode = s.mode := by
  obtain ⟨cur, st, mode⟩ := s
  cases mode with
  | raw o sl => cases hm
  | comment o => exact ⟨_, step_inComment_other (by simp [isEndComment, (Token.isTrim_ty ht).1]), rfl, rfl⟩
  | normal =>
    rcases (by simpa [Token.isTrim] using ht : t.ty = .trimL ∨ t.ty = .trimR) with hty | hty
    · exact ⟨_, step_trimL hty, by simp [PState.strip, stripAsts_cons_trim], rfl⟩
    · exact ⟨_, step_trimR hty, by simp [PState.strip, stripAsts_cons_trim], rfl⟩

/-- from a tag named `raw` up to the next `endraw` tag there is no trim marker (the Boolean: a `raw` tag has been
    passed): in raw mode the parser keeps every token, a trim marker included, as a slice of the raw body -/
def rawTrimFree : Bool → List Token → Bool
  | _, [] => true
  | false, t :: ts => rawTrimFree (t.ty == .tag && t.name == rawName) ts
  | true, t :: ts => if isEndRaw t then rawTrimFree false ts else !t.isTrim && rawTrimFree true ts

theorem rawTrimFree_eq_rawScan : ∀ (flag : Bool) (toks : List Token),
    rawTrimFree flag toks = rawScan (fun t => !t.isTrim) flag toks
  | false, [] | true, [] => rfl
  | false, t :: ts => rawTrimFree_eq_rawScan _ ts
  | true, t :: ts => by
    rw [rawTrimFree, rawScan, rawNext, ← rawTrimFree_eq_rawScan]
    cases isEndRaw t <;> rfl

/-- a trim marker is never met in raw mode, so `parseStep_trim` applies to each -/
theorem parseLoop_dropTrims (g : Grammar) (chk : Bytes → Option Cause) : ∀ (toks : List Token) (s : PState),
    RawMeets (fun t => t.isTrim = false) g chk s toks →
    parseLoop g chk s.strip (dropTrimToks toks) = (parseLoop g chk s toks).mapOk PState.strip
  | [], _, _ => rfl
  | t :: ts, s, h => by
    cases htr : t.isTrim with
    | false =>
      rw [dropTrimToks_cons_keep ts htr]
      simp only [parseLoop, parseStep_strip g chk s t htr]
      cases hst : parseStep g chk s t with
      | ok s1 => exact parseLoop_dropTrims g chk ts s1 (h.2 s1 hst)
      | _ => rfl
    | true =>
      rw [dropTrimToks_cons_trim ts htr]
      have hm : s.mode.isRaw = false := by
        cases hr : s.mode.isRaw with
        | false => rfl
        | true =>
          rcases h.1 hr with he | hn
          · rw [(Token.isTrim_ty htr).2.2] at he; cases he
          · rw [htr] at hn; cases hn
      obtain ⟨s1, hst, hstrip, _⟩ := parseStep_trim g chk s t htr hm
      simp only [parseLoop, hst]
      rw [← hstrip]
      exact parseLoop_dropTrims g chk ts s1 (h.2 s1 hst)

/-- **block parser.** On a token list in which no trim marker stands between a `raw` tag and the next `endraw`
    tag, parsing the list without its trim markers gives the syntax tree without its `.trim` nodes — or the
    same error. -/
theorem parseTokens_dropTrims (g : Grammar) (chk : Bytes → Option Cause) (toks : List Token)
    (ht : rawTrimFree false toks = true) :
    parseTokens g chk (dropTrimToks toks) = (parseTokens g chk toks).mapOk stripAsts := by
  unfold parseTokens
  rw [rawTrimFree_eq_rawScan] at ht
  rw [show parseLoop g chk {} (dropTrimToks toks) = _ from
    parseLoop_dropTrims g chk toks {} (rawMeets_of_rawScan (fun t => (Bool.not_eq_true' _).mp) g chk toks {} false nofun ht)]
  -- the verdict on the final state does not look at the trees
  rcases parseLoop g chk {} toks with ⟨cur, _ | ⟨f, fs⟩, _ | _ | _⟩ | e | w | w <;>
    simp [Res.mapOk, PState.strip, Frame.strip, stripAsts_reverse]
