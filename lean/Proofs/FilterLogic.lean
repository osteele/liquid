import Liquid.Std
import Proofs.NumLemmas
import Proofs.CallLemmas
import Proofs.RepEqEval
import Proofs.InsertionSort
/-!
# A filter applied to related inputs, for any relation between the values of the two runs

`values.Call` converts the receiver and the arguments to the parameter types of the filter (`convertArgs`) and hands
the converted list to the body. `ArgsRelG s AV`: two converted lists that are related parameter by parameter, by `AV`
at the parameter's type (a default-function argument is converted lazily: two results related up to `RRel s`;
`RRel true`, `Proofs/RepEqProg.lean`, lets either side be `unmodelled`, and `t` is the same tolerance for the results).
`ImplRespectsG`: a body maps such lists to results related by `W`; `ConvRel.filterRespects`: then the filter maps
inputs related by `A` to related results. `std_sweep` goes through the table of the standard filter bodies once, each body
under the parameter list that stands at its position of the registry (`stdSigPos`, `good_of_sigsPassAt`); the no-panic
table of C01 (`Proofs/StdNoPanic.lean`) goes through it as well. The suffix `G` says "generic in the relation": the instances
are `ImplRespects`, `FilterRespects` (representation equivalence, C18: `Proofs/RepEqFilters.lean`) and
`ImplRespectsM`, `FilterRespectsM` (the order of map entries, C02: `Proofs/MapPermFilters.lean`).
The last part sorts two lists related element by element: `All2.mergeSort`, `SortRel.sortM`, `SortRel.sortByM`.
-/

variable {t s : Bool} {A V W : GoVal → GoVal → Prop} {AV : ParamTy → GoVal → GoVal → Prop}

theorem RRel.lift {α} {R : α → α → Prop} {r r' : Res Cause α} (hst : s = true → t = true) (h : RRel s R r r') :
    RRel t R r r' := by
  cases s with
  | false => exact h.weaken
  | true => rw [hst rfl]; exact h

def ArgRelG (s : Bool) (AV : ParamTy → GoVal → GoVal → Prop) : Param → Arg → Arg → Prop
  | .val t, .val c, .val c' => AV t c c'
  | .fn _, .fn none, .fn none => True
  | .fn t, .fn (some r), .fn (some r') => RRel s (AV t) r r'
  | _, _, _ => False

def ArgsRelG (s : Bool) (AV : ParamTy → GoVal → GoVal → Prop) : List Param → List Arg → List Arg → Prop
  | [], [], [] => True
  | p :: ps, a :: as, a' :: as' => ArgRelG s AV p a a' ∧ ArgsRelG s AV ps as as'
  | _, _, _ => False

theorem argsRelG_cons {p : Param} {ps : List Param} {cs cs' : List Arg} (h : ArgsRelG s AV (p :: ps) cs cs') :
    ∃ a as a' as', cs = a :: as ∧ cs' = a' :: as' ∧ ArgRelG s AV p a a' ∧ ArgsRelG s AV ps as as' := by
  cases cs with
  | nil => simp [ArgsRelG] at h
  | cons a as =>
    cases cs' with
    | nil => simp [ArgsRelG] at h
    | cons a' as' => exact ⟨a, as, a', as', rfl, rfl, h.1, h.2⟩

theorem argsRelG_nil {cs cs' : List Arg} (h : ArgsRelG s AV [] cs cs') : cs = [] ∧ cs' = [] := by
  cases cs <;> cases cs' <;> simp_all [ArgsRelG]

theorem argRelG_val {t : ParamTy} {a a' : Arg} (h : ArgRelG s AV (.val t) a a') :
    ∃ c c', a = .val c ∧ a' = .val c' ∧ AV t c c' := by
  cases a <;> cases a' <;> simp only [ArgRelG] at h
  exact ⟨_, _, rfl, rfl, h⟩

theorem argRelG_fn {t : ParamTy} {a a' : Arg} (h : ArgRelG s AV (.fn t) a a') :
    (a = .fn none ∧ a' = .fn none) ∨ ∃ r r', a = .fn (some r) ∧ a' = .fn (some r') ∧ RRel s (AV t) r r' := by
  cases a with
  | val v => cases a' <;> simp only [ArgRelG] at h
  | fn o =>
    cases a' with
    | val v => cases o <;> simp only [ArgRelG] at h
    | fn o' =>
      cases o <;> cases o' <;> simp only [ArgRelG] at h
      · exact .inl ⟨rfl, rfl⟩
      · exact .inr ⟨_, _, rfl, rfl, h⟩

theorem argsRelG_val1 {t : ParamTy} {cs cs' : List Arg} (h : ArgsRelG s AV [.val t] cs cs') :
    ∃ c c', cs = [.val c] ∧ cs' = [.val c'] ∧ AV t c c' := by
  obtain ⟨_, _, _, _, rfl, rfl, h1, h2⟩ := argsRelG_cons h
  obtain ⟨rfl, rfl⟩ := argsRelG_nil h2
  obtain ⟨c, c', rfl, rfl, hc⟩ := argRelG_val h1
  exact ⟨c, c', rfl, rfl, hc⟩

theorem argsRelG_val2 {t u : ParamTy} {cs cs' : List Arg} (h : ArgsRelG s AV [.val t, .val u] cs cs') :
    ∃ c c' d d', cs = [.val c, .val d] ∧ cs' = [.val c', .val d'] ∧ AV t c c' ∧ AV u d d' := by
  obtain ⟨_, _, _, _, rfl, rfl, h1, h2⟩ := argsRelG_cons h
  obtain ⟨d, d', rfl, rfl, hd⟩ := argsRelG_val1 h2
  obtain ⟨c, c', rfl, rfl, hc⟩ := argRelG_val h1
  exact ⟨c, c', d, d', rfl, rfl, hc, hd⟩

theorem argsRelG_val_fn {t u : ParamTy} {cs cs' : List Arg} (h : ArgsRelG s AV [.val t, .fn u] cs cs') :
    ∃ c c' a a', cs = [.val c, a] ∧ cs' = [.val c', a'] ∧ AV t c c' ∧ ArgRelG s AV (.fn u) a a' := by
  obtain ⟨_, _, _, _, rfl, rfl, h1, h2⟩ := argsRelG_cons h
  obtain ⟨a, _, a', _, rfl, rfl, h3, h4⟩ := argsRelG_cons h2
  obtain ⟨rfl, rfl⟩ := argsRelG_nil h4
  obtain ⟨c, c', rfl, rfl, hc⟩ := argRelG_val h1
  exact ⟨c, c', a, a', rfl, rfl, hc, h3⟩

def paramsAll (q : ParamTy → Bool) (fns : Bool) : List Param → Bool
  | [] => true
  | .val t :: ps => q t && paramsAll q fns ps
  | .fn t :: ps => fns && q t && paramsAll q fns ps

/-- Parameter types at which related converted arguments are equal: a filter with such parameters only gets the same
    argument list from related inputs — with default-function parameters when their results are related exactly. -/
theorem argsRelG_eq {q : ParamTy → Bool} (hq : ∀ t c c', q t = true → AV t c c' → c = c') :
    ∀ {ps : List Param} {cs cs' : List Arg}, paramsAll q (!s) ps = true → ArgsRelG s AV ps cs cs' → cs = cs'
  | [], _, _, _, h => by
    obtain ⟨rfl, rfl⟩ := argsRelG_nil h
    rfl
  | .val t :: ps, _, _, hp, h => by
    simp only [paramsAll, Bool.and_eq_true] at hp
    obtain ⟨a, as, a', as', rfl, rfl, h1, h2⟩ := argsRelG_cons h
    obtain ⟨c, c', rfl, rfl, hc⟩ := argRelG_val h1
    rw [hq t c c' hp.1 hc, argsRelG_eq hq hp.2 h2]
  | .fn t :: ps, _, _, hp, h => by
    simp only [paramsAll, Bool.and_eq_true, Bool.not_eq_true'] at hp
    obtain ⟨a, as, a', as', rfl, rfl, h1, h2⟩ := argsRelG_cons h
    rw [argsRelG_eq hq hp.2 h2]
    rcases argRelG_fn h1 with ⟨rfl, rfl⟩ | ⟨r, r', rfl, rfl, hr⟩
    · rfl
    · cases hp.1.1
      rw [RRel.eq (hr.mono fun c c' => hq t c c' hp.1.2)]

def ExRelG (W : GoVal → GoVal → Prop) : Except Cause GoVal → Except Cause GoVal → Prop
  | .ok v, .ok v' => W v v'
  | .error c, .error c' => c = c'
  | _, _ => False

theorem exRelG_refl (hW : ∀ v, W v v) (r : Res Cause (Except Cause GoVal)) : RRel t (ExRelG W) r r :=
  RRel.of_eq (fun e => by cases e <;> simp [ExRelG, hW]) rfl

def ImplRespectsG (t s : Bool) (AV : ParamTy → GoVal → GoVal → Prop) (W : GoVal → GoVal → Prop) (ps : List Param)
    (f : FilterImpl) : Prop :=
  ∀ cs cs', ArgsRelG s AV ps cs cs' → RRel t (ExRelG W) (f cs) (f cs')

theorem implRespectsG_of_eq {q : ParamTy → Bool} (hq : ∀ t c c', q t = true → AV t c c' → c = c') (hW : ∀ v, W v v)
    {ps : List Param} (h : paramsAll q (!s) ps = true) (f : FilterImpl) : ImplRespectsG t s AV W ps f := by
  intro cs cs' hcs
  rw [argsRelG_eq hq h hcs]
  exact exRelG_refl hW _

theorem Num.dividedBy_of_parts (a : Rat) {c : GoVal} (h : rigidM c = false) :
    Num.dividedBy [.val (.flt .f64 a), .val c] = retErr (.other "invalid divisor") := by
  cases c <;> first | exact Bool.noConfusion h | rfl

/-- `divided_by` looks at its divisor only when that is a number: it cannot tell two divisors with parts apart -/
theorem Num.dividedBy_respectsG (hW : ∀ v, W v v) (hf : ∀ c c', AV .f64 c c' → c = c')
    (hany : ∀ c c', AV .any c c' → c' = c ∨ (rigidM c = false ∧ rigidM c' = false)) :
    ImplRespectsG t s AV W [.val .f64, .val .any] Num.dividedBy := by
  intro cs cs' h
  obtain ⟨v, v', b, b', rfl, rfl, hv, hb⟩ := argsRelG_val2 h
  cases hf v v' hv
  rcases hany b b' hb with rfl | ⟨hc, hc'⟩
  · exact exRelG_refl hW _
  · cases v with
    | flt k q =>
      cases k with
      | f64 =>
        rw [dividedBy_of_parts q hc, dividedBy_of_parts q hc']
        exact exRelG_refl hW _
      | f32 => exact exRelG_refl hW Num.badArgs
    | _ => exact exRelG_refl hW Num.badArgs

/-- what `values.Call` needs of `A`, the relation of the two receivers and of the arguments, and of `AV` -/
structure ConvRel (s : Bool) (A : GoVal → GoVal → Prop) (AV : ParamTy → GoVal → GoVal → Prop) : Prop where
  convert (t : ParamTy) {a a' : GoVal} : A a a' → RRel s (AV t) (convert a t) (convert a' t)
  nil_iff {a a' : GoVal} : A a a' → (a = .nil ↔ a' = .nil)
  /-- a nil or absent argument is the zero value of the parameter type -/
  zero (t : ParamTy) : AV t t.zero t.zero

def FilterRespectsG (t : Bool) (A V : GoVal → GoVal → Prop) (name : Bytes) : Prop :=
  ∀ r r' as as', A r r' → All2 A as as' → RRel t V (stdPrims.applyFilter name r as) (stdPrims.applyFilter name r' as')

namespace ConvRel
variable (C : ConvRel s A AV)
include C

theorem defaultArgs : ∀ ps : List Param, ArgsRelG s AV ps (ps.map defaultArg) (ps.map defaultArg)
  | [] => trivial
  | .fn _ :: ps => ⟨trivial, defaultArgs ps⟩
  | .val t :: ps => ⟨C.zero t, defaultArgs ps⟩

theorem convertArgs : ∀ (ps : List Param) {as as' : List GoVal}, All2 A as as' →
    RRel s (ArgsRelG s AV ps) (convertArgs ps as) (convertArgs ps as')
  | ps, [], [], .nil => by
    rw [convertArgs_args_nil]
    exact C.defaultArgs ps
  | [], _ :: _, _ :: _, .cons _ _ => by simp [_root_.convertArgs, RRel, ArgsRelG]
  | .fn t :: ps, a :: as, a' :: as', .cons ha has => by
    simp only [_root_.convertArgs]
    exact RRel.bind (convertArgs ps has) (fun r r' h => ⟨C.convert t ha, h⟩)
  | .val t :: ps, a :: as, a' :: as', .cons ha has => by
    by_cases hn : a = .nil
    · cases hn
      cases (C.nil_iff ha).mp rfl
      simp only [_root_.convertArgs]
      exact RRel.bind (convertArgs ps has) (fun r r' h => ⟨C.zero t, h⟩)
    · rw [convertArgs_val_cons hn, convertArgs_val_cons (fun e => hn ((C.nil_iff ha).mpr e))]
      exact RRel.bind (C.convert t ha) (fun c c' hc =>
        RRel.bind (convertArgs ps has) (fun r r' h => ⟨hc, h⟩))

/-- a filter whose body respects the relation, under the signature of its name, does: `ApplyFilter` hands the result
    on with a `[]byte` turned into a string -/
theorem filterRespects (hst : s = true → t = true) (hW : ∀ v v', W v v' → V (bytesToString v) (bytesToString v')) (name : Bytes)
    (h : ∀ sg f, lookupSig name = some sg → lookupImpl stdFilterImpls name = some f → ImplRespectsG t s AV W sg.params f) :
    FilterRespectsG t A V name := by
  intro r r' as as' hr has
  show RRel t V (applyFilter (lookupImpl stdFilterImpls) name r as) (applyFilter (lookupImpl stdFilterImpls) name r' as')
  unfold applyFilter
  cases hs : lookupSig name with
  | none => simp [RRel]
  | some sg =>
    simp only
    have hl : (r :: as).length = (r' :: as').length := (All2.cons hr has).length_eq
    rw [hl]
    split
    · simp [RRel]
    · refine RRel.bind (RRel.lift hst (C.convertArgs sg.params (.cons hr has))) (fun cs cs' hcs => ?_)
      cases hf : lookupImpl stdFilterImpls name with
      | none => simp [RRel]
      | some f =>
        simp only
        refine RRel.bind (h sg f hs hf cs cs' hcs) (fun e e' he => ?_)
        cases e <;> cases e' <;> simp only [ExRelG] at he
        · subst he; simp [RRel]
        · exact hW _ _ he

end ConvRel

/-- what is left to show of the bodies: each entry is good under every parameter list that passes its test -/
inductive Bodies (Good : Bytes → List Param → FilterImpl → Prop) : List (Bytes × FilterImpl) → List (List Param → Bool) → Prop
  | nil : Bodies Good [] []
  | cons {e es q qs} : (∀ ps, q ps = true → Good e.1 ps e.2) → Bodies Good es qs → Bodies Good (e :: es) (q :: qs)

variable {Good : Bytes → List Param → FilterImpl → Prop}

theorem Bodies.body {e : Bytes × FilterImpl} {es : List (Bytes × FilterImpl)} {ps : List Param} {qs : List (List Param → Bool)}
    (hg : Good e.1 ps e.2) (h : Bodies Good es qs) : Bodies Good (e :: es) ((· == ps) :: qs) :=
  .cons (fun _ hp => eq_of_beq hp ▸ hg) h

theorem Bodies.append {es es' : List (Bytes × FilterImpl)} {qs qs' : List (List Param → Bool)}
    (h : Bodies Good es qs) (h' : Bodies Good es' qs') : Bodies Good (es ++ es') (qs ++ qs') := by
  induction h with
  | nil => exact h'
  | cons hg _ ih => exact .cons hg ih

theorem Bodies.map {α} {f : α → Bytes × FilterImpl} {q : List Param → Bool} (hg : ∀ a ps, q ps = true → Good (f a).1 ps (f a).2) :
    ∀ l : List α, Bodies Good (l.map f) (l.map fun _ => q)
  | [] => .nil
  | a :: l => .cons (hg a) (Bodies.map hg l)

/-- the signatures at the given positions of a registry pass, one by one, the listed tests -/
def sigsPassAt (sigs : List FilterSig) : List Nat → List (List Param → Bool) → Bool
  | [], [] => true
  | j :: js, q :: qs => (match sigs[j]? with | none => false | some sg => q sg.params) && sigsPassAt sigs js qs
  | _, _ => false

theorem good_of_sigsPassAt {sigs : List FilterSig} (hd : namesDistinct sigs = true) {tbl : List (Bytes × FilterImpl)}
    {qs : List (List Param → Bool)} (hb : Bodies Good tbl qs) :
    ∀ {pos : List Nat}, tbl.map (·.1) = pos.map (nameAt sigs) → sigsPassAt sigs pos qs = true →
      ∀ e ∈ tbl, ∀ sg, findSig sigs e.1 = some sg → Good e.1 sg.params e.2 := by
  induction hb with
  | nil => intro _ _ _ e he; cases he
  | @cons e0 es q qs hg _ ih =>
    intro pos hn hm e he sg hs
    cases pos with
    | nil => cases hn
    | cons j js =>
      rw [List.map_cons, List.map_cons, List.cons.injEq] at hn
      simp only [sigsPassAt, Bool.and_eq_true] at hm
      rcases List.mem_cons.mp he with rfl | he
      · cases hj : sigs[j]? with
        | none => rw [hj] at hm; cases hm.1
        | some sg' =>
          rw [hj] at hm
          have hname : sg'.name = e.1 := by rw [hn.1, nameAt, hj]; rfl
          obtain rfl : sg = sg' := Option.some.inj
            (hs.symm.trans ((findSig_some_iff sigs hd e.1 sg').mpr ⟨List.mem_of_getElem? hj, hname⟩))
          exact hg _ hm.1
      · exact ih hn.2 hm.2 e he sg hs

def ParamTy.isScalar : ParamTy → Bool
  | .any | .anys => false
  | _ => true

def scalarParams : List Param → Bool
  | [] => true
  | .val t :: ps => t.isScalar && scalarParams ps
  | .fn t :: ps => t.isScalar && scalarParams ps


/-- One sweep over the table of the standard filter bodies: a property of (name, parameter list, body) that holds of the
    string filters under scalar parameters and of the other twenty-five bodies under their parameter lists holds of every
    entry under the signature registered for its name. -/
theorem std_sweep {Good : Bytes → List Param → FilterImpl → Prop}
    (habs : Good (Num.bn "abs") [.val .f64] Num.abs) (hceil : Good (Num.bn "ceil") [.val .f64] Num.ceil)
    (hfloor : Good (Num.bn "floor") [.val .f64] Num.floor) (hplus : Good (Num.bn "plus") [.val .f64, .val .f64] Num.plus)
    (hminus : Good (Num.bn "minus") [.val .f64, .val .f64] Num.minus) (htimes : Good (Num.bn "times") [.val .f64, .val .f64] Num.times)
    (hmodulo : Good (Num.bn "modulo") [.val .f64, .val .f64] Num.modulo)
    (hglue : ∀ (n : String) ps, scalarParams ps = true → Good n.toUTF8.toList ps (StrGlue.impl n))
    (hdiv : Good (Num.bn "divided_by") [.val .f64, .val .any] Num.dividedBy)
    (hround : Good (Num.bn "round") [.val .f64, .fn .int] Num.round)
    (hdefault : Good (Num.bn "default") [.val .any, .val .any] Num.default)
    (hsize : Good (Num.bn "size") [.val .any] Num.size)
    (hcompact : Good (ArrF.bn "compact") [.val .anys] (ArrF.eager ArrF.compact))
    (hconcat : Good (ArrF.bn "concat") [.val .anys, .val .anys] (ArrF.eager ArrF.concat))
    (hjoin : Good (ArrF.bn "join") [.val .anys, .fn .str] (ArrF.eager ArrF.join))
    (hmap : Good (ArrF.bn "map") [.val .anys, .val .str] (ArrF.eager ArrF.map))
    (hreverse : Good (ArrF.bn "reverse") [.val .anys] (ArrF.eager ArrF.reverse))
    (hsort : Good (ArrF.bn "sort") [.val .anys, .val .any] (ArrF.eager ArrF.sort))
    (hfirst : Good (ArrF.bn "first") [.val .anys] (ArrF.eager ArrF.first))
    (hlast : Good (ArrF.bn "last") [.val .anys] (ArrF.eager ArrF.last))
    (huniq : Good (ArrF.bn "uniq") [.val .anys] (ArrF.eager ArrF.uniq))
    (hnat : Good (ArrF.bn "sort_natural") [.val .anys, .val .any] (ArrF.eager ArrF.sortNatural))
    (hjson : Good (JsonF.bn "json") [.val .any] JsonF.json)
    (hinspect : Good (JsonF.bn "inspect") [.val .any] JsonF.inspect)
    (htype : Good (JsonF.bn "type") [.val .any] JsonF.typeF)
    (hdate : Good [100, 97, 116, 101] [.val .time, .fn .str] DateF.date) :
    ∀ e ∈ stdFilterImpls, ∀ sg, lookupSig e.1 = some sg → Good e.1 sg.params e.2 := by
  -- each body with the test "is this parameter list" (the string filters: "is scalar"); that the signatures at the positions
  -- `stdSigPos` of the registry pass these tests is one evaluation, which spells no name
  have hb : Bodies Good stdFilterImpls _ := (((Bodies.append
      (.body habs <| .body hceil <| .body hfloor <| .body hplus <| .body hminus <| .body htimes <| .body hmodulo <|
        .body hdiv <| .body hround <| .body hdefault <| .body hsize .nil)
      (Bodies.map (fun n => hglue n) StrGlue.names)).append
      (.body hcompact <| .body hconcat <| .body hjoin <| .body hmap <| .body hreverse <| .body hsort <| .body hfirst <|
        .body hlast <| .body huniq <| .body hnat .nil)).append
      (.body hjson <| .body hinspect <| .body htype .nil)).append (.body hdate .nil)
  exact good_of_sigsPassAt stdFilters_namesDistinct hb stdTables_aligned.1 (by decide +kernel)

/-! ## Sorting two related lists with a comparator that does not tell them apart

Go's insertion sort (at most 12 elements), run on two lists related element by element by `E`: they are the two sides
of one list of pairs (`All2.zip`), and `insertionSortM_rel` applies. -/

theorem ArrF.insertionSortM_all2 {t : Bool} {E : GoVal → GoVal → Prop} {less : GoVal → GoVal → R Bool}
    (hl : ∀ a a' b b', E a a' → E b b' → RRel t Eq (less a b) (less a' b'))
    {xs xs' : List GoVal} (h : All2 E xs xs') : RRel t (All2 E) (insertionSortM less xs) (insertionSortM less xs') := by
  obtain ⟨l, rfl, rfl, hE⟩ := h.zip
  exact insertionSortM_rel (Q := RRel t (All2 E)) (l := l)
    (fun c hc d hd _ _ hk => RRel.bind (hl _ _ _ _ (hE c hc) (hE d hd)) fun b _ e => e ▸ hk b)
    (fun m hm => All2.of_zip m fun c hc => hE c (hm.subset hc))

/-- a merge sort by orders that do not tell related elements apart permutes two related lists alike: both are the
    two sides of one sorted list of pairs -/
theorem All2.mergeSort {α} {R : α → α → Prop} {le le' : α → α → Bool} (hle : ∀ a a' b b', R a a' → R b b' → le a b = le' a' b')
    {xs xs' : List α} (h : All2 R xs xs') : All2 R (xs.mergeSort le) (xs'.mergeSort le') := by
  obtain ⟨l, h1, h2, h3⟩ := h.zip
  let leP : α × α → α × α → Bool := fun p q => le p.1 q.1
  have e1 : (l.mergeSort leP).map (·.1) = xs.mergeSort le := by
    rw [List.map_mergeSort (r := leP) (s := le) (f := fun p : α × α => p.1) (fun a _ b _ => rfl), h1]
  have e2 : (l.mergeSort leP).map (·.2) = xs'.mergeSort le' := by
    rw [List.map_mergeSort (r := leP) (s := le') (f := fun p : α × α => p.2)
      (fun a ha b hb => hle a.1 a.2 b.1 b.2 (h3 a ha) (h3 b hb)), h2]
  rw [← e1, ← e2]
  exact All2.of_zip _ fun p hp => h3 p ((List.mergeSort_perm l leP).subset hp)

namespace ArrF

/-- what the two sorts look at: `values.Less`, the kinds it orders among themselves, and the entry of an element
    under a key do not tell related elements apart -/
structure SortRel (E : GoVal → GoVal → Prop) : Prop where
  less {a a' b b' : GoVal} : E a a' → E b b' → Cmp.less a b = Cmp.less a' b'
  kclass {x x' : GoVal} : E x x' → kclass x = kclass x'
  smallNum {x x' : GoVal} : E x x' → smallNum x = smallNum x'
  keyIndex (key : Bytes) {x x' : GoVal} : E x x' → E (ArrF.keyIndex key x) (ArrF.keyIndex key x')
  keyIsNil (key : Bytes) {x x' : GoVal} : E x x' → (ArrF.keyIndex key x).isNil = (ArrF.keyIndex key x').isNil

namespace SortRel
variable {E : GoVal → GoVal → Prop} (S : SortRel E)
include S

theorem lessB {a a' b b' : GoVal} (ha : E a a') (hb : E b b') : lessB a b = lessB a' b' := by
  unfold ArrF.lessB; rw [S.less ha hb]

theorem sortLe {a a' b b' : GoVal} (ha : E a a') (hb : E b b') : sortLe a b = sortLe a' b' := by
  unfold ArrF.sortLe; rw [S.lessB hb ha]

theorem lessByKeyM (key : Bytes) {a a' b b' : GoVal} (ha : E a a') (hb : E b b') :
    lessByKeyM key a b = lessByKeyM key a' b' := by
  unfold ArrF.lessByKeyM
  rw [S.keyIsNil key ha, S.keyIsNil key hb, S.less (S.keyIndex key ha) (S.keyIndex key hb)]

theorem sortByLe (key : Bytes) {a a' b b' : GoVal} (ha : E a a') (hb : E b b') : sortByLe key a b = sortByLe key a' b' := by
  unfold ArrF.sortByLe ArrF.lessByKey
  rw [S.keyIsNil key ha, S.keyIsNil key hb, S.lessB (S.keyIndex key hb) (S.keyIndex key ha)]

theorem homog {xs xs' : List GoVal} (h : All2 E xs xs') : homog xs = homog xs' := by
  have hc : ∀ c, xs.all (isClass c) = xs'.all (isClass c) := fun c =>
    h.all_eq fun x x' hx => by simp only [isClass, S.kclass hx]
  unfold ArrF.homog
  rw [hc, hc, hc, hc, hc, h.all_eq (p := ArrF.smallNum) fun _ _ => S.smallNum]

theorem keys (key : Bytes) : ∀ {xs xs' : List GoVal}, All2 E xs xs' →
    All2 E ((xs.map (ArrF.keyIndex key)).filter nonNil) ((xs'.map (ArrF.keyIndex key)).filter nonNil)
  | _, _, .nil => .nil
  | _, _, .cons (a' := x') h hs => by
    have hn := S.keyIsNil key h
    cases hc : (ArrF.keyIndex key x').isNil with
    | true =>
      simp only [List.map_cons, List.filter_cons, nonNil, hn, hc]
      exact keys key hs
    | false =>
      simp only [List.map_cons, List.filter_cons, nonNil, hn, hc, Bool.not_false, if_true]
      exact .cons (S.keyIndex key h) (keys key hs)

variable {t : Bool}

/-- `values.Sort`: Go's insertion sort makes the same comparisons on both lists; beyond 12 elements the merge sort of
    the model is the same permutation of both -/
theorem sortM {xs xs' : List GoVal} (h : All2 E xs xs') : RRel t (All2 E) (sortM xs) (sortM xs') := by
  unfold ArrF.sortM
  rw [h.length_eq, S.homog h]
  split
  · exact insertionSortM_all2 (E := E) (fun _ _ _ _ ha hb => RRel.of_eq (fun _ => rfl) (S.less ha hb)) h
  · split
    · exact .inr rfl
    · exact All2.mergeSort (R := E) (fun _ _ _ _ => S.sortLe) h

theorem sortByM (key : Bytes) {xs xs' : List GoVal} (h : All2 E xs xs') : RRel t (All2 E) (sortByM key xs) (sortByM key xs') := by
  unfold ArrF.sortByM ArrF.homogBy
  rw [h.length_eq, S.homog (S.keys key h)]
  split
  · exact insertionSortM_all2 (E := E) (fun _ _ _ _ ha hb => RRel.of_eq (fun _ => rfl) (S.lessByKeyM key ha hb)) h
  · split
    · exact .inr rfl
    · exact All2.mergeSort (R := E) (fun _ _ _ _ => S.sortByLe key) h

end SortRel
end ArrF
