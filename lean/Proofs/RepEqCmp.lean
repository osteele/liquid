import Proofs.CompareLemmas
import Proofs.RepEqProg
/-!
# The standard comparisons respect representation equivalence (helper lemmas for C18; every `d`:
drops nested in containers included, since `values.Equal` resolves a drop at every depth)

`values.Equal`, `values.Less` and `contains` answer the same when an operand `prep a` (the form in which the
driver hands a value to `Liquid/Compare.lean`) is replaced by `prep (a.norm d)`: the lemmas with `pn`
("`prep` of the normal form") in their names. Hence they answer the same on related operands:
`opEq_prep_vrel`, `opLt_prep_vrel`, `opContains_prep_vrel`.
-/

open GoVal

open Cmp

variable {d : Bool}

/-- a first operand that is a sequence of values enters `Equal` through its length and its element loop only -/
theorem Cmp.equalTL_vals_congr {a a' : GoVal} {xs xs' : List GoVal} (ha : Cmp.seqElems a = some xs) (ha' : Cmp.seqElems a' = some xs')
    (hl : xs.length = xs'.length) (h : ∀ ys, equalList xs ys = equalList xs' ys) (z : GoVal) : equalTL a z = equalTL a' z := by
  have hf : seqVals xs (equalList xs) = seqVals xs' (equalList xs') := by
    funext sv
    cases sv <;> simp only [seqVals, hl, h]
  rw [equalTL_of_array (kind_of_seq ha), equalTL_of_array (kind_of_seq ha'), (seq_vals ha).2, (seq_vals ha').2, hf]

theorem Cmp.equalTL_map_congr (kt : Ty) {vt vt' : Ty} {kvs kvs' : List (GoVal × GoVal)} (hl : kvs.length = kvs'.length)
    (h : ∀ bs, mapAll kvs bs = mapAll kvs' bs) (z : GoVal) : equalTL (.map kt vt kvs) z = equalTL (.map kt vt' kvs') z := by
  have hf : mapEntries kt kvs (mapAll kvs) = mapEntries kt kvs' (mapAll kvs') := by
    funext kt' bs
    simp only [mapEntries, hl, h]
  rw [equalTL_of_map rfl, equalTL_of_map rfl]
  simp only [mapK, hf]

theorem Cmp.prepList_length (xs : List GoVal) : (prepList xs).length = xs.length := by
  induction xs with
  | nil => rfl
  | cons x xs ih => simp [prepList, ih]

theorem Cmp.prepKVs_eq_map (kvs : List (GoVal × GoVal)) : prepKVs kvs = kvs.map fun kv => (prep kv.1, prep kv.2) := by
  induction kvs with
  | nil => rfl
  | cons kv r ih => obtain ⟨k, v⟩ := kv; simp [prepKVs, ih]

theorem Cmp.prepKVs_length (kvs : List (GoVal × GoVal)) : (prepKVs kvs).length = kvs.length := by
  rw [prepKVs_eq_map, List.length_map]

theorem Cmp.normList_len (d : Bool) (xs : List GoVal) : (normList d xs).length = xs.length := by
  simp [normList_eq_map]

theorem Cmp.normKVs_len (d : Bool) (kvs : List (GoVal × GoVal)) : (normKVs d kvs).length = kvs.length := by
  simp [normKVs_eq_map]

mutual
/-- `fl = true` is `values.Equal` itself (it resolves a drop first); the body after `ToLiquid` (`fl = false`) is only
    entered with a first operand that is no drop -/
theorem Cmp.equalAux_pn_left : ∀ (a : GoVal) (fl : Bool) (y : GoVal), (fl = true ∨ noDrop a = true) →
    equalAux fl (prep (a.norm d)) y = equalAux fl (prep a) y
  | .drop v, fl, y, h => by
    rcases h with rfl | h
    · rw [norm]
      split
      · rfl
      · simp only [prep, equalAux]
        exact equalAux_pn_left v true y (.inl rfl)
    · simp [noDrop] at h
  | .slice t xs, fl, y, _ | .array t xs, fl, y, _ => by
    simp only [norm, prep, equalAux]
    exact equalTL_vals_congr rfl rfl (by rw [prepList_length, prepList_length, normList_len]) (equalList_pn_left xs) _
  | .map kt vt kvs, fl, y, _ => by
    cases hr : isRec (.map kt vt kvs) with
    | true => rw [norm_of_isRec hr]
    | false =>
      rw [norm_map_nonrec hr]
      simp only [prep, equalAux]
      exact equalTL_map_congr kt (by rw [prepKVs_length, prepKVs_length, normKVs_len]) (mapAll_pn_left kvs) _
  | .nil, _, _, _ | .bool _, _, _, _ | .int _ _, _, _, _ | .flt _ _, _, _, _ | .str _, _, _, _ | .bytes _, _, _, _
  | .mapSlice _, _, _, _ | .keyedMap _, _, _, _ | .range _ _, _, _, _ | .ptr _, _, _, _ | .nilPtr, _, _, _
  | .struct _, _, _, _ | .time _, _, _, _ => rfl
theorem Cmp.equalList_pn_left : ∀ (xs ys : List GoVal),
    equalList (prepList (normList d xs)) ys = equalList (prepList xs) ys
  | [], _ => rfl
  | x :: xs, [] => by simp [normList, prepList, equalList]
  | x :: xs, y :: ys => by
    simp only [normList, prepList, equalList, equalAux_pn_left x true y (.inl rfl), equalList_pn_left xs ys]
theorem Cmp.mapAll_pn_left : ∀ (kvs bs : List (GoVal × GoVal)),
    mapAll (prepKVs (normKVs d kvs)) bs = mapAll (prepKVs kvs) bs
  | [], _ => rfl
  | (k, v) :: r, bs => by
    simp only [normKVs, prepKVs, mapAll, fun y => equalAux_pn_left v true y (.inl rfl), mapAll_pn_left r bs]
end

/-- a second operand that is a sequence of values meets the loops of the first through its length and as the
    second list of `equalList` only -/
theorem Cmp.equalTL_vals_congr_right {b b' : GoVal} {ys ys' : List GoVal} (hb : Cmp.seqElems b = some ys) (hb' : Cmp.seqElems b' = some ys')
    (hl : ys.length = ys'.length) (h : ∀ xs, equalList xs ys = equalList xs ys') (x : GoVal) : equalTL x b = equalTL x b' := by
  rw [equalTL_vals_right x hb, equalTL_vals_right x hb']
  cases x with
  | slice _ xs | array _ xs => simp only [seqK, seqVals, hl, h]
  | mapSlice kvs => simp only [seqK, seqItems, hl]
  | _ => rfl

theorem Cmp.equalTL_map_congr_right (kt : Ty) {vt vt' : Ty} {bs bs' : List (GoVal × GoVal)} (hl : bs.length = bs'.length)
    (h : ∀ as, mapAll as bs = mapAll as bs') (x : GoVal) : equalTL x (.map kt vt bs) = equalTL x (.map kt vt' bs') := by
  rw [equalTL_map_right, equalTL_map_right]
  cases x with
  | map kt' _ as => simp only [mapK, mapEntries, hl, h]
  | _ => rfl

/-- the loop of `equalMaps` meets the second map in its lookups only -/
theorem Cmp.mapAll_congr_right {bs bs' : List (GoVal × GoVal)}
    (h : ∀ kk, (lookupKey kk bs = none ∧ lookupKey kk bs' = none) ∨
      ∃ v v', lookupKey kk bs = some v ∧ lookupKey kk bs' = some v' ∧ ∀ x, equal x v = equal x v') :
    ∀ as, mapAll as bs = mapAll as bs' := by
  intro as
  rw [mapAll_eq_andSeq, mapAll_eq_andSeq]
  congr 1
  refine List.map_congr_left fun e _ => ?_
  cases hk : toKey e.1 with
  | none => simp only [entryOut, mapIndex, hk]
  | some kk =>
    rw [entryOut_of_key hk, entryOut_of_key hk]
    rcases h kk with ⟨h1, h2⟩ | ⟨w, w', h1, h2, hw⟩
    · rw [h1, h2]
    · rw [h1, h2]
      exact hw e.2

mutual
/-- the second operand may be normalised (`ToLiquid` of the second operand follows a chain of drops, so a drop
    that `norm true` resolved is resolved on the other side too) -/
theorem Cmp.equalAux_pn_right : ∀ (x : GoVal) (fl : Bool) (b : GoVal),
    equalAux fl x (prep (b.norm d)) = equalAux fl x (prep b)
  | x, fl, .drop w => by
    rw [norm]
    split
    · rfl
    · rw [equalAux_pn_right x fl w]
      simp only [prep, equalAux_eq, toLiq]
  | x, fl, .slice t ys | x, fl, .array t ys => by
    simp only [norm, prep, equalAux_eq, toLiq]
    exact equalTL_vals_congr_right rfl rfl (by rw [prepList_length, prepList_length, normList_len])
      (fun xs => equalList_pn_right xs ys) _
  | x, fl, .map kt vt kvs => by
    cases hr : isRec (.map kt vt kvs) with
    | true => rw [norm_of_isRec hr]
    | false =>
      rw [norm_map_nonrec hr]
      simp only [prep, equalAux_eq, toLiq]
      exact equalTL_map_congr_right kt (by rw [prepKVs_length, prepKVs_length, normKVs_len])
        (mapAll_congr_right fun kk => lookupKey_pn kk kvs) _
  | _, _, .nil | _, _, .bool _ | _, _, .int _ _ | _, _, .flt _ _ | _, _, .str _ | _, _, .bytes _
  | _, _, .mapSlice _ | _, _, .keyedMap _ | _, _, .range _ _ | _, _, .ptr _ | _, _, .nilPtr
  | _, _, .struct _ | _, _, .time _ => rfl
theorem Cmp.equalList_pn_right : ∀ (xs ys : List GoVal),
    equalList xs (prepList (normList d ys)) = equalList xs (prepList ys)
  | [], _ => by simp
  | _ :: _, [] => rfl
  | x :: xs, y :: ys => by
    simp only [normList, prepList, equalList, equalAux_pn_right x true y, equalList_pn_right xs ys]
/-- a lookup in the normalised entries finds the normalised value, which `Equal` cannot tell from the value -/
theorem Cmp.lookupKey_pn (kk : Key) : ∀ bs : List (GoVal × GoVal),
    (lookupKey kk (prepKVs (normKVs d bs)) = none ∧ lookupKey kk (prepKVs bs) = none) ∨
    ∃ v v', lookupKey kk (prepKVs (normKVs d bs)) = some v ∧ lookupKey kk (prepKVs bs) = some v' ∧
      ∀ x, equal x v = equal x v'
  | [] => .inl ⟨rfl, rfl⟩
  | (k, v) :: r => by
    simp only [normKVs, prepKVs, lookupKey]
    split
    · exact .inr ⟨_, _, rfl, rfl, fun x => equalAux_pn_right x true v⟩
    · exact lookupKey_pn kk r
end

theorem Cmp.mapAll_pn_right : ∀ (as bs : List (GoVal × GoVal)),
    mapAll as (prepKVs (normKVs d bs)) = mapAll as (prepKVs bs) :=
  fun as bs => mapAll_congr_right (fun kk => lookupKey_pn kk bs) as

theorem Cmp.unwrap_prep (v : GoVal) : (prep v).unwrap = prep v.unwrap := by
  induction v using GoVal.unwrap.induct with
  | case1 v ih => simpa only [prep, unwrap] using ih
  | case2 => simp only [prep, unwrap]
  | case3 v ih => simpa only [prep, unwrap] using ih
  | case4 => simp only [prep, unwrap]
  | case5 => simp only [prep, unwrap]
  | case6 => simp only [prep, unwrap]
  | case7 v h1 h2 h3 h4 ih =>
    cases v with
    | drop w => exact absurd rfl (h1 w)
    | struct fs => exact absurd rfl (h2 fs)
    | range a b => exact absurd rfl (h3 a b)
    | time u => exact absurd rfl (h4 u)
    | _ => simpa only [prep, unwrap] using ih
  | case8 v h1 h2 _ _ _ _ h7 =>
    cases v with
    | drop w => exact absurd rfl (h1 w)
    | nilPtr => exact absurd rfl h2
    | ptr w => exact absurd rfl (h7 w)
    | _ => simp only [prep, unwrap]

theorem Cmp.strip_prep (v : GoVal) : strip (prep v) = prep v.unwrap := by
  rw [strip_eq_unwrap, unwrap_prep]

theorem Cmp.equal_prep_norm (a b : GoVal) :
    equal (prep (a.norm d)) (prep (b.norm d)) = equal (prep a) (prep b) := by
  unfold equal
  rw [equalAux_pn_left _ _ _ (.inl rfl), equalAux_pn_right]

theorem Cmp.equal_prep_repEq {a a' b b' : GoVal} (ha : RepEq d a a') (hb : RepEq d b b') :
    equal (prep a) (prep b) = equal (prep a') (prep b') := by
  rw [← equal_prep_norm (d := d) a b, ← equal_prep_norm (d := d) a' b', ha, hb]

theorem Cmp.opEq_prep (a b : GoVal) : opEq (prep a) (prep b) = equalAux false (prep a.unwrap) (prep b.unwrap) := by
  rw [opEq_eq, equalAux_false, ← strip_prep, ← strip_prep, toLiq_strip]

theorem Cmp.opEq_prep_vrel {a a' b b' : GoVal} (ha : VRel d a a') (hb : VRel d b b') :
    opEq (prep a) (prep b) = opEq (prep a') (prep b') := by
  have na : noDrop a.unwrap = true := unwrap_noDrop a
  have na' : noDrop a'.unwrap = true := unwrap_noDrop a'
  rw [opEq_prep, opEq_prep, ← equalAux_pn_left (d := d) _ _ _ (.inr na), ← equalAux_pn_right (d := d), ha, hb,
    equalAux_pn_left _ _ _ (.inr na'), equalAux_pn_right]

/-! ## `values.Less` only orders scalars; `contains` goes by `Equal` (an array) or by the keys (a map) -/

theorem Cmp.scalar_norm {u : GoVal} (hu : noDrop u = true) : scalar (u.norm d) = scalar u := by
  cases u with
  | drop w => cases hu
  | slice t xs | array t xs => rw [norm]; rfl
  | map kt vt kvs =>
    cases hr : isRec (.map kt vt kvs) with
    | true => rw [norm_of_isRec hr]
    | false => rw [norm_map_nonrec hr]; rfl
  | _ => rw [norm_of_rigid rfl rfl]

theorem Cmp.scalar_prep (v : GoVal) : scalar (prep v) = scalar v := by
  cases v <;> rfl

theorem Cmp.opLt_prep (a b : GoVal) : opLt (prep a) (prep b) = lessTL (prep a.unwrap) (prep b.unwrap) := by
  rw [opLt_eq, strip_prep, strip_prep]

theorem Cmp.opLt_prep_vrel {a a' b b' : GoVal} (ha : VRel d a a') (hb : VRel d b b') :
    opLt (prep a) (prep b) = opLt (prep a') (prep b') := by
  simp only [opLt_prep, lessTL_eq, scalar_prep]
  rw [← scalar_norm (d := d) (unwrap_noDrop a), ← scalar_norm (d := d) (unwrap_noDrop b), ha, hb,
    scalar_norm (unwrap_noDrop a'), scalar_norm (unwrap_noDrop b')]

theorem Cmp.containsList_pn_left (e : GoVal) : ∀ xs : List GoVal,
    containsList (prepList (normList d xs)) e = containsList (prepList xs) e
  | [] => rfl
  | x :: xs => by
    simp only [normList, prepList, containsList, equal, equalAux_pn_left x true e (.inl rfl), containsList_pn_left e xs]

theorem Cmp.containsList_pn_right (e : GoVal) : ∀ xs : List GoVal,
    containsList xs (prep (e.norm d)) = containsList xs (prep e)
  | [] => rfl
  | x :: xs => by
    simp only [containsList, equal, equalAux_pn_right x true e, containsList_pn_right e xs]

theorem Cmp.lookupKey_pn_isSome (kk : Key) (bs : List (GoVal × GoVal)) :
    (lookupKey kk (prepKVs (normKVs d bs))).isSome = (lookupKey kk (prepKVs bs)).isSome := by
  rcases lookupKey_pn (d := d) kk bs with ⟨h1, h2⟩ | ⟨w, w', h1, h2, _⟩ <;> rw [h1, h2] <;> rfl

theorem Cmp.mapFind_pn_isSome (k : GoVal) : ∀ bs : List (GoVal × GoVal),
    (mapFind (prepKVs (normKVs d bs)) k).isSome = (mapFind (prepKVs bs) k).isSome
  | [] => rfl
  | (k0, v) :: r => by
    have ih := Cmp.mapFind_pn_isSome k r
    unfold mapFind at ih ⊢
    simp only [normKVs, prepKVs, List.find?_cons]
    cases ifaceEq (prep k0) k == some true with
    | true => rfl
    | false => exact ih

theorem Cmp.containsW_pn_left (u e : GoVal) (hu : noDrop u = true) :
    containsW (wrapOf (prep (u.norm d))) e = containsW (wrapOf (prep u)) e := by
  cases u with
  | drop w => simp [noDrop] at hu
  | slice t xs | array t xs =>
    simp only [norm, prep, wrapOf, valueOf, containsW, seqView, bind, Res.bind, containsList_pn_left e xs]
  | map kt vt kvs =>
    cases hr : isRec (.map kt vt kvs) with
    | true => rw [norm_of_isRec hr]
    | false =>
      rw [norm_map_nonrec hr]
      simp only [prep, wrapOf, valueOf, containsW, mapView, bind, Res.bind]
      split
      · rfl
      · split
        · rfl
        · rfl
        · simp only [mapFind_pn_isSome]
  | _ => simp [norm]

theorem Cmp.safeEqual_of_uncomparable {a : GoVal} (hc : comparableV a = .ok false) (hn : a.isNil = false)
    (k : GoVal) : safeEqual a k = .ok false := by
  unfold safeEqual
  rw [hc, hn]
  split
  · rfl
  · split <;> rfl

theorem Cmp.safeEqual_array (t : Ty) (ys : List GoVal) (k : GoVal) :
    safeEqual (.array t ys) k = .ok false ∨ ∃ m, safeEqual (.array t ys) k = .unmodelled m := by
  unfold safeEqual
  split
  · exact .inl rfl
  · split
    · exact .inl rfl
    · exact .inr ⟨_, rfl⟩

theorem Cmp.mapSliceContains_false {e : GoVal} (h : ∀ k, safeEqual e k = .ok false) :
    ∀ kvs : List (GoVal × GoVal), mapSliceContains kvs e = .ok false
  | [] => rfl
  | (k, v) :: r => by simp [mapSliceContains, h k, bind, Res.bind, mapSliceContains_false h r]

theorem Cmp.mapSliceContains_array (t : Ty) (ys : List GoVal) :
    ∀ kvs : List (GoVal × GoVal), mapSliceContains kvs (.array t ys) = .ok false ∨
      ∃ m, mapSliceContains kvs (.array t ys) = .unmodelled m
  | [] => .inl rfl
  | (k, v) :: r => by
    simp only [mapSliceContains, bind, Res.bind]
    rcases safeEqual_array t ys k with h | ⟨m, h⟩
    · rw [h]; simpa using mapSliceContains_array t ys r
    · rw [h]; exact .inr ⟨m, rfl⟩

/-- the needle may be normalised, unless the model makes no claim (a fixed-array needle against
    a fixed-array key of an ordered map: `comparableV`) -/
theorem Cmp.containsW_pn_right (w : Wrapper) (e : GoVal) (he : noDrop e = true) :
    containsW w (prep e) = containsW w (prep (e.norm d)) ∨ ∃ m, containsW w (prep e) = .unmodelled m := by
  -- an array compares the needle with its elements by `Equal`, whatever the needle is
  have arr : ∀ v, containsW (.array v) (prep e) = containsW (.array v) (prep (e.norm d)) := fun v => by
    simp only [containsW, containsList_pn_right]
  cases e with
  | drop v => simp [noDrop] at he
  | slice t ys =>
    simp only [norm, prep]
    cases w with
    | array v => exact .inl (arr v)
    | mapSlice kvs => left; simp only [containsW, mapSliceContains_false (safeEqual_of_uncomparable (a := .slice _ _) rfl rfl)]
    | string v => cases v <;> simp [containsW, sprintNeedle]
    | map v => left; simp only [containsW, GoVal.isNil, convertKey_container (i := GoVal.slice _ _) rfl]
    | _ => simp [containsW, GoVal.isNil]
  | array t ys =>
    simp only [norm, prep]
    cases w with
    | array v => exact .inl (arr v)
    | mapSlice kvs =>
      simp only [containsW, mapSliceContains_false (safeEqual_of_uncomparable (a := .slice _ _) rfl rfl)]
      rcases mapSliceContains_array t (prepList ys) kvs with h | ⟨m, h⟩
      · exact .inl h
      · exact .inr ⟨m, h⟩
    | string v => cases v <;> simp [containsW, sprintNeedle]
    | map v => left; simp only [containsW, GoVal.isNil, convertKey_container (i := GoVal.slice _ _) rfl, convertKey_container (i := GoVal.array _ _) rfl]
    | _ => simp [containsW, GoVal.isNil]
  | map kt vt kvs =>
    cases hr : isRec (.map kt vt kvs) with
    | true => rw [norm_of_isRec hr]; exact .inl rfl
    | false =>
      rw [norm_map_nonrec hr]
      simp only [prep]
      cases w with
      | array v => have := arr v; rw [norm_map_nonrec hr] at this; exact .inl this
      | mapSlice kvs' => left; simp only [containsW, mapSliceContains_false (safeEqual_of_uncomparable (a := .map _ _ _) rfl rfl)]
      | string v => cases v <;> simp [containsW, sprintNeedle]
      | map v => left; simp only [containsW, GoVal.isNil, convertKey_container (i := GoVal.map _ _ _) rfl]
      | _ => simp [containsW, GoVal.isNil]
  | _ => simp [norm]

theorem Cmp.opContains_prep (a b : GoVal) :
    opContains (prep a) (prep b) = containsW (wrapOf (prep a.unwrap)) (prep b.unwrap) := by
  rw [opContains_eq, strip_prep, strip_prep]

theorem Cmp.opContains_prep_vrel {a a' b b' : GoVal} (ha : VRel d a a') (hb : VRel d b b') :
    RRel true Eq (opContains (prep a) (prep b)) (opContains (prep a') (prep b')) := by
  rw [opContains_prep, opContains_prep]
  have hx : containsW (wrapOf (prep (a.unwrap.norm d))) (prep (b.unwrap.norm d)) =
      containsW (wrapOf (prep (a'.unwrap.norm d))) (prep (b'.unwrap.norm d)) := by rw [ha, hb]
  rw [containsW_pn_left _ _ (unwrap_noDrop a), containsW_pn_left _ _ (unwrap_noDrop a')] at hx
  rcases containsW_pn_right (d := d) (wrapOf (prep a.unwrap)) b.unwrap (unwrap_noDrop b) with h1 | ⟨m, h1⟩
  · rcases containsW_pn_right (d := d) (wrapOf (prep a'.unwrap)) b'.unwrap (unwrap_noDrop b') with h2 | ⟨m, h2⟩
    · rw [h1, h2, hx]; exact rrel_eq_refl _
    · rw [h2]; exact RRel.unmR rfl _ _
  · rw [h1]; exact RRel.unmL rfl _ _

