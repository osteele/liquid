import Proofs.SrcItems
/-!
# Source-level helpers: `{% if c0 %}A0 {% elsif c1 %}A1 … {% else %}E {% endif %}` with any number of clauses
-/

/-- a clause of an `if` block: `{% elsif cond %}body` or (`cond = none`) `{% else %}body` -/
structure Clause where
  cond : Option Bytes
  w : Ws
  body : List Item

def Clause.tag (c : Clause) : Item :=
  match c.cond with
  | some t => tg nmElsif t c.w
  | none => tg nmElse [] c.w

def clauseItems : List Clause → List Item
  | [] => []
  | c :: r => c.tag :: (c.body ++ clauseItems r)

theorem clauseItems_append : ∀ (a b : List Clause), clauseItems (a ++ b) = clauseItems a ++ clauseItems b
  | [], _ => rfl
  | c :: r, b => by simp [clauseItems, clauseItems_append r b]

/-- `{% if c0 %}A0 clauses… {% endif %}` -/
def chainSrc (c0 : Bytes) (w0 : Ws) (A0 : List Item) (rest : List Clause) (wE : Ws) : List Item :=
  tg nmIf c0 w0 :: (A0 ++ (clauseItems rest ++ [tg (endPrefix ++ nmIf) [] wE]))

/-- the test of a clause whose tag stands at line `l` (`none`: the condition is not an expression) -/
def Clause.test (c : Clause) (l : Nat) : Option CondT :=
  match c.cond with
  | none => some .always
  | some t =>
    match parseExprSource t with
    | .ok e => some (.expr l e)
    | _ => none

/-- the clause can be compiled: its condition is an expression, its body a self-contained template -/
def Clause.Good (d : Delims) (c : Clause) : Prop := (c.test 0).isSome = true ∧ Compiles d c.body 0

instance (d : Delims) (c : Clause) : Decidable (c.Good d) := by unfold Clause.Good; infer_instance

/-- an `elsif` clause whose condition evaluates falsy -/
def Clause.Falsy (P : Prims) (env : Env) (c : Clause) : Prop :=
  ∃ t e v, c.cond = some t ∧ parseExprSource t = .ok e ∧ evaluate P env e = .ok v ∧ v.test = false
