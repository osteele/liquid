import Proofs.Oracles
import Proofs.DecEq
import Proofs.RunLemmas
import Proofs.RenderSteps
/-!
# C14 — include renders the named file (or cached source) with the current variables
-/

/-- **C14 (resolution).** The file name is the string value of the argument, joined to the directory
    of the path the including template was parsed with; the handler receives the includer's
    current variables. (`include_sees_vars` of C12 states the same from the variables' side.) -/
theorem include_resolves (c : RCtx) (line : Nat) (args : Bytes) (s : RS) (e : Expr) (rel : Bytes)
    (he : parseExprSource args = .ok e) (hv : evaluate c.P s.env e = .ok (.str rel)) :
    renderNode c (.incl line args) s =
      wrapAt c.cfg.path ⟨line, true⟩ (fun s0 =>
        (c.inc line (joinPath (dirPath c.cfg.path) rel) s.env).bind fun (st, out) =>
          match st with
          | .done => (writeVerbatimM out s0).bind fun (_, s1) => .ret (.done, s1)
          | st => .ret (st, s0)) s := by
  rw [renderNode_incl]
  simp only [he, hv]
  rfl

/-- a non-string argument is an error located at the include tag -/
theorem include_nonstring_err (c : RCtx) (line : Nat) (args : Bytes) (s : RS) (e : Expr) (v : GoVal)
    (he : parseExprSource args = .ok e) (hv : evaluate c.P s.env e = .ok v) (hs : ∀ r, v ≠ .str r) :
    renderNode c (.incl line args) s = .fail (.located ⟨line, true, .none, .includeArg⟩) := by
  rw [renderNode_incl]
  -- `hs` discharges the side condition of the fall-through equation of the `match` on the value
  simp only [he, hv]
  simp [wrapAt, Prog.mapFail, Prog.bind, errorfAt, wrapError, Loc.isZero]

/-- **C14 (disk first).** A file on disk takes precedence over source registered in the cache. -/
theorem disk_over_cache (P : Prims) (O : OutPrims) (cfg : Cfg) (read : Bytes → FileRes) (cache cache' : Bytes → Option Bytes)
    (inner : Nat → Bytes → Env → Prog (Status × Bytes)) (line : Nat) (f : Bytes) (env : Env) (b : Bytes)
    (h : read f = .content b) :
    renderFileWith P O cfg ⟨read, cache⟩ inner line f env = renderFileWith P O cfg ⟨read, cache'⟩ inner line f env := by
  simp only [renderFileWith, h]

/-- **C14 (cache fallback).** Cached source is used when no such file exists: the include behaves
    exactly as if the file had that content. -/
theorem cache_fallback (P : Prims) (O : OutPrims) (cfg : Cfg) (read read' : Bytes → FileRes) (cache : Bytes → Option Bytes)
    (inner : Nat → Bytes → Env → Prog (Status × Bytes)) (line : Nat) (f : Bytes) (env : Env) (b : Bytes)
    (h : read f = .notExist) (hc : cache f = some b) (h' : read' f = .content b) :
    renderFileWith P O cfg ⟨read, cache⟩ inner line f env = renderFileWith P O cfg ⟨read', cache⟩ inner line f env := by
  simp only [renderFileWith, h, hc, h']

/-- a missing file (neither on disk nor cached) fails the render -/
theorem include_missing_err (P : Prims) (O : OutPrims) (cfg : Cfg) (fs : FS)
    (inner : Nat → Bytes → Env → Prog (Status × Bytes)) (line : Nat) (f : Bytes) (env : Env)
    (h : fs.read f = .notExist) (hc : fs.cache f = none) :
    renderFileWith P O cfg fs inner line f env = .fail (.plain (.other "notExist")) := by
  simp only [renderFileWith, h, hc]

/-- an error inside the included template (here: at compile time) fails the render with that
    located error -/
theorem include_inner_compile_err (P : Prims) (O : OutPrims) (cfg : Cfg) (fs : FS)
    (inner : Nat → Bytes → Env → Prog (Status × Bytes)) (line : Nat) (f : Bytes) (env : Env) (b : Bytes) (e : SErr)
    (h : fs.read f = .content b) (hc : compileSource cfg.delims b line = .err e) :
    renderFileWith P O cfg fs inner line f env = .fail (.located e) := by
  simp only [renderFileWith, h, hc]

/-- **C14 (equivalence).** What an include inserts is exactly the output of rendering the file's
    content (compiled at the include tag's location) with the includer's current variables:
    the handler returns `renderRoot` of that content, run against a private buffer. -/
theorem include_equiv (P : Prims) (O : OutPrims) (cfg : Cfg) (fs : FS)
    (inner : Nat → Bytes → Env → Prog (Status × Bytes)) (line : Nat) (f : Bytes) (env : Env) (b : Bytes) (root : List Node)
    (out : Bytes)
    (h : fs.read f = .content b) (hc : compileSource cfg.delims b line = .ok root)
    (hr : (renderRoot { P := P, O := O, cfg := cfg, inc := inner } root env).runPure = (out, .ok .done)) :
    renderFileWith P O cfg fs inner line f env = .ret (.done, out) := by
  simp only [renderFileWith, h, hc, hr]

/-- the fuel is the number of include levels left (`maxIncludeDepth - depth` of the Go code): with `n+1` levels
    left the file is rendered with `n` levels left inside — including at fuel `n+1` is rendering the file at
    fuel `n` (`include_denotation_mk`, `include_source`); with none left the handler is the depth error
    (`include_depth_error`, Proofs/C14Depth.lean) -/
theorem incFuel_succ (P : Prims) (O : OutPrims) (cfg : Cfg) (fs : FS) (n : Nat) :
    incFuel P O cfg fs (n + 1) = renderFileWith P O cfg fs (incFuel P O cfg fs n) := rfl

/-! ### Closed form: the whole include in one equation -/

/-- **C14 (include_denotation).** `{% include e %}` where `e` evaluates to the string `rel`, the
    file `dir(path)/rel` has source `src` (on disk, or in the cache when no such file exists),
    `src` compiles (at the include tag's location) to `root`, and rendering `root` directly with a
    copy of the includer's current variables gives `out`: the include node does exactly one thing —
    it writes `out` to the includer's writer, verbatim (`TagNode.render` hands the tag `verbatimWriter{w}`,
    repair `fixes/verbatim-output-not-trimmed`: what a tag writes is not literal text of the template, no
    neighbour's hyphen strips it; failures located at the include tag). Proof: `incl_handler_done` (Proofs/RenderSteps.lean), then
    `renderFileWith_compiled` (Proofs/RenderFile.lean). -/
theorem include_denotation (c : RCtx) (fs : FS) (inner : Nat → Bytes → Env → Prog (Status × Bytes))
    (hinc : c.inc = renderFileWith c.P c.O c.cfg fs inner)
    (line : Nat) (args : Bytes) (s : RS) (e : Expr) (rel src : Bytes) (root : List Node) (out : Bytes)
    (he : parseExprSource args = .ok e) (hv : evaluate c.P s.env e = .ok (.str rel))
    (hsrc : fileSource fs (joinPath (dirPath c.cfg.path) rel) = some src)
    (hc : compileSource c.cfg.delims src line = .ok root)
    (hr : (renderRoot { c with inc := inner } root s.env).runPure = (out, .ok .done)) :
    renderNode c (.incl line args) s =
      wrapFailAt c.cfg.path ⟨line, true⟩ (do writeVerbatimM out; pure .done) s := by
  have hfile : c.inc line (joinPath (dirPath c.cfg.path) rel) s.env = .ret (.done, out) := by
    rw [hinc]
    exact renderFileWith_compiled _ _ _ fs inner line _ s.env src root out _ hsrc hc hr
  exact incl_handler_done c line args s e rel out he hv hfile

/-- …so on a writer that does not fail: the previously pending text and then the bytes of `out` go
    out unchanged — "inserts exactly the output that rendering that file's content directly would
    give", also when a `-%}` precedes or a `{%-` follows: nothing of `out` stays pending and the trim
    flag is clear —, and the variables after the include are the variables before it, whatever the
    included template assigned. -/
theorem include_denotation_run (c : RCtx) (fs : FS) (inner : Nat → Bytes → Env → Prog (Status × Bytes))
    (hinc : c.inc = renderFileWith c.P c.O c.cfg fs inner)
    (line : Nat) (args : Bytes) (s : RS) (e : Expr) (rel src : Bytes) (root : List Node) (out : Bytes)
    (he : parseExprSource args = .ok e) (hv : evaluate c.P s.env e = .ok (.str rel))
    (hsrc : fileSource fs (joinPath (dirPath c.cfg.path) rel) = some src)
    (hc : compileSource c.cfg.delims src line = .ok root)
    (hr : (renderRoot { c with inc := inner } root s.env).runPure = (out, .ok .done)) :
    (renderNode c (.incl line args) s).runPure =
      (s.tw.buf ++ out, .ok (.done, { env := s.env, tw := { buf := [], trim := false } })) := by
  rw [include_denotation c fs inner hinc line args s e rel src root out he hv hsrc hc hr]
  obtain ⟨env, B, t⟩ := s
  simp only [wrapFailAt, M.mapFail, bind, M.bind, pure, M.pure]
  rw [Prog.runPure_mapFail, Prog.runPure_bind, writeVerbatim_runPure]
  simp [Prog.runPure]

/-- the same for the engine's own context: at fuel `n+1` the included file is rendered by the
    context of fuel `n` -/
theorem include_denotation_mk (P : Prims) (O : OutPrims) (cfg : Cfg) (fs : FS) (fuel : Nat)
    (line : Nat) (args : Bytes) (s : RS) (e : Expr) (rel src : Bytes) (root : List Node) (out : Bytes)
    (he : parseExprSource args = .ok e) (hv : evaluate P s.env e = .ok (.str rel))
    (hsrc : fileSource fs (joinPath (dirPath cfg.path) rel) = some src)
    (hc : compileSource cfg.delims src line = .ok root)
    (hr : (renderRoot (mkCtx P O cfg fs fuel) root s.env).runPure = (out, .ok .done)) :
    renderNode (mkCtx P O cfg fs (fuel + 1)) (.incl line args) s =
      wrapFailAt cfg.path ⟨line, true⟩ (do writeVerbatimM out; pure .done) s :=
  include_denotation (mkCtx P O cfg fs (fuel + 1)) fs (incFuel P O cfg fs fuel) rfl line args s e rel src root out
    he hv hsrc hc hr

/-! ### Errors through `include`: where they are located

`ctx.RenderFile` returns plain errors for a file it cannot read (`os.ReadFile`'s error) and `parser.Error`s for
what goes wrong in the file (compiled with the include tag's `SourceLoc`: the INCLUDER's path, lines counted from
the tag's line). `TagNode.render` wraps what the tag returns with `WrapError(err, node)`: a plain error becomes a
`parser.Error` at the include tag with that error as cause; a `parser.Error` that has a line or a path is returned
as it is. (Render-time errors inside the file and the first failing construct there: Proofs/C14Errors.lean.) -/

/-- **C14 (a handler failure is located at the include tag).** When the handler fails with an error that is
    not a `parser.Error` — whatever the handler is — the include node fails with the error located at the
    include tag of the including template (its line, the template's path), the handler's error as cause. -/
theorem include_plain_err_located (c : RCtx) (line : Nat) (args : Bytes) (s : RS) (e : Expr) (rel : Bytes) (cause : Cause)
    (he : parseExprSource args = .ok e) (hv : evaluate c.P s.env e = .ok (.str rel))
    (hf : c.inc line (joinPath (dirPath c.cfg.path) rel) s.env = .fail (.plain cause)) :
    renderNode c (.incl line args) s = .fail (.located ⟨line, true, cause, .byCause⟩) :=
  incl_handler_fail c line args s e rel _ he hv hf

/-- **C14 (missing file).** `{% include e %}` where `e` evaluates to a string naming a file that is neither on
    disk nor in the cache: the render fails with an error at the include tag (line of the tag, path of the
    including template) whose cause is the not-exist error. For every include depth `fuel + 1`. -/
theorem include_missing_located (P : Prims) (O : OutPrims) (cfg : Cfg) (fs : FS) (fuel : Nat) (line : Nat) (args : Bytes) (s : RS)
    (e : Expr) (rel : Bytes) (he : parseExprSource args = .ok e) (hv : evaluate P s.env e = .ok (.str rel))
    (h : fs.read (joinPath (dirPath cfg.path) rel) = .notExist) (hc : fs.cache (joinPath (dirPath cfg.path) rel) = none) :
    renderNode (mkCtx P O cfg fs (fuel + 1)) (.incl line args) s = .fail (.located ⟨line, true, .other "notExist", .byCause⟩) :=
  include_plain_err_located (mkCtx P O cfg fs (fuel + 1)) line args s e rel _ he hv
    (include_missing_err P O cfg fs (incFuel P O cfg fs fuel) line _ s.env h hc)

/-- a read error other than not-exist (the name is a directory, no permission): the same, with the read error
    as cause -/
theorem include_read_err_located (P : Prims) (O : OutPrims) (cfg : Cfg) (fs : FS) (fuel : Nat) (line : Nat) (args : Bytes) (s : RS)
    (e : Expr) (rel : Bytes) (he : parseExprSource args = .ok e) (hv : evaluate P s.env e = .ok (.str rel))
    (h : fs.read (joinPath (dirPath cfg.path) rel) = .otherError) :
    renderNode (mkCtx P O cfg fs (fuel + 1)) (.incl line args) s = .fail (.located ⟨line, true, .io, .byCause⟩) :=
  include_plain_err_located (mkCtx P O cfg fs (fuel + 1)) line args s e rel _ he hv (by simp only [mkCtx, incFuel, renderFileWith, h])

/-- **C14 (an error from inside the file keeps its own location).** When the handler fails with a located error
    `e'`, the include node fails with `WrapError(e', tag)`: `e'` itself whenever `e'` has a line or names a path
    (`wrap_keeps_located`: always, except on line 0 of a template parsed without a path). -/
theorem include_located_err_passes (c : RCtx) (line : Nat) (args : Bytes) (s : RS) (e : Expr) (rel : Bytes) (e' : SErr)
    (he : parseExprSource args = .ok e) (hv : evaluate c.P s.env e = .ok (.str rel))
    (hf : c.inc line (joinPath (dirPath c.cfg.path) rel) s.env = .fail (.located e')) :
    renderNode c (.incl line args) s = .fail (.located (wrapError c.cfg.path (.located e') ⟨line, true⟩)) ∧
    ((e'.line ≠ 0 ∨ (e'.pathSet = true ∧ c.cfg.path ≠ [])) → renderNode c (.incl line args) s = .fail (.located e')) := by
  have h1 := incl_handler_fail c line args s e rel _ he hv hf
  exact ⟨h1, fun h => by rw [h1, wrapError_keeps _ _ _ h]⟩

/-- **C14 (parse error in the included file).** The file is found (on disk, or in the cache when no such file
    exists) and does not compile — compiled at the include tag's line with the includer's path, so `e'` counts
    its lines from the tag's line and names the includer's path: the render fails with `WrapError(e', tag)`,
    which is `e'` itself when `e'` has a line or a path. For every include depth. -/
theorem include_compile_err_located (P : Prims) (O : OutPrims) (cfg : Cfg) (fs : FS) (fuel : Nat) (line : Nat) (args : Bytes)
    (s : RS) (e : Expr) (rel src : Bytes) (e' : SErr)
    (he : parseExprSource args = .ok e) (hv : evaluate P s.env e = .ok (.str rel))
    (hsrc : fileSource fs (joinPath (dirPath cfg.path) rel) = some src)
    (hc : compileSource cfg.delims src line = .err e') :
    renderNode (mkCtx P O cfg fs (fuel + 1)) (.incl line args) s =
      .fail (.located (wrapError cfg.path (.located e') ⟨line, true⟩)) ∧
    ((e'.line ≠ 0 ∨ (e'.pathSet = true ∧ cfg.path ≠ [])) →
      renderNode (mkCtx P O cfg fs (fuel + 1)) (.incl line args) s = .fail (.located e')) := by
  have hf : (mkCtx P O cfg fs (fuel + 1)).inc line (joinPath (dirPath cfg.path) rel) s.env = .fail (.located e') := by
    show renderFileWith P O cfg fs (incFuel P O cfg fs fuel) line _ s.env = _
    rw [renderFileWith_of_fileSource _ _ _ fs _ line _ s.env src hsrc]
    simp only [renderSrcWith, hc]
  exact include_located_err_passes (mkCtx P O cfg fs (fuel + 1)) line args s e rel e' he hv hf

/-! Non-vacuity: path resolution on concrete paths -/
-- joinPath (dirPath "dir/t.liquid") "inc/a.html" = "dir/inc/a.html"
example : joinPath (dirPath [100, 105, 114, 47, 116, 46, 108, 105, 113, 117, 105, 100]) [105, 110, 99, 47, 97, 46, 104, 116, 109, 108] = [100, 105, 114, 47, 105, 110, 99, 47, 97, 46, 104, 116, 109, 108] := by decide +kernel
-- "../x" relative to "a/b/t" is "a/x"
example : joinPath (dirPath [97, 47, 98, 47, 116]) [46, 46, 47, 120] = [97, 47, 120] := by decide +kernel

/-! Non-vacuity of `include_denotation`: disk wins over the cache, the cache serves a missing file -/
example : fileSource ⟨fun _ => .content [97], fun _ => some [98]⟩ [102] = some [97] := rfl
example : fileSource ⟨fun _ => .notExist, fun _ => some [98]⟩ [102] = some [98] := rfl
example : fileSource ⟨fun _ => .otherError, fun _ => some [98]⟩ [102] = none := rfl
/-- all hypotheses of `include_denotation` at once: `{% include "f" %}` where the file `f` (found on
    disk) contains `hi` inserts `hi` -/
example (P : Prims) (O : OutPrims) :
    renderNode (mkCtx P O {} ⟨fun _ => .content [104, 105], fun _ => none⟩ 1) (.incl 1 [34, 102, 34]) ⟨[], {}⟩ =
      wrapFailAt [] ⟨1, true⟩ (do writeVerbatimM [104, 105]; pure .done) ⟨[], {}⟩ :=
  include_denotation_mk P O {} ⟨fun _ => .content [104, 105], fun _ => none⟩ 0 1 [34, 102, 34] ⟨[], {}⟩
    (.lit (.str [102])) [102] [104, 105] [.text 1 [104, 105]] [104, 105] (by decide +kernel) rfl (by decide +kernel) (by decide +kernel)
    (renderRoot_of_bot P O _ _ 0 _ _ (by rw [renderRoot_eq_S]; decide +kernel) rfl)

/-! Non-vacuity of the error theorems: `{% include "f" %}` at line 4 of `dir/t`, no file anywhere -/
example (P : Prims) (O : OutPrims) :
    renderNode (mkCtx P O { path := [100, 47, 116] } ⟨fun _ => .notExist, fun _ => none⟩ 1) (.incl 4 [34, 102, 34]) ⟨[], {}⟩ =
      .fail (.located ⟨4, true, .other "notExist", .byCause⟩) :=
  include_missing_located P O { path := [100, 47, 116] } ⟨fun _ => .notExist, fun _ => none⟩ 0 4 [34, 102, 34] ⟨[], {}⟩
    (.lit (.str [102])) [102] (by decide +kernel) rfl rfl (by decide +kernel)
/-- a file `⏎{{ 1 | }}` included at line 4: the syntax error is reported at line 5 (the tag's line plus the
    newline before the object), with the includer's path -/
example (P : Prims) (O : OutPrims) :
    renderNode (mkCtx P O { path := [100, 47, 116] } ⟨fun _ => .content [10, 123, 123, 32, 49, 32, 124, 32, 125, 125], fun _ => none⟩ 1)
      (.incl 4 [34, 102, 34]) ⟨[], {}⟩ = .fail (.located ⟨5, true, .syntax, .byCause⟩) :=
  (include_compile_err_located P O { path := [100, 47, 116] } ⟨fun _ => .content [10, 123, 123, 32, 49, 32, 124, 32, 125, 125], fun _ => none⟩
    0 4 [34, 102, 34] ⟨[], {}⟩ (.lit (.str [102])) [102] [10, 123, 123, 32, 49, 32, 124, 32, 125, 125] ⟨5, true, .syntax, .byCause⟩
    (by decide +kernel) rfl (by decide +kernel) (by decide +kernel)).2 (Or.inl (by decide +kernel))
/-- a read error that is not not-exist: the error is located at the tag as well -/
example (P : Prims) (O : OutPrims) :
    renderNode (mkCtx P O { path := [100, 47, 116] } ⟨fun _ => .otherError, fun _ => none⟩ 1) (.incl 4 [34, 102, 34]) ⟨[], {}⟩ =
      .fail (.located ⟨4, true, .io, .byCause⟩) :=
  include_read_err_located P O { path := [100, 47, 116] } ⟨fun _ => .otherError, fun _ => none⟩ 0 4 [34, 102, 34] ⟨[], {}⟩
    (.lit (.str [102])) [102] (by decide +kernel) rfl rfl
