import Proofs.ValView
/-!
# Values that differ in the order of map entries (helper definitions and lemmas for C02)

`MP a b` ("`b` is `a` with the entry lists of maps permuted, at any depth"): the relation under which
rendering is invariant (`Proofs/C02.lean`). It is defined inductively on `GoVal`:

* `refl`: every value is related to itself;
* `map`: `.map kt vt kvs ~ .map kt vt kvs'` when `kvs'` is a permutation of a list `mid` that has the keys
  of `kvs`, in the same order, with related values — provided the keys of `kvs` are booleans, numbers
  or strings, pairwise distinct as Go map keys (`MapOrder.KeysOK`: what the keys of one Go map of these
  kinds always are) and of the map's key type (`KeysTyped`: for `json`, where two keys of different types can have one key text);
* `mapVals`: the same without the permutation, for every map (whatever its keys);
* congruence for slices, fixed arrays, ordered maps (`yaml.MapSlice`: the order of its items is part of
  the value and is kept), `IterationKeyedMap`s and structs (values related field by field), pointers
  and drops.

The renderer's own `forloop` record (recognised by the unexported Go type of its counter map, which no
binding can have: `Ty.priv`) is related to itself only: the two map constructors do not apply to a map
of that type or holding a value of that type (`NoPriv`).
-/

open GoVal MapOrder

/-- the renderer's unexported counter map (`tags.cycleCounters`) -/
def isPrivMap : GoVal → Bool
  | .map _ .priv _ => true
  | _ => false

def NoPriv (kvs : List (GoVal × GoVal)) : Prop := ∀ kv ∈ kvs, isPrivMap kv.2 = false

/-- the dynamic type of a key is the one the key type of its map admits (`any` admits all) -/
def keyHasTy : Ty → GoVal → Bool
  | .any, _ => true
  | .str, .str _ => true
  | .int k, .int k' _ => k == k'
  | .flt k, .flt k' _ => k == k'
  | .bool, .bool _ => true
  | _, _ => false

/-- the keys of a map have its key type — as the keys of a Go map do -/
def KeysTyped (kt : Ty) (kvs : List (GoVal × GoVal)) : Prop := ∀ kv ∈ kvs, keyHasTy kt kv.1 = true

def NoPrivF (fs : List (Bytes × GoVal)) : Prop := ∀ f ∈ fs, isPrivMap f.2 = false

mutual
inductive MP : GoVal → GoVal → Prop
  | refl (v : GoVal) : MP v v
  | slice (t : Ty) {xs ys : List GoVal} : MPL xs ys → MP (.slice t xs) (.slice t ys)
  | array (t : Ty) {xs ys : List GoVal} : MPL xs ys → MP (.array t xs) (.array t ys)
  | map (kt vt : Ty) {kvs mid kvs' : List (GoVal × GoVal)} : vt ≠ .priv → KeysOK kvs → NoPriv kvs →
      MPV kvs mid → mid.Perm kvs' → KeysTyped kt kvs → MP (.map kt vt kvs) (.map kt vt kvs')
  | mapVals (kt vt : Ty) {kvs kvs' : List (GoVal × GoVal)} : vt ≠ .priv → NoPriv kvs →
      MPV kvs kvs' → MP (.map kt vt kvs) (.map kt vt kvs')
  | mapSlice {kvs kvs' : List (GoVal × GoVal)} : MPV kvs kvs' → MP (.mapSlice kvs) (.mapSlice kvs')
  | keyedMap {fs fs' : List (Bytes × GoVal)} : NoPrivF fs → MPF fs fs' → MP (.keyedMap fs) (.keyedMap fs')
  | struct {fs fs' : List (Bytes × GoVal)} : MPF fs fs' → MP (.struct fs) (.struct fs')
  | ptr {v w : GoVal} : MP v w → MP (.ptr v) (.ptr w)
  | drop {v w : GoVal} : MP v w → MP (.drop v) (.drop w)
inductive MPL : List GoVal → List GoVal → Prop
  | nil : MPL [] []
  | cons {x y : GoVal} {xs ys : List GoVal} : MP x y → MPL xs ys → MPL (x :: xs) (y :: ys)
inductive MPV : List (GoVal × GoVal) → List (GoVal × GoVal) → Prop
  | nil : MPV [] []
  | cons (k : GoVal) {v w : GoVal} {r r' : List (GoVal × GoVal)} : MP v w → MPV r r' → MPV ((k, v) :: r) ((k, w) :: r')
inductive MPF : List (Bytes × GoVal) → List (Bytes × GoVal) → Prop
  | nil : MPF [] []
  | cons (k : Bytes) {v w : GoVal} {r r' : List (Bytes × GoVal)} : MP v w → MPF r r' → MPF ((k, v) :: r) ((k, w) :: r')
end

/-! `MPL`, `MPV`, `MPF` are `All2` of `MP` on elements, entries and fields, inductives of their own because `MP` is defined
with them: their list lemmas are those of `All2`. -/

theorem MPL.all2 : ∀ {xs ys : List GoVal}, MPL xs ys → All2 MP xs ys
  | _, _, .nil => .nil
  | _, _, .cons hx h => .cons hx (MPL.all2 h)

theorem All2.mpl {xs ys : List GoVal} (h : All2 MP xs ys) : MPL xs ys := by
  induction h with
  | nil => exact .nil
  | cons hx _ ih => exact .cons hx ih

theorem MPV.all2 : ∀ {xs ys : List (GoVal × GoVal)}, MPV xs ys → All2 (KV MP) xs ys
  | _, _, .nil => .nil
  | _, _, .cons _ hx h => .cons ⟨rfl, hx⟩ (MPV.all2 h)

theorem All2.mpv {xs ys : List (GoVal × GoVal)} (h : All2 (KV MP) xs ys) : MPV xs ys := by
  induction h with
  | nil => exact .nil
  | @cons a b _ _ hx _ ih =>
    obtain ⟨k, v⟩ := a
    obtain ⟨k', v'⟩ := b
    obtain ⟨rfl, hv⟩ : k = k' ∧ MP v v' := hx
    exact .cons k hv ih

theorem MPF.all2 : ∀ {xs ys : List (Bytes × GoVal)}, MPF xs ys → All2 (KV MP) xs ys
  | _, _, .nil => .nil
  | _, _, .cons _ hx h => .cons ⟨rfl, hx⟩ (MPF.all2 h)

theorem MPL.refl : ∀ xs : List GoVal, MPL xs xs :=
  fun xs => (All2.refl MP.refl xs).mpl

theorem MPV.refl : ∀ kvs : List (GoVal × GoVal), MPV kvs kvs :=
  fun kvs => (All2.refl (fun _ => ⟨rfl, MP.refl _⟩) kvs).mpv

theorem MPF.refl : ∀ fs : List (Bytes × GoVal), MPF fs fs
  | [] => .nil
  | (k, v) :: r => .cons k (.refl v) (MPF.refl r)

theorem MPL.length_eq : ∀ {xs ys : List GoVal}, MPL xs ys → xs.length = ys.length :=
  fun h => h.all2.length_eq

theorem MPV.length_eq : ∀ {xs ys : List (GoVal × GoVal)}, MPV xs ys → xs.length = ys.length :=
  fun h => h.all2.length_eq

theorem MPF.length_eq : ∀ {xs ys : List (Bytes × GoVal)}, MPF xs ys → xs.length = ys.length :=
  fun h => h.all2.length_eq

theorem MPV.keys_eq : ∀ {xs ys : List (GoVal × GoVal)}, MPV xs ys → xs.map (·.1) = ys.map (·.1) :=
  fun h => h.all2.keys_eq

theorem MPL.append : ∀ {xs ys xs' ys' : List GoVal}, MPL xs ys → MPL xs' ys' → MPL (xs ++ xs') (ys ++ ys') :=
  fun h h' => (h.all2.append h'.all2).mpl

theorem MPV.append : ∀ {xs ys xs' ys' : List (GoVal × GoVal)}, MPV xs ys → MPV xs' ys' → MPV (xs ++ xs') (ys ++ ys') :=
  fun h h' => (h.all2.append h'.all2).mpv

theorem MPL.reverse : ∀ {xs ys : List GoVal}, MPL xs ys → MPL xs.reverse ys.reverse :=
  fun h => h.all2.reverse.mpl

theorem MPV.reverse : ∀ {xs ys : List (GoVal × GoVal)}, MPV xs ys → MPV xs.reverse ys.reverse :=
  fun h => h.all2.reverse.mpv

theorem MPL.getD : ∀ {xs ys : List GoVal}, MPL xs ys → ∀ n : Nat, MP (xs.getD n .nil) (ys.getD n .nil) :=
  fun h => h.all2.getD (.refl _)

theorem MPL.head : ∀ {xs ys : List GoVal}, MPL xs ys → MP (xs.head?.getD .nil) (ys.head?.getD .nil) :=
  fun h => h.all2.head (.refl _)

theorem MPL.getLast : ∀ {xs ys : List GoVal}, MPL xs ys → MP (xs.getLast?.getD .nil) (ys.getLast?.getD .nil) :=
  fun h => h.all2.getLast (.refl _)

theorem MPL.map_of {f g : GoVal → GoVal} (hfg : ∀ x y, MP x y → MP (f x) (g y)) :
    ∀ {xs ys : List GoVal}, MPL xs ys → MPL (xs.map f) (ys.map g) :=
  fun h => (h.all2.map hfg).mpl

theorem MPV.vals : ∀ {xs ys : List (GoVal × GoVal)}, MPV xs ys → MPL (xs.map (·.2)) (ys.map (·.2)) :=
  fun h => (h.all2.vals fun _ _ h => h).mpl

theorem MPF.vals : ∀ {xs ys : List (Bytes × GoVal)}, MPF xs ys → MPL (xs.map (·.2)) (ys.map (·.2)) :=
  fun h => (h.all2.vals fun _ _ h => h).mpl

theorem MPF.names_eq : ∀ {xs ys : List (Bytes × GoVal)}, MPF xs ys → xs.map (·.1) = ys.map (·.1) :=
  fun h => h.all2.keys_eq

/-- Induction on how two values are related, for statements about the values themselves: the two ways of relating
    maps are one case, and the induction hypothesis is there for what a pointer or a drop holds (`MP.rec` with the
    three motives for lists trivial). -/
@[elab_as_elim]
theorem MP.elim {motive : (a b : GoVal) → MP a b → Prop}
    (refl : ∀ v, motive v v (.refl v))
    (slice : ∀ t {xs ys} (h : MPL xs ys), motive (.slice t xs) (.slice t ys) (.slice t h))
    (array : ∀ t {xs ys} (h : MPL xs ys), motive (.array t xs) (.array t ys) (.array t h))
    (map : ∀ kt vt {kvs kvs'} (h : MP (.map kt vt kvs) (.map kt vt kvs')), motive _ _ h)
    (mapSlice : ∀ {kvs kvs'} (h : MPV kvs kvs'), motive (.mapSlice kvs) (.mapSlice kvs') (.mapSlice h))
    (keyedMap : ∀ {fs fs'} (hn : NoPrivF fs) (h : MPF fs fs'), motive (.keyedMap fs) (.keyedMap fs') (.keyedMap hn h))
    (struct : ∀ {fs fs'} (h : MPF fs fs'), motive (.struct fs) (.struct fs') (.struct h))
    (ptr : ∀ {v w} (h : MP v w), motive v w h → motive (.ptr v) (.ptr w) (.ptr h))
    (drop : ∀ {v w} (h : MP v w), motive v w h → motive (.drop v) (.drop w) (.drop h))
    {a b : GoVal} (h : MP a b) : motive a b h :=
  MP.rec (motive_1 := motive) (motive_2 := fun _ _ _ => True) (motive_3 := fun _ _ _ => True) (motive_4 := fun _ _ _ => True)
    refl (fun t _ _ h _ => slice t h) (fun t _ _ h _ => array t h) (fun kt vt _ _ _ _ _ _ _ _ _ _ => map kt vt _)
    (fun kt vt _ _ _ _ _ _ => map kt vt _) (fun h _ => mapSlice h) (fun hn h _ => keyedMap hn h) (fun h _ => struct h)
    (fun h ih => ptr h ih) (fun h ih => drop h ih) trivial (fun _ _ _ _ => trivial) trivial (fun _ => fun _ _ _ _ => trivial)
    trivial (fun _ => fun _ _ _ _ => trivial) h

/-- Induction on how two values are related, together with their lists of elements, entries and fields: the
    recursors of the four relations with motives that do not look at the derivation, all four conclusions at once. -/
theorem MP.induction {P : GoVal → GoVal → Prop} {PL : List GoVal → List GoVal → Prop}
    {PV : List (GoVal × GoVal) → List (GoVal × GoVal) → Prop} {PF : List (Bytes × GoVal) → List (Bytes × GoVal) → Prop}
    (refl : ∀ v, P v v)
    (slice : ∀ t {xs ys}, MPL xs ys → PL xs ys → P (.slice t xs) (.slice t ys))
    (array : ∀ t {xs ys}, MPL xs ys → PL xs ys → P (.array t xs) (.array t ys))
    (map : ∀ kt vt {kvs mid kvs'}, vt ≠ .priv → KeysOK kvs → NoPriv kvs → MPV kvs mid → mid.Perm kvs' → KeysTyped kt kvs →
      PV kvs mid → P (.map kt vt kvs) (.map kt vt kvs'))
    (mapVals : ∀ kt vt {kvs kvs'}, vt ≠ .priv → NoPriv kvs → MPV kvs kvs' → PV kvs kvs' → P (.map kt vt kvs) (.map kt vt kvs'))
    (mapSlice : ∀ {kvs kvs'}, MPV kvs kvs' → PV kvs kvs' → P (.mapSlice kvs) (.mapSlice kvs'))
    (keyedMap : ∀ {fs fs'}, NoPrivF fs → MPF fs fs' → PF fs fs' → P (.keyedMap fs) (.keyedMap fs'))
    (struct : ∀ {fs fs'}, MPF fs fs' → PF fs fs' → P (.struct fs) (.struct fs'))
    (ptr : ∀ {v w}, MP v w → P v w → P (.ptr v) (.ptr w))
    (drop : ∀ {v w}, MP v w → P v w → P (.drop v) (.drop w))
    (nilL : PL [] [])
    (consL : ∀ {x y xs ys}, MP x y → MPL xs ys → P x y → PL xs ys → PL (x :: xs) (y :: ys))
    (nilV : PV [] [])
    (consV : ∀ k {v w r r'}, MP v w → MPV r r' → P v w → PV r r' → PV ((k, v) :: r) ((k, w) :: r'))
    (nilF : PF [] [])
    (consF : ∀ k {v w r r'}, MP v w → MPF r r' → P v w → PF r r' → PF ((k, v) :: r) ((k, w) :: r')) :
    (∀ {a b}, MP a b → P a b) ∧ (∀ {xs ys}, MPL xs ys → PL xs ys) ∧ (∀ {kvs kvs'}, MPV kvs kvs' → PV kvs kvs') ∧
      (∀ {fs fs'}, MPF fs fs' → PF fs fs') :=
  ⟨fun h => MP.rec (motive_1 := fun a b _ => P a b) (motive_2 := fun a b _ => PL a b) (motive_3 := fun a b _ => PV a b)
      (motive_4 := fun a b _ => PF a b) refl slice array map mapVals mapSlice keyedMap struct ptr drop nilL consL nilV consV nilF consF h,
   fun h => MPL.rec (motive_1 := fun a b _ => P a b) (motive_2 := fun a b _ => PL a b) (motive_3 := fun a b _ => PV a b)
      (motive_4 := fun a b _ => PF a b) refl slice array map mapVals mapSlice keyedMap struct ptr drop nilL consL nilV consV nilF consF h,
   fun h => MPV.rec (motive_1 := fun a b _ => P a b) (motive_2 := fun a b _ => PL a b) (motive_3 := fun a b _ => PV a b)
      (motive_4 := fun a b _ => PF a b) refl slice array map mapVals mapSlice keyedMap struct ptr drop nilL consL nilV consV nilF consF h,
   fun h => MPF.rec (motive_1 := fun a b _ => P a b) (motive_2 := fun a b _ => PL a b) (motive_3 := fun a b _ => PV a b)
      (motive_4 := fun a b _ => PF a b) refl slice array map mapVals mapSlice keyedMap struct ptr drop nilL consL nilV consV nilF consF h⟩

theorem MP.eq_of_rigid_left {a b : GoVal} (h : MP a b) (ha : rigidM a = true) : b = a := by
  cases h <;> first | rfl | cases ha

theorem MP.eq_of_rigid_right {a b : GoVal} (h : MP a b) (hb : rigidM b = true) : a = b := by
  cases h <;> first | rfl | cases hb

theorem MP.rigid_eq {a b : GoVal} (h : MP a b) : rigidM a = rigidM b := by
  cases h <;> rfl

theorem MP.cases_rigid {a b : GoVal} (h : MP a b) : b = a ∨ (rigidM a = false ∧ rigidM b = false) := by
  cases hr : rigidM a with
  | true => exact .inl (h.eq_of_rigid_left hr)
  | false => exact .inr ⟨rfl, by rw [← h.rigid_eq, hr]⟩

theorem MP.seq_inv {a a' : GoVal} {xs : List GoVal} (hx : Cmp.seqElems a = some xs) (h : MP a a') :
    ∃ xs', Cmp.seqElems a' = some xs' ∧ MPL xs xs' := by
  rcases Cmp.seqElems_cases hx with ⟨t, rfl⟩ | ⟨t, rfl⟩
  · cases h with
    | refl => exact ⟨xs, rfl, MPL.refl xs⟩
    | slice _ hl => exact ⟨_, rfl, hl⟩
  · cases h with
    | refl => exact ⟨xs, rfl, MPL.refl xs⟩
    | array _ hl => exact ⟨_, rfl, hl⟩

theorem MP.mapSlice_inv {kvs : List (GoVal × GoVal)} {a' : GoVal} (h : MP (.mapSlice kvs) a') :
    ∃ kvs', a' = .mapSlice kvs' ∧ MPV kvs kvs' := by
  cases h with
  | refl => exact ⟨kvs, rfl, MPV.refl kvs⟩
  | mapSlice hm => exact ⟨_, rfl, hm⟩

theorem MP.priv_eq {a b : GoVal} (h : MP a b) : isPrivMap a = isPrivMap b := by
  cases h using MP.elim with
  | map kt vt => cases vt <;> rfl
  | _ => rfl

theorem MPV.noPriv {xs ys : List (GoVal × GoVal)} (h : MPV xs ys) (hn : NoPriv xs) : NoPriv ys := fun kv hkv =>
  have ⟨e, he, _, hm⟩ := h.all2.mem_right kv hkv
  hm.priv_eq ▸ hn e he

theorem noPriv_not_rec {kt vt : Ty} {kvs : List (GoVal × GoVal)} (h : NoPriv kvs) : cyclesOf (.map kt vt kvs) = none := by
  cases hc : cyclesOf (.map kt vt kvs) with
  | none => rfl
  | some x =>
    have hr : isRec (.map kt vt kvs) = true := by simp [isRec, hc]
    obtain ⟨cyc, rest, he⟩ := (isRec_iff _).mp hr
    injection he with _ _ he
    subst he
    have := h _ List.mem_cons_self
    simp [isPrivMap] at this

theorem MP.cyclesOf {a b : GoVal} (h : MP a b) : a = b ∨ (cyclesOf a = none ∧ cyclesOf b = none) := by
  cases h with
  | refl => exact .inl rfl
  | map kt vt hv hk hn hm hp =>
    refine .inr ⟨noPriv_not_rec hn, noPriv_not_rec ?_⟩
    intro kv hkv
    exact MPV.noPriv hm hn kv (hp.symm.subset hkv)
  | mapVals kt vt hv hn hm => exact .inr ⟨noPriv_not_rec hn, noPriv_not_rec (MPV.noPriv hm hn)⟩
  | _ => exact .inr ⟨rfl, rfl⟩

def headTag : GoVal → Nat
  | .nil => 0 | .bool _ => 1 | .int _ _ => 2 | .flt _ _ => 3 | .str _ => 4 | .bytes _ => 5 | .slice _ _ => 6
  | .array _ _ => 7 | .map _ _ _ => 8 | .mapSlice _ => 9 | .keyedMap _ => 10 | .range _ _ => 11 | .ptr _ => 12
  | .nilPtr => 13 | .drop _ => 14 | .struct _ => 15 | .time _ => 16

theorem MP.headTag_eq {a b : GoVal} (h : MP a b) : headTag a = headTag b := by
  cases h <;> rfl

theorem MP.unwrap : ∀ {a b : GoVal}, MP a b → MP a.unwrap b.unwrap := by
  intro a b h
  induction h using MP.elim with
  | drop _ ih => exact ih
  | ptr h ih =>
    -- a pointer to a struct stays; any other pointer is followed, and a pointer to a drop unwraps like the drop
    have h0 := MP.ptr h
    cases h using MP.elim with
    | refl => exact .refl _
    | struct => exact h0
    | _ => exact ih
  | refl => exact .refl _
  | slice t h => exact .slice t h
  | array t h => exact .array t h
  | map _ _ h => exact h
  | mapSlice h => exact .mapSlice h
  | keyedMap hn h => exact .keyedMap hn h
  | struct h => exact .struct h

theorem toLiquid_self {v : GoVal} (h1 : headTag v ≠ 14) (h2 : ∀ w, v = .ptr w → headTag w ≠ 14) : v.toLiquid = v := by
  cases v with
  | drop w => exact absurd rfl h1
  | ptr w => cases w <;> first | rfl | exact absurd rfl (h2 _ rfl)
  | _ => rfl

theorem MP.toLiquid : ∀ {a b : GoVal}, MP a b → MP a.toLiquid b.toLiquid := by
  intro a b h
  induction h using MP.elim with
  | drop _ ih => exact ih
  | ptr h ih =>
    -- a pointer to a drop is resolved like the drop; any other pointer stays
    have h0 := MP.ptr h
    cases h using MP.elim with
    | refl => exact .refl _
    | drop => exact ih
    | _ => exact h0
  | refl => exact .refl _
  | slice t h => exact .slice t h
  | array t h => exact .array t h
  | map _ _ h => exact h
  | mapSlice h => exact .mapSlice h
  | keyedMap hn h => exact .keyedMap hn h
  | struct h => exact .struct h
