import Liquid.Render
import Proofs.ToLiquidLemmas
/-!
# Representation equivalence of Go values (helper definitions and lemmas for C18)

`GoVal.norm` forgets the representation choices that C18 declares irrelevant, at every depth:

* with `d = true`, a drop (`.drop v`) is the value it yields — unless that value is the renderer's
  own `forloop` record (`dropRigid`), which no binding can hold; with `d = false` every drop is kept
  (the drops around a binding or an expression result are resolved by `unwrap`, so related values
  hold the same drops inside their containers; `Proofs/C18.lean` has a whole-render theorem for each `d`);
* a typed slice and a fixed array are the generic slice with the same (normalised) elements;
* a typed map is the generic map with the same key type, the same keys and normalised values.

`RepEq a b` ("same Liquid value, different Go representation") is equality of normal forms, hence
an equivalence relation. Values at the top of an expression (`VRel`, `Proofs/RepEqOps.lean`) are compared after
`unwrap` (`ValueOf(v).Interface()`), which resolves drops of every depth and follows pointers.
-/

open GoVal

/-- the value is a `forloop` record made by the renderer (it carries the unexported
    `cycleCounters` map): no binding can have this shape -/
def isRec (v : GoVal) : Bool := (cyclesOf v).isSome

/-- a drop around `v` is kept as it is: only the renderer's own record (whose place is recognised
    by its Go type) -/
def dropRigid (v : GoVal) : Bool := isRec v

mutual
/-- the normal form; `d`: also resolve drops nested in containers (`d = false` keeps every drop) -/
def GoVal.norm (d : Bool) : GoVal → GoVal
  | .drop v => if !d || dropRigid v then .drop v else norm d v
  | .slice _ xs => .slice .any (normList d xs)
  | .array _ xs => .slice .any (normList d xs)
  | .map kt vt kvs => if isRec (.map kt vt kvs) then .map kt vt kvs else .map kt .any (normKVs d kvs)
  | v => v
def GoVal.normList (d : Bool) : List GoVal → List GoVal
  | [] => []
  | x :: xs => norm d x :: normList d xs
def GoVal.normKVs (d : Bool) : List (GoVal × GoVal) → List (GoVal × GoVal)
  | [] => []
  | (k, v) :: r => (k, norm d v) :: normKVs d r
end

variable {d : Bool}

def RepEq (d : Bool) (a b : GoVal) : Prop := a.norm d = b.norm d

theorem RepEq.refl (a : GoVal) : RepEq d a a := rfl
theorem RepEq.symm {a b : GoVal} (h : RepEq d a b) : RepEq d b a := Eq.symm h
theorem RepEq.trans {a b c : GoVal} (h : RepEq d a b) (h' : RepEq d b c) : RepEq d a c := Eq.trans h h'

theorem normList_eq_map (xs : List GoVal) : normList d xs = xs.map (norm d) := by
  induction xs with
  | nil => rfl
  | cons x xs ih => simp [normList, ih]

theorem normKVs_eq_map (kvs : List (GoVal × GoVal)) : normKVs d kvs = kvs.map (fun kv => (kv.1, norm d kv.2)) := by
  induction kvs with
  | nil => rfl
  | cons kv kvs ih => obtain ⟨k, v⟩ := kv; simp [normKVs, ih]

/-! ## The head of a value: a drop, rigid, or a container

A value that is no drop is *rigid* (`norm` leaves it alone, and nothing else has its normal form) or a
*container*: a slice or fixed array, whose normal form is the generic slice of the normalised elements, or a map. -/

def noDrop : GoVal → Bool
  | .drop _ => false
  | _ => true

/-- the scalars: values without parts (a `MapSlice`, a struct, a pointer and a drop have parts too; narrower than "rigid" above).
    On these two related values are the same, for every relation of `Proofs/ValView.lean` and `Proofs/FilterLogic.lean` -/
def rigidM : GoVal → Bool
  | .nil | .bool _ | .int _ _ | .flt _ _ | .str _ | .bytes _ | .range _ _ | .nilPtr | .time _ => true
  | _ => false

def isContainer : GoVal → Bool
  | .slice _ _ | .array _ _ | .map _ _ _ => true
  | _ => false

theorem isContainer_cases {u : GoVal} (h : isContainer u = true) :
    (∃ t xs, u = .slice t xs) ∨ (∃ t xs, u = .array t xs) ∨ ∃ kt vt kvs, u = .map kt vt kvs := by
  cases u with
  | slice t xs => exact .inl ⟨t, xs, rfl⟩
  | array t xs => exact .inr (.inl ⟨t, xs, rfl⟩)
  | map kt vt kvs => exact .inr (.inr ⟨kt, vt, kvs, rfl⟩)
  | _ => cases h

theorem isContainer_seq_or_map {u : GoVal} (h : isContainer u = true) :
    (∃ xs, Cmp.seqElems u = some xs) ∨ ∃ kt vt kvs, u = .map kt vt kvs := by
  rcases isContainer_cases h with ⟨t, xs, rfl⟩ | ⟨t, xs, rfl⟩ | hm
  · exact .inl ⟨xs, rfl⟩
  · exact .inl ⟨xs, rfl⟩
  · exact .inr hm

theorem norm_of_rigid {u : GoVal} (h : noDrop u = true) (hc : isContainer u = false) : u.norm d = u := by
  cases u with
  | drop w => cases h
  | slice t xs => cases hc
  | array t xs => cases hc
  | map kt vt kvs => cases hc
  | _ => rfl

theorem norm_of_seq {u : GoVal} {xs : List GoVal} (h : Cmp.seqElems u = some xs) : u.norm d = .slice .any (normList d xs) := by
  rcases Cmp.seqElems_cases h with ⟨t, rfl⟩ | ⟨t, rfl⟩ <;> rw [norm]

theorem isRec_iff (v : GoVal) : isRec v = true ↔
    ∃ cyc rest, v = .map .str .any ((.str dotCycles, .map .str .priv cyc) :: rest) := by
  unfold isRec cyclesOf
  constructor
  · intro h
    split at h
    · split at h
      · split at h
        · next heq => simp at heq; subst heq; exact ⟨_, _, rfl⟩
        · simp at h
      · simp at h
    · simp at h
  · rintro ⟨cyc, rest, rfl⟩
    simp

theorem norm_of_isRec {v : GoVal} (h : isRec v = true) : v.norm d = v := by
  obtain ⟨cyc, rest, rfl⟩ := (isRec_iff v).mp h
  rw [norm]; simp [h]

theorem isRec_map_any {kt vt kvs} (h : isRec (.map kt vt kvs) = true) : vt = .any := by
  obtain ⟨cyc, rest, h⟩ := (isRec_iff _).mp h
  injection h with _ h2 _

theorem isRec_not_map_priv {kt kvs} : isRec (.map kt .priv kvs) = false := by
  cases h : isRec (.map kt .priv kvs) with
  | false => rfl
  | true => exact absurd (isRec_map_any h) (by simp)

theorem norm_ne_priv : ∀ (v : GoVal) (k : Ty) (c : List (GoVal × GoVal)), v.norm d ≠ .map k .priv c
  | .drop v, k, c => by
    rw [norm]
    split
    · simp
    · exact norm_ne_priv v k c
  | .slice _ _, _, _ | .array _ _, _, _ => by simp [norm]
  | .map kt vt kvs, k, c => by
    rw [norm]
    split
    · next h => intro heq; injection heq with _ h2 _; exact absurd (isRec_map_any h) (by simp [h2])
    · simp
  | .nil, _, _ | .bool _, _, _ | .int _ _, _, _ | .flt _ _, _, _ | .str _, _, _ | .bytes _, _, _
  | .mapSlice _, _, _ | .keyedMap _, _, _ | .range _ _, _, _ | .ptr _, _, _ | .nilPtr, _, _
  | .struct _, _, _ | .time _, _, _ => by simp [norm]

theorem norm_drop {v : GoVal} : (GoVal.drop v).norm d = if !d || dropRigid v then .drop v else v.norm d := by
  rw [norm]

theorem isRec_norm_map {kt : Ty} {kvs : List (GoVal × GoVal)} : isRec (.map kt .any (normKVs d kvs)) = false := by
  cases h : isRec (.map kt .any (normKVs d kvs)) with
  | false => rfl
  | true =>
    obtain ⟨cyc, rest, h⟩ := (isRec_iff _).mp h
    injection h with _ _ h3
    cases kvs with
    | nil => simp [normKVs] at h3
    | cons kv kvs =>
      obtain ⟨k, v⟩ := kv
      simp only [normKVs, List.cons.injEq, Prod.mk.injEq] at h3
      exact absurd h3.1.2 (norm_ne_priv v _ _)

theorem norm_map_nonrec {kt vt kvs} (h : isRec (.map kt vt kvs) = false) :
    (GoVal.map kt vt kvs).norm d = .map kt .any (normKVs d kvs) := by
  rw [norm]; simp [h]

/-- the only value with the normal form of a `forloop` record is the record itself: a map that is not one
    normalises to a map that is not one -/
theorem norm_eq_rec {r : GoVal} (hr : isRec r = true) : ∀ w : GoVal, w.norm d = r → w = r
  | .drop u, h => by
    rw [norm_drop] at h
    split at h
    · subst h; cases hr
    · next hd =>
      cases norm_eq_rec hr u h
      simp [dropRigid, hr] at hd
  | .slice _ _, h | .array _ _, h => by rw [norm] at h; subst h; cases hr
  | .map kt vt kvs, h => by
    cases hw : isRec (.map kt vt kvs) with
    | true => rwa [norm_of_isRec hw] at h
    | false => rw [norm_map_nonrec hw] at h; rw [← h, isRec_norm_map] at hr; cases hr
  | .nil, h | .bool _, h | .int _ _, h | .flt _ _, h | .str _, h | .bytes _, h
  | .mapSlice _, h | .keyedMap _, h | .range _ _, h | .ptr _, h | .nilPtr, h
  | .struct _, h | .time _, h => (norm_of_rigid rfl rfl).symm.trans h

theorem RepEq.rec_eq {a b : GoVal} (h : RepEq d a b) (hr : isRec a = true ∨ isRec b = true) : a = b := by
  rcases hr with hr | hr
  · exact (norm_eq_rec hr b (by rw [← h, norm_of_isRec hr])).symm
  · exact norm_eq_rec hr a (by rw [h, norm_of_isRec hr])

mutual
theorem norm_idem : ∀ v : GoVal, (v.norm d).norm d = v.norm d
  | .drop v => by
    rw [norm_drop]
    split
    · next h => rw [norm_drop]; simp [h]
    · exact norm_idem v
  | .slice _ xs | .array _ xs => by simp only [norm, normList_idem xs]
  | .map kt vt kvs => by
    rw [norm]
    split
    · next h => rw [norm]; simp [h]
    · rw [norm]; simp only [isRec_norm_map, normKVs_idem kvs]; simp
  | .nil | .bool _ | .int _ _ | .flt _ _ | .str _ | .bytes _
  | .mapSlice _ | .keyedMap _ | .range _ _ | .ptr _ | .nilPtr
  | .struct _ | .time _ => congrArg (norm d) (norm_of_rigid rfl rfl)
theorem normList_idem : ∀ xs : List GoVal, normList d (normList d xs) = normList d xs
  | [] => rfl
  | x :: xs => by simp only [normList, norm_idem x, normList_idem xs]
theorem normKVs_idem : ∀ kvs : List (GoVal × GoVal), normKVs d (normKVs d kvs) = normKVs d kvs
  | [] => rfl
  | (k, v) :: r => by simp only [normKVs, norm_idem v, normKVs_idem r]
end

theorem RepEq.norm_left (a : GoVal) : RepEq d (a.norm d) a := norm_idem a

theorem norm_drop_nonrigid {v : GoVal} (h : dropRigid v = false) : (GoVal.drop v).norm true = v.norm true := by
  rw [norm]; simp [h]

theorem norm_drop_false (v : GoVal) : (GoVal.drop v).norm false = .drop v := by
  rw [norm]; simp

theorem norm_drop_rigid {v : GoVal} (h : dropRigid v = true) : (GoVal.drop v).norm d = .drop v := by
  rw [norm]; simp [h]

theorem norm_map_shape (kt vt : Ty) (kvs : List (GoVal × GoVal)) :
    ∃ vt' kvs', (GoVal.map kt vt kvs).norm d = .map kt vt' kvs' := by
  cases hr : isRec (.map kt vt kvs) with
  | true => exact ⟨_, _, norm_of_isRec hr⟩
  | false => exact ⟨_, _, norm_map_nonrec hr⟩

theorem isContainer_norm {u : GoVal} (h : isContainer u = true) : isContainer (u.norm d) = true := by
  rcases isContainer_seq_or_map h with ⟨xs, hs⟩ | ⟨kt, vt, kvs, rfl⟩
  · rw [norm_of_seq hs]; rfl
  · obtain ⟨vt', kvs', e⟩ := norm_map_shape (d := d) kt vt kvs
    rw [e]; rfl

theorem norm_inv_rigid {u u' : GoVal} (hu : noDrop u = true) (hc : isContainer u = false) (hu' : noDrop u' = true)
    (h : RepEq d u u') : u' = u := by
  unfold RepEq at h
  rw [norm_of_rigid hu hc] at h
  cases hc' : isContainer u' with
  | false => rw [norm_of_rigid hu' hc'] at h; exact h.symm
  | true => rw [h, isContainer_norm hc'] at hc; cases hc

theorem repEq_noDrop_cases {u u' : GoVal} (hu : noDrop u = true) (hu' : noDrop u' = true) (h : RepEq d u u') :
    u' = u ∨ (isContainer u = true ∧ isContainer u' = true) := by
  cases hc : isContainer u with
  | false => exact .inl (norm_inv_rigid hu hc hu' h)
  | true =>
    cases hc' : isContainer u' with
    | false => exact .inl (norm_inv_rigid hu' hc' hu h.symm).symm
    | true => exact .inr ⟨rfl, rfl⟩

theorem repEq_noDrop_inv {u u' : GoVal} (hu : noDrop u = true) (hu' : noDrop u' = true) (h : RepEq d u u') :
    u' = u ∨ (∃ xs xs', Cmp.seqElems u = some xs ∧ Cmp.seqElems u' = some xs' ∧ normList d xs = normList d xs') ∨
    ∃ kt vt vt' kvs kvs', u = .map kt vt kvs ∧ u' = .map kt vt' kvs' ∧ normKVs d kvs = normKVs d kvs' := by
  rcases repEq_noDrop_cases hu hu' h with e | ⟨hc, hc'⟩
  · exact .inl e
  refine .inr ?_
  rcases isContainer_seq_or_map hc with ⟨xs, hs⟩ | ⟨kt, vt, kvs, rfl⟩ <;>
    rcases isContainer_seq_or_map hc' with ⟨xs', hs'⟩ | ⟨kt', vt', kvs', rfl⟩
  · have e : u.norm d = u'.norm d := h
    rw [norm_of_seq hs, norm_of_seq hs'] at e
    injection e with _ e
    exact .inl ⟨xs, xs', hs, hs', e⟩
  · obtain ⟨vt'', kvs'', e⟩ := norm_map_shape (d := d) kt' vt' kvs'
    have e' : u.norm d = _ := h
    rw [norm_of_seq hs, e] at e'
    cases e'
  · obtain ⟨vt'', kvs'', e⟩ := norm_map_shape (d := d) kt vt kvs
    have e' : _ = u'.norm d := h
    rw [norm_of_seq hs', e] at e'
    cases e'
  · refine .inr ⟨kt, vt, vt', kvs, kvs', rfl, ?_⟩
    cases hr : isRec (.map kt vt kvs) with
    | true => cases h.rec_eq (.inl hr); exact ⟨rfl, rfl⟩
    | false =>
      cases hr' : isRec (.map kt' vt' kvs') with
      | true => cases h.rec_eq (.inr hr'); exact ⟨rfl, rfl⟩
      | false =>
        have e : (GoVal.map kt vt kvs).norm d = (GoVal.map kt' vt' kvs').norm d := h
        rw [norm_map_nonrec hr, norm_map_nonrec hr'] at e
        injection e with e1 _ e3
        subst e1
        exact ⟨rfl, e3⟩

theorem norm_comm_noDrop {g : GoVal → GoVal} (hg : ∀ c, isContainer c = true → g c = c) {v : GoVal} (h : noDrop v = true) :
    (g v).norm d = (g (v.norm d)).norm d := by
  cases hc : isContainer v with
  | false => rw [norm_of_rigid h hc]
  | true => rw [hg v hc, hg _ (isContainer_norm hc), norm_idem]

theorem noDrop_of_not_dropLike {u : GoVal} (h : u.isDropLike = false) : noDrop u = true := by
  cases u with
  | drop w => cases h
  | _ => rfl

theorem unwrap_noDrop (v : GoVal) : noDrop v.unwrap = true := noDrop_of_not_dropLike (unwrap_not_dropLike v)

theorem unwrap_of_isContainer {u : GoVal} (h : isContainer u = true) : u.unwrap = u := by
  rcases isContainer_cases h with ⟨t, xs, rfl⟩ | ⟨t, xs, rfl⟩ | ⟨kt, vt, kvs, rfl⟩ <;> rfl

theorem unwrap_norm_stable : ∀ v : GoVal, v.unwrap.norm d = (v.norm d).unwrap.norm d
  | .drop v => by
    rw [norm_drop]
    split
    · rfl
    · rw [unwrap]; exact unwrap_norm_stable v
  | .nil | .bool _ | .int _ _ | .flt _ _ | .str _ | .bytes _ | .slice _ _ | .array _ _ | .map _ _ _
  | .mapSlice _ | .keyedMap _ | .range _ _ | .ptr _ | .nilPtr | .struct _ | .time _ => norm_comm_noDrop (fun _ => unwrap_of_isContainer) rfl

theorem RepEq.unwrap {a b : GoVal} (h : RepEq d a b) : RepEq d a.unwrap b.unwrap := by
  unfold RepEq at *
  rw [unwrap_norm_stable a, unwrap_norm_stable b, h]
