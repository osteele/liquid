import Liquid.Compare
import Proofs.ToLiquidLemmas
import Proofs.ResLemmas
/-!
# `values.Equal`, `values.Less`, `Contains` and the grammar actions of `Liquid/Compare.lean` (C09; the sorts of C15, the comparisons of C18 and C02)

In order: results, `joinKind`, `compareInts`, `safeEqual`; unfolding `values.Equal` and its loops (the items of an ordered
map are compared as the list of their keys and values, `equalItems_eq`; `equalMaps` is a conjunction over the outcomes of
the entries, the element loop one over the pairs of elements: `andSeq`, `mapAll_eq_andSeq`, `equalList_eq_andSeq`); `Equal` by the kind of its first
operand (`Kind`, `Scalar`; one equation per class: `equalTL_of_scalar` …, `equalTL_unlike`); `Equal` and `Less` answer or
leave the model (`Soft`: no panic, no error); `Less` orders scalars (`lessTL_eq`), the wrappers, `Contains`,
the grammar actions; well-formed values (`wfE`): `Equal` is total, symmetric and reflexive; what an operator sees of an
operand (`strip`, `WF` and the rules that C09 quotes); numbers converted to their join type (`numVal`,
`joinVal`, `numOK`, `numExact`); `contains` on a string and on an array, truthiness (`containsB_iff`, `opContains_eq`,
`truthy_eq_test`); decidability; the lookup of `m[k]` against `lookupKey` on a string key (`mapFind_str_isSome_iff`).
-/

set_option linter.unusedSimpArgs false

namespace Cmp

@[simp] theorem isPanic_ok {α} (x : α) : (Res.ok x : R α).isPanic = false := rfl
@[simp] theorem isPanic_unmodelled {α} (w : String) : (Res.unmodelled w : R α).isPanic = false := rfl
@[simp] theorem isPanic_err {α} (e) : (Res.err e : R α).isPanic = false := rfl
@[simp] theorem isPanic_panic {α} (w : String) : (Res.panic w : R α).isPanic = true := rfl

@[simp] theorem joinKind_self (a : RKind) : joinKind a a = a := by simp [joinKind]
@[simp] theorem joinKind_int_int (k k' : IntKind) :
    joinKind (.int k) (.int k') = .int (if k = k' then k else .i64) := by
  unfold joinKind; split <;> simp_all [RKind.isInt]
@[simp] theorem joinKind_flt_flt (k k' : FltKind) :
    joinKind (.flt k) (.flt k') = .flt (if k = k' then k else .f64) := by
  unfold joinKind; split <;> simp_all [RKind.isInt, RKind.isFloat]
@[simp] theorem joinKind_int_flt (k : IntKind) (k' : FltKind) :
    joinKind (.int k) (.flt k') = .flt .f64 := by
  simp [joinKind, RKind.isInt, RKind.isFloat]
@[simp] theorem joinKind_flt_int (k : FltKind) (k' : IntKind) :
    joinKind (.flt k) (.int k') = .flt .f64 := by
  simp [joinKind, RKind.isInt, RKind.isFloat]

theorem rkind_inv {a : GoVal} {k : RKind} (hk : rkind a = k) :
    match (motive := RKind → Prop) k with
    | .invalid => a = .nil
    | .bool => ∃ x, a = .bool x
    | .int k => ∃ n, a = .int k n
    | .flt k => ∃ q, a = .flt k q
    | .str => ∃ s, a = .str s
    | .ptr => a = .nilPtr ∨ ∃ v, a = .ptr v
    | .slice | .array => (∃ sv, seqView a = .ok sv) ∨ ∃ w, seqView a = .unmodelled w
    | .map => (∃ p, mapView a = .ok p) ∨ ∃ w, mapView a = .unmodelled w
    | .struct => True := by
  subst hk
  cases a <;> simp [rkind, seqView, mapView]

/-- what `compareInts` computes on two integers: it looks at their signedness and values only -/
def cmpInt (s : Bool) (n : Int) (s' : Bool) (m : Int) : Ordering :=
  if !s && s' && decide (m < 0) then .gt
  else if s && !s' && decide (n < 0) then .lt
  else compare n m

@[simp] theorem compareInts_eq (k n k' m) :
    compareInts (.int k n) (.int k' m) = .ok (cmpInt k.isSigned n k'.isSigned m) := by
  cases hk : k.isSigned <;> cases hk' : k'.isSigned <;>
    simp [compareInts, cmpInt, rkind, RKind.isUint, hk, hk', rInt, rUint] <;> split <;> simp_all

def intOK (k : IntKind) (n : Int) : Prop := k.isSigned = false → 0 ≤ n

theorem cmpInt_eq_compare {s n s' m} (h : s = false → 0 ≤ n) (h' : s' = false → 0 ≤ m) :
    cmpInt s n s' m = compare n m := by
  unfold cmpInt
  cases s <;> cases s' <;> simp
  · intro hm
    have := h rfl
    rw [eq_comm, Int.compare_eq_gt]; omega
  · intro hn
    have := h' rfl
    rw [eq_comm, Int.compare_eq_lt]; omega

theorem safeEqual_of_kind_ne {a b : GoVal} (hn : (a.isNil || b.isNil) = false) (h : rkind a ≠ rkind b) :
    safeEqual a b = .ok false := by
  unfold safeEqual
  rw [hn, if_neg Bool.false_ne_true, if_pos (by simp [h])]

theorem equalAux_false (a b : GoVal) : equalAux false a b = equalTL a (toLiq b) := by
  cases a <;> simp only [equalAux, equalTL, seqK, mapK]

theorem equalAux_true : ∀ a b : GoVal, equalAux true a b = equalTL (toLiq a) (toLiq b)
  | .drop v, b => by rw [equalAux, toLiq]; exact equalAux_true v b
  | .ptr (.drop v), b => by simp only [equalAux, toLiq]; exact equalAux_true v b
  | .ptr .nil, b | .ptr (.bool _), b | .ptr (.int _ _), b | .ptr (.flt _ _), b | .ptr (.str _), b
  | .ptr (.bytes _), b | .ptr (.slice _ _), b | .ptr (.array _ _), b | .ptr (.map _ _ _), b
  | .ptr (.mapSlice _), b | .ptr (.keyedMap _), b | .ptr (.range _ _), b | .ptr (.ptr _), b | .ptr .nilPtr, b
  | .ptr (.struct _), b | .ptr (.time _), b => by simp only [equalAux, toLiq, equalTL, seqK, mapK]
  | .nil, b | .bool _, b | .int _ _, b | .flt _ _, b | .str _, b | .bytes _, b | .slice _ _, b
  | .array _ _, b | .map _ _ _, b | .mapSlice _, b | .keyedMap _, b | .range _ _, b | .nilPtr, b
  | .struct _, b | .time _, b => by simp only [equalAux, toLiq, equalTL, seqK, mapK]

theorem equalAux_eq (fl : Bool) (a b : GoVal) : equalAux fl a b = equalTL (if fl then toLiq a else a) (toLiq b) := by
  cases fl
  · exact equalAux_false a b
  · exact equalAux_true a b

theorem equal_eq (a b : GoVal) : equal a b = equalTL (toLiq a) (toLiq b) := equalAux_true a b

theorem equalList_cons (x y : GoVal) (xs ys : List GoVal) :
    equalList (x :: xs) (y :: ys) = (equal x y).bind fun r => if r then equalList xs ys else .ok false := by
  simp [equalList, equal]
@[simp] theorem equalList_nil_left (ys : List GoVal) : equalList [] ys = .ok true := by simp [equalList]
@[simp] theorem equalList_nil_right (xs : List GoVal) : equalList xs [] = .ok true := by
  cases xs <;> simp [equalList]

theorem equalItems_cons (k v k' v' : GoVal) (xs ys : List (GoVal × GoVal)) :
    equalItems ((k, v) :: xs) ((k', v') :: ys) =
      (equal k k').bind fun rk => if rk then (equal v v').bind fun rv =>
        if rv then equalItems xs ys else .ok false else .ok false := by
  simp [equalItems, equal]
@[simp] theorem equalItems_nil_left (ys) : equalItems [] ys = .ok true := by simp [equalItems]
@[simp] theorem equalItems_nil_right (xs) : equalItems xs [] = .ok true := by
  cases xs <;> simp [equalItems]

/-- the keys and values of an ordered map in the order in which `Equal` meets them -/
def flatItems : List (GoVal × GoVal) → List GoVal
  | [] => []
  | (k, v) :: r => k :: v :: flatItems r

/-- `Equal(item, item')` is `Equal(Key, Key') && Equal(Value, Value')`: the loop over the items of two ordered maps is
the element loop over their keys and values -/
theorem equalItems_eq : ∀ xs ys : List (GoVal × GoVal), equalItems xs ys = equalList (flatItems xs) (flatItems ys)
  | [], _ => by rw [equalItems_nil_left, flatItems, equalList_nil_left]
  | _ :: _, [] => by rw [equalItems_nil_right, flatItems, equalList_nil_right]
  | (k, v) :: xs, (k', v') :: ys => by
    rw [equalItems_cons, flatItems, flatItems, equalList_cons, equalList_cons, equalItems_eq xs ys]

@[simp] theorem mapAll_nil (bs) : mapAll [] bs = .ok true := by simp [mapAll]
theorem mapAll_cons (k v : GoVal) (rest bs : List (GoVal × GoVal)) :
    mapAll ((k, v) :: rest) bs = (mapIndex bs k).bind fun o =>
      match o with
      | none => .ok false
      | some v' => (equal v v').bind fun r => if r then mapAll rest bs else .ok false := by
  simp [mapAll, equal]
  rfl

/-- the conjunction a loop of `Equal` computes over its comparisons: it stops at the first that does not answer `true` -/
def andSeq : List (R Bool) → R Bool
  | [] => .ok true
  | o :: os => o.bind fun r => if r then andSeq os else .ok false

theorem andSeq_soft : ∀ {os : List (R Bool)}, (∀ o ∈ os, Soft o) → Soft (andSeq os)
  | [], _ => trivial
  | o :: os, h => by
    rw [andSeq]
    refine Soft.bind (h o List.mem_cons_self) fun r => ?_
    cases r
    · exact trivial
    · exact andSeq_soft fun o' ho' => h o' (List.mem_cons_of_mem _ ho')

theorem andSeq_true_iff : ∀ {os : List (R Bool)}, andSeq os = .ok true ↔ ∀ o ∈ os, o = .ok true
  | [] => by simp [andSeq]
  | o :: os => by
    rw [andSeq, List.forall_mem_cons, ← andSeq_true_iff]
    cases o with
    | ok r => cases r <;> simp [Res.bind]
    | _ => simp [Res.bind]

theorem andSeq_false : ∀ {os : List (R Bool)}, andSeq os = .ok false → ∃ o ∈ os, o = .ok false
  | [], h => by simp [andSeq] at h
  | o :: os, h => by
    simp only [andSeq] at h
    cases o with
    | ok r =>
      cases r with
      | true =>
        simp only [Res.bind, if_true] at h
        obtain ⟨o', ho', e⟩ := andSeq_false h
        exact ⟨o', List.mem_cons_of_mem _ ho', e⟩
      | false => exact ⟨_, List.mem_cons_self, rfl⟩
    | _ => simp [Res.bind] at h

theorem andSeq_total : ∀ {os : List (R Bool)}, (∀ o ∈ os, ∃ r, o = .ok r) → ∃ r, andSeq os = .ok r
  | [], _ => ⟨true, rfl⟩
  | o :: os, h => by
    obtain ⟨r, rfl⟩ := h o List.mem_cons_self
    rw [andSeq, Res.bind_ok]
    cases r
    · exact ⟨false, rfl⟩
    · exact andSeq_total fun o' ho' => h o' (List.mem_cons_of_mem _ ho')

theorem equalList_eq_andSeq : ∀ xs ys : List GoVal, equalList xs ys = andSeq (List.zipWith equal xs ys)
  | [], _ => by rw [equalList_nil_left, List.zipWith_nil_left, andSeq]
  | _ :: _, [] => by rw [equalList_nil_right, List.zipWith_nil_right, andSeq]
  | x :: xs, y :: ys => by rw [equalList_cons, List.zipWith_cons_cons, andSeq, equalList_eq_andSeq xs ys]

/-- the outcome of one entry of the first map in the loop of `equalMaps` -/
def entryOut (bs : List (GoVal × GoVal)) (kv : GoVal × GoVal) : R Bool :=
  (mapIndex bs kv.1).bind fun o =>
    match o with
    | none => .ok false
    | some v' => equal kv.2 v'

theorem mapAll_eq_andSeq (kvs bs : List (GoVal × GoVal)) : mapAll kvs bs = andSeq (kvs.map (entryOut bs)) := by
  induction kvs with
  | nil => simp [andSeq]
  | cons kv r ih =>
    obtain ⟨k, v⟩ := kv
    rw [mapAll_cons, List.map_cons, andSeq, entryOut]
    simp only
    cases mapIndex bs k with
    | ok o =>
      cases o with
      | none => simp [Res.bind]
      | some v' =>
        simp only [Res.bind_ok]
        rw [ih]
    | _ => simp [Res.bind]

theorem entryOut_of_key {bs : List (GoVal × GoVal)} {e : GoVal × GoVal} {kk : Key} (hk : toKey e.1 = some kk) :
    entryOut bs e = match lookupKey kk bs with
      | none => .ok false
      | some v' => equal e.2 v' := by
  unfold entryOut mapIndex
  rw [hk]
  rfl

theorem sizeOf_toLiq_le (a : GoVal) : sizeOf (toLiq a) ≤ sizeOf a := by
  rw [toLiq_eq_toLiquid]; exact sizeOf_toLiquid_le a

theorem sizeOf_lt_of_mem_seq {a : GoVal} {xs : List GoVal} {x : GoVal} (ha : seqElems a = some xs) (h : x ∈ xs) :
    sizeOf x < sizeOf a := by
  have := List.sizeOf_lt_of_mem h
  rcases seqElems_cases ha with ⟨t, rfl⟩ | ⟨t, rfl⟩ <;> simp <;> omega
theorem sizeOf_lt_of_mem_flatItems {x : GoVal} : ∀ {kvs : List (GoVal × GoVal)}, x ∈ flatItems kvs →
    sizeOf x < sizeOf (GoVal.mapSlice kvs)
  | (k, v) :: r, h => by
    rw [flatItems, List.mem_cons, List.mem_cons] at h
    have ih := @sizeOf_lt_of_mem_flatItems x r
    simp only [GoVal.mapSlice.sizeOf_spec, List.cons.sizeOf_spec, Prod.mk.sizeOf_spec] at ih ⊢
    rcases h with rfl | rfl | h
    · omega
    · omega
    · have := ih h
      omega
theorem sizeOf_lt_of_mem_map {kt vt : Ty} {kvs : List (GoVal × GoVal)} {e : GoVal × GoVal} (h : e ∈ kvs) :
    sizeOf e.1 < sizeOf (GoVal.map kt vt kvs) ∧ sizeOf e.2 < sizeOf (GoVal.map kt vt kvs) := by
  have := List.sizeOf_lt_of_mem h
  obtain ⟨k, v⟩ := e
  simp at this ⊢; omega

theorem sizeInduction {P : GoVal → Prop} (h : ∀ a, (∀ x, sizeOf x < sizeOf a → P x) → P a) :
    ∀ a, P a := by
  have : ∀ n (a : GoVal), sizeOf a < n → P a := by
    intro n
    induction n with
    | zero => intro a h; omega
    | succ n ih => intro a ha; exact h a (fun x hx => ih x (by omega))
  exact fun a => this _ a (Nat.lt_succ_self _)

/-! ## `Equal` by the kind of its first operand

`equalTL a b` is decided by the class of `a` alone (`head_cases`: nil, a scalar, a sequence, a map, a pointer or
struct), one equation each (`equalTL_nil_left`, `equalTL_of_scalar`, `equalTL_of_array`, `equalTL_of_map`,
`equalTL_of_other`); operands of unlike classes are never equal (`equalTL_unlike`). -/

/-- the kinds of value the property speaks about -/
inductive Kind where
  | nil | bool | number | string | array | map | other
  deriving DecidableEq, Repr

def kindOf : GoVal → Kind
  | .nil => .nil
  | .bool _ => .bool
  | .int _ _ | .flt _ _ => .number
  | .str _ => .string
  | .slice _ _ | .array _ _ | .bytes _ => .array
  | .map _ _ _ | .keyedMap _ => .map
  | _ => .other

/-- the documented kind of the values of a `reflect.Kind` (except that a `MapSlice`, of kind Slice, is `other`) -/
def kindOfR : RKind → Kind
  | .invalid => .nil
  | .bool => .bool
  | .int _ | .flt _ => .number
  | .str => .string
  | .slice | .array => .array
  | .map => .map
  | _ => .other

theorem kindOf_eq {x : GoVal} (h : kindOf x ≠ .other) : kindOf x = kindOfR (rkind x) := by
  cases x <;> first | rfl | exact absurd rfl h

/-- two kinds join to a kind of the class of both (sequences with sequences, numbers with numbers, else a kind with
itself), or not at all: a case of `Equal` or `Less` that `joinKind` selects is only entered with operands of its class -/
theorem joinKind_class (k k' : RKind) :
    joinKind k k' = .invalid ∨ (kindOfR (joinKind k k') = kindOfR k ∧ kindOfR (joinKind k k') = kindOfR k') := by
  unfold joinKind
  split
  · rename_i h
    exact .inr ⟨rfl, h ▸ rfl⟩
  · cases k with
    | slice | array =>
      cases k' with
      | slice | array => exact .inr ⟨rfl, rfl⟩
      | _ => exact .inl rfl
    | int _ | flt _ =>
      cases k' with
      | int _ | flt _ => exact .inr ⟨rfl, rfl⟩
      | _ => exact .inl rfl
    | _ => exact .inl rfl

theorem joinKind_of_unlike {a b : RKind} (h : kindOfR a ≠ kindOfR b) : joinKind a b = .invalid := by
  rcases joinKind_class a b with hj | ⟨h1, h2⟩
  · exact hj
  · exact absurd (h1.symm.trans h2) h

theorem _root_.GoVal.isNil_iff (x : GoVal) : x.isNil = true ↔ x = .nil := by
  cases x <;> simp [GoVal.isNil]

/-- operands whose `reflect.Kind`s fall into different classes are never equal (a `MapSlice` counts as the
sequence it is compared as: the side conditions of C09's `equal_kind` are only about `kindOf` filing it under `other`) -/
theorem equalTL_unlike {x y : GoVal} (hk : kindOfR (rkind x) ≠ kindOfR (rkind y)) : equalTL x y = .ok false := by
  have hne : rkind x ≠ rkind y := fun h => hk (by rw [h])
  unfold equalTL equalBody
  cases hn : x.isNil || y.isNil
  · simp only [joinKind_of_unlike hk, safeEqual_of_kind_ne hn hne]; rfl
  · cases hx' : x.isNil
    · rfl
    · cases hy' : y.isNil
      · rfl
      · rw [x.isNil_iff.1 hx', y.isNil_iff.1 hy'] at hne
        exact absurd rfl hne

theorem lessTL_unlike {x y : GoVal} (hk : kindOfR (rkind x) ≠ kindOfR (rkind y)) : lessTL x y = .ok false := by
  unfold lessTL
  rw [joinKind_of_unlike hk]
  split <;> rfl

/-- What `Less`, and `Equal` between two of them, see of an operand: a bool, an integer with its signedness
(`compareInts` looks at nothing else of the kind), a float, a string. -/
inductive Scalar where
  | bool (b : Bool) | int (signed : Bool) (n : Int) | flt (q : Rat) | str (s : Bytes)

def scalar : GoVal → Option Scalar
  | .bool b => some (.bool b)
  | .int k n => some (.int k.isSigned n)
  | .flt _ q => some (.flt q)
  | .str s => some (.str s)
  | _ => none

/-- Go's `==` after `joinKind`: integers exactly, an integer with a float as `float64`s -/
def Scalar.eq : Scalar → Scalar → Bool
  | .bool x, .bool y => x == y
  | .int s n, .int s' m => cmpInt s n s' m == .eq
  | .int _ n, .flt q => ((f64OfInt n : Int) : Rat) == q
  | .flt q, .int _ n => q == ((f64OfInt n : Int) : Rat)
  | .flt q, .flt r => q == r
  | .str s, .str t => s == t
  | _, _ => false

/-- Go's `<` after `joinKind` -/
def Scalar.lt : Scalar → Scalar → Bool
  | .bool x, .bool y => !x && y
  | .int s n, .int s' m => cmpInt s n s' m == .lt
  | .int _ n, .flt q => decide (((f64OfInt n : Int) : Rat) < q)
  | .flt q, .int _ n => decide (q < ((f64OfInt n : Int) : Rat))
  | .flt q, .flt r => decide (q < r)
  | .str s, .str t => bytesLt s t
  | _, _ => false

def ltO : Option Scalar → Option Scalar → Bool
  | some x, some y => x.lt y
  | _, _ => false

def eqO (x : Scalar) : Option Scalar → Bool
  | some y => x.eq y
  | none => false

/-- on two scalars `Equal` and `Less` answer with `Scalar.eq` and `Scalar.lt`: every pair of constructors
computes, the two pairs of like numbers after `joinKind` of two kinds that may differ -/
theorem scalar_cmp {a b : GoVal} {x y : Scalar} (ha : scalar a = some x) (hb : scalar b = some y) :
    equalTL a b = .ok (x.eq y) ∧ lessTL a b = .ok (x.lt y) := by
  cases a <;> cases ha <;> cases b <;> cases hb
  case int.refl.int.refl =>
    simp only [equalTL, equalBody, lessTL, GoVal.isNil, rkind, joinKind_int_int, compareInts_eq]
    exact ⟨rfl, rfl⟩
  case flt.refl.flt.refl =>
    simp only [equalTL, equalBody, lessTL, GoVal.isNil, rkind, joinKind_flt_flt]
    exact ⟨rfl, rfl⟩
  all_goals exact ⟨rfl, rfl⟩

def Kind.isScalar : Kind → Bool
  | .bool | .number | .string => true
  | _ => false

theorem isSome_scalar (a : GoVal) : (scalar a).isSome = (kindOfR (rkind a)).isScalar := by
  cases a <;> rfl

theorem head_cases (a : GoVal) : a = .nil ∨ (∃ x, scalar a = some x) ∨ kindOfR (rkind a) = .array ∨
    kindOfR (rkind a) = .map ∨ kindOfR (rkind a) = .other := by
  cases a with
  | nil => exact .inl rfl
  | bool _ | int _ _ | flt _ _ | str _ => exact .inr (.inl ⟨_, rfl⟩)
  | bytes _ | slice _ _ | array _ _ | mapSlice _ => exact .inr (.inr (.inl rfl))
  | map _ _ _ | keyedMap _ => exact .inr (.inr (.inr (.inl rfl)))
  | _ => exact .inr (.inr (.inr (.inr rfl)))

/-- the values of kind Slice or Array: a slice or fixed array of values, an ordered map, a `[]byte` -/
theorem array_cases {a : GoVal} (h : kindOfR (rkind a) = .array) :
    (∃ xs, seqElems a = some xs) ∨ (∃ kvs, a = .mapSlice kvs) ∨ ∃ s, a = .bytes s := by
  cases a with
  | slice _ xs | array _ xs => exact .inl ⟨xs, rfl⟩
  | mapSlice kvs => exact .inr (.inl ⟨kvs, rfl⟩)
  | bytes s => exact .inr (.inr ⟨s, rfl⟩)
  | _ => cases h

theorem seq_vals {a : GoVal} {xs : List GoVal} (h : seqElems a = some xs) :
    seqView a = .ok (.vals xs) ∧ seqK a = seqVals xs (equalList xs) := by
  rcases seqElems_cases h with ⟨t, rfl⟩ | ⟨t, rfl⟩ <;> exact ⟨rfl, rfl⟩

theorem kind_of_seq {a : GoVal} {xs : List GoVal} (h : seqElems a = some xs) : kindOfR (rkind a) = .array := by
  rcases seqElems_cases h with ⟨t, rfl⟩ | ⟨t, rfl⟩ <;> rfl

theorem isNil_of_kind {a : GoVal} (h : kindOfR (rkind a) ≠ .nil) : a.isNil = false := by
  cases a <;> first | rfl | exact absurd rfl h

theorem kind_array {k : RKind} (h : kindOfR k = .array) : k = .slice ∨ k = .array := by
  cases k <;> first | exact .inl rfl | exact .inr rfl | cases h

theorem kind_map {k : RKind} (h : kindOfR k = .map) : k = .map := by
  cases k <;> first | rfl | cases h

theorem seqView_of_array {b : GoVal} (h : kindOfR (rkind b) = .array) :
    (∃ sv, seqView b = .ok sv) ∨ ∃ w, seqView b = .unmodelled w := by
  rcases kind_array h with h | h <;> exact rkind_inv h

theorem equalTL_nil_right (x : GoVal) : equalTL x .nil = .ok x.isNil := by
  cases x <;> rfl
theorem equalTL_nil_left (x : GoVal) : equalTL .nil x = .ok x.isNil := by
  cases x <;> rfl

theorem equalTL_of_scalar {a : GoVal} {x : Scalar} (ha : scalar a = some x) (b : GoVal) :
    equalTL a b = .ok (eqO x (scalar b)) := by
  cases hb : scalar b with
  | some y => exact (scalar_cmp ha hb).1
  | none =>
    refine equalTL_unlike fun hk => ?_
    have h := isSome_scalar a
    rw [hk, ← isSome_scalar, ha, hb] at h
    cases h

theorem equalTL_of_array {a : GoVal} (ha : kindOfR (rkind a) = .array) (b : GoVal) :
    equalTL a b = if kindOfR (rkind b) = .array then (seqView b).bind (seqK a) else .ok false := by
  split
  · rename_i hb
    unfold equalTL equalBody
    rw [isNil_of_kind (ha ▸ nofun), isNil_of_kind (hb ▸ nofun)]
    rcases kind_array ha with h | h <;> rcases kind_array hb with h' | h' <;> rw [h, h'] <;> rfl
  · rename_i hb
    exact equalTL_unlike fun hk => hb (hk ▸ ha)

theorem equalTL_of_map {a : GoVal} (ha : kindOfR (rkind a) = .map) (b : GoVal) :
    equalTL a b = if kindOfR (rkind b) = .map then (mapView b).bind fun kb => mapK a kb.1 kb.2 else .ok false := by
  split
  · rename_i hb
    unfold equalTL equalBody
    rw [isNil_of_kind (ha ▸ nofun), isNil_of_kind (hb ▸ nofun), kind_map ha, kind_map hb]
    rfl
  · rename_i hb
    exact equalTL_unlike fun hk => hb (hk ▸ ha)

theorem joinKind_other {k : RKind} (h : kindOfR k = .other) (k' : RKind) :
    joinKind k k' = if k = k' then k else .invalid := by
  cases k <;> cases h <;> rfl

theorem equalTL_of_other {a : GoVal} (ha : kindOfR (rkind a) = .other) (b : GoVal) :
    equalTL a b = safeEqual a b := by
  unfold equalTL equalBody
  split
  · rename_i hn
    unfold safeEqual
    rw [if_pos hn]
  · rw [joinKind_other ha]
    by_cases hk : rkind a = rkind b
    · rw [if_pos hk]
      -- on two structs `Equal` calls `safeEqual`; on two pointers its own case distinction is that of `==`
      cases hka : rkind a <;> rw [hka] at ha hk <;> cases ha
      obtain rfl | ⟨v, rfl⟩ := rkind_inv hka <;> obtain rfl | ⟨w, rfl⟩ := rkind_inv hk.symm <;> rfl
    · rw [if_neg hk]

/-- the same from the second operand, when that is a sequence of values or a map -/
theorem equalTL_vals_right (a : GoVal) {b : GoVal} {ys : List GoVal} (hb : seqElems b = some ys) :
    equalTL a b = if kindOfR (rkind a) = .array then seqK a (.vals ys) else .ok false := by
  have hk := kind_of_seq hb
  split
  · rename_i ha
    rw [equalTL_of_array ha, if_pos hk]
    rcases seqElems_cases hb with ⟨t, rfl⟩ | ⟨t, rfl⟩ <;> rfl
  · rename_i ha
    exact equalTL_unlike fun h => ha (h ▸ hk)

theorem equalTL_map_right (a : GoVal) (kt vt kvs) :
    equalTL a (.map kt vt kvs) = if kindOfR (rkind a) = .map then mapK a kt kvs else .ok false := by
  split
  · rename_i ha
    exact (equalTL_of_map ha _).trans (if_pos rfl)
  · rename_i ha
    exact equalTL_unlike fun h => ha (h ▸ rfl)

theorem equalTL_seq {x y : GoVal} {xs ys : List GoVal} (hx : seqElems x = some xs) (hy : seqElems y = some ys) :
    equalTL x y = if xs.length != ys.length then .ok false else equalList xs ys := by
  rw [equalTL_vals_right x hy]
  rcases seqElems_cases hx with ⟨t, rfl⟩ | ⟨t, rfl⟩ <;> rfl

/-! `safeEqual` and `Equal` answer or leave the model (`Soft`): no `reflect` accessor and no `==` is reached on an operand
it panics on, and nothing returns an error. -/

theorem goEq_soft (a b : GoVal) (hk : rkind a = rkind b) (hc : comparableV a = .ok true) : Soft (goEq a b) := by
  have hb := rkind_inv hk.symm
  cases a <;> try cases hc
  case nil => cases hb; exact trivial
  case bool => obtain ⟨y, rfl⟩ := hb; exact trivial
  case int => obtain ⟨y, rfl⟩ := hb; exact trivial
  case flt => obtain ⟨y, rfl⟩ := hb; exact trivial
  case str => obtain ⟨y, rfl⟩ := hb; exact trivial
  case ptr => obtain rfl | ⟨v, rfl⟩ := hb <;> exact trivial
  case nilPtr => obtain rfl | ⟨v, rfl⟩ := hb <;> exact trivial
  case range => cases b <;> exact trivial
  case time => cases b <;> exact trivial

theorem safeEqual_soft (a b : GoVal) : Soft (safeEqual a b) := by
  unfold safeEqual
  split
  · exact trivial
  · split
    · exact trivial
    · rename_i hk
      simp only [ne_eq, Bool.or_eq_true, decide_eq_true_eq, not_or, Decidable.not_not] at hk
      cases hc : comparableV a with
      | ok c =>
        cases c
        · exact trivial
        · exact goEq_soft a b hk.1 hc
      | unmodelled w => exact trivial
      | _ => cases a <;> cases hc

theorem equalList_soft (xs ys : List GoVal) (h : ∀ x ∈ xs, ∀ y, Soft (equal x y)) : Soft (equalList xs ys) := by
  rw [equalList_eq_andSeq, ← List.map_uncurry_zip_eq_zipWith]
  refine andSeq_soft fun o ho => ?_
  obtain ⟨p, hp, rfl⟩ := List.mem_map.1 ho
  exact h p.1 (List.of_mem_zip hp).1 p.2

theorem entryOut_soft (bs : List (GoVal × GoVal)) (e : GoVal × GoVal) (h : ∀ y, Soft (equal e.2 y)) : Soft (entryOut bs e) := by
  unfold entryOut mapIndex
  split
  · cases lookupKey _ bs with
    | none => exact trivial
    | some v' => exact h v'
  · exact trivial

theorem mapAll_soft (xs bs : List (GoVal × GoVal)) (h : ∀ e ∈ xs, ∀ y, Soft (equal e.2 y)) :
    Soft (mapAll xs bs) := by
  rw [mapAll_eq_andSeq]
  refine andSeq_soft fun o ho => ?_
  obtain ⟨e, he, rfl⟩ := List.mem_map.1 ho
  exact entryOut_soft bs e (h e he)

theorem equalTL_soft : ∀ a b : GoVal, Soft (equalTL a b) := by
  refine sizeInduction fun a ih b => ?_
  have elem : ∀ x : GoVal, sizeOf x < sizeOf a → ∀ y, Soft (equal x y) := by
    intro x hx y
    rw [equal_eq]
    exact ih (toLiq x) (by have := sizeOf_toLiq_le x; omega) _
  rcases head_cases a with rfl | ⟨x, hx⟩ | hs | hm | ho
  · rw [equalTL_nil_left]; exact trivial
  · rw [equalTL_of_scalar hx]; exact trivial
  · rw [equalTL_of_array hs]
    split
    · rename_i hb
      obtain ⟨sv, h⟩ | ⟨w, h⟩ := seqView_of_array hb
      · rw [h]
        obtain ⟨xs, hx⟩ | ⟨kvs, rfl⟩ | ⟨s, rfl⟩ := array_cases hs
        · rw [(seq_vals hx).2]
          cases sv <;> simp only [Res.bind_ok, seqVals]
          · split
            · exact trivial
            · exact equalList_soft _ _ (fun x hx' => elem x (sizeOf_lt_of_mem_seq hx hx'))
          · exact trivial
        · cases sv <;> simp only [Res.bind_ok, seqK, seqItems]
          · exact trivial
          · split
            · exact trivial
            · rw [equalItems_eq]
              exact equalList_soft _ _ (fun x hx => elem x (sizeOf_lt_of_mem_flatItems hx))
        · exact trivial
      · rw [h]; exact trivial
    · exact trivial
  · rw [equalTL_of_map hm]
    split
    · rename_i hb
      obtain ⟨p, h⟩ | ⟨w, h⟩ := rkind_inv (kind_map hb)
      · rw [h]
        cases a with
        | map kt vt kvs =>
          simp only [Res.bind_ok, mapK, mapEntries]
          split
          · exact trivial
          · exact mapAll_soft _ _ (fun e he y => elem e.2 (sizeOf_lt_of_mem_map he).2 y)
        | keyedMap fs => exact trivial
        | _ => cases hm
      · rw [h]; exact trivial
    · exact trivial
  · rw [equalTL_of_other ho]; exact safeEqual_soft a b

theorem equal_soft (a b : GoVal) : Soft (equal a b) := by
  rw [equal_eq]; exact equalTL_soft _ _

theorem safeEqual_noPanic (a b : GoVal) : (safeEqual a b).isPanic = false :=
  (safeEqual_soft a b).isPanic

theorem equal_noPanic (a b : GoVal) : (equal a b).isPanic = false :=
  (equal_soft a b).isPanic

/-- `Less` orders scalars only: the four cases of `joinKind` that it answers are reached by two scalars -/
theorem lessTL_of_not_scalar {a b : GoVal} (h : scalar a = none ∨ scalar b = none) : lessTL a b = .ok false := by
  have hs : joinKind (rkind a) (rkind b) = .invalid ∨ (kindOfR (joinKind (rkind a) (rkind b))).isScalar = false := by
    rcases joinKind_class (rkind a) (rkind b) with hj | ⟨h1, h2⟩
    · exact .inl hj
    · right
      rcases h with h | h
      · rw [h1, ← isSome_scalar, h]; rfl
      · rw [h2, ← isSome_scalar, h]; rfl
  unfold lessTL
  split
  · rfl
  · rcases hs with hj | hj
    · rw [hj]
    · cases hk : joinKind (rkind a) (rkind b) <;> first | rfl | (rw [hk] at hj; cases hj)

theorem lessTL_eq (a b : GoVal) : lessTL a b = .ok (ltO (scalar a) (scalar b)) := by
  cases ha : scalar a with
  | none => rw [lessTL_of_not_scalar (.inl ha)]; rfl
  | some x =>
    cases hb : scalar b with
    | none => rw [lessTL_of_not_scalar (.inr hb)]; rfl
    | some y => exact (scalar_cmp ha hb).2

theorem less_noPanic (a b : GoVal) : (less a b).isPanic = false := by
  rw [less, lessTL_eq]; rfl

def Wrapper.isDrop : Wrapper → Bool
  | .drop _ => true
  | _ => false

theorem valueOf_ptr_isDrop_false (v : GoVal) (h : (valueOf v).isDrop = false)
    (hv : ∀ w, v ≠ .drop w) : (valueOf (.ptr v)).isDrop = false := by
  cases v <;> simp_all [valueOf, isStructKind, Wrapper.isDrop]

def isDropV : GoVal → Bool
  | .drop _ => true
  | _ => false

/-- `Interface()` of a wrapper that is not a `dropWrapper` -/
def iface0 : Wrapper → GoVal
  | .wrapper v | .array v | .map v | .string v | .struct v => v
  | .mapSlice kvs => .mapSlice kvs
  | .drop d => d

/-- the wrapper `ValueOf` chooses for a value that is neither a drop nor a pointer to dereference -/
def wrapOf : GoVal → Wrapper
  | .ptr w => .struct (.ptr w)
  | v => valueOf v

/-- what `Interface()` can return: never a drop or a nil pointer, and a pointer only to a struct -/
def stripped : GoVal → Bool
  | .drop _ => false
  | .nilPtr => false
  | .ptr w => isStructKind w && !isDropV w
  | _ => true

open GoVal in
theorem stripped_unwrap (x : GoVal) : stripped x.unwrap = true := by
  induction x using GoVal.unwrap.induct with
  | case1 v ih => rwa [unwrap]
  | case2 => rfl
  | case3 v ih => rwa [unwrap]
  | case4 => rfl
  | case5 => rfl
  | case6 => rfl
  | case7 v h1 h2 h3 h4 ih => rwa [unwrap.eq_7 v h1 h2 h3 h4]
  | case8 v h1 h2 h3 h4 h5 h6 h7 =>
    rw [unwrap.eq_8 v h1 h2 h3 h4 h5 h6 h7]
    cases v <;> first | rfl | exact absurd rfl (h1 _) | exact absurd rfl h2 | exact absurd rfl (h7 _)

open GoVal in
theorem resolveVal_eq (x : GoVal) : resolveVal x = wrapOf x.unwrap := by
  induction x using resolveVal.induct with
  | case1 v ih => rwa [resolveVal, unwrap]
  | case2 v ih => rwa [resolveVal, unwrap]
  | case3 v h1 hs =>
    rw [resolveVal.eq_3 v h1, if_pos hs]
    cases v <;> first | rfl | exact absurd rfl (h1 _) | cases hs
  | case4 v h1 hs ih =>
    rw [resolveVal.eq_3 v h1, if_neg hs, ih,
      unwrap.eq_7 v h1 (fun _ e => hs (e ▸ rfl)) (fun _ _ e => hs (e ▸ rfl)) (fun _ e => hs (e ▸ rfl))]
  | case5 v h1 h2 h3 =>
    rw [resolveVal.eq_4 v h1 h2 h3]
    cases v <;> first | rfl | exact absurd rfl (h1 _) | exact absurd rfl (h3 _)

theorem iface0_wrapOf {y : GoVal} (h : stripped y = true) : iface0 (wrapOf y) = y := by
  cases y <;> first | rfl | cases h
theorem toLiq_of_stripped {y : GoVal} (h : stripped y = true) : toLiq y = y := by
  cases y with
  | ptr w => cases w <;> first | rfl | cases h
  | _ => first | rfl | cases h
theorem wrapOf_isDrop {y : GoVal} (h : stripped y = true) : (wrapOf y).isDrop = false := by
  cases y <;> first | rfl | cases h

theorem resolveVal_isDrop (v : GoVal) : (resolveVal v).isDrop = false := by
  rw [resolveVal_eq]; exact wrapOf_isDrop (stripped_unwrap v)

theorem resolve_isDrop (w : Wrapper) : w.resolve.isDrop = false := by
  cases w with
  | drop d => exact resolveVal_isDrop d
  | _ => rfl

theorem Wrapper.equal_eq (w o : Wrapper) : w.equal o = Cmp.equal w.iface o.iface := by
  have := resolve_isDrop w
  unfold Wrapper.equal Wrapper.iface
  cases h : w.resolve <;> simp_all [Wrapper.isDrop]

theorem less_mapSlice (kvs b) : less (.mapSlice kvs) b = .ok false :=
  lessTL_eq _ _

/-- `w.Less(o)` is `values.Less(w.Interface(), o.Interface())` for every wrapper (for a `MapSlice`,
whose `Less` is the constant false, `values.Less` is false as well) -/
theorem Wrapper.less_eq (w o : Wrapper) : w.less o = Cmp.less w.iface o.iface := by
  have := resolve_isDrop w
  unfold Wrapper.less Wrapper.iface
  cases h : w.resolve <;> simp_all [Wrapper.isDrop, less_mapSlice]

theorem Wrapper.equal_noPanic (w o : Wrapper) : (w.equal o).isPanic = false := by
  rw [Wrapper.equal_eq]; exact Cmp.equal_noPanic _ _
theorem Wrapper.less_noPanic (w o : Wrapper) : (w.less o).isPanic = false := by
  rw [Wrapper.less_eq]; exact Cmp.less_noPanic _ _

theorem Wrapper.test_ok (w : Wrapper) : ∃ r, w.test = .ok r := by
  have := resolve_isDrop w
  unfold Wrapper.test
  cases h : w.resolve <;> simp_all [Wrapper.isDrop]

theorem Wrapper.test_noPanic (w : Wrapper) : w.test.isPanic = false := by
  obtain ⟨r, h⟩ := w.test_ok; simp [h]

theorem containsList_noPanic (xs : List GoVal) (e : GoVal) : (containsList xs e).isPanic = false := by
  induction xs with
  | nil => simp [containsList]
  | cons x xs ih =>
    simp only [containsList, Res.bind_eq]
    apply Res.isPanic_bind (equal_noPanic x e)
    intro r _
    cases r <;> simp [ih]

theorem mapSliceContains_noPanic (kvs : List (GoVal × GoVal)) (e : GoVal) :
    (mapSliceContains kvs e).isPanic = false := by
  induction kvs with
  | nil => simp [mapSliceContains]
  | cons kv kvs ih =>
    obtain ⟨k, v⟩ := kv
    simp only [mapSliceContains, Res.bind_eq]
    apply Res.isPanic_bind (safeEqual_noPanic _ _)
    intro r _
    cases r <;> simp [ih]

/-- the wrapper of a value knows its kind: an `arrayValue` holds a sequence, a `mapValue` a map,
a `stringValue` a string -/
inductive WrapperOK : Wrapper → Prop
  | wrapper (v) : WrapperOK (.wrapper v)
  | array (v) : kindOfR (rkind v) = .array → WrapperOK (.array v)
  | map (v) : kindOfR (rkind v) = .map → WrapperOK (.map v)
  | string (s) : WrapperOK (.string (.str s))
  | struct (v) : WrapperOK (.struct v)
  | mapSlice (kvs) : WrapperOK (.mapSlice kvs)
  | drop (d) : WrapperOK (.drop d)

theorem valueOf_ok (v : GoVal) : WrapperOK (valueOf v) := by
  induction v using valueOf.induct with
  | case9 v h1 hs => rw [valueOf.eq_9 v h1, if_pos hs]; exact .struct _
  | case10 v h1 hs ih => rwa [valueOf.eq_9 v h1, if_neg hs]
  | _ => first
    | exact .wrapper _ | exact .string _ | exact .struct _ | exact .mapSlice _ | exact .map _ rfl | exact .drop _
    | exact .array _ rfl

theorem wrapOf_ok {y : GoVal} (h : stripped y = true) : WrapperOK (wrapOf y) := by
  cases y <;> first
    | exact .wrapper _ | exact .string _ | exact .struct _ | exact .mapSlice _ | exact .map _ rfl
    | exact .array _ rfl
    | cases h

theorem resolveVal_ok (v : GoVal) : WrapperOK (resolveVal v) := by
  rw [resolveVal_eq]; exact wrapOf_ok (stripped_unwrap v)

theorem resolve_ok {w : Wrapper} (h : WrapperOK w) : WrapperOK w.resolve := by
  cases h <;> simp only [Wrapper.resolve] <;> first | exact resolveVal_ok _ | (constructor <;> assumption) | constructor

theorem containsW_noPanic (w : Wrapper) (e : GoVal) (hw : WrapperOK w) : (containsW w e).isPanic = false := by
  cases hw with
  | wrapper v => rfl
  | array v hk =>
    simp only [containsW, Res.bind_eq]
    obtain ⟨sv, h⟩ | ⟨w, h⟩ := seqView_of_array hk <;> rw [h]
    · cases sv
      · exact containsList_noPanic _ _
      · rfl
    · rfl
  | map v hk =>
    simp only [containsW, Res.bind_eq]
    obtain ⟨p, h⟩ | ⟨w, h⟩ := rkind_inv (kind_map hk) <;> rw [h]
    · simp only [Res.bind_ok]
      split
      · rfl
      · split <;> rfl
    · rfl
  | string s =>
    cases e <;> first | rfl | (rename_i b; cases b <;> rfl)
  | struct v => cases e <;> rfl
  | mapSlice kvs => exact mapSliceContains_noPanic kvs e
  | drop d => rfl
theorem Wrapper.contains_noPanic (w o : Wrapper) (hw : WrapperOK w) : (w.contains o).isPanic = false :=
  containsW_noPanic _ _ (resolve_ok hw)

theorem operand_ok (v : GoVal) : WrapperOK (operand v) := valueOf_ok _

theorem relW_noPanic (o : Op) (a b : Wrapper) (ha : WrapperOK a) (_hb : WrapperOK b) :
    (relW o a b).isPanic = false := by
  cases o <;> simp only [relW, Res.bind_eq]
  · exact a.equal_noPanic b
  · exact Res.isPanic_bind (a.equal_noPanic b) (fun _ _ => rfl)
  · exact a.less_noPanic b
  · exact b.less_noPanic a
  · apply Res.isPanic_bind (a.less_noPanic b)
    intro l _
    cases l <;> simp [a.equal_noPanic b]
  · apply Res.isPanic_bind (b.less_noPanic a)
    intro l _
    cases l <;> simp [a.equal_noPanic b]
  · exact a.contains_noPanic b ha

theorem andW_noPanic (x : Wrapper) {b : Unit → R Wrapper} (hb : (b ()).isPanic = false) : (andW x b).isPanic = false := by
  refine Res.isPanic_bind x.test_noPanic fun t _ => ?_
  cases t
  · rfl
  · exact Res.isPanic_bind hb (fun y _ => y.test_noPanic)

theorem orW_noPanic (x : Wrapper) {b : Unit → R Wrapper} (hb : (b ()).isPanic = false) : (orW x b).isPanic = false := by
  refine Res.isPanic_bind x.test_noPanic fun t _ => ?_
  cases t
  · exact Res.isPanic_bind hb (fun y _ => y.test_noPanic)
  · rfl

theorem CE.eval_noPanic (env : List GoVal) : ∀ c : CE,
    (c.eval env).isPanic = false ∧ ∀ w, c.eval env = .ok w → WrapperOK w := by
  -- the value of a relation, of `and` and of `or` is the wrapper of a Boolean
  have bool : ∀ {q : R Bool} {w : Wrapper}, q.bind (fun r => .ok (valueOf (.bool r))) = .ok w → WrapperOK w := by
    intro q w h
    obtain ⟨r, _, h⟩ := Res.bind_eq_ok h
    cases h
    exact .wrapper _
  intro c
  induction c with
  | var i =>
    simp only [CE.eval]
    split
    · exact ⟨rfl, fun w h => by cases h; exact operand_ok _⟩
    · exact ⟨rfl, fun w h => by cases h⟩
  | elem i =>
    simp only [CE.eval]
    split
    · exact ⟨rfl, fun w h => by cases h; exact valueOf_ok _⟩
    · exact ⟨rfl, fun w h => by cases h⟩
  | rel o a b iha ihb =>
    simp only [CE.eval, Res.bind_eq]
    constructor
    · refine Res.isPanic_bind iha.1 fun x hx => Res.isPanic_bind ihb.1 fun y hy => ?_
      exact Res.isPanic_bind (relW_noPanic o x y (iha.2 x hx) (ihb.2 y hy)) (fun _ _ => rfl)
    · intro w h
      obtain ⟨x, _, h⟩ := Res.bind_eq_ok h
      obtain ⟨y, _, h⟩ := Res.bind_eq_ok h
      exact bool h
  | and a b iha ihb =>
    simp only [CE.eval, Res.bind_eq]
    constructor
    · exact Res.isPanic_bind iha.1 fun x _ => Res.isPanic_bind (andW_noPanic x ihb.1) (fun _ _ => rfl)
    · intro w h
      obtain ⟨x, _, h⟩ := Res.bind_eq_ok h
      exact bool h
  | or a b iha ihb =>
    simp only [CE.eval, Res.bind_eq]
    constructor
    · exact Res.isPanic_bind iha.1 fun x _ => Res.isPanic_bind (orW_noPanic x ihb.1) (fun _ _ => rfl)
    · intro w h
      obtain ⟨x, _, h⟩ := Res.bind_eq_ok h
      exact bool h

def keyList (kvs : List (GoVal × GoVal)) : List (Option Key) := kvs.map fun e => toKey e.1

/-- the keys of a Go map: hashable scalars (inside the model), pairwise different -/
def keysOK (kvs : List (GoVal × GoVal)) : Bool :=
  (keyList kvs).all Option.isSome && decide (keyList kvs).Nodup

mutual
/-- Well-formed operand of `values.Equal`: inside the model (no `[]byte`/`IterationKeyedMap`, which
the driver rewrites; no pointer below the top level, no harness struct, no drop that yields a
drop), and every map has distinct scalar keys, as every Go map does. -/
def wfE : GoVal → Bool
  | .nil | .bool _ | .int _ _ | .flt _ _ | .str _ | .range _ _ | .time _ | .nilPtr => true
  | .bytes _ | .keyedMap _ | .struct _ | .ptr _ => false
  | .drop v => !isDropV v && wfE v
  | .slice _ xs | .array _ xs => wfList xs
  | .mapSlice kvs => wfItems kvs
  | .map _ _ kvs => keysOK kvs && wfVals kvs
def wfList : List GoVal → Bool
  | [] => true
  | x :: xs => wfE x && wfList xs
def wfItems : List (GoVal × GoVal) → Bool
  | [] => true
  | (k, v) :: r => wfE k && wfE v && wfItems r
def wfVals : List (GoVal × GoVal) → Bool
  | [] => true
  | (_, v) :: r => wfE v && wfVals r
end

theorem wfList_iff (xs : List GoVal) : wfList xs = true ↔ ∀ x ∈ xs, wfE x = true := by
  induction xs with
  | nil => simp [wfList]
  | cons x xs ih => simp [wfList, ih]

theorem wfItems_iff (kvs : List (GoVal × GoVal)) : wfItems kvs = true ↔ ∀ x ∈ flatItems kvs, wfE x = true := by
  induction kvs with
  | nil => simp [wfItems, flatItems]
  | cons e kvs ih => obtain ⟨k, v⟩ := e; simp [wfItems, flatItems, ih, and_assoc]

theorem wfVals_iff (kvs : List (GoVal × GoVal)) :
    wfVals kvs = true ↔ ∀ e ∈ kvs, wfE e.2 = true := by
  induction kvs with
  | nil => simp [wfVals]
  | cons e kvs ih => obtain ⟨k, v⟩ := e; simp [wfVals, ih]

theorem wfE_toLiq {a : GoVal} (h : wfE a = true) : wfE (toLiq a) = true ∧ isDropV (toLiq a) = false := by
  cases a with
  | drop v => cases v <;> simp_all [wfE, toLiq, isDropV]
  | _ => simp_all [wfE, toLiq, isDropV]

theorem wfE_inv {a : GoVal} {k : Kind} (hw : wfE a = true) (hd : isDropV a = false) (hk : kindOfR (rkind a) = k) :
    match (motive := Kind → Prop) k with
    | .array => (∃ xs, seqElems a = some xs ∧ wfList xs = true) ∨ ∃ kvs, a = .mapSlice kvs
    | .map => ∃ kt vt kvs, a = .map kt vt kvs
    | .other => (∃ x y, a = .range x y) ∨ (∃ u, a = .time u) ∨ a = .nilPtr
    | _ => True := by
  subst hk
  cases a <;> simp [wfE, isDropV, rkind, kindOfR, seqElems] at hw hd ⊢ <;> exact hw

def TotSym (x y : GoVal) : Prop := ∃ r, equal x y = .ok r ∧ equal y x = .ok r

theorem equalList_totSym (xs ys : List GoVal) (h : ∀ x ∈ xs, ∀ y ∈ ys, TotSym x y) :
    ∃ r, equalList xs ys = .ok r ∧ equalList ys xs = .ok r := by
  induction xs generalizing ys with
  | nil => exact ⟨true, by simp⟩
  | cons x xs ih =>
    cases ys with
    | nil => exact ⟨true, by simp⟩
    | cons y ys =>
      obtain ⟨r, h1, h2⟩ := h x (by simp) y (by simp)
      rw [equalList_cons, equalList_cons, h1, h2]
      cases r
      · exact ⟨false, by simp⟩
      · simpa using ih ys (fun x hx y hy => h x (by simp [hx]) y (by simp [hy]))

theorem lookupKey_eq_find (kk : Key) (l : List (GoVal × GoVal)) :
    lookupKey kk l = (l.find? (toKey ·.1 == some kk)).map (·.2) := by
  induction l with
  | nil => rfl
  | cons e r ih =>
    rw [lookupKey, List.find?_cons, ih]
    by_cases h : toKey e.1 = some kk
    · rw [if_pos h, beq_iff_eq.2 h]; rfl
    · rw [if_neg h, beq_eq_false_iff_ne.2 h]

theorem lookupKey_some_mem {k : Key} {bs : List (GoVal × GoVal)} {v : GoVal}
    (h : lookupKey k bs = some v) : ∃ e ∈ bs, toKey e.1 = some k ∧ e.2 = v := by
  rw [lookupKey_eq_find] at h
  obtain ⟨e, he, rfl⟩ := Option.map_eq_some_iff.1 h
  have hk := List.find?_some he
  exact ⟨e, List.mem_of_find?_eq_some he, eq_of_beq hk, rfl⟩

theorem lookupKey_of_mem_nodup {k : Key} {bs : List (GoVal × GoVal)} {e : GoVal × GoVal}
    (hn : (keyList bs).Nodup) (he : e ∈ bs) (hk : toKey e.1 = some k) : lookupKey k bs = some e.2 := by
  rw [lookupKey_eq_find, ← hk]
  exact congrArg (Option.map (·.2)) (List.find?_key_of_nodup (fun e : GoVal × GoVal => toKey e.1) hn he)

theorem lookupKey_isSome_iff (k : Key) (kvs : List (GoVal × GoVal)) :
    (lookupKey k kvs).isSome = true ↔ some k ∈ keyList kvs := by
  rw [lookupKey_eq_find, Option.isSome_map, List.find?_isSome]
  constructor
  · rintro ⟨e, he, hk⟩
    exact List.mem_map.2 ⟨e, he, eq_of_beq hk⟩
  · intro h
    obtain ⟨e, he, hk⟩ := List.mem_map.1 h
    exact ⟨e, he, beq_iff_eq.2 hk⟩

theorem subset_of_nodup_of_length_le {α} {l₁ l₂ : List α} (h₁ : l₁.Nodup) (hsub : l₁ ⊆ l₂)
    (hlen : l₂.length ≤ l₁.length) : l₂ ⊆ l₁ := by
  intro y hy
  refine Classical.byContradiction fun hn => ?_
  -- else `y :: l₁` has no repetition, lies in `l₂` and is longer
  have := List.Nodup.length_le_of_subset (List.nodup_cons.2 ⟨hn, h₁⟩) (List.cons_subset.2 ⟨hy, hsub⟩)
  rw [List.length_cons] at this
  omega

theorem mapAll_total (as bs : List (GoVal × GoVal))
    (hk : ∀ e ∈ as, (toKey e.1).isSome = true)
    (ht : ∀ e ∈ as, ∀ e' ∈ bs, TotSym e.2 e'.2) : ∃ r, mapAll as bs = .ok r := by
  rw [mapAll_eq_andSeq]
  refine andSeq_total fun o ho => ?_
  obtain ⟨e, he, rfl⟩ := List.mem_map.1 ho
  obtain ⟨kk, hkk⟩ := Option.isSome_iff_exists.1 (hk e he)
  rw [entryOut_of_key hkk]
  cases hl : lookupKey kk bs with
  | none => exact ⟨false, rfl⟩
  | some v' =>
    obtain ⟨e', he', _, rfl⟩ := lookupKey_some_mem hl
    obtain ⟨r, h1, _⟩ := ht e he e' he'
    exact ⟨r, h1⟩

theorem mapAll_true_symm (as bs : List (GoVal × GoVal))
    (hka : ∀ e ∈ as, (toKey e.1).isSome = true) (hkb : ∀ e ∈ bs, (toKey e.1).isSome = true)
    (hna : (keyList as).Nodup) (hnb : (keyList bs).Nodup) (hlen : bs.length ≤ as.length)
    (hs : ∀ e ∈ as, ∀ e' ∈ bs, TotSym e.2 e'.2)
    (h : mapAll as bs = .ok true) : mapAll bs as = .ok true := by
  rw [mapAll_eq_andSeq, andSeq_true_iff] at h ⊢
  have h : ∀ e ∈ as, entryOut bs e = .ok true := fun e he => h _ (List.mem_map_of_mem he)
  -- every key of `as` is a key of `bs`; the keys of `as` are distinct and `bs` is no longer: `bs` has no other key
  have hsub : keyList as ⊆ keyList bs := by
    intro ok hok
    obtain ⟨e, he, rfl⟩ := List.mem_map.1 hok
    have := h e he
    obtain ⟨kk, hkk⟩ := Option.isSome_iff_exists.1 (hka e he)
    rw [entryOut_of_key hkk] at this
    cases hl : lookupKey kk bs with
    | none => rw [hl] at this; cases this
    | some v' =>
      obtain ⟨e', he', hk', _⟩ := lookupKey_some_mem hl
      rw [hkk, ← hk']
      exact List.mem_map.2 ⟨e', he', rfl⟩
  have hsup : keyList bs ⊆ keyList as :=
    subset_of_nodup_of_length_le hna hsub (by simpa [keyList] using hlen)
  intro o ho
  obtain ⟨e', he', rfl⟩ := List.mem_map.1 ho
  obtain ⟨kk, hkk⟩ := Option.isSome_iff_exists.1 (hkb e' he')
  rw [entryOut_of_key hkk]
  have hmem : some kk ∈ keyList as := hsup (by rw [← hkk]; exact List.mem_map.2 ⟨e', he', rfl⟩)
  obtain ⟨va, hva⟩ := Option.isSome_iff_exists.1 ((lookupKey_isSome_iff kk as).2 hmem)
  obtain ⟨e, he, hke, hve⟩ := lookupKey_some_mem hva
  rw [hva]
  have h1 := h e he
  rw [entryOut_of_key hke, lookupKey_of_mem_nodup hnb he' hkk] at h1
  obtain ⟨r, h2, h3⟩ := hs e he e' he'
  rw [← hve]
  exact h3.trans (h2.symm.trans h1)

theorem keysOK_iff (kvs : List (GoVal × GoVal)) :
    keysOK kvs = true ↔ (∀ e ∈ kvs, (toKey e.1).isSome = true) ∧ (keyList kvs).Nodup := by
  simp only [keysOK, Bool.and_eq_true, List.all_eq_true, decide_eq_true_eq, keyList, List.mem_map]
  constructor
  · rintro ⟨h1, h2⟩
    exact ⟨fun e he => h1 _ ⟨e, he, rfl⟩, of_decide_eq_true h2⟩
  · rintro ⟨h1, h2⟩
    refine ⟨?_, decide_eq_true h2⟩
    rintro _ ⟨e, he, rfl⟩
    exact h1 e he

theorem mapAll_totSym (as bs : List (GoVal × GoVal)) (hka : keysOK as = true) (hkb : keysOK bs = true)
    (hlen : as.length = bs.length) (h : ∀ e ∈ as, ∀ e' ∈ bs, TotSym e.2 e'.2) :
    ∃ r, mapAll as bs = .ok r ∧ mapAll bs as = .ok r := by
  rw [keysOK_iff] at hka hkb
  have h' : ∀ e' ∈ bs, ∀ e ∈ as, TotSym e'.2 e.2 := fun e' he' e he => by
    obtain ⟨r, h1, h2⟩ := h e he e' he'
    exact ⟨r, h2, h1⟩
  obtain ⟨r, e1⟩ := mapAll_total as bs hka.1 h
  obtain ⟨r', e2⟩ := mapAll_total bs as hkb.1 h'
  have f1 := mapAll_true_symm as bs hka.1 hkb.1 hka.2 hkb.2 (by omega) h
  have f2 := mapAll_true_symm bs as hkb.1 hka.1 hkb.2 hka.2 (by omega) h'
  refine ⟨r, e1, ?_⟩
  rw [e1, e2] at f1 f2
  cases r <;> cases r' <;> first | exact e2 | cases f1 rfl | cases f2 rfl

theorem cmpInt_eq_symm (s n s' m) : (cmpInt s n s' m == .eq) = (cmpInt s' m s n == .eq) := by
  have hc : (compare n m == Ordering.eq) = (compare m n == Ordering.eq) := by
    have h1 : ∀ x y : Int, (compare x y == Ordering.eq) = decide (x = y) := by
      intro x y; rw [Bool.eq_iff_iff]; simp [Int.compare_eq_eq]
    rw [h1, h1]; exact decide_eq_decide.2 eq_comm
  unfold cmpInt
  cases s <;> cases s' <;> simp only [Bool.not_true, Bool.not_false, Bool.true_and, Bool.false_and, Bool.and_true, Bool.and_false, Bool.false_eq_true, if_false, decide_eq_true_eq]
  · exact hc
  · by_cases hm : m < 0 <;> simp [hm, hc]
  · by_cases hn : n < 0 <;> simp [hn, hc]
  · exact hc

theorem guard_totSym {c c' : Bool} {x y : R Bool} (hc : c = c')
    (h : c = false → ∃ r, x = .ok r ∧ y = .ok r) :
    ∃ r, (if c then .ok false else x) = .ok r ∧ (if c' then .ok false else y) = .ok r := by
  subst hc
  cases c
  · exact h rfl
  · exact ⟨false, rfl, rfl⟩

section
variable {a : GoVal} (elem : ∀ x : GoVal, sizeOf x < sizeOf a → wfE x = true → ∀ y, wfE y = true → TotSym x y)
include elem

theorem seq_totSym {b : GoVal} (ha : wfE a = true) (hb : wfE b = true)
    (ha' : (∃ xs, seqElems a = some xs ∧ wfList xs = true) ∨ ∃ kvs, a = .mapSlice kvs)
    (hb' : (∃ ys, seqElems b = some ys ∧ wfList ys = true) ∨ ∃ kvs, b = .mapSlice kvs) :
    ∃ r, (seqView b).bind (seqK a) = .ok r ∧ (seqView a).bind (seqK b) = .ok r := by
  obtain ⟨xs, hx, hwx⟩ | ⟨kvs, rfl⟩ := ha' <;> obtain ⟨ys, hy, hwy⟩ | ⟨kvs', rfl⟩ := hb'
  · rw [(seq_vals hx).1, (seq_vals hx).2, (seq_vals hy).1, (seq_vals hy).2]
    rw [wfList_iff] at hwx hwy
    exact guard_totSym bne_comm fun _ =>
      equalList_totSym xs ys (fun x hx' y hy' => elem x (sizeOf_lt_of_mem_seq hx hx') (hwx x hx') y (hwy y hy'))
  · rw [(seq_vals hx).1, (seq_vals hx).2]
    exact ⟨_, rfl, rfl⟩
  · rw [(seq_vals hy).1, (seq_vals hy).2]
    exact ⟨_, rfl, rfl⟩
  · simp only [wfE, wfItems_iff] at ha hb
    refine guard_totSym (x := equalItems kvs kvs') (y := equalItems kvs' kvs) bne_comm fun _ => ?_
    rw [equalItems_eq, equalItems_eq]
    exact equalList_totSym _ _ (fun x hx y hy => elem x (sizeOf_lt_of_mem_flatItems hx) (ha x hx) y (hb y hy))

theorem map_totSym {kt vt kvs kt' vt' kvs'} (e : a = .map kt vt kvs) (ha : wfE a = true)
    (hb : wfE (.map kt' vt' kvs') = true) :
    ∃ r, mapEntries kt kvs (mapAll kvs) kt' kvs' = .ok r ∧ mapEntries kt' kvs' (mapAll kvs') kt kvs = .ok r := by
  subst e
  simp only [wfE, Bool.and_eq_true, wfVals_iff] at ha hb
  refine guard_totSym (by rw [bne_comm, bne_comm (a := kvs.length)]) fun hc => ?_
  simp only [Bool.or_eq_false_iff, bne_eq_false_iff_eq] at hc
  exact mapAll_totSym kvs kvs' ha.1 hb.1 hc.2 (fun e he e' he' =>
    elem e.2 (sizeOf_lt_of_mem_map he).2 (ha.2 e he) e'.2 (hb.2 e' he'))

end

theorem Scalar.eq_comm (x y : Scalar) : x.eq y = y.eq x := by
  cases x <;> cases y <;> try rfl
  · exact Bool.beq_comm ..
  · exact cmpInt_eq_symm ..
  · exact BEq.comm
  · exact BEq.comm
  · exact BEq.comm
  · exact BEq.comm

theorem equalTL_totSym : ∀ a : GoVal, wfE a = true → isDropV a = false →
    ∀ b, wfE b = true → isDropV b = false → ∃ r, equalTL a b = .ok r ∧ equalTL b a = .ok r := by
  refine sizeInduction fun a ih ha hda b hb hdb => ?_
  have elem : ∀ x : GoVal, sizeOf x < sizeOf a → wfE x = true → ∀ y, wfE y = true → TotSym x y := by
    intro x hx hwx y hwy
    unfold TotSym
    rw [equal_eq, equal_eq]
    exact ih (toLiq x) (by have := sizeOf_toLiq_le x; omega) (wfE_toLiq hwx).1 (wfE_toLiq hwx).2
      (toLiq y) (wfE_toLiq hwy).1 (wfE_toLiq hwy).2
  refine if hk : kindOfR (rkind a) = kindOfR (rkind b) then ?_
    else ⟨false, equalTL_unlike hk, equalTL_unlike (Ne.symm hk)⟩
  -- operands of one class: both calls take the same case
  rcases head_cases a with rfl | ⟨x, hx⟩ | hs | hm | ho
  · exact ⟨b.isNil, equalTL_nil_left b, equalTL_nil_right b⟩
  · obtain ⟨y, hy⟩ : ∃ y, scalar b = some y :=
      Option.isSome_iff_exists.1 (by rw [isSome_scalar, ← hk, ← isSome_scalar, hx]; rfl)
    exact ⟨x.eq y, (scalar_cmp hx hy).1, by rw [(scalar_cmp hy hx).1, Scalar.eq_comm]⟩
  · have hs' := hk ▸ hs
    rw [equalTL_of_array hs, equalTL_of_array hs', if_pos hs, if_pos hs']
    exact seq_totSym elem ha hb (wfE_inv ha hda hs) (wfE_inv hb hdb hs')
  · have hm' := hk ▸ hm
    obtain ⟨kt, vt, kvs, e⟩ := wfE_inv ha hda hm
    obtain ⟨kt', vt', kvs', rfl⟩ := wfE_inv hb hdb hm'
    rw [equalTL_of_map hm, equalTL_of_map hm', if_pos hm, if_pos hm', e]
    exact map_totSym elem e ha hb
  · have ho' := hk ▸ ho
    rw [equalTL_of_other ho, equalTL_of_other ho']
    -- a range, a time or the nil pointer on each side: `==` answers, comparing fields only within one type
    obtain ⟨x, y, rfl⟩ | ⟨u, rfl⟩ | rfl := wfE_inv ha hda ho <;>
      obtain ⟨x', y', rfl⟩ | ⟨u', rfl⟩ | rfl := wfE_inv hb hdb ho' <;> try exact ⟨_, rfl, rfl⟩
    · exact ⟨_, rfl, congrArg Res.ok (by rw [BEq.comm (a := x), BEq.comm (a := y)])⟩
    · exact ⟨_, rfl, congrArg Res.ok BEq.comm⟩

theorem equal_totSym {a b : GoVal} (ha : wfE a = true) (hb : wfE b = true) :
    ∃ r, equal a b = .ok r ∧ equal b a = .ok r := by
  rw [equal_eq, equal_eq]
  exact equalTL_totSym _ (wfE_toLiq ha).1 (wfE_toLiq ha).2 _ (wfE_toLiq hb).1 (wfE_toLiq hb).2

theorem equalList_refl (xs : List GoVal) (h : ∀ x ∈ xs, equal x x = .ok true) :
    equalList xs xs = .ok true := by
  rw [equalList_eq_andSeq, andSeq_true_iff, List.zipWith_self]
  intro o ho
  obtain ⟨x, hx, rfl⟩ := List.mem_map.1 ho
  exact h x hx

theorem mapAll_refl (as : List (GoVal × GoVal)) (hk : keysOK as = true)
    (h : ∀ e ∈ as, equal e.2 e.2 = .ok true) : mapAll as as = .ok true := by
  rw [keysOK_iff] at hk
  rw [mapAll_eq_andSeq, andSeq_true_iff]
  intro o ho
  obtain ⟨e, he, rfl⟩ := List.mem_map.1 ho
  obtain ⟨kk, hkk⟩ := Option.isSome_iff_exists.1 (hk.1 e he)
  rw [entryOut_of_key hkk, lookupKey_of_mem_nodup hk.2 he hkk]
  exact h e he

theorem cmpInt_self (s n) : cmpInt s n s n = .eq := by
  unfold cmpInt
  cases s <;> simp [Int.compare_eq_eq]

theorem Scalar.eq_self (x : Scalar) : x.eq x = true := by
  cases x <;> simp [Scalar.eq, cmpInt_self]

theorem equalTL_refl : ∀ a : GoVal, wfE a = true → isDropV a = false → equalTL a a = .ok true := by
  refine sizeInduction fun a ih ha hda => ?_
  have elem : ∀ x : GoVal, sizeOf x < sizeOf a → wfE x = true → equal x x = .ok true := by
    intro x hx hwx
    rw [equal_eq]
    exact ih (toLiq x) (by have := sizeOf_toLiq_le x; omega) (wfE_toLiq hwx).1 (wfE_toLiq hwx).2
  rcases head_cases a with rfl | ⟨x, hx⟩ | hs | hm | ho
  · rfl
  · rw [(scalar_cmp hx hx).1, Scalar.eq_self]
  · obtain ⟨xs, hx, hwx⟩ | ⟨kvs, rfl⟩ := wfE_inv ha hda hs
    · rw [wfList_iff] at hwx
      rw [equalTL_seq hx hx]
      simpa using equalList_refl xs (fun x hx' => elem x (sizeOf_lt_of_mem_seq hx hx') (hwx x hx'))
    · simp only [wfE, wfItems_iff] at ha
      show (if kvs.length != kvs.length then Res.ok false else equalItems kvs kvs) = _
      rw [equalItems_eq]
      simpa using equalList_refl _ (fun x hx => elem x (sizeOf_lt_of_mem_flatItems hx) (ha x hx))
  · obtain ⟨kt, vt, kvs, rfl⟩ := wfE_inv ha hda hm
    simp only [wfE, Bool.and_eq_true, wfVals_iff] at ha
    show (if kt != kt || kvs.length != kvs.length then Res.ok false else mapAll kvs kvs) = _
    simpa using mapAll_refl kvs ha.1 (fun e he => elem e.2 (sizeOf_lt_of_mem_map he).2 (ha.2 e he))
  · rw [equalTL_of_other ho]
    obtain ⟨x, y, rfl⟩ | ⟨u, rfl⟩ | rfl := wfE_inv ha hda ho
    · show Res.ok (x == x && y == y) = _
      simp
    · show Res.ok (u == u) = _
      simp
    · rfl

theorem equal_refl_wf {a : GoVal} (ha : wfE a = true) : equal a a = .ok true := by
  rw [equal_eq]
  exact equalTL_refl _ (wfE_toLiq ha).1 (wfE_toLiq ha).2

theorem iface_eq (w : Wrapper) : w.iface = iface0 w.resolve := by
  unfold Wrapper.iface iface0
  cases w.resolve <;> rfl

theorem valueOf_resolve (x : GoVal) : (valueOf x).resolve = resolveVal x := by
  induction x using valueOf.induct with
  | case9 v h1 hs => rw [valueOf.eq_9 v h1, resolveVal.eq_3 v h1, if_pos hs, if_pos hs]; rfl
  | case10 v h1 hs ih => rw [valueOf.eq_9 v h1, resolveVal.eq_3 v h1, if_neg hs, if_neg hs, ih]
  | _ => rfl

/-- The value an operator works on when its operand is the variable `a`: `ctx.Get` applies
`ToLiquid`, `ValueOf` dereferences pointers and wraps drops, and the wrapper methods go through
`Resolve()` / `Interface()`. -/
def strip (a : GoVal) : GoVal := (operand a).iface

theorem strip_eq_unwrap (a : GoVal) : strip a = a.unwrap := by
  unfold strip operand
  rw [iface_eq, valueOf_resolve, resolveVal_eq, iface0_wrapOf (stripped_unwrap _), toLiq_eq_toLiquid,
    unwrap_toLiquid]

theorem operand_resolve (a : GoVal) : (operand a).resolve = wrapOf (strip a) := by
  unfold operand
  rw [valueOf_resolve, resolveVal_eq, strip_eq_unwrap, toLiq_eq_toLiquid, unwrap_toLiquid]

theorem stripped_strip (a : GoVal) : stripped (strip a) = true := by
  rw [strip_eq_unwrap]; exact stripped_unwrap a

theorem toLiq_strip (a : GoVal) : toLiq (strip a) = strip a :=
  toLiq_of_stripped (stripped_strip a)

theorem opEq_eq_equal (a b : GoVal) : opEq a b = equal (strip a) (strip b) :=
  Wrapper.equal_eq _ _

theorem opEq_eq (a b : GoVal) : opEq a b = equalTL (strip a) (strip b) := by
  rw [opEq_eq_equal, equal_eq, toLiq_strip, toLiq_strip]

theorem opLt_eq (a b : GoVal) : opLt a b = lessTL (strip a) (strip b) := by
  show (operand a).less (operand b) = _
  rw [Wrapper.less_eq]
  show lessTL (toLiq (strip a)) (toLiq (strip b)) = _
  rw [toLiq_strip, toLiq_strip]

theorem opLt_scalar (a b : GoVal) : opLt a b = .ok (ltO (scalar (strip a)) (scalar (strip b))) := by
  rw [opLt_eq, lessTL_eq]

theorem opEq_scalar {a b : GoVal} {x y : Scalar} (ha : scalar (strip a) = some x) (hb : scalar (strip b) = some y) :
    opEq a b = .ok (x.eq y) := by
  rw [opEq_eq, (scalar_cmp ha hb).1]

/-- well-formed operand: what the operator sees of it is well-formed (see `wfE`) -/
def WF (a : GoVal) : Prop := wfE (strip a) = true

theorem equalList_true_iff (xs ys : List GoVal) :
    equalList xs ys = .ok true ↔
      ∀ i (h : i < xs.length) (h' : i < ys.length), equal xs[i] ys[i] = .ok true := by
  rw [equalList_eq_andSeq, andSeq_true_iff]
  constructor
  · intro h i hi hi'
    exact h _ (List.mem_iff_getElem.2 ⟨i, List.length_zipWith ▸ Nat.lt_min.2 ⟨hi, hi'⟩, List.getElem_zipWith⟩)
  · intro h o ho
    obtain ⟨i, hi, rfl⟩ := List.mem_iff_getElem.1 ho
    have hi' := Nat.lt_min.1 (List.length_zipWith ▸ hi)
    rw [List.getElem_zipWith]
    exact h i hi'.1 hi'.2

def numVal : GoVal → Option Rat
  | .int _ n => some n
  | .flt _ q => some q
  | _ => none

/-- the value of a number after conversion to the join type with `other` (`README`: "integers
and floats are converted to their join type"): integers stay exact among integers, everything
becomes a `float64` when a float is involved -/
def joinVal (x other : GoVal) : Option Rat :=
  match x, other with
  | .int _ n, .int _ _ => some n
  | .int _ n, .flt _ _ => some (f64OfInt n : Int)
  | .flt _ q, .int _ _ => some q
  | .flt _ q, .flt _ _ => some q
  | _, _ => none

def isFltV : GoVal → Bool
  | .flt _ _ => true
  | _ => false

/-- integers hold values of their kind (an unsigned kind no negative value) -/
def numOK (x : GoVal) : Prop :=
  (match x with
   | .int k n => k.isSigned || decide (0 ≤ n)
   | _ => true) = true

/-- an integer compared with a float is within the range `float64` represents exactly -/
def numExact (x other : GoVal) : Prop :=
  (match x with
   | .int _ n => !isFltV other || decide (n.natAbs ≤ 2 ^ 53)
   | _ => true) = true

instance (x : GoVal) : Decidable (numOK x) := by unfold numOK; infer_instance
instance (x y : GoVal) : Decidable (numExact x y) := by unfold numExact; infer_instance

theorem intOK_of_numOK {k n} (h : numOK (.int k n)) : intOK k n := by
  intro hk
  simpa [numOK, hk] using h

theorem f64OfInt_exact {n : Int} (h : n.natAbs ≤ 2 ^ 53) : f64OfInt n = n := by
  unfold f64OfInt roundF64Nat
  simp only [h, if_true]
  split <;> omega

theorem joinVal_exact {x y : GoVal} {q : Rat} (h : numVal x = some q) (hy : (numVal y).isSome = true)
    (he : numExact x y) : joinVal x y = some q := by
  cases x <;> simp [numVal] at h <;> cases y <;> simp [numVal] at hy <;>
    simp_all [joinVal, numExact, f64OfInt_exact, isFltV]

theorem compare_eq_iff_int (n m : Int) : (compare n m == Ordering.eq) = decide ((n : Rat) = (m : Rat)) := by
  rw [Bool.eq_iff_iff]; simp [Int.compare_eq_eq]

theorem compare_lt_iff_int (n m : Int) : (compare n m == Ordering.lt) = decide ((n : Rat) < (m : Rat)) := by
  rw [Bool.eq_iff_iff]; simp [Int.compare_eq_lt, Rat.intCast_lt_intCast]

/-- two numbers converted to their join type compare as the scalars they are -/
theorem joinVal_scalar {x y : GoVal} {p q : Rat} (hx : joinVal x y = some p) (hy : joinVal y x = some q)
    (ox : numOK x) (oy : numOK y) :
    ∃ sx sy, scalar x = some sx ∧ scalar y = some sy ∧ sx.eq sy = decide (p = q) ∧ sx.lt sy = decide (p < q) := by
  cases x <;> (try (cases hx; done)) <;> cases y <;> (try (cases hx; done)) <;> cases hx <;> cases hy <;>
    refine ⟨_, _, rfl, rfl, ?_, ?_⟩ <;> simp only [Scalar.eq, Scalar.lt, Bool.beq_eq_decide_eq (α := Rat)]
  · rw [cmpInt_eq_compare (intOK_of_numOK ox) (intOK_of_numOK oy), compare_eq_iff_int]
  · rw [cmpInt_eq_compare (intOK_of_numOK ox) (intOK_of_numOK oy), compare_lt_iff_int]

theorem containsB_iff (s sub : Bytes) : containsB s sub = true ↔ sub <:+: s := by
  induction s with
  | nil =>
    unfold containsB
    simp [isPrefixOfB_iff, List.prefix_nil, List.infix_nil]
  | cons c s ih =>
    unfold containsB
    simp only [Bool.or_eq_true, isPrefixOfB_iff, ih]
    constructor
    · rintro (h | h)
      · exact h.isInfix
      · exact List.infix_cons h
    · intro h
      rcases List.infix_cons_iff.1 h with h | h
      · exact Or.inl h
      · exact Or.inr h

theorem containsList_true_iff (xs : List GoVal) (e : GoVal)
    (h : ∀ x ∈ xs, (equal x e).isOk = true) :
    containsList xs e = .ok true ↔ ∃ x ∈ xs, equal x e = .ok true := by
  induction xs with
  | nil => simp [containsList]
  | cons x xs ih =>
    have hx := h x (by simp)
    simp only [containsList, Res.bind_eq]
    cases hxe : equal x e with
    | ok r =>
      cases r
      · simp only [Res.bind_ok, Bool.false_eq_true, if_false]
        rw [ih (fun y hy => h y (by simp [hy]))]
        simp [hxe]
      · simp [hxe]
    | err _ => simp [hxe, Res.isOk] at hx
    | panic _ => simp [hxe, Res.isOk] at hx
    | unmodelled _ => simp [hxe, Res.isOk] at hx

theorem opContains_eq (a b : GoVal) : opContains a b = containsW (wrapOf (strip a)) (strip b) := by
  show (operand a).contains (operand b) = _
  unfold Wrapper.contains
  rw [operand_resolve]
  rfl

/-- `Test()` of an operand of the grammar is the truthiness the renderer uses (`GoVal.test`, `Liquid/Lookup.lean`) -/
theorem truthy_eq_test (a : GoVal) : truthy a = .ok a.test := by
  show (operand a).test = _
  unfold Wrapper.test GoVal.test
  rw [operand_resolve, ← strip_eq_unwrap]
  have h := stripped_strip a
  generalize strip a = x at *
  cases x <;> simp [stripped] at h <;> simp [wrapOf, valueOf, GoVal.isNil, isFalseV]
  rename_i b; cases b <;> rfl

/-! decidability, for the concrete examples next to the theorems of `Proofs/C09.lean` -/

instance (a : GoVal) : Decidable (WF a) := inferInstanceAs (Decidable (wfE (strip a) = true))

end Cmp

open Cmp in
/-- the lookup of `m[k]` (`GoVal.mapFind`, by `ifaceEq`) finds a string key exactly when `Cmp.lookupKey` (by `toKey`) does -/
theorem mapFind_str_isSome_iff (kvs : List (GoVal × GoVal)) (s : Bytes) :
    (GoVal.mapFind kvs (.str s)).isSome = true ↔ some (Key.str s) ∈ keyList kvs := by
  have key : ∀ g : GoVal, (GoVal.ifaceEq g (.str s) == some true) = true ↔ toKey g = some (Key.str s) := by
    intro g; cases g <;> simp [GoVal.ifaceEq, toKey]
  have find : (GoVal.mapFind kvs (.str s)).isSome = (kvs.find? fun kv => GoVal.ifaceEq kv.1 (.str s) == some true).isSome := by
    unfold GoVal.mapFind
    split <;> rename_i h <;> rw [h] <;> rfl
  rw [find, List.find?_isSome, keyList, List.mem_map]
  exact exists_congr fun e => and_congr_right fun _ => key e.1
