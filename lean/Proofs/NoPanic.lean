import Proofs.RenderLogic
import Proofs.MapOrderLemmas
/-!
# Rendering never panics when the value layer does not (helper lemmas for C01)

`NoPanicProg p`: the interaction tree `p` has no `panic` leaf. Evaluation (`evaluate_noPanic`, given `PrimsNoPanic`) and
the expression parser (`parseSource_noPanic`) have none, so the property `NPM` of render actions is closed under the
renderer's operations (`npm_closed`); `np_renderNode` and its siblings are what C01 takes from here.
-/

/-- no `panic` leaf, whatever the writer answers -/
inductive NoPanicProg {α : Type} : Prog α → Prop where
  | ret (a) : NoPanicProg (.ret a)
  | fail (e) : NoPanicProg (.fail e)
  | unmodelled (w) : NoPanicProg (.unmodelled w)
  | call (b k) : (∀ r, NoPanicProg (k r)) → NoPanicProg (.call b k)

theorem NoPanicProg.bind {α β} {p : Prog α} {f : α → Prog β} (hp : NoPanicProg p) (hf : ∀ a, NoPanicProg (f a)) :
    NoPanicProg (p.bind f) := by
  induction hp with
  | ret a => exact hf a
  | call b k _ ih => exact .call _ _ ih
  | _ => constructor

theorem NoPanicProg.mapFail {α} {p : Prog α} (g : RawErr → RawErr) (hp : NoPanicProg p) : NoPanicProg (p.mapFail g) := by
  induction hp with
  | call b k _ ih => exact .call _ _ ih
  | _ => constructor

theorem runPure_noPanic {α} {p : Prog α} (hp : NoPanicProg p) : ∀ w, p.runPure.2 ≠ .panic w := by
  induction hp with
  | ret a => intro w h; cases h
  | fail e => intro w h; cases h
  | unmodelled w' => intro w h; cases h
  | call b k _ ih =>
    intro w
    simp only [Prog.runPure]
    exact ih .ok w

def NoPanicRes {ε α} : Res ε α → Prop
  | .panic _ => False
  | _ => True

/-- the continuation need not panic only on the answer that is there -/
theorem NoPanicRes.bind_of_eq {ε α β} {x : Res ε α} {f : α → Res ε β} (hx : NoPanicRes x)
    (hf : ∀ a, x = .ok a → NoPanicRes (f a)) : NoPanicRes (x.bind f) := by
  cases x with
  | ok a => exact hf a rfl
  | panic w => exact hx
  | _ => trivial

theorem NoPanicRes.bind {ε α β} {x : Res ε α} {f : α → Res ε β} (hx : NoPanicRes x) (hf : ∀ a, NoPanicRes (f a)) :
    NoPanicRes (x.bind f) :=
  hx.bind_of_eq fun a _ => hf a

theorem NoPanicRes.ne_panic {ε α} {x : Res ε α} (hx : NoPanicRes x) (w : String) : x ≠ .panic w :=
  fun e => by rw [e] at hx; exact hx

theorem NoPanicRes.of_isPanic {ε α} {r : Res ε α} (h : r.isPanic = false) : NoPanicRes r := by
  cases r <;> first | trivial | simp [Res.isPanic] at h

theorem NoPanicRes.isPanic {ε α} {r : Res ε α} (h : NoPanicRes r) : r.isPanic = false := by
  cases r <;> first | rfl | exact h.elim

theorem NoPanicRes.bind_ok {ε α β} {x : Res ε α} (hx : NoPanicRes x) {g : α → β} :
    NoPanicRes (x.bind fun a => .ok (g a)) :=
  NoPanicRes.bind hx fun _ => trivial

theorem NoPanicRes.ite {ε α} {c : Prop} [Decidable c] {a b : Res ε α} (ha : NoPanicRes a) (hb : NoPanicRes b) :
    NoPanicRes (if c then a else b) := by
  split <;> assumption

def NPM {α} (m : M α) : Prop := ∀ s, NoPanicProg (m s)

theorem npm_op (op : WOp) : NPM (opM op) := by
  intro s
  unfold opM
  split
  · exact .ret _
  · exact .call _ _ fun r => by cases r <;> constructor

theorem npm_capture {α} {m : M α} (hm : NPM m) : NPM (captureM m) := by
  intro s
  rw [captureM_eq]
  rcases h : (m { env := s.env, tw := {} }).runPure with ⟨out, ⟨a, s1⟩ | e | w | w⟩
  · exact .ret _
  · exact .fail _
  · exact absurd (congrArg Prod.snd h) (runPure_noPanic (hm _) w)
  · exact .unmodelled _

structure PrimsNoPanic (P : Prims) (O : OutPrims) : Prop where
  equal : ∀ a b, NoPanicRes (P.equal a b)
  less : ∀ a b, NoPanicRes (P.less a b)
  contains : ∀ a b, NoPanicRes (P.contains a b)
  equalFn : ∀ a b, NoPanicRes (P.equalFn a b)
  applyFilter : ∀ n r as, NoPanicRes (P.applyFilter n r as)
  chunks : ∀ v, NoPanicRes (O.chunks v)

theorem liftL_noPanic (r : GoVal.LRes) : NoPanicRes (liftL r) := by
  cases r <;> trivial

mutual
theorem eval_noPanic (P : Prims) (O : OutPrims) (h : PrimsNoPanic P O) (env : Env) : ∀ e : Expr, NoPanicRes (eval P env e)
  | .lit v => by rw [eval]; trivial
  | .var x => by rw [eval]; trivial
  | .prop e name => by
    rw [eval]
    exact NoPanicRes.bind (eval_noPanic P O h env e) (fun _ => liftL_noPanic _)
  | .index e i => by
    rw [eval]
    exact NoPanicRes.bind (eval_noPanic P O h env e) (fun _ => NoPanicRes.bind (eval_noPanic P O h env i) (fun _ => liftL_noPanic _))
  | .range a b => by
    rw [eval]
    refine NoPanicRes.bind (eval_noPanic P O h env a) (fun va => ?_)
    split
    · trivial
    · refine NoPanicRes.bind (eval_noPanic P O h env b) (fun vb => ?_)
      split <;> trivial
  | .rel op a b => by
    rw [eval]
    refine NoPanicRes.bind (eval_noPanic P O h env a) (fun va => NoPanicRes.bind (eval_noPanic P O h env b) (fun vb => ?_))
    cases op with
    | eq | ne => exact NoPanicRes.bind (h.equal _ _) (fun _ => trivial)
    | gt | lt => exact NoPanicRes.bind (h.less _ _) (fun _ => trivial)
    | ge | le =>
      refine NoPanicRes.bind (h.less _ _) (fun l => ?_)
      split
      · trivial
      · exact NoPanicRes.bind (h.equal _ _) (fun _ => trivial)
    | contains => exact NoPanicRes.bind (h.contains _ _) (fun _ => trivial)
  | .and_ a b => by
    rw [eval]
    refine NoPanicRes.bind (eval_noPanic P O h env a) (fun va => ?_)
    split
    · exact NoPanicRes.bind (eval_noPanic P O h env b) (fun _ => trivial)
    · trivial
  | .or_ a b => by
    rw [eval]
    refine NoPanicRes.bind (eval_noPanic P O h env a) (fun va => ?_)
    split
    · trivial
    · exact NoPanicRes.bind (eval_noPanic P O h env b) (fun _ => trivial)
  | .filter e name args => by
    rw [eval]
    split
    · trivial
    · exact NoPanicRes.bind (eval_noPanic P O h env e) (fun _ => NoPanicRes.bind (evalList_noPanic P O h env args)
        (fun _ => h.applyFilter _ _ _))
theorem evalList_noPanic (P : Prims) (O : OutPrims) (h : PrimsNoPanic P O) (env : Env) :
    ∀ es : List Expr, NoPanicRes (evalList P env es)
  | [] => by rw [evalList]; trivial
  | e :: es => by
    rw [evalList]
    exact NoPanicRes.bind (eval_noPanic P O h env e) (fun _ => NoPanicRes.bind (evalList_noPanic P O h env es) (fun _ => trivial))
end

theorem evaluate_noPanic (P : Prims) (O : OutPrims) (h : PrimsNoPanic P O) (env : Env) (e : Expr) :
    NoPanicRes (evaluate P env e) := by
  unfold evaluate
  have := eval_noPanic P O h env e
  cases hr : eval P env e with
  | panic w => rw [hr] at this; exact this
  | _ => trivial

theorem loopItems_noPanic {budget : Int} (v : GoVal) : NoPanicRes (loopItems budget v) := by
  unfold loopItems
  split <;> try trivial
  · split <;> trivial
  · next kvs =>
    rcases MapOrder.sortedMapEntries_cases (ε := Cause) kvs with ⟨_, h⟩ | ⟨_, w, h⟩ <;> rw [h] <;> trivial

theorem mkTok_noPanic (r : Rule) (t : Bytes) (w : String) : mkTok r t ≠ .panic w := by
  unfold mkTok
  cases r <;> simp <;> (try split) <;> simp

theorem lexAux_noPanic : ∀ (n : Nat) (s : Bytes) (acc : List ETok) (w : String), (lexAux n s acc).2 ≠ some (.panic w) := by
  intro n
  induction n with
  | zero => intro s acc w; simp [lexAux]
  | succ n ih =>
    intro s acc w
    cases s with
    | nil => simp [lexAux]
    | cons b bs =>
      simp only [lexAux]
      split
      · simp
      · split
        · exact ih _ _ _
        · exact ih _ _ _
        · simp
        · next w' heq => exact absurd heq (mkTok_noPanic _ _ _)
        · simp

theorem parseSource_noPanic (src : Bytes) : NoPanicRes (parseSource src) := by
  unfold parseSource
  have hl : ∀ w, (lex src).2 ≠ some (.panic w) := fun w => lexAux_noPanic _ _ _ w
  rcases hlex : lex src with ⟨toks, o⟩
  cases o with
  | none =>
    simp only
    cases parseTokensE toks <;> trivial
  | some r =>
    cases r with
    | panic w => exact absurd (by rw [hlex]) (hl w)
    | _ => trivial

theorem parseExprSource_noPanic (src : Bytes) : NoPanicRes (parseExprSource src) := by
  unfold parseExprSource
  have := parseSource_noPanic src
  cases h : parseSource src with
  | ok st => cases st <;> trivial
  | panic w => rw [h] at this; exact this
  | _ => trivial

theorem npm_closed : RenderClosed (fun _ => True) NPM (fun r => NoPanicRes r) :=
  RenderCore.closed (hW := fun _ => trivial) {
    pure _ := .ret _
    bind := fun hm hf s => NoPanicProg.bind (hm s) fun ⟨a, s'⟩ => hf a s'
    fail _ _ := .fail _
    plain _ := trivial
    getEnv _ := .ret _
    getVar _ := .ret _
    panic h := h.elim
    unmodelled _ := .unmodelled _
    wrapFailAt hm s := NoPanicProg.mapFail _ (hm s)
    setVar _ _ := .ret _
    op := npm_op
    capture := npm_capture
    loopItems _ := loopItems_noPanic
    parseArgs args := by
      have := parseExprSource_noPanic args
      cases hp : parseExprSource args <;> simp_all [Res.mapErr, NoPanicRes] }

def IncNoPanic (c : RCtx) : Prop := ∀ line f env, NoPanicProg (c.inc line f env)

theorem npm_ctx {c : RCtx} (h : PrimsNoPanic c.P c.O) (hc : IncNoPanic c) : CtxClosed NPM (fun r => NoPanicRes r) c where
  evaluate := evaluate_noPanic _ _ h
  equalFn := h.equalFn
  chunks := h.chunks
  inc line f env _ := NoPanicProg.bind (hc line f env) fun _ => .ret _

theorem np_renderNode (c : RCtx) (h : PrimsNoPanic c.P c.O) (hc : IncNoPanic c) : ∀ n : Node, NPM (renderNode c n) :=
  fun n => npm_closed.renderNode (npm_ctx h hc) n fun _ _ => trivial
theorem np_renderBlockBody (c : RCtx) (h : PrimsNoPanic c.P c.O) (hc : IncNoPanic c) (body : List Node) :
    NPM (renderBlockBody c body) :=
  npm_closed.renderBlockBody (npm_ctx h hc) body fun _ _ => trivial
theorem np_renderBranches (c : RCtx) (h : PrimsNoPanic c.P c.O) (hc : IncNoPanic c) :
    ∀ bs : List (CondT × List Node), NPM (renderBranches c bs) :=
  fun bs => npm_closed.renderBranches (npm_ctx h hc) bs fun _ _ => trivial
theorem np_renderCases (c : RCtx) (h : PrimsNoPanic c.P c.O) (hc : IncNoPanic c) (sel : GoVal) :
    ∀ cs : List (Option (Nat × List Expr) × List Node), NPM (renderCases c sel cs) :=
  fun cs => npm_closed.renderCases (npm_ctx h hc) sel cs fun _ _ => trivial
