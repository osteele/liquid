import Proofs.SrcReline
/-!
# Compiling a source text at another start line

`compileSource delims src line` for ARBITRARY bytes `src` (the content of an included file): the tokenizer commutes with
moving the start line (`scan_shift`), the block parser and the compiler with moving the lines of a token list
(`compileTokens_rel_all`, Proofs/SrcReline.lean) — the result at line `l + δ` is the result at line `l` with every line moved
by `δ`, errors included (`compileSource_shift`). For spelled templates this is `tokensOf_shift` / `compiles_any_line`
(successful compilations only).
-/

theorem map_relTokC_trimmed (g : Nat → Nat) (a b : Bool) {t : Token} (ht : t.isTrim = false) :
    (trimmed a b t).map (relTokC g) = trimmed a b (relTok g t) := by
  have hL : relTokC g { ty := .trimL } = { ty := .trimL } := rfl
  have hR : relTokC g { ty := .trimR } = { ty := .trimR } := rfl
  cases a <;> cases b <;> simp [trimmed, relTokC_of_not_trim ht, hL, hR]

theorem tokensOfMatch_shift (d : Delims) (src : Bytes) (ts : Nat) (caps : Caps) (l δ : Nat) :
    tokensOfMatch d src ts caps (l + δ) = (tokensOfMatch d src ts caps l).map (relTokC (· + δ)) := by
  rcases tokensOfMatch_eq d src ts caps with ⟨-, -, h⟩ | ⟨o, c, t, -, -, ht, h⟩
  · rw [h, h]; rfl
  · rw [h, h, map_relTokC_trimmed _ _ _ (t := { t with line := l }) ht]; rfl

theorem relTokC_text (g : Nat → Nat) (l : Nat) (s : Bytes) :
    relTokC g { ty := .text, line := l, source := s } = { ty := .text, line := g l, source := s } := rfl

theorem scanLoop_shift (mfuel : Nat) (re : Re) (d : Delims) (δ : Nat) : ∀ (n : Nat) (s : Bytes) (p line : Nat),
    scanLoop mfuel re d n s p (line + δ) = (scanLoop mfuel re d n s p line).map (relTokC (· + δ))
  | 0, s, p, line => by
    rw [scanLoop, scanLoop]
    split <;> rfl
  | n+1, s, p, line => by
    rw [scanLoop, scanLoop]
    cases re.search mfuel s p 0 with
    | none =>
      dsimp only
      split <;> rfl
    | some r =>
      obtain ⟨skip, e, caps⟩ := r
      simp only [List.map_append, apply_ite (List.map (relTokC (· + δ))), List.map_cons, List.map_nil, relTokC_text,
        ← tokensOfMatch_shift, ← scanLoop_shift mfuel re d δ n, Nat.add_right_comm _ δ]

theorem scan_shift (delims : List Bytes) (src : Bytes) (l δ : Nat) :
    scan delims src (l + δ) = (scan delims src l).map (relTokC (· + δ)) := by
  unfold scan scanWith
  exact scanLoop_shift _ _ _ δ _ _ _ _

/-- **compiling a source text `δ` lines further down**: the same result with every line moved by `δ` -/
theorem compileSource_shift (delims : List Bytes) (src : Bytes) (l δ : Nat) :
    compileSource delims src (l + δ) = CRes.rel (· + δ) (relNodes (· + δ)) (compileSource delims src l) := by
  rw [compileSource_eq_compileTokens, compileSource_eq_compileTokens, scan_shift, compileTokens_rel_all]
