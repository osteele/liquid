import Proofs.E2ERegex
/-!
# The exclusion loop `(?:[^t0]|t0[^t1]|…)+?` of the tag pattern

The alternative for position `i` fails where the input goes on with the delimiter's own byte at `i`
(`exclAlt_none`). So on a *unit* — the longest common prefix with the closing delimiter (shorter than the
delimiter) followed by one deviating byte — the alternation consumes exactly that unit (`units_m_hit`), and
on the delimiter itself it fails (`units_m_prefix_none`). The lazy loop therefore walks through the
arguments unit by unit and tries the closing part after each.
-/

theorem alts_none {R} (mf : Nat) (s : Bytes) (p : Nat) (c : Caps) (k : K R) (rs : List Re) (hne : rs ≠ [])
    (h : ∀ a ∈ rs, a.m mf s p c k = none) : (Re.alts rs).m mf s p c k = none := by
  induction rs with
  | nil => exact absurd rfl hne
  | cons a rs ih =>
    cases rs with
    | nil => exact h a (List.mem_singleton.mpr rfl)
    | cons b bs =>
      rw [show Re.alts (a :: b :: bs) = .alt a (Re.alts (b :: bs)) from rfl, alt_m, h a (List.mem_cons_self ..)]
      exact ih (List.cons_ne_nil _ _) (fun x hx => h x (List.mem_cons_of_mem _ hx))

theorem alts_first {R} (mf : Nat) (s : Bytes) (p : Nat) (c : Caps) (k : K R) (r : R) :
    ∀ (rs : List Re) (i : Nat) (hi : i < rs.length), (∀ j (hj : j < i), (rs[j]'(Nat.lt_trans hj hi)).m mf s p c k = none) →
      (rs[i]'hi).m mf s p c k = some r → (Re.alts rs).m mf s p c k = some r := by
  intro rs
  induction rs with
  | nil => exact fun i hi => absurd hi (Nat.not_lt_zero _)
  | cons a rs ih =>
    intro i hi hnone h
    cases rs with
    | nil => cases Nat.lt_one_iff.mp hi; exact h
    | cons b bs =>
      rw [show Re.alts (a :: b :: bs) = .alt a (Re.alts (b :: bs)) from rfl, alt_m]
      cases i with
      | zero => rw [show a.m mf s p c k = some r from h]
      | succ i =>
        rw [show a.m mf s p c k = none from hnone 0 (Nat.succ_pos i)]
        exact ih i (Nat.lt_of_succ_lt_succ hi) (fun j hj => hnone (j + 1) (Nat.succ_lt_succ hj)) h

theorem take_getD_append (tr rest : Bytes) (i m : Nat) (hi : i < m) (hm : m ≤ tr.length) :
    (tr.take m ++ rest)[i]? = some (tr.getD i 0) := by
  have h1 : i < (tr.take m).length := by rw [List.length_take]; omega
  rw [List.getElem?_append_left h1, List.getElem?_take_of_lt hi]
  have h2 : i < tr.length := by omega
  simp [List.getD, List.getElem?_eq_getElem h2]

theorem take_append_cons_at (tr : Bytes) (z : UInt8) (rest : Bytes) (i : Nat) (hi : i ≤ tr.length) :
    (tr.take i ++ z :: rest)[i]? = some z := by
  have h1 : (tr.take i).length = i := by rw [List.length_take]; omega
  rw [List.getElem?_append_right (by omega), h1]
  simp

theorem exclAlt_hit {R} (mf : Nat) (tr : Bytes) (m : Nat) (y : UInt8) (s' : Bytes) (p : Nat) (c : Caps) (k : K R)
    (hm : m < tr.length) (hy : y ≠ tr.getD m 0) :
    (exclAlt tr m).m mf (tr.take m ++ y :: s') p c k = k s' (p + m + 1) c := by
  have hl : (tr.take m).length = m := by rw [List.length_take]; omega
  rw [exclAlt, seq_m, lit_m_ok, chr_m_cons, hl]
  have : Pred.test (.ne (tr.getD m 0)) y = true := by simp only [Pred.test, bne_iff_ne, ne_eq]; exact hy
  rw [if_pos this]

theorem lang_exclAlt {tr : Bytes} {i : Nat} {w : Bytes} (h : (exclAlt tr i).Lang w) :
    ∃ z, w = tr.take i ++ [z] ∧ z ≠ tr.getD i 0 := by
  obtain ⟨_, _, rfl, h1, h2⟩ := lang_seq h
  cases h2 with
  | chr hz => exact ⟨_, by rw [lang_lit h1], by simpa [Pred.test] using hz⟩

theorem exclAlt_none {R} (mf : Nat) (tr : Bytes) (i : Nat) (s : Bytes) (p : Nat) (c : Caps) (k : K R) (hi : i < tr.length)
    (h : s[i]? = some (tr.getD i 0)) : (exclAlt tr i).m mf s p c k = none := by
  cases hr : (exclAlt tr i).m mf s p c k with
  | none => rfl
  | some r =>
    obtain ⟨w, s', _, rfl, hw, _⟩ := Re.m_sound mf _ _ _ _ _ _ hr
    obtain ⟨z, rfl, hz⟩ := lang_exclAlt hw
    rw [List.append_assoc, List.singleton_append, take_append_cons_at tr z s' i (Nat.le_of_lt hi)] at h
    exact absurd (Option.some.inj h) hz

def unitsRe (tr : Bytes) : Re := Re.alts (exclAlts tr)

theorem units_m_hit {R} (mf : Nat) (tr : Bytes) (m : Nat) (y : UInt8) (s' : Bytes) (p : Nat) (c : Caps) (k : K R) (r : R)
    (hm : m < tr.length) (hy : y ≠ tr.getD m 0) (hk : k s' (p + m + 1) c = some r) :
    (unitsRe tr).m mf (tr.take m ++ y :: s') p c k = some r := by
  rw [unitsRe, exclAlts_eq]
  refine alts_first mf _ p c k r _ m (by simpa using hm) ?_ ?_
  · intro j hj
    simp only [List.getElem_map, List.getElem_range]
    exact exclAlt_none mf tr j _ p c k (by omega) (take_getD_append tr (y :: s') j m hj (Nat.le_of_lt hm))
  · simp only [List.getElem_map, List.getElem_range]
    rw [exclAlt_hit mf tr m y s' p c k hm hy]
    exact hk

theorem units_m_prefix_none {R} (mf : Nat) (tr t : Bytes) (p : Nat) (c : Caps) (k : K R) (htr : tr ≠ []) :
    (unitsRe tr).m mf (tr ++ t) p c k = none := by
  rw [unitsRe, exclAlts_eq]
  refine alts_none mf _ p c k _ ?_ ?_
  · cases tr with
    | nil => exact absurd rfl htr
    | cons x xs => simp [List.range_succ]
  · intro a ha
    obtain ⟨i, hi, rfl⟩ := List.mem_map.mp ha
    have hi' : i < tr.length := List.mem_range.mp hi
    have := take_getD_append tr t i tr.length hi' (Nat.le_refl _)
    rw [List.take_length] at this
    exact exclAlt_none mf tr i _ p c k hi' this

theorem prefix_trichotomy (a tr : Bytes) :
    a <+: tr ∨ tr <+: a ∨ ∃ m y a', m < tr.length ∧ a = tr.take m ++ y :: a' ∧ y ≠ tr.getD m 0 := by
  induction a generalizing tr with
  | nil => exact .inl List.nil_prefix
  | cons x a ih =>
    cases tr with
    | nil => exact .inr (.inl List.nil_prefix)
    | cons z tr =>
      by_cases hxz : x = z
      · subst hxz
        rcases ih tr with h | h | ⟨m, y, a', hm, ha, hy⟩
        · exact .inl (List.cons_prefix_cons.mpr ⟨rfl, h⟩)
        · exact .inr (.inl (List.cons_prefix_cons.mpr ⟨rfl, h⟩))
        · exact .inr (.inr ⟨m + 1, y, a', Nat.succ_lt_succ hm, by rw [ha]; rfl, hy⟩)
      · exact .inr (.inr ⟨0, x, a, Nat.succ_pos _, rfl, hxz⟩)

theorem unit_step (tr a tail : Bytes) (ha : a ≠ []) (h1 : ∀ i, i < a.length → ¬ tr <+: (a ++ tail).drop i)
    (h2 : ∀ q, q ≠ [] → q <:+ a → ¬ q <+: tr) :
    ∃ m y a', m < tr.length ∧ y ≠ tr.getD m 0 ∧ a ++ tail = tr.take m ++ y :: (a' ++ tail) ∧
      a.length = m + 1 + a'.length ∧ (∀ i, i < a'.length → ¬ tr <+: (a' ++ tail).drop i) ∧
      (∀ q, q ≠ [] → q <:+ a' → ¬ q <+: tr) ∧ ∀ i, (a' ++ tail).drop i = (a ++ tail).drop (m + 1 + i) := by
  rcases prefix_trichotomy a tr with h | h | ⟨m, y, a', hm, hae, hy⟩
  · exact absurd h (h2 a ha (List.suffix_refl a))
  · exact absurd (h.trans (List.prefix_append a tail)) (h1 0 (List.length_pos_iff.mpr ha))
  have hl : (tr.take m ++ [y]).length = m + 1 := by
    rw [List.length_append, List.length_take, List.length_singleton, Nat.min_eq_left (Nat.le_of_lt hm)]
  have hae' : a = (tr.take m ++ [y]) ++ a' := by rw [hae, List.append_assoc]; rfl
  have hlen : a.length = m + 1 + a'.length := by rw [hae', List.length_append, hl]
  have hdrop : ∀ i, (a' ++ tail).drop i = (a ++ tail).drop (m + 1 + i) := fun i => by
    rw [hae', List.append_assoc, ← List.drop_drop, List.drop_left' hl]
  refine ⟨m, y, a', hm, hy, by rw [hae, List.append_assoc]; rfl, hlen, fun i hi => ?_, fun q hq hs => ?_, hdrop⟩
  · rw [hdrop]; exact h1 _ (by omega)
  · exact h2 q hq (hs.trans ⟨tr.take m ++ [y], hae'.symm⟩)

theorem lazyUnits {R} (mf : Nat) (tr tail : Bytes) (c : Caps) (k : K R) (r : R) :
    ∀ (n : Nat) (a : Bytes) (p : Nat), a.length ≤ n →
      (∀ i, i < a.length → ¬ tr <+: (a ++ tail).drop i) →
      (∀ q, q ≠ [] → q <:+ a → ¬ q <+: tr) →
      (∀ i, i < a.length → k ((a ++ tail).drop i) (p + i) c = none) →
      k tail (p + a.length) c = some r →
      starLoop (fun s p c k => (unitsRe tr).m mf s p c k) false n (a ++ tail) p c k = some r := by
  intro n
  induction n with
  | zero =>
    intro a p hn _ _ _ hk
    cases List.eq_nil_of_length_eq_zero (Nat.le_zero.mp hn)
    exact hk
  | succ n ih =>
    intro a p hn h1 h2 h3 hk
    cases a with
    | nil => rw [starLoop_succ_false, show k ([] ++ tail) p c = some r from hk]
    | cons x a1 =>
      obtain ⟨m, y, a', hm, hy, hsplit, hlen, h1', h2', hdrop⟩ := unit_step tr (x :: a1) tail (List.cons_ne_nil _ _) h1 h2
      -- the continuation fails here: the loop takes the unit and goes on behind it
      rw [starLoop_succ_false, show k (x :: a1 ++ tail) p c = none from h3 0 (Nat.succ_pos _), hsplit]
      refine units_m_hit mf tr m y _ p c _ r hm hy ?_
      rw [if_pos (by omega)]
      refine ih a' (p + m + 1) (by omega) h1' h2' (fun i hi => ?_) ?_
      · rw [hdrop, Nat.add_assoc p, Nat.add_assoc p]; exact h3 _ (by omega)
      · rw [Nat.add_assoc p, Nat.add_assoc p, ← hlen]; exact hk

/-- `((?:EXCL)+?)` as a group on non-empty arguments `a`: takes exactly `a` when `a` neither contains
    the start of an occurrence of the closing delimiter nor ends in a non-empty prefix of it, the
    continuation fails inside `a` and succeeds after it -/
theorem plusLazy_units_group {R} (mf gi : Nat) (tr a tail : Bytes) (p : Nat) (c : Caps) (k : K R) (r : R)
    (ha : a ≠ []) (hf : a.length ≤ mf)
    (h1 : ∀ i, i < a.length → ¬ tr <+: (a ++ tail).drop i)
    (h2 : ∀ q, q ≠ [] → q <:+ a → ¬ q <+: tr)
    (h3 : ∀ i, i < a.length → ∀ c', k ((a ++ tail).drop i) (p + i) c' = none)
    (hk : k tail (p + a.length) (⟨gi, p, p + a.length⟩ :: c) = some r) :
    (Re.group gi (Re.plusLazy (unitsRe tr))).m mf (a ++ tail) p c k = some r := by
  obtain ⟨m, y, a', hm, hy, hsplit, hlen, h1', h2', hdrop⟩ := unit_step tr a tail ha h1 h2
  -- the first unit, then the lazy loop on what follows it
  rw [group_m, Re.plusLazy, seq_m, hsplit]
  refine units_m_hit mf tr m y _ p c _ r hm hy ?_
  rw [star_m]
  refine lazyUnits mf tr tail c _ r mf a' (p + m + 1) (by omega) h1' h2' (fun i hi => ?_) ?_
  · rw [hdrop, Nat.add_assoc p, Nat.add_assoc p]; exact h3 _ (by omega) _
  · rw [Nat.add_assoc p, Nat.add_assoc p, ← hlen]; exact hk
