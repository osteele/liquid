import Proofs.E2ERun
import Proofs.RenderTreeDefs
/-!
# The block parser and the compiler read kind, name, arguments and line of a token, nothing else

A map `φ` on a token list that keeps kind, name and arguments, moves the lines by `g` and leaves a text otherwise alone commutes
with the block parser (`parseStep_map`, `parseTokens_map`) and the compiler (`compileNode_map`, `compileTokens_map`), errors
included: the syntax tree and the nodes are those of the original tokens with the tokens they hold mapped (`ψ`) and the lines
moved. The one thing the parser reads besides is the SOURCE of what it meets inside a raw block (`RawMeets`, `rawScan`). Moving a template
to other lines (`relTokC g`, Proofs/SrcReline.lean) and erasing the source text of tags and objects (`unsrc`,
Proofs/E2ECompile.lean) are the two instances.
`RawMeets Q` with `rawScan` also carries the side condition of Proofs/HyphenSource.lean (no trim marker is met in raw mode).
-/

def relTok (g : Nat → Nat) (t : Token) : Token := { t with line := g t.line }

def PErr.rel (g : Nat → Nat) (e : PErr) : PErr := ⟨e.kind, g e.line⟩

def PRes.rel {α} (g : Nat → Nat) (f : α → α) : Res PErr α → Res PErr α
  | .ok a => .ok (f a)
  | .err e => .err (e.rel g)
  | .panic w => .panic w
  | .unmodelled w => .unmodelled w

def relErr (g : Nat → Nat) (e : SErr) : SErr := { e with line := g e.line }

def CRes.rel {α} (g : Nat → Nat) (f : α → α) : CRes α → CRes α
  | .ok a => .ok (f a)
  | .err e => .err (relErr g e)
  | .panic w => .panic w
  | .unmodelled w => .unmodelled w

def PMode.isRaw : PMode → Bool
  | .raw _ _ => true
  | _ => false

/-- `φ` on the token stream, `ψ` what the tree then holds for an object, tag, block or clause token: name and arguments kept, the
    line moved, kind and source whatever they are; a text keeps its source -/
structure TokMap (φ ψ : Token → Token) (g : Nat → Nat) : Prop where
  ty : ∀ t, (φ t).ty = t.ty
  name : ∀ t, (φ t).name = t.name
  args : ∀ t, (φ t).args = t.args
  text : ∀ t, t.ty = .text → φ t = relTok g t
  held : ∀ t, t.ty = .obj ∨ t.ty = .tag → φ t = ψ t
  shape : ∀ t, ∃ ty s, ψ t = ⟨ty, g t.line, t.name, t.args, s⟩

namespace TokMap
variable {φ ψ : Token → Token} {g : Nat → Nat} (M : TokMap φ ψ g)
include M
theorem hname (t : Token) : (ψ t).name = t.name := by obtain ⟨_, _, e⟩ := M.shape t; rw [e]
theorem hargs (t : Token) : (ψ t).args = t.args := by obtain ⟨_, _, e⟩ := M.shape t; rw [e]
theorem hline (t : Token) : (ψ t).line = g t.line := by obtain ⟨_, _, e⟩ := M.shape t; rw [e]
end TokMap

mutual
def AST.mapTok (ψ : Token → Token) (g : Nat → Nat) : AST → AST
  | .text t => .text (relTok g t)
  | .obj t => .obj (ψ t)
  | .tag t => .tag (ψ t)
  | .trim l => .trim l
  | .raw sl => .raw sl
  | .block t body cls => .block (ψ t) (mapList ψ g body) (mapClauses ψ g cls)
def mapList (ψ : Token → Token) (g : Nat → Nat) : List AST → List AST
  | [] => []
  | n :: ns => n.mapTok ψ g :: mapList ψ g ns
def mapClauses (ψ : Token → Token) (g : Nat → Nat) : List (Token × List AST) → List (Token × List AST)
  | [] => []
  | (t, body) :: cs => (ψ t, mapList ψ g body) :: mapClauses ψ g cs
end

section
variable (ψ : Token → Token) (g : Nat → Nat)

theorem mapList_eq_map : ∀ l : List AST, mapList ψ g l = l.map (AST.mapTok ψ g)
  | [] => rfl
  | n :: ns => by simp [mapList, mapList_eq_map ns]

theorem mapClauses_eq_map : ∀ cs : List (Token × List AST), mapClauses ψ g cs = cs.map (fun p => (ψ p.1, mapList ψ g p.2))
  | [] => rfl
  | (t, b) :: cs => by simp [mapClauses, mapClauses_eq_map cs]

theorem mapList_reverse (l : List AST) : mapList ψ g l.reverse = (mapList ψ g l).reverse := by simp [mapList_eq_map]

def Frame.mapTok (f : Frame) : Frame :=
  { tok := ψ f.tok, outer := mapList ψ g f.outer, body := f.body.map (mapList ψ g), clauses := mapClauses ψ g f.clauses,
    cur := f.cur.map ψ }

def PMode.mapTok : PMode → PMode
  | .normal => .normal
  | .comment o => .comment (ψ o)
  | .raw o sl => .raw (ψ o) sl

def PState.mapTok (s : PState) : PState :=
  { cur := mapList ψ g s.cur, stack := s.stack.map (Frame.mapTok ψ g), mode := s.mode.mapTok ψ }

theorem closeFrame_map (f : Frame) (cur : List AST) :
    closeFrame (f.mapTok ψ g) (mapList ψ g cur) = (closeFrame f cur).mapTok ψ g := by
  obtain ⟨tok, outer, body, clauses, fcur⟩ := f
  cases fcur with
  | none => simp [closeFrame, Frame.mapTok, AST.mapTok, mapList_reverse, mapClauses]
  | some c =>
    cases body with
    | none => simp [closeFrame, Frame.mapTok, AST.mapTok, mapList_reverse, mapClauses_eq_map, mapList]
    | some b => simp [closeFrame, Frame.mapTok, AST.mapTok, mapList_reverse, mapClauses_eq_map]
end

variable {φ ψ : Token → Token} {g : Nat → Nat}

theorem parentOk_map (hn : ∀ t, (ψ t).name = t.name) (cs : Syn) (st : List Frame) :
    parentOk cs (st.map (Frame.mapTok ψ g)).head? = parentOk cs st.head? := by
  cases st with
  | nil => rfl
  | cons f fs => cases cs <;> simp [parentOk, Frame.mapTok, hn]

/-- **one step of the block parser commutes with a token map**; in raw mode the token is the `endraw` tag or keeps its source
    (a raw body is made of token SOURCES) -/
theorem parseStep_map (M : TokMap φ ψ g) (G : Grammar) (chk : Bytes → Option Cause) (s : PState) (t : Token)
    (hraw : s.mode.isRaw = true → isEndRaw t = true ∨ (φ t).source = t.source) :
    parseStep G chk (s.mapTok ψ g) (φ t) = PRes.rel g (PState.mapTok ψ g) (parseStep G chk s t) := by
  obtain ⟨cur, st, mode⟩ := s
  cases mode with
  | comment o =>
    simp only [parseStep, PState.mapTok, PMode.mapTok, M.ty, M.name]
    split <;> rfl
  | raw o sl =>
    simp only [parseStep, PState.mapTok, PMode.mapTok, M.ty, M.name]
    split
    · rfl
    · next hne =>
      rcases hraw rfl with he | hs
      · exact absurd he hne
      · rw [hs]; rfl
  | normal =>
    cases ht : t.ty with
    | text =>
      rw [M.text t ht]
      have h1 : (relTok g t).ty = .text := ht
      simp only [parseStep, PState.mapTok, PMode.mapTok, h1, ht]
      rfl
    | trimL | trimR =>
      simp only [parseStep, PState.mapTok, PMode.mapTok, M.ty, ht]
      rfl
    | obj =>
      have h1 : (ψ t).ty = .obj := by rw [← M.held t (.inl ht), M.ty, ht]
      rw [M.held t (.inl ht)]
      simp only [parseStep, PState.mapTok, PMode.mapTok, h1, M.hargs, M.hline, ht]
      cases chk t.args <;> rfl
    | tag =>
      have h1 : (ψ t).ty = .tag := by rw [← M.held t (.inr ht), M.ty, ht]
      rw [M.held t (.inr ht)]
      simp only [parseStep, PState.mapTok, PMode.mapTok, h1, M.hname, M.hline, ht]
      cases hs : G.syntaxOf t.name with
      | none => rfl
      | some cs =>
        simp only
        by_cases hc : t.name == commentName
        · simp only [hc, if_true]; rfl
        · simp only [hc, Bool.false_eq_true, if_false]
          by_cases hr : t.name == rawName
          · simp only [hr, if_true]; rfl
          · simp only [hr, Bool.false_eq_true, if_false, parentOk_map M.hname]
            by_cases hp : parentOk cs st.head?
            · simp only [hp, Bool.not_true, Bool.false_eq_true, if_false]
              cases cs with
              | start n => rfl
              | clause n ps =>
                cases st with
                | nil => rfl
                | cons f fs =>
                  obtain ⟨ftok, fouter, fbody, fclauses, fcur⟩ := f
                  cases fcur with
                  | none => simp [Frame.mapTok, PRes.rel, PState.mapTok, PMode.mapTok, mapList_reverse, mapList]
                  | some c0 => simp [Frame.mapTok, PRes.rel, PState.mapTok, PMode.mapTok, mapList_reverse, mapList, mapClauses]
              | end_ n sn =>
                cases st with
                | nil => rfl
                | cons f fs =>
                  simp only [List.map_cons, closeFrame_map]
                  rfl
            · simp only [hp, Bool.not_false, if_true]
              rfl

/-- whenever the machine meets a token in raw mode, it is the `endraw` tag or satisfies `Q` -/
def RawMeets (Q : Token → Prop) (G : Grammar) (chk : Bytes → Option Cause) : PState → List Token → Prop
  | _, [] => True
  | s, t :: ts => (s.mode.isRaw = true → isEndRaw t = true ∨ Q t) ∧
      ∀ s', parseStep G chk s t = .ok s' → RawMeets Q G chk s' ts

theorem RawMeets.of_forall {Q : Token → Prop} (h : ∀ t, Q t) (G : Grammar) (chk : Bytes → Option Cause) :
    ∀ (ts : List Token) (s : PState), RawMeets Q G chk s ts
  | [], _ => trivial
  | t :: ts, _ => ⟨fun _ => .inr (h t), fun s' _ => of_forall h G chk ts s'⟩

/-- the Boolean of `rawScan`: a `raw` tag has been passed and its `endraw` not yet -/
def rawNext (flag : Bool) (t : Token) : Bool :=
  if flag then !isEndRaw t else t.ty == .tag && t.name == rawName

/-- a condition on the token list alone under which what the machine meets in raw mode satisfies `p`: from a tag named `raw` up to
    the next `endraw` tag every token does -/
def rawScan (p : Token → Bool) : Bool → List Token → Bool
  | _, [] => true
  | flag, t :: ts => (!flag || (isEndRaw t || p t)) && rawScan p (rawNext flag t) ts

/-- the machine is in raw mode only if the Boolean of the scan is set: the invariant of one step -/
theorem parseStep_rawNext {G : Grammar} {chk : Bytes → Option Cause} {s s' : PState} {t : Token} {flag : Bool}
    (hinv : s.mode.isRaw = true → flag = true) (h : parseStep G chk s t = .ok s') (hm : s'.mode.isRaw = true) :
    rawNext flag t = true := by
  have hr := parseStep_case (g := G) (chk := chk) s t
  rw [h] at hr
  cases hr with
  | inRawOther he =>
    rw [hinv rfl, rawNext, if_pos rfl, he]
    rfl
  | rawOpen ho =>
    obtain ⟨h1, h2, _⟩ := isRawOpen_iff.mp ho
    cases flag with
    | false =>
      rw [rawNext, if_neg Bool.false_ne_true, h1, h2]
      rfl
    | true =>
      -- a tag named `raw` is not the `endraw` tag
      rw [rawNext, if_pos rfl, isEndRaw, h2, show (rawName == endrawName) = false by decide, Bool.and_false]
      rfl
  | _ => cases hm

theorem rawMeets_of_rawScan {p : Token → Bool} {Q : Token → Prop} (hQ : ∀ t, p t = true → Q t) (G : Grammar)
    (chk : Bytes → Option Cause) : ∀ (toks : List Token) (s : PState) (flag : Bool),
    (s.mode.isRaw = true → flag = true) → rawScan p flag toks = true → RawMeets Q G chk s toks
  | [], _, _, _, _ => trivial
  | t :: ts, s, flag, hinv, hs => by
    rw [rawScan, Bool.and_eq_true] at hs
    refine ⟨fun hm => ?_, fun s1 hst => rawMeets_of_rawScan hQ G chk ts s1 _ (parseStep_rawNext hinv hst) hs.2⟩
    rw [hinv hm] at hs
    exact (Bool.or_eq_true_iff.mp (show (isEndRaw t || p t) = true from hs.1)).imp_right (hQ t)

theorem parseLoop_map (M : TokMap φ ψ g) (G : Grammar) (chk : Bytes → Option Cause) : ∀ (ts : List Token) (s : PState),
    RawMeets (fun t => (φ t).source = t.source) G chk s ts →
    parseLoop G chk (s.mapTok ψ g) (ts.map φ) = PRes.rel g (PState.mapTok ψ g) (parseLoop G chk s ts)
  | [], _, _ => rfl
  | t :: ts, s, h => by
    simp only [List.map_cons, parseLoop, parseStep_map M G chk s t h.1]
    cases hs : parseStep G chk s t with
    | ok s' => exact parseLoop_map M G chk ts s' (h.2 s' hs)
    | _ => rfl

theorem parseTokens_map (M : TokMap φ ψ g) (G : Grammar) (chk : Bytes → Option Cause) (toks : List Token)
    (h : RawMeets (fun t => (φ t).source = t.source) G chk {} toks) :
    parseTokens G chk (toks.map φ) = PRes.rel g (mapList ψ g) (parseTokens G chk toks) := by
  unfold parseTokens
  have hl := parseLoop_map M G chk toks {} h
  have h0 : (({} : PState).mapTok ψ g) = {} := rfl
  rw [h0] at hl
  rw [hl]
  cases parseLoop G chk {} toks with
  | ok s =>
    obtain ⟨cur, st, mode⟩ := s
    cases mode with
    | comment o => simp only [PRes.rel, PState.mapTok, PMode.mapTok, PErr.rel, M.hline]
    | raw o sl => simp only [PRes.rel, PState.mapTok, PMode.mapTok, PErr.rel, M.hline]
    | normal =>
      cases st with
      | nil => simp [PRes.rel, PState.mapTok, PMode.mapTok, mapList_reverse]
      | cons f fs => simp only [PRes.rel, PState.mapTok, PMode.mapTok, PErr.rel, List.map_cons, Frame.mapTok, M.hline]
  | _ => rfl

theorem liftParse_rel {α} (g : Nat → Nat) (line : Nat) (keep : Bool) (r : Res ParseErr α) :
    liftParse (g line) keep r = CRes.rel g id (liftParse line keep r) := by
  cases r with
  | ok a => rfl
  | err e => cases keep <;> rfl
  | panic w => rfl
  | unmodelled w => rfl

theorem CRes.rel_bind {α β} (g : Nat → Nat) {f : α → α} {f' : β → β} (x : CRes α) {k k' : α → CRes β}
    (h : ∀ a, k' (f a) = CRes.rel g f' (k a)) : (CRes.rel g f x >>= k') = CRes.rel g f' (x >>= k) := by
  cases x with
  | ok a => exact h a
  | err e => rfl
  | panic w => rfl
  | unmodelled w => rfl

theorem CRes.rel_id {α} {f : α → α} (hf : ∀ a, f a = a) (r : CRes α) : CRes.rel id f r = r := by
  cases r with
  | ok a => exact congrArg Res.ok (hf a)
  | _ => rfl

theorem liftPErr_rel {α} (g : Nat → Nat) (f : α → α) (r : Res PErr α) :
    liftPErr (PRes.rel g f r) = CRes.rel g f (liftPErr r) := by
  cases r with
  | ok a => rfl
  | err e =>
    obtain ⟨k, l⟩ := e
    cases k <;> rfl
  | _ => rfl

def mapCl (ψ : Token → Token) (g : Nat → Nat) (cs : List (Token × List Node)) : List (Token × List Node) :=
  cs.map (fun p => (ψ p.1, relNodes g p.2))

theorem mapCl_snd (ψ : Token → Token) (g : Nat → Nat) : ∀ cs : List (Token × List Node),
    (mapCl ψ g cs).map (·.2) = relNClauses g (cs.map (·.2))
  | [] => rfl
  | (t, body) :: cs => by
    have := mapCl_snd ψ g cs
    simp only [mapCl] at this
    simp [mapCl, relNClauses, this]

/-! In the lemmas below the token is taken apart in the pattern and `ψ` of it written out by `shape`, so that after `unfold` both
sides speak of the same `name` and `args` (with `ψ t` left standing, the tests on the name would differ inside their `Decidable`
instances and `rw [if_pos h]` would rewrite one side only). -/

theorem ifTests_map (M : TokMap φ ψ g) : ∀ cs, compileIfClauseTests (mapCl ψ g cs) = CRes.rel g (relBranches g) (compileIfClauseTests cs)
  | [] => rfl
  | (⟨ty, line, name, args, source⟩, body) :: cs => by
    obtain ⟨ty', s', e⟩ := M.shape ⟨ty, line, name, args, source⟩
    show compileIfClauseTests ((ψ _, relNodes g body) :: mapCl ψ g cs) = _
    rw [e]
    unfold compileIfClauseTests
    dsimp only
    rw [ifTests_map M cs]
    refine Eq.trans (congrArg (· >>= _) ?_) (CRes.rel_bind g (f := CondT.rel g) _ (fun test =>
      CRes.rel_bind g (f := relBranches g) _ (fun rest => rfl)))
    split
    · rw [liftParse_rel]
      exact CRes.rel_bind g (f := id) _ (fun e => rfl)
    · rfl

theorem caseClauses_map (M : TokMap φ ψ g) : ∀ cs, compileCaseClauses (mapCl ψ g cs) = CRes.rel g (relCases g) (compileCaseClauses cs)
  | [] => rfl
  | (⟨ty, line, name, args, source⟩, body) :: cs => by
    obtain ⟨ty', s', e⟩ := M.shape ⟨ty, line, name, args, source⟩
    show compileCaseClauses ((ψ _, relNodes g body) :: mapCl ψ g cs) = _
    rw [e]
    unfold compileCaseClauses
    dsimp only
    rw [caseClauses_map M cs]
    refine Eq.trans (congrArg (· >>= _) ?_) (CRes.rel_bind g (f := Option.map fun p => (g p.1, p.2)) _ (fun c =>
      CRes.rel_bind g (f := relCases g) _ (fun rest => ?_)))
    · split
      · rw [liftParse_rel]
        exact CRes.rel_bind g (f := id) _ (fun st => by cases st <;> rfl)
      · rfl
    · cases c with
      | none => rfl
      | some p => rfl

mutual
/-- **the compiler commutes with a token map** -/
theorem compileNode_map (M : TokMap φ ψ g) : ∀ a : AST, compileNode (a.mapTok ψ g) = CRes.rel g (relNodes g) (compileNode a)
  | .text t => rfl
  | .obj t => by
    simp only [AST.mapTok, compileNode, M.hargs, M.hline]
    cases parseExprSource t.args <;> rfl
  | .trim l => rfl
  | .raw sl => rfl
  | .tag ⟨ty, line, name, args, source⟩ => by
    obtain ⟨ty', s', e⟩ := M.shape ⟨ty, line, name, args, source⟩
    rw [AST.mapTok, e]
    unfold compileNode
    dsimp only
    by_cases h1 : (name == nmAssign) = true
    · rw [if_pos h1, if_pos h1, liftParse_rel]
      exact CRes.rel_bind g _ (fun st => by cases st <;> rfl)
    rw [if_neg h1, if_neg h1]
    by_cases h2 : (name == nmInclude) = true
    · rw [if_pos h2, if_pos h2]; rfl
    rw [if_neg h2, if_neg h2]
    by_cases h3 : (name == nmBreak) = true
    · rw [if_pos h3, if_pos h3]; rfl
    rw [if_neg h3, if_neg h3]
    by_cases h4 : (name == nmContinue) = true
    · rw [if_pos h4, if_pos h4]; rfl
    rw [if_neg h4, if_neg h4]
    by_cases h5 : (name == nmCycle) = true
    · rw [if_pos h5, if_pos h5, liftParse_rel]
      exact CRes.rel_bind g _ (fun st => by cases st <;> rfl)
    rw [if_neg h5, if_neg h5]
    rfl
  | .block ⟨ty, line, name, args, source⟩ body cls => by
    obtain ⟨ty', s', e⟩ := M.shape ⟨ty, line, name, args, source⟩
    rw [AST.mapTok, e]
    unfold compileNode
    dsimp only
    rw [compileList_map M body, compileClauses_map M cls]
    refine CRes.rel_bind g (f := relNodes g) _ (fun b => CRes.rel_bind g (f := mapCl ψ g) _ (fun cs => ?_))
    by_cases h1 : (name == nmIf || name == nmUnless) = true
    · rw [if_pos h1, if_pos h1, liftParse_rel, ifTests_map M]
      refine CRes.rel_bind g (f := id) _ (fun e => CRes.rel_bind g (f := relBranches g) _ (fun rest => ?_))
      cases name == nmIf <;> rfl
    rw [if_neg h1, if_neg h1]
    by_cases h2 : (name == nmCase) = true
    · rw [if_pos h2, if_pos h2, liftParse_rel, caseClauses_map M]
      exact CRes.rel_bind g (f := id) _ (fun e => CRes.rel_bind g (f := relCases g) _ (fun cases => rfl))
    rw [if_neg h2, if_neg h2]
    by_cases h3 : (name == nmFor || name == nmTablerow) = true
    · rw [if_pos h3, if_pos h3, liftParse_rel]
      refine CRes.rel_bind g (f := id) _ (fun st => ?_)
      cases st with
      | loop x e m => simp only [id, mapCl_snd]; rfl
      | _ => rfl
    rw [if_neg h3, if_neg h3]
    by_cases h4 : (name == nmCapture) = true
    · rw [if_pos h4, if_pos h4]; rfl
    rw [if_neg h4, if_neg h4]
    rfl
theorem compileList_map (M : TokMap φ ψ g) : ∀ as : List AST, compileList (mapList ψ g as) = CRes.rel g (relNodes g) (compileList as)
  | [] => rfl
  | a :: as => by
    rw [mapList, compileList, compileList, compileNode_map M a, compileList_map M as]
    exact CRes.rel_bind g _ (fun x => CRes.rel_bind g _ (fun y => congrArg Res.ok (relNodes_append g x y).symm))
theorem compileClauses_map (M : TokMap φ ψ g) : ∀ cs : List (Token × List AST),
    compileClauses (mapClauses ψ g cs) = CRes.rel g (mapCl ψ g) (compileClauses cs)
  | [] => rfl
  | (t, body) :: cs => by
    rw [mapClauses, compileClauses, compileClauses, compileList_map M body, compileClauses_map M cs]
    exact CRes.rel_bind g _ (fun b => CRes.rel_bind g _ (fun r => rfl))
end

/-- **compiling a token list commutes with a token map**, errors included -/
theorem compileTokens_map (M : TokMap φ ψ g) (toks : List Token)
    (h : RawMeets (fun t => (φ t).source = t.source) stdGrammar objChk {} toks) :
    compileTokens (toks.map φ) = CRes.rel g (relNodes g) (compileTokens toks) := by
  unfold compileTokens
  rw [firstUnmodelledObj_map φ M.ty M.args]
  cases firstUnmodelledObj toks with
  | some w => rfl
  | none =>
    simp only [parseTokens_map M _ _ toks h, liftPErr_rel, bind, Res.bind]
    cases liftPErr (parseTokens stdGrammar objChk toks) with
    | ok ast => simp only [CRes.rel, compileList_map M]
    | _ => rfl

