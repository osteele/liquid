import Proofs.SrcWrites
import Proofs.C11
import Proofs.C05Verbatim
import Proofs.ExprLitLemmas
/-!
# Source-level helpers for C11: the arguments `i in (a..b)` of a `for` tag with literal `reversed` / `offset:` / `limit:`
parse (`parse_rangeArgs_mods`), and a `for` loop whose body prints `f` of its item renders the concatenation of `f` over the
selected items (`runRoot_for_prints`; the body `{{ e }}`: `blockBody_obj_clear`)
-/

theorem parseTokens_ident (x : Bytes) : parseTokensE [.ident x, .ch 59] = some (.expr (.var x)) := rfl

theorem parseExprSource_ident (l : Bytes) (hl : Lexeme .rIdent l) : parseExprSource l = .ok (.var l) :=
  parseExprSource_single .rIdent l (.ident l) (.var l) hl rfl (parseTokens_ident l)

/-- the text `i in (a..b)` -/
def rangeArgs (ivar : Bytes) (a b : Int) : Bytes :=
  ivar ++ ([32, 105, 110, 32, 40] ++ (intDec a ++ ([46, 46] ++ (intDec b ++ [41]))))

/-- the lexemes of `kwLoop ++ rangeArgs ivar a b`, which is what `parseStatement kwLoop` hands to the scanner -/
def rangePieces (ivar : Bytes) (a b : Int) : List Piece :=
  [⟨[], .rLoop, kwLoop⟩, ⟨[], .rIdent, ivar⟩, ⟨[32], .rIn, [105, 110]⟩, ⟨[32], .rAny, [40]⟩, ⟨[], .rInt, intDec a⟩,
   ⟨[], .rDotdot, [46, 46]⟩, ⟨[], .rInt, intDec b⟩, ⟨[], .rAny, [41]⟩]

theorem rangePieces_src (ivar : Bytes) (a b : Int) : Piece.src (rangePieces ivar a b) = kwLoop ++ rangeArgs ivar a b := by
  simp [rangePieces, Piece.src, rangeArgs]

def kwOffsetC : Bytes := kwOffset ++ [58]
def kwLimitC : Bytes := kwLimit ++ [58]

/-- the pieces of ` reversed offset: o limit: l` (in this order, each optional) -/
def modsPieces (rev : Bool) (off lim : Option Int) : List Piece :=
  (if rev then [⟨[32], .rIdent, kwReversed⟩] else []) ++
  ((match off with | some o => [⟨[32], .rKeyword, kwOffsetC⟩, ⟨[32], .rInt, intDec o⟩] | none => []) ++
   (match lim with | some l => [⟨[32], .rKeyword, kwLimitC⟩, ⟨[32], .rInt, intDec l⟩] | none => []))

/-- the text ` reversed offset: o limit: l` -/
def modsText (rev : Bool) (off lim : Option Int) : Bytes := Piece.src (modsPieces rev off lim)

theorem lexeme_reversed : Lexeme .rIdent kwReversed :=
  Lexeme.word 114 [101, 118, 101, 114, 115, 101, 100] [] (by decide) (by decide) (Or.inl rfl)
theorem lexeme_offsetC : Lexeme .rKeyword kwOffsetC :=
  Lexeme.keyword 111 [102, 102, 115, 101, 116] [] (by decide) (by decide) (Or.inl rfl)
theorem lexeme_limitC : Lexeme .rKeyword kwLimitC :=
  Lexeme.keyword 108 [105, 109, 105, 116] [] (by decide) (by decide) (Or.inl rfl)

/-- pieces that each start with one blank are well spaced in front of the closing `;` -/
theorem wellSpaced_spaceLed : ∀ (ps : List Piece), (∀ p ∈ ps, p.ws = [32] ∧ Lexeme p.rule p.text) →
    WellSpaced (ps ++ [semiPiece []])
  | [], _ => ⟨rfl, lexeme_semi, rfl, trivial⟩
  | p :: ps, h => by
    obtain ⟨hw, hl⟩ := h p (List.mem_cons_self ..)
    refine ⟨by rw [hw]; rfl, hl, ?_, wellSpaced_spaceLed ps (fun q hq => h q (List.mem_cons_of_mem _ hq))⟩
    cases ps with
    | nil => exact fits_break _ _ 59 [] hl (by decide)
    | cons q qs =>
      have hq := (h q (by simp)).1
      show fits p.rule p.text (q.ws ++ q.text ++ Piece.src (qs ++ [semiPiece []])) = true
      rw [hq]
      exact fits_break _ _ 32 _ hl (by decide)

theorem modsPieces_spaceLed (rev : Bool) (off lim : Option Int) :
    ∀ p ∈ modsPieces rev off lim, p.ws = [32] ∧ Lexeme p.rule p.text := by
  intro p hp
  unfold modsPieces at hp
  simp only [List.mem_append] at hp
  rcases hp with hp | hp | hp
  · split at hp
    · simp only [List.mem_singleton] at hp; subst hp; exact ⟨rfl, lexeme_reversed⟩
    · cases hp
  · cases off with
    | none => cases hp
    | some o =>
      simp only [List.mem_cons, List.mem_nil_iff, or_false] at hp
      rcases hp with rfl | rfl
      · exact ⟨rfl, lexeme_offsetC⟩
      · exact ⟨rfl, lexeme_intDec o⟩
  · cases lim with
    | none => cases hp
    | some l =>
      simp only [List.mem_cons, List.mem_nil_iff, or_false] at hp
      rcases hp with rfl | rfl
      · exact ⟨rfl, lexeme_limitC⟩
      · exact ⟨rfl, lexeme_intDec l⟩

theorem rangePieces_tail_ok (ivar : Bytes) (a b : Int) (hiv : Lexeme .rIdent ivar) (tail : List Piece) (ht : WellSpaced tail) :
    WellSpaced (rangePieces ivar a b ++ tail) := by
  refine ⟨rfl, Lexeme.selLoop, rfl, rfl, hiv, ?_, rfl, ?_, ?_, rfl, Lexeme.punct 40 (by decide), ?_, rfl, lexeme_intDec a, ?_,
    rfl, Lexeme.dotdot, rfl, rfl, lexeme_intDec b, ?_, rfl, Lexeme.punct 41 (by decide), ?_, ht⟩
  · exact fits_break _ _ 32 _ hiv (by decide)
  · exact Lexeme.word 105 [110] [] (by decide) (by decide) (Or.inl rfl)
  · exact fits_break _ _ 32 _ (Lexeme.word 105 [110] [] (by decide) (by decide) (Or.inl rfl)) (by decide)
  · rfl
  · rfl
  · rfl
  · rfl

/-- **the arguments `i in (a..b) reversed offset: o limit: l`** (each modifier optional) -/
theorem parse_rangeArgs_mods (ivar : Bytes) (a b : Int) (rev : Bool) (off lim : Option Int) (hiv : Lexeme .rIdent ivar)
    (ha : IntKind.i64.inRange a = true) (hb : IntKind.i64.inRange b = true)
    (hoff : ∀ o, off = some o → IntKind.i64.inRange o = true) (hlim : ∀ l, lim = some l → IntKind.i64.inRange l = true) :
    parseStatement kwLoop (rangeArgs ivar a b ++ modsText rev off lim) =
      .ok (.loop ivar (.range (.lit (.int .int a)) (.lit (.int .int b)))
        { reversed := rev, offset := off.map (fun o => .lit (.int .int o)), limit := lim.map (fun o => .lit (.int .int o)) }) := by
  unfold parseStatement
  have hsrc : kwLoop ++ (rangeArgs ivar a b ++ modsText rev off lim) =
      Piece.src (rangePieces ivar a b ++ modsPieces rev off lim) ++ [] := by
    rw [src_append, List.append_nil, ← List.append_assoc, ← rangePieces_src]
    rfl
  have hws : WellSpaced ((rangePieces ivar a b ++ modsPieces rev off lim) ++ [semiPiece []]) := by
    rw [List.append_assoc]
    exact rangePieces_tail_ok ivar a b hiv _ (wellSpaced_spaceLed _ (modsPieces_spaceLed rev off lim))
  rw [hsrc, parseSource_pieces _ [] hws]
  -- in each of the eight cases: the tokens of the lexemes, then the grammar on them
  cases rev <;> cases off <;> cases lim <;>
    simp only [rangePieces, modsPieces, List.map_cons, List.map_nil, Piece.lexeme, List.cons_append, List.nil_append,
      List.append_nil, lexemeToks, mkTok_intDec, ha, hb, hoff, hlim, Bool.false_eq_true, if_false, if_true] <;>
    simp only [mkTok, consTok, parseOfLex] <;>
    rfl

/-- **the arguments `i in (a..b)` of a `for` tag**: the loop variable, the range of the two literals, no modifiers -/
theorem parse_rangeArgs (ivar : Bytes) (a b : Int) (hiv : Lexeme .rIdent ivar)
    (ha : IntKind.i64.inRange a = true) (hb : IntKind.i64.inRange b = true) :
    parseStatement kwLoop (rangeArgs ivar a b) = .ok (.loop ivar (.range (.lit (.int .int a)) (.lit (.int .int b))) {}) := by
  have h := parse_rangeArgs_mods ivar a b false none none hiv ha hb (fun _ h => by cases h) (fun _ h => by cases h)
  rwa [show modsText false none none = [] from rfl, List.append_nil] at h

def decOf : GoVal → Bytes
  | .int _ n => intDec n
  | _ => []

theorem stdOut_int (n : Int) : stdOut.chunks (.int .int n) = .ok [intDec n] := by
  simp [stdOut, stdChunks, GoVal.toLiquid, writeChunksL, writeObjectL, sprint, Res.bind]

/-- an object whose value prints as the chunks `cs`, alone in a block body that starts with nothing pending: the output is the chunks
    (none at all included), and nothing is pending afterwards -/
theorem blockBody_obj_clear (c : RCtx) (l : Nat) (e : Expr) (env : Env) (v : GoVal) (cs : List Bytes)
    (hv : evaluate c.P env e = .ok v) (hs : (v.isNil && c.cfg.strict) = false) (hcs : c.O.chunks v = .ok cs) :
    (renderBlockBody c [.obj l e] ⟨env, ⟨[], false⟩⟩).runPure = (cs.flatten, .ok (.done, ⟨env, ⟨[], false⟩⟩)) := by
  have hnode : (renderNode c (.obj l e) ⟨env, ⟨[], false⟩⟩).runPure = (cs.flatten, .ok (.done, ⟨env, ⟨[], false⟩⟩)) := by
    simp only [renderNode, wrapFailAt, M.mapFail, bind, M.bind, M.getEnv, Prog.bind, hv, M.ofRes, pure, M.pure, hs,
      Bool.false_eq_true, if_false, hcs]
    rw [Prog.runPure_mapFail, Prog.runPure_bind, writeAll_runPure_clear]
    simp [Prog.runPure]
  simp only [renderBlockBody, renderList_cons_apply, bind, M.bind, Prog.runPure_bind, hnode, renderList, pure, M.pure, Prog.runPure,
    final_flush_clear, List.append_nil]

/-- the loop fold of `for_denotation` (`iterStep`, Proofs/C11.lean) on a body that, started with nothing pending, prints `f` of its
    item and leaves nothing pending: each step appends `f` of its item to the output -/
theorem fold_prints (i : Bytes) (body : M Status) (n : Nat) (f : GoVal → Bytes) : ∀ (xs : List GoVal),
    (∀ x ∈ xs, ∀ env idx cyc, ∃ env', (body (iterStart i ⟨env, ⟨[], false⟩⟩ x idx n cyc)).runPure =
      (f x, .ok (.done, ⟨env', ⟨[], false⟩⟩))) →
    ∀ (pre : Bytes) (idx : Nat) (cyc : List (GoVal × GoVal)) (env : Env),
    ∃ cyc' env', xs.foldl (iterStep i none body n) ⟨pre, idx, cyc, .running ⟨env, ⟨[], false⟩⟩⟩ =
      ⟨pre ++ (xs.map f).flatten, idx + xs.length, cyc', .running ⟨env', ⟨[], false⟩⟩⟩
  | [], _, pre, idx, cyc, env => ⟨cyc, env, by simp⟩
  | x :: xs, h, pre, idx, cyc, env => by
    obtain ⟨env1, hbody⟩ := h x (List.mem_cons_self ..) env idx cyc
    have hstep : iterStep i none body n ⟨pre, idx, cyc, .running ⟨env, ⟨[], false⟩⟩⟩ x =
        ⟨pre ++ f x, idx + 1, nextCyc cyc ⟨env1, ⟨[], false⟩⟩, .running ⟨env1, ⟨[], false⟩⟩⟩ := by
      simp only [iterStep]
      rw [iterBody_for, hbody]
    obtain ⟨cyc', env', hfold⟩ := fold_prints i body n f xs (fun y hy => h y (List.mem_cons_of_mem _ hy)) (pre ++ f x) (idx + 1) _ env1
    refine ⟨cyc', env', ?_⟩
    rw [List.foldl_cons, hstep, hfold]
    simp [List.append_assoc, Nat.add_assoc, Nat.add_comm 1]

/-- **a `for` loop whose body prints `f` of its item**, as a whole template: the concatenation of `f` over the selected items -/
theorem runRoot_for_prints (P : Prims) (O : OutPrims) (cfg : Cfg) (fs : FS) (fuel : Nat) (line : Nat) (i : Bytes) (e : Expr)
    (mods : LoopMods) (body : List Node) (env : Env) (v : GoVal) (xs : List GoVal) (off lim : Option Int) (f : GoVal → Bytes)
    (hv : evaluate P env e = .ok v) (hitems : loopItems cfg.budget v = .ok xs)
    (hoff : intModifier P mods.offset ⟨line, true⟩ ⟨env, {}⟩ = .ret (off, ⟨env, {}⟩))
    (hlim : intModifier P mods.limit ⟨line, true⟩ ⟨env, {}⟩ = .ret (lim, ⟨env, {}⟩))
    (hbody : ∀ x ∈ selectItems mods.reversed off lim xs, ∀ n env' idx cyc, ∃ env'',
      (renderBlockBody (mkCtx P O cfg fs fuel) body (iterStart i ⟨env', ⟨[], false⟩⟩ x idx n cyc)).runPure =
        (f x, .ok (.done, ⟨env'', ⟨[], false⟩⟩))) :
    runRoot P O cfg fs fuel [.loop line false i e mods body []] env = .ok ((selectItems mods.reversed off lim xs).map f).flatten := by
  obtain ⟨cyc', env', hfold⟩ := fold_prints i (renderBlockBody (mkCtx P O cfg fs fuel) body)
    (selectItems mods.reversed off lim xs).length f _ (fun x hx => hbody x hx _) [] 0 [] env
  have hrun : (renderNode (mkCtx P O cfg fs fuel) (.loop line false i e mods body []) ⟨env, {}⟩).runPure =
      (((selectItems mods.reversed off lim xs).map f).flatten, .ok (.done, restoreFrom i ⟨env, {}⟩ ⟨env', ⟨[], false⟩⟩)) := by
    rw [for_denotation (mkCtx P O cfg fs fuel) line i e mods body [] ⟨env, {}⟩ v xs off lim (by simp) hv hitems hoff hlim]
    have hst : LoopAcc.start (⟨env, {}⟩ : RS) = ⟨[], 0, [], .running ⟨env, ⟨[], false⟩⟩⟩ := rfl
    cases hsel : selectItems mods.reversed off lim xs with
    | nil =>
      rw [hsel] at hfold
      simp only [hst, loopResult]
      simp only [List.foldl_nil, List.map_nil, List.flatten_nil] at hfold ⊢
      simp only [LoopAcc.mk.injEq, LoopSt.running.injEq, RS.mk.injEq] at hfold
      obtain ⟨-, -, -, rfl, -⟩ := hfold
      rfl
    | cons x xs =>
      rw [hsel] at hfold
      simp only [hst, hfold, loopResult, List.nil_append]
  unfold runRoot
  rw [frender_single, Prog.runPure_bind, hrun]
  simp [restoreFrom, wrapFailAt, M.mapFail, flushM, Prog.mapFail, Prog.bind, Prog.runPure]
