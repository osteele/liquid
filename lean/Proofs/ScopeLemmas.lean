import Proofs.PostLemmas
import Proofs.RenderLogic
import Proofs.RenderTreeDefs
import Proofs.TraceLemmas
import Proofs.LoopLemmas
/-!
# Which variables a fragment can change (helper definitions and lemmas for C12)

A condition `I` on the variables that does not look at the variables a fragment assigns still holds when the
fragment returns (`presM_core`: `PresM I` is preserved by every operation of the renderer). For the condition
"`y` has the value `v`" this also holds of a loop over `y`, which restores it (`presGet_closed`), and gives the
frame theorem `keeps_renderNode`: `writesNode` is sound, every other variable has its old value whenever the
fragment returns. `Hoare` is partial correctness (over `AllRet`); `hoare_loopIterate_cons`: `I` before the first iteration, `J` after every one.
-/

theorem writesList_append (a b : List Node) : writesList (a ++ b) = writesList a ++ writesList b := by
  induction a with
  | nil => simp [writesList]
  | cons n ns ih => simp [writesList, ih, List.append_assoc]

def SameState {α} (m : M α) : Prop := ∀ s, AllRet (fun r : α × RS => r.2 = s) (m s)

def KeepsM {α} (y : Bytes) (m : M α) : Prop := ∀ s, AllRet (fun r : α × RS => r.2.env.get y = s.env.get y) (m s)

def Hoare {α} (I : Env → Prop) (m : M α) (J : Env → Prop) : Prop :=
  ∀ s, I s.env → AllRet (fun r : α × RS => J r.2.env) (m s)

abbrev PresM {α} (I : Env → Prop) (m : M α) : Prop := Hoare I m I

theorem hoare_bind {α β} {I K J : Env → Prop} {m : M α} {f : α → M β} (hm : Hoare I m K) (hf : ∀ a, Hoare K (f a) J) :
    Hoare I (m >>= f) J :=
  fun s hs => AllRet.bind (hm s hs) (fun ⟨a, s1⟩ h1 => hf a s1 h1)

theorem sameState_getVar (x : Bytes) : SameState (M.getVar x) := fun _ => .ret _ rfl

theorem sameState_closed : EvalClosed SameState (fun _ => True) where
  pure _ := .ret _ rfl
  bind := fun hm hf s => AllRet.bind (hm s) fun ⟨a, s1⟩ h1 => (hf a s1).mono fun _ hr => hr.trans h1
  fail _ _ := .fail _
  plain _ := trivial
  getEnv _ := .ret _ rfl
  getVar := sameState_getVar _
  panic _ _ := .panic _
  unmodelled _ := .unmodelled _
  wrapFailAt hm s := (hm s).mapFail _

theorem presM_op (I : Env → Prop) (op : WOp) : PresM I (opM op) := by
  intro s hs
  unfold opM
  split
  · exact .ret _ hs
  · exact .call _ _ fun r => by cases r <;> first | exact .ret _ hs | exact .fail _

theorem presM_capture {α} {I : Env → Prop} {m : M α} (hm : PresM I m) : PresM I (captureM m) := by
  intro s hs
  rw [captureM_eq]
  rcases h : (m { env := s.env, tw := {} }).runPure with ⟨out, ⟨a, s1⟩ | e | w | w⟩
  · exact .ret _ ((hm { env := s.env, tw := {} } hs).pureRet _ (Prog.pureRet_of_runPure _ _ _ h))
  · exact .fail _
  · exact .panic _
  · exact .unmodelled _

theorem presM_core (I : Env → Prop) : RenderCore (fun x => ∀ env w, I (env.set x w) ↔ I env) (PresM I) (fun _ => True) where
  pure _ hs := .ret _ hs
  bind := hoare_bind
  fail _ _ _ := .fail _
  plain _ := trivial
  getEnv _ hs := .ret _ hs
  getVar _ hs := .ret _ hs
  panic _ _ _ := .panic _
  unmodelled _ _ := .unmodelled _
  wrapFailAt hm s hs := (hm s hs).mapFail _
  setVar hx s hs := .ret _ ((hx s.env _).mpr hs)
  op := presM_op I
  capture := presM_capture
  loopItems _ _ := trivial
  parseArgs _ := trivial

theorem SameState.bind_allRet {α β} {m : M α} (hm : SameState m) {f : α → M β} {R : β × RS → Prop} {s : RS}
    (hf : ∀ a, AllRet R (f a s)) : AllRet R ((m >>= f) s) :=
  AllRet.bind (hm s) fun ⟨a, s1⟩ h1 => by
    subst h1
    exact hf a

theorem loopIterate_restores (P : Prims) (loc : Loc) (tr : Bool) (var : Bytes) (colsE : Option Expr) (bodyM : M Status)
    (items : List GoVal) (s : RS) :
    AllRet (fun r : Status × RS =>
        r.2.env.get var = s.env.get var ∧ r.2.env.get nmForloop = s.env.get nmForloop)
      (loopIterate P loc tr var colsE bodyM items s) := by
  unfold loopIterate
  -- the head changes nothing, the iterations may do anything, the restore writes back what was read at the start
  refine (sameState_closed.tablerowCols (fun _ _ => trivial) trivial).bind_allRet fun cols => ?_
  simp only [bind, M.bind, M.getVar, Prog.bind]
  refine AllRet.bind (AllRet.trivial _) (fun ⟨st, s2⟩ _ => ?_)
  simp only [restoreLoopVars, bind, M.bind, M.setVar, Prog.bind, pure, M.pure]
  refine .ret _ ⟨?_, ?_⟩
  · exact Env.get_set_same _ _ _
  · by_cases hv : var = nmForloop
    · subst hv; rw [Env.get_set_same]
    · rw [Env.get_set_other _ _ _ _ (Ne.symm hv), Env.get_set_same]

theorem presGet_core (y : Bytes) (v : GoVal) : RenderCore (fun x => y ≠ x) (PresM fun env => env.get y = v) (fun _ => True) :=
  (presM_core _).restrict fun x hx env w => by rw [Env.get_set_other env x y w hx]

theorem presGet_closed (y : Bytes) (v : GoVal) : RenderClosed (fun x => y ≠ x) (PresM fun env => env.get y = v) (fun _ => True) :=
  { presGet_core y v with
    loop := @fun P loc tr var colsE bodyM items hE hb s hs => by
      by_cases h1 : y = var
      · exact (loopIterate_restores P loc tr var colsE bodyM items s).mono fun r hr => h1 ▸ hr.1.trans (h1 ▸ hs)
      by_cases h2 : y = nmForloop
      · exact (loopIterate_restores P loc tr var colsE bodyM items s).mono fun r hr => h2 ▸ hr.2.trans (h2 ▸ hs)
      exact (presGet_core y v).loopIterate h1 h2 hE (hb h1 h2) s hs }

theorem presM_ctx (I : Env → Prop) (c : RCtx) : CtxClosed (PresM I) (fun _ => True) c where
  evaluate _ _ := trivial
  equalFn _ _ := trivial
  chunks _ := trivial
  inc _ _ _ _ hs := AllRet.bind (AllRet.trivial _) fun _ _ => .ret _ hs

theorem keeps_renderNode (c : RCtx) (y : Bytes) (n : Node) (h : y ∉ writesNode n) : KeepsM y (renderNode c n) :=
  fun s => (presGet_closed y _).renderNode (presM_ctx _ c) n (List.forall_mem_ne.mpr h) s rfl
theorem keeps_renderList (c : RCtx) (y : Bytes) (ns : List Node) (h : y ∉ writesList ns) : KeepsM y (renderList c ns) :=
  fun s => (presGet_closed y _).renderList (presM_ctx _ c) ns (List.forall_mem_ne.mpr h) s rfl
theorem keeps_renderBranches (c : RCtx) (y : Bytes) :
    ∀ bs : List (CondT × List Node), y ∉ writesBranches bs → KeepsM y (renderBranches c bs) :=
  fun bs h s => (presGet_closed y _).renderBranches (presM_ctx _ c) bs (List.forall_mem_ne.mpr h) s rfl
theorem keeps_renderCases (c : RCtx) (y : Bytes) (sel : GoVal) :
    ∀ cs : List (Option (Nat × List Expr) × List Node), y ∉ writesCases cs → KeepsM y (renderCases c sel cs) :=
  fun cs h s => (presGet_closed y _).renderCases (presM_ctx _ c) sel cs (List.forall_mem_ne.mpr h) s rfl
theorem keeps_renderBlockBody (c : RCtx) (y : Bytes) (body : List Node) (h : y ∉ writesList body) :
    KeepsM y (renderBlockBody c body) :=
  fun s => (presGet_closed y _).renderBlockBody (presM_ctx _ c) body (List.forall_mem_ne.mpr h) s rfl

/-- a condition on the variables a fragment ends with, per kind of ending -/
abbrev EnvQ (Q : SK → Env → Prop) : Status × RS → Prop := fun r => Q r.1.kind r.2.env

theorem AllRet.wrapAt {Q : SK → Env → Prop} {path : Bytes} {loc : Loc} {m : M Status} {s : RS}
    (h : AllRet (EnvQ Q) (m s)) : AllRet (EnvQ Q) (wrapAt path loc m s) := by
  unfold _root_.wrapAt
  refine AllRet.bind (AllRet.mapFail _ h) (fun ⟨st, s'⟩ hr => .ret _ ?_)
  simp only [EnvQ, Status.kind_wrap]
  exact hr

/-- a loop node with at most one `else` clause, reduced to what it does after its head (collection, items, offset, limit) has
    been evaluated — which changes nothing: for every possible item list `items`, the dispatch on
    it from the same state -/
theorem loopRun_envQ {budget : Int} (P : Prims) (path : Bytes) (loc : Loc) (tr : Bool) (var : Bytes) (e : Expr) (mods : LoopMods)
    (bodyM : M Status) (elseM : Option (M Status)) (s : RS) (Q : SK → Env → Prop)
    (h : ∀ items, AllRet (EnvQ Q) (loopDispatch P loc tr var mods.cols bodyM elseM items s)) :
    AllRet (EnvQ Q) (loopRun budget P path loc tr var e mods bodyM false elseM s) := by
  rw [loopRun_header]
  exact AllRet.wrapAt <| (sameState_closed.loopHeader (fun _ _ => trivial) (fun _ => trivial) trivial).bind_allRet h

theorem loopIterate_envQ {P : Prims} {loc : Loc} {tr : Bool} {var : Bytes} {colsE : Option Expr} {bodyM : M Status}
    {items : List GoVal} {s : RS} {J : Env → Prop} {Q : SK → Env → Prop}
    (h : AllRet (fun r : Status × RS => J r.2.env) (loopIterate P loc tr var colsE bodyM items s))
    (hQ : ∀ env, J env → Q .done env) : AllRet (EnvQ Q) (loopIterate P loc tr var colsE bodyM items s) := by
  refine (h.and (loopIterate_done P loc tr var colsE bodyM items s)).mono fun r hr => ?_
  obtain ⟨st, s'⟩ := r
  obtain ⟨hj, rfl⟩ := hr
  exact hQ _ hj

theorem hoare_loopIterate_cons (I J : Env → Prop) (P : Prims) (loc : Loc) (tr : Bool) (var : Bytes) (colsE : Option Expr)
    (bodyM : M Status)
    (hI : ∀ env y w, (y = var ∨ y = nmForloop) → (I (env.set y w) ↔ I env))
    (hJ : ∀ env y w, (y = var ∨ y = nmForloop) → (J (env.set y w) ↔ J env))
    (hfirst : Hoare I bodyM J) (hnext : Hoare J bodyM J) (x : GoVal) (xs : List GoVal) :
    Hoare I (loopIterate P loc tr var colsE bodyM (x :: xs)) J := by
  have LI := presM_core I
  have LJ := presM_core J
  have hI (y) (hy : y = var ∨ y = nmForloop) : ∀ env w, I (env.set y w) ↔ I env := fun env w => hI env y w hy
  have hJ (y) (hy : y = var ∨ y = nmForloop) : ∀ env w, J (env.set y w) ↔ J env := fun env w => hJ env y w hy
  unfold loopIterate restoreLoopVars
  refine hoare_bind (LI.tablerowCols (fun _ _ => trivial) trivial) fun cols => hoare_bind LI.getVar fun pl =>
    hoare_bind LI.getVar fun pv => hoare_bind ?_ fun st =>
    hoare_bind (LJ.bind (LJ.setVar (hJ _ (.inr rfl))) fun _ => LJ.setVar (hJ _ (.inl rfl))) fun _ => LJ.pure
  rw [iterateM_cons_pre]
  refine hoare_bind (LI.iterPre (fun _ => LI.setVar (hI _ (.inl rfl))) (fun _ => LI.setVar (hI _ (.inr rfl))) cols _ x 0 []) fun _ =>
    hoare_bind hfirst fun st => hoare_bind (LJ.iterPost LJ.getVar cols _ 0) fun cur => ?_
  cases st with
  | brk e => exact LJ.pure
  | _ => exact LJ.iterate (hJ _ (.inl rfl)) (hJ _ (.inr rfl)) cols hnext _ _ _ _
