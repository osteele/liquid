import Proofs.SrcClauses
import Proofs.C12
/-!
# Source-level helpers: the compiled nodes of `capture`, `assign`, `include`, `for`; a root that begins with an `assign`
-/

def nmEndcapture : Bytes := endPrefix ++ nmCapture
def nmEndfor : Bytes := endPrefix ++ nmFor

namespace CompilesTo
variable {d : Delims} {l : Nat}

theorem assign {args x : Bytes} {ex : Expr} (w : Ws) (hp : parseStatement kwAssign args = .ok (.assign x ex)) :
    CompilesTo d [tg nmAssign args w] l [.assign l x ex] := by
  unfold CompilesTo
  rw [tokensOf_tg, tokensOf_nil, compileTokens_plain (tgTok d nmAssign args w l) rfl (by decide +kernel : stdGrammar.known nmAssign = false)]
  have hn : (tgTok d nmAssign args w l).name = nmAssign := rfl
  have ha : (tgTok d nmAssign args w l).args = args := rfl
  simp only [compileNode, hn, ha, beq_self_eq_true, if_true, hp, liftParse, bind, Res.bind]
  rfl

theorem incl (args : Bytes) (w : Ws) : CompilesTo d [tg nmInclude args w] l [.incl l args] := by
  unfold CompilesTo
  rw [tokensOf_tg, tokensOf_nil, compileTokens_plain (tgTok d nmInclude args w l) rfl (by decide +kernel : stdGrammar.known nmInclude = false)]
  have hn : (tgTok d nmInclude args w l).name = nmInclude := rfl
  simp only [compileNode, hn]
  rfl

/-- `{% capture v %}F{% endcapture %}R` -/
theorem capture {v : Bytes} {w1 w2 : Ws} {F R : List Item} {nF nR : List Node}
    (hF : CompilesTo d F (l + countNL ((tg nmCapture v w1).spell d)) nF)
    (hR : CompilesTo d R (l + countNL (spell d (tg nmCapture v w1 :: (F ++ [tg nmEndcapture [] w2])))) nR) :
    CompilesTo d (tg nmCapture v w1 :: (F ++ tg nmEndcapture [] w2 :: R)) l (.capture l v nF :: nR) := by
  have hblk : CompilesTo d (blockSrcK [] nmCapture v w1 F [] w2) l [.capture l v nF] :=
    (blockK_compile d [] nmCapture v w1 F [] w2 l (by decide +kernel) (by decide +kernel) (by decide +kernel) hF nofun nofun).trans
      (by simp only [compileBlock, tgTok]; rfl)
  have := hblk.append hR
  simp only [blockSrcK, clauseItemsK, List.cons_append, List.append_assoc, List.nil_append] at this
  exact this

/-- `{% for args %}F{% endfor %}` -/
theorem loop {args x : Bytes} {ex : Expr} {m : LoopMods} {w1 w2 : Ws} {F : List Item} {nF : List Node}
    (hp : parseStatement kwLoop args = .ok (.loop x ex m))
    (hF : CompilesTo d F (l + countNL ((tg nmFor args w1).spell d)) nF) :
    CompilesTo d (tg nmFor args w1 :: (F ++ [tg nmEndfor [] w2])) l [.loop l false x ex m nF []] :=
  (blockK_compile d [] nmFor args w1 F [] w2 l (by decide +kernel) (by decide +kernel) (by decide +kernel) hF nofun nofun).trans
    (by simp only [compileBlock, tgTok, hp, liftParse, bind, Res.bind]; rfl)

end CompilesTo

theorem runRoot_assign (P : Prims) (O : OutPrims) (cfg : Cfg) (fs : FS) (fuel : Nat) (line : Nat) (x : Bytes) (ex : Expr)
    (rest : List Node) (env : Env) (v : GoVal) (hv : evaluate P env ex = .ok v) :
    runRoot P O cfg fs fuel (.assign line x ex :: rest) env = runRoot P O cfg fs fuel rest (env.set x v) := by
  unfold runRoot frender renderRoot
  rw [assign_seq (mkCtx P O cfg fs fuel) line x ex rest ⟨env, {}⟩ v hv]

theorem runRoot_assign_err (P : Prims) (O : OutPrims) (cfg : Cfg) (fs : FS) (fuel : Nat) (line : Nat) (x : Bytes) (ex : Expr)
    (rest : List Node) (env : Env) (c : Cause) (hv : evaluate P env ex = .err c) :
    runRoot P O cfg fs fuel (.assign line x ex :: rest) env = .err ⟨line, true, c, .byCause⟩ := by
  unfold runRoot frender renderRoot
  rw [assign_err (mkCtx P O cfg fs fuel) line x ex rest ⟨env, {}⟩ c hv]
  rfl
