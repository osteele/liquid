import Proofs.E2EScan
import Proofs.E2ECompile
/-!
# Two spellings of one template: the token lists agree up to the source text of tags and objects

Also the vocabulary of items that the later files use: the located token of an item (`Item.mainTok`, `Item.tokens_eq`), its hyphen
flags, `RawClosed`, and `tokensOf` / `srcs` / the raw-block scans (`tokensOf_rawScan`, `rawSafe_tokensOf`) on an item list.
-/

theorem countNL_delim {l : Bytes} (h : ∀ b ∈ l, delimByte b = true) : countNL l = 0 := by
  unfold countNL
  rw [List.count_eq_zero]
  intro hm
  have := h 10 hm
  revert this; decide

/-- the newlines of an item's spelling do not depend on the delimiters -/
def Item.nl : Item → Nat
  | .text s => countNL s
  | .obj args hl hr wl wr => countNL (hyB hl ++ (wl ++ (args ++ (wr ++ hyB hr))))
  | .tag name args hl hr wl wm wr => countNL (hyB hl ++ (wl ++ (name ++ (tagArgPart args wm ++ (wr ++ hyB hr)))))

theorem Item.spell_nl (d : Delims) (hg : GoodDelims d) (it : Item) : countNL (it.spell d) = it.nl := by
  obtain ⟨_, _, _, _, h1, h2, h3, h4, _, _⟩ := hg
  cases it with
  | text s => rfl
  | obj args hl hr wl wr =>
    simp only [Item.spell, Item.nl, countNL_append, countNL_delim h1, countNL_delim h2, Nat.zero_add, Nat.add_zero]
  | tag name args hl hr wl wm wr =>
    simp only [Item.spell, Item.nl, countNL_append, countNL_delim h3, countNL_delim h4, Nat.zero_add, Nat.add_zero]

def Item.mainTok (d : Delims) (line : Nat) : Item → Token
  | .text s => { ty := .text, line := line, source := s }
  | .obj args hl hr wl wr => { ty := .obj, line := line, args := args, source := (Item.obj args hl hr wl wr).spell d }
  | .tag name args hl hr wl wm wr =>
    { ty := .tag, line := line, name := name, args := args, source := (Item.tag name args hl hr wl wm wr).spell d }

def Item.hl : Item → Bool
  | .text _ => false
  | .obj _ hl _ _ _ => hl
  | .tag _ _ hl _ _ _ _ => hl

def Item.hr : Item → Bool
  | .text _ => false
  | .obj _ _ hr _ _ => hr
  | .tag _ _ _ hr _ _ _ => hr

theorem Item.tokens_eq (d : Delims) (line : Nat) (it : Item) :
    it.tokens d line = trimmed it.hl it.hr (it.mainTok d line) := by
  cases it <;> rfl

theorem Item.mainTok_source (d : Delims) (line : Nat) (it : Item) : (it.mainTok d line).source = it.spell d := by
  cases it <;> rfl

theorem Item.tokens_mem (d : Delims) (line : Nat) (it : Item) (t : Token) (h : t ∈ it.tokens d line) :
    t = { ty := .trimL } ∨ t = { ty := .trimR } ∨ t = it.mainTok d line :=
  mem_trimmed (Item.tokens_eq d line it ▸ h)

theorem Item.tokens_srcs (d : Delims) (line : Nat) (it : Item) : srcs (it.tokens d line) = it.spell d := by
  rw [Item.tokens_eq, srcs_trimmed, Item.mainTok_source]

theorem Item.tokens_unsrc (d d' : Delims) (line : Nat) (it : Item) :
    (it.tokens d line).map unsrc = (it.tokens d' line).map unsrc := by
  simp only [Item.tokens_eq, trimmed, List.map_append, List.map_cons,
    show unsrc (it.mainTok d line) = unsrc (it.mainTok d' line) by cases it <;> rfl]

theorem tokensOf_unsrc (d d' : Delims) (hg : GoodDelims d) (hg' : GoodDelims d') (items : List Item) (line : Nat) :
    (tokensOf d items line).map unsrc = (tokensOf d' items line).map unsrc := by
  induction items generalizing line with
  | nil => rfl
  | cons it r ih =>
    rw [tokensOf, tokensOf, List.map_append, List.map_append, Item.spell_nl d hg, Item.spell_nl d' hg',
      Item.tokens_unsrc d d' line it, ih]

def Item.isTagNamed (n : Bytes) : Item → Bool
  | .tag name _ _ _ _ _ _ => name == n
  | _ => false

/-- every tag named `raw` is followed — at once, or after ONE text item (the body) — by a tag named `endraw` -/
def rawClosed : List Item → Bool
  | [] => true
  | it :: r =>
    if it.isTagNamed rawName then
      match r with
      | [] => false
      | e :: r' =>
        if e.isTagNamed endrawName then rawClosed r'
        else match e, r' with
          | .text _, e' :: r'' => e'.isTagNamed endrawName && rawClosed r''
          | _, _ => false
    else rawClosed r

def RawClosed (items : List Item) : Prop := rawClosed items = true

instance (items : List Item) : Decidable (RawClosed items) := by unfold RawClosed; infer_instance

/-- what `p` has to say of the two trim markers an item can put INSIDE a raw block: the one after a tag named `raw`, the one
    before a tag named `endraw` -/
def Item.innerTrims (p : Token → Bool) (it : Item) : Prop :=
  (it.isTagNamed rawName = true → it.hr = true → p { ty := .trimR } = true) ∧
  (it.isTagNamed endrawName = true → it.hl = true → p { ty := .trimL } = true)

section rawScan
variable (p : Token → Bool)

theorem rawScan_optTrim (b c : Bool) (ty : TokTy) (h : ty = .trimL ∨ ty = .trimR)
    (hp : b = true → c = true → p { ty := ty } = true) (ts : List Token) :
    rawScan p b ((if c then [({ ty := ty } : Token)] else []) ++ ts) = rawScan p b ts := by
  cases c with
  | false => rfl
  | true =>
    cases b with
    | false => rcases h with rfl | rfl <;> rfl
    | true => rcases h with rfl | rfl <;> exact (congrArg (· && _) (hp rfl rfl)).trans (Bool.true_and _)

theorem rawScan_item_false (d : Delims) (l : Nat) (it : Item) (hp : it.innerTrims p) (ts : List Token) :
    rawScan p false (it.tokens d l ++ ts) = rawScan p (it.isTagNamed rawName) ts := by
  rw [Item.tokens_eq, trimmed, List.append_assoc, List.append_assoc, rawScan_optTrim p false _ _ (.inl rfl) nofun,
    List.singleton_append]
  show rawScan p (rawNext false (it.mainTok d l)) _ = _
  rw [show rawNext false (it.mainTok d l) = it.isTagNamed rawName by cases it <;> rfl, rawScan_optTrim p _ _ _ (.inr rfl) hp.1]

theorem rawScan_endraw_true (d : Delims) (l : Nat) (it : Item) (h : it.isTagNamed endrawName = true) (hp : it.innerTrims p)
    (ts : List Token) : rawScan p true (it.tokens d l ++ ts) = rawScan p false ts := by
  have he : isEndRaw (it.mainTok d l) = true := by
    cases it with
    | tag name args hl hr wl wm wr => exact h
    | text s => cases h
    | obj args hl hr wl wr => cases h
  rw [Item.tokens_eq, trimmed, List.append_assoc, List.append_assoc, rawScan_optTrim p _ _ _ (.inl rfl) (fun _ => hp.2 h),
    List.singleton_append, rawScan, rawNext, if_pos rfl, he]
  exact rawScan_optTrim p false _ _ (.inr rfl) nofun ts

theorem rawScan_text_true (htext : ∀ t : Token, t.ty = .text → p t = true) (d : Delims) (l : Nat) (s : Bytes) (ts : List Token) :
    rawScan p true ((Item.text s).tokens d l ++ ts) = rawScan p true ts :=
  (congrArg (· && _) (htext _ rfl)).trans (Bool.true_and _)

/-- along the recursion of `rawClosed`: a `raw` tag with its `endraw` (and a text body) is consumed at once -/
theorem tokensOf_rawScan (htext : ∀ t : Token, t.ty = .text → p t = true) (d : Delims) (items : List Item) (line : Nat)
    (h : RawClosed items) (hp : ∀ it ∈ items, it.innerTrims p) : rawScan p false (tokensOf d items line) = true := by
  unfold RawClosed at h
  fun_induction rawClosed items generalizing line with
  | case1 => rfl
  | case2 it hraw => cases h
  | case3 it hraw e r' he ih =>
    rw [tokensOf, tokensOf, rawScan_item_false p d _ it (hp it (by simp)), hraw, rawScan_endraw_true p d _ e he (hp e (by simp))]
    exact ih _ h fun x hx => hp x (by simp [hx])
  | case4 it hraw s e' r'' he ih =>
    rw [Bool.and_eq_true] at h
    rw [tokensOf, tokensOf, tokensOf, rawScan_item_false p d _ it (hp it (by simp)), hraw]
    rw [rawScan_text_true p htext, rawScan_endraw_true p d _ e' h.1 (hp e' (by simp))]
    exact ih _ h.2 fun x hx => hp x (by simp [hx])
  | case5 it hraw e r' he hne => cases h
  | case6 it r hraw ih =>
    rw [tokensOf, rawScan_item_false p d _ it (hp it (by simp)), Bool.eq_false_iff.mpr hraw]
    exact ih _ h fun x hx => hp x (by simp [hx])
end rawScan

theorem rawSafe_tokensOf (d : Delims) (items : List Item) (line : Nat) (h : RawClosed items) :
    rawSafe false (tokensOf d items line) = true := by
  rw [rawSafe_eq_rawScan]
  exact tokensOf_rawScan _ (fun t ht => by simp [ht]) d items line h fun _ _ => ⟨fun _ _ => rfl, fun _ _ => rfl⟩

theorem tokensOf_forall (d : Delims) (Q : Token → Prop) (hL : Q { ty := .trimL }) (hR : Q { ty := .trimR })
    (items : List Item) (line : Nat) (h : ∀ it ∈ items, ∀ l, Q (it.mainTok d l)) : ∀ t ∈ tokensOf d items line, Q t := by
  induction items generalizing line with
  | nil => nofun
  | cons it r ih =>
    obtain ⟨h1, h2⟩ := List.forall_mem_cons.mp h
    rw [tokensOf, List.forall_mem_append]
    refine ⟨fun t ht => ?_, ih _ h2⟩
    rcases Item.tokens_mem d line it t ht with rfl | rfl | rfl
    · exact hL
    · exact hR
    · exact h1 line

theorem tokensOf_srcs (d : Delims) (items : List Item) (line : Nat) : srcs (tokensOf d items line) = spell d items := by
  induction items generalizing line with
  | nil => rfl
  | cons it r ih => rw [tokensOf, srcs_append, Item.tokens_srcs, ih, spell]
