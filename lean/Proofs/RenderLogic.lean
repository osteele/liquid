import Proofs.RenderSteps
/-!
# Properties of render actions that every operation of the renderer preserves

Several properties of `renderNode c n` (no panic, a failed write ends the render, a trace of writer operations
exists, a variable keeps its value) hold for the same reason: the primitive actions have the property, `bind`
and the error wrappers preserve it, and the render tree is built from nothing else. Such a property `Q` of actions is
given as a record, in layers (`V`: the results of the value layer that `Q` admits; `W`: the variables that may be assigned):

* `EvalCore F Q V`: what only evaluates, without the error wrapper, for the failures `F` admits ("a failure is plain or located
  at this node": `ownM_core`, Proofs/TraceLemmas.lean);
* `EvalClosed Q V`: the same with `wrapFailAt`, every failure admitted (`sameState_closed`, Proofs/ScopeLemmas.lean);
* `WriterClosed Q`: what only writes (`pure`, `bind`, `opM`): verbatim writes, the chunks of a value, the cells of a `tablerow`;
  also for two actions that run the same writes (`MSim.writer`, Proofs/RenderSim.lean);
* `RenderCore W Q V`: both, with `setVar` on `W`, `captureM` and what the renderer computes of the value layer itself (`presM_core`);
* `RenderClosed W Q V`: with the loop, which may assign its own two variables whatever `W` says, since it restores them.
  `RenderCore.closed` adds the loop where every variable may be assigned (`npm_closed`, `tracedL_closed`, and `stopsM_closed` of
  Proofs/RenderStops.lean, the shortest instance); otherwise the `loop` field says why the restore saves it (`presGet_closed`).

`RenderClosed.renderNode` is the one induction over the render tree, for the nodes that assign only variables in `W`
(`writesNode`) and a context whose value layer and include handler satisfy `CtxClosed`; a further property of this kind is such a
record, and `renderNode` … `renderBlockBody` follow in a line each. A lemma of these namespaces bears the name of the model
function it is about (`L.intModifier`, `L.renderNode`), so inside them the function itself is `_root_.intModifier` ….
-/

/-! ## The variables a fragment can change

`writesNode n` lists the names a node can leave changed: the targets of `assign` and `capture`,
`forloop` for a `cycle` tag (it updates the counters inside the record bound to `forloop`), and
what the bodies of a block write — except that a loop restores its own variable and `forloop`
when it ends, so those two are not counted for the loop's body. An `include` writes nothing: it
works on a copy. -/

mutual
def writesNode : Node → List Bytes
  | .text _ _ => []
  | .obj _ _ => []
  | .raw _ => []
  | .trim _ => []
  | .assign _ x _ => [x]
  | .capture _ x body => x :: writesList body
  | .ifB _ branches => writesBranches branches
  | .caseB _ _ cases => writesCases cases
  | .loop _ _ var _ _ body clauses =>
    (writesList body).filter (fun y => y != var && y != nmForloop) ++ writesClauses clauses
  | .cycle _ _ _ _ => [nmForloop]
  | .brk _ => []
  | .cont _ => []
  | .incl _ _ => []
def writesList : List Node → List Bytes
  | [] => []
  | n :: ns => writesNode n ++ writesList ns
def writesBranches : List (CondT × List Node) → List Bytes
  | [] => []
  | (_, body) :: rest => writesList body ++ writesBranches rest
def writesCases : List (Option (Nat × List Expr) × List Node) → List Bytes
  | [] => []
  | (_, body) :: rest => writesList body ++ writesCases rest
def writesClauses : List (List Node) → List Bytes
  | [] => []
  | body :: rest => writesList body ++ writesClauses rest
end

theorem writes_loopBody {W : Bytes → Prop} {var : Bytes} {body : List Node} {rest : List Bytes}
    (h : ∀ x ∈ (writesList body).filter (fun z => z != var && z != nmForloop) ++ rest, W x) (hv : W var) (hf : W nmForloop) :
    ∀ x ∈ writesList body, W x := by
  intro x hx
  by_cases h1 : x = var
  · exact h1 ▸ hv
  by_cases h2 : x = nmForloop
  · exact h2 ▸ hf
  exact h x (List.mem_append_left _ (List.mem_filter.mpr ⟨hx, by simp [h1, h2]⟩))

/-- what only evaluates, with the failures `F` admits (`plain`: those of the value layer are among them) -/
structure EvalCore (F : RawErr → Prop) (Q : {α : Type} → M α → Prop) (V : {α : Type} → Res Cause α → Prop) : Prop where
  pure {α} {a : α} : Q (pure a : M α)
  bind {α β} {m : M α} {f : α → M β} : Q m → (∀ a, Q (f a)) → Q (m >>= f)
  fail {α} {e : RawErr} : F e → Q (M.fail e : M α)
  plain (c : Cause) : F (.plain c)
  getEnv : Q M.getEnv
  getVar {x : Bytes} : Q (M.getVar x)
  panic {α} {w : String} : V (.panic w : Res Cause α) → Q (fun _ => .panic w : M α)
  unmodelled {α} {w : String} : Q (fun _ => .unmodelled w : M α)

structure EvalClosed (Q : {α : Type} → M α → Prop) (V : {α : Type} → Res Cause α → Prop) : Prop
    extends EvalCore (fun _ => True) Q V where
  wrapFailAt {α} {path : Bytes} {loc : Loc} {m : M α} : Q m → Q (wrapFailAt path loc m)

theorem wrapAt_eq (path : Bytes) (loc : Loc) (m : M Status) :
    wrapAt path loc m = (M.mapFail (fun e => .located (wrapError path e loc)) m >>= fun st => pure (st.wrap path loc)) := rfl

namespace EvalCore
variable {F : RawErr → Prop} {Q : {α : Type} → M α → Prop} {V : {α : Type} → Res Cause α → Prop} (L : EvalCore F Q V)
include L

theorem ofRes {α} {r : Res Cause α} (h : V r) : Q (M.ofRes r) := by
  cases r with
  | ok a => exact L.pure
  | err c => exact L.fail (L.plain c)
  | panic w => exact L.panic h
  | unmodelled w => exact L.unmodelled

section
variable {P : Prims} (hE : ∀ env e, V (evaluate P env e))
include hE

/-- `hl`: the failure of a modifier that is no integer, located at the tag, is admitted -/
theorem intModifier {e : Option Expr} {loc : Loc} (hl : F (.located (errorfAt loc .loopMod))) : Q (intModifier P e loc) := by
  unfold _root_.intModifier
  cases e with
  | none => exact L.pure
  | some ex =>
    refine L.bind L.getEnv fun env => L.bind (L.ofRes (hE env ex)) fun v => ?_
    split
    · exact L.pure
    · exact L.fail hl

theorem tablerowCols {tr : Bool} {cols : Option Expr} {loc : Loc} (hl : F (.located (errorfAt loc .loopMod))) :
    Q (tablerowCols P tr cols loc) := by
  unfold _root_.tablerowCols
  split
  · refine L.bind (L.intModifier hE hl) fun cv => ?_
    cases cv <;> exact L.pure
  · exact L.pure

/-- the head of a loop only evaluates -/
theorem loopHeader {budget : Int} (hI : ∀ v, V (loopItems budget v)) {loc : Loc} {e : Expr} {mods : LoopMods} {tooMany : Bool}
    (hl : F (.located (errorfAt loc .loopMod))) : Q (loopHeader budget P loc e mods tooMany) := by
  unfold _root_.loopHeader
  refine L.bind L.getEnv fun env => L.bind (L.ofRes (hE env e)) fun v => L.bind (L.ofRes (hI v)) fun items0 =>
    L.bind (L.intModifier hE hl) fun off => L.bind (L.intModifier hE hl) fun lim => ?_
  split
  · exact L.fail (L.plain _)
  · exact L.pure
end

theorem whenMatches {c : RCtx} (hE : ∀ env e, V (evaluate c.P env e)) (hEq : ∀ a b, V (c.P.equalFn a b)) (sel : GoVal) :
    ∀ es : List Expr, Q (whenMatches c sel es)
  | [] => by unfold _root_.whenMatches; exact L.pure
  | e :: es => by
    unfold _root_.whenMatches
    refine L.bind L.getEnv fun env => L.bind (L.ofRes (hE env e)) fun v => L.bind (L.ofRes (hEq _ _)) fun eq => ?_
    split
    · exact L.pure
    · exact whenMatches hE hEq sel es

end EvalCore

namespace EvalClosed
variable {Q : {α : Type} → M α → Prop} {V : {α : Type} → Res Cause α → Prop} (L : EvalClosed Q V)
include L

theorem wrapAt {path : Bytes} {loc : Loc} {m : M Status} (h : Q m) : Q (wrapAt path loc m) := by
  rw [wrapAt_eq]
  exact L.bind (L.wrapFailAt h) fun _ => L.pure

theorem evalCond {P : Prims} (hE : ∀ env e, V (evaluate P env e)) {path : Bytes} {t : CondT} : Q (evalCond P path t) := by
  unfold _root_.evalCond
  refine L.bind L.getEnv fun env => ?_
  cases t with
  | always => exact L.pure
  | expr line e => exact L.wrapFailAt (L.bind (L.ofRes (hE env e)) fun _ => L.pure)
  | notExpr line e => exact L.wrapFailAt (L.bind (L.ofRes (hE env e)) fun _ => L.pure)

end EvalClosed

def ioK {α} (a : α) : WriteRes → Prog α
  | .ok => .ret a
  | .failed _ => .fail (.plain .io)

/-- perform one operation of the trim writer (`TW.step`): the write it issues, if any, is a call on the caller's writer. The four
    writer primitives of the render monad are `opM` of the four operations (`flushM_eq` …), so a property of render actions needs one
    lemma about `opM`. -/
def opM (op : WOp) : M Unit := fun s =>
  match (s.tw.step op).2 with
  | [] => .ret ((), { s with tw := (s.tw.step op).1 })
  | b :: _ => .call b (ioK ((), { s with tw := (s.tw.step op).1 }))

theorem ioK_eq {α} (a : α) : (fun r => match r with | .ok => Prog.ret a | .failed _ => .fail (.plain .io)) = ioK a := by
  funext r; cases r <;> rfl

theorem flushM_eq : flushM = opM .flush := by
  funext ⟨env, buf, trim⟩
  cases buf <;> simp [flushM, opM, TW.step]
  exact ioK_eq _

theorem writeM_eq (b : Bytes) : writeM b = opM (.write b) := by
  funext ⟨env, buf, trim⟩
  cases buf <;> simp [writeM, opM, TW.step]
  exact ioK_eq _

theorem trimLeftM_eq : trimLeftM = opM .trimLeft := by
  funext ⟨env, buf, trim⟩
  simp [trimLeftM, opM, TW.step]
  exact ioK_eq _

structure WriterClosed (Q : {α : Type} → M α → Prop) : Prop where
  pure {α} {a : α} : Q (pure a : M α)
  bind {α β} {m : M α} {f : α → M β} : Q m → (∀ a, Q (f a)) → Q (m >>= f)
  op (o : WOp) : Q (opM o)

namespace WriterClosed
variable {Q : {α : Type} → M α → Prop} (L : WriterClosed Q)
include L

theorem flush : Q flushM := flushM_eq ▸ L.op .flush
theorem write {b : Bytes} : Q (writeM b) := writeM_eq b ▸ L.op (.write b)
theorem trimLeft : Q trimLeftM := trimLeftM_eq ▸ L.op .trimLeft
theorem trimRight : Q trimRightM := L.op .trimRight

theorem writeVerbatim {b : Bytes} : Q (writeVerbatimM b) :=
  L.bind L.write fun _ => L.bind L.write fun _ => L.flush

theorem writeAll : ∀ cs, Q (writeAllM cs)
  | [] => L.pure
  | _ :: cs => L.bind L.writeVerbatim fun _ => writeAll cs

theorem tablerowBefore (cols i : Nat) : Q (tablerowBefore cols i) := by
  unfold _root_.tablerowBefore
  dsimp only
  split
  · exact L.bind L.write fun _ => L.write
  · exact L.bind L.pure fun _ => L.write

theorem tablerowAfter (cols i l : Nat) : Q (tablerowAfter cols i l) := by
  unfold _root_.tablerowAfter
  refine L.bind L.write fun _ => ?_
  split
  · exact L.write
  · exact L.pure

/-- the two halves of an iteration around its body (`iterateM_cons_pre`), in a logic that admits the reads and writes of the
    loop's two variables -/
theorem iterPre {var : Bytes} (hv : ∀ v, Q (M.setVar var v)) (hf : ∀ v, Q (M.setVar nmForloop v)) (cols : Option Nat) (n : Nat)
    (x : GoVal) (i : Nat) (cyc : List (GoVal × GoVal)) : Q (iterPre var cols n x i cyc) := by
  unfold _root_.iterPre
  refine L.bind (hv _) fun _ => L.bind (hf _) fun _ => ?_
  cases cols with
  | none => exact L.pure
  | some c => exact L.tablerowBefore c i

theorem iterPost (hg : Q (M.getVar nmForloop)) (cols : Option Nat) (n i : Nat) : Q (iterPost cols n i) := by
  unfold _root_.iterPost
  refine L.bind ?_ fun _ => hg
  cases cols with
  | none => exact L.pure
  | some c => exact L.tablerowAfter c i n

end WriterClosed

structure RenderCore (W : Bytes → Prop) (Q : {α : Type} → M α → Prop) (V : {α : Type} → Res Cause α → Prop) : Prop
    extends EvalClosed Q V, WriterClosed Q where
  setVar {x : Bytes} {v : GoVal} : W x → Q (M.setVar x v)
  capture {α} {m : M α} : Q m → Q (captureM m)
  /-- what the renderer computes of the value layer without going through `Prims`: the items of a loop … -/
  loopItems (budget : Int) (v : GoVal) : V (loopItems budget v)
  /-- … and the argument of an include tag -/
  parseArgs (args : Bytes) : V ((parseExprSource args).mapErr fun _ => Cause.syntax)

/-- what `RenderClosed.renderNode` asks of the value layer and of the include handler of a context -/
structure CtxClosed (Q : {α : Type} → M α → Prop) (V : {α : Type} → Res Cause α → Prop) (c : RCtx) : Prop where
  evaluate (env : Env) (e : Expr) : V (evaluate c.P env e)
  equalFn (a b : GoVal) : V (c.P.equalFn a b)
  chunks (v : GoVal) : V (c.O.chunks v)
  inc (line : Nat) (f : Bytes) (env : Env) :
    Q (fun s => (c.inc line f env).bind fun r => Prog.ret (r, s) : M (Status × Bytes))

namespace RenderCore
variable {W : Bytes → Prop} {Q : {α : Type} → M α → Prop} {V : {α : Type} → Res Cause α → Prop} (L : RenderCore W Q V)
include L

theorem restrict {W' : Bytes → Prop} (h : ∀ x, W' x → W x) : RenderCore W' Q V :=
  { L with setVar := fun hx => L.setVar (h _ hx) }

/-- the include tag assigns nothing: it holds for every `W` -/
theorem incl {c : RCtx} (hc : CtxClosed Q V c) (line : Nat) (args : Bytes) : Q (renderNode c (.incl line args)) := by
  unfold _root_.renderNode
  refine L.wrapAt (L.bind L.getEnv fun env => L.bind (L.ofRes (L.parseArgs args)) fun e =>
    L.bind (L.ofRes (hc.evaluate env e)) fun v => ?_)
  split
  · refine L.bind (hc.inc _ _ _) fun r => ?_
    obtain ⟨st, out⟩ := r
    cases st with
    | done => exact L.bind L.writeVerbatim fun _ => L.pure
    | _ => exact L.pure
  · exact L.fail trivial

section
variable {var : Bytes} (hv : W var) (hf : W nmForloop)
include hv hf

theorem iterate (cols : Option Nat) {body : M Status} (hb : Q body) (n : Nat) :
    ∀ xs i cyc, Q (iterateM var cols body n xs i cyc)
  | [], _, _ => L.pure
  | x :: xs, i, cyc => by
    rw [iterateM_cons_pre]
    refine L.bind (L.iterPre (fun _ => L.setVar hv) (fun _ => L.setVar hf) cols n x i cyc) fun _ => L.bind hb fun st =>
      L.bind (L.iterPost L.getVar cols n i) fun cur => ?_
    cases st with
    | brk e => exact L.pure
    | _ => exact iterate cols hb n xs _ _

theorem loopIterate {P : Prims} (hE : ∀ env e, V (evaluate P env e)) {loc : Loc} {tr : Bool} {colsE : Option Expr}
    {bodyM : M Status} (hb : Q bodyM) {items : List GoVal} : Q (loopIterate P loc tr var colsE bodyM items) := by
  unfold _root_.loopIterate restoreLoopVars
  exact L.bind (L.tablerowCols hE trivial) fun cols => L.bind L.getVar fun pl =>
    L.bind L.getVar fun pv => L.bind (L.iterate hv hf _ hb _ _ _ _) fun st =>
    L.bind (L.bind (L.setVar hf) fun _ => L.setVar hv) fun _ => L.pure
end

end RenderCore

structure RenderClosed (W : Bytes → Prop) (Q : {α : Type} → M α → Prop) (V : {α : Type} → Res Cause α → Prop) : Prop
    extends RenderCore W Q V where
  /-- the body of a loop may assign the loop's own two variables -/
  loop {P : Prims} {loc : Loc} {tr : Bool} {var : Bytes} {colsE : Option Expr} {bodyM : M Status} {items : List GoVal}
    (hE : ∀ env e, V (evaluate P env e)) (hb : W var → W nmForloop → Q bodyM) : Q (loopIterate P loc tr var colsE bodyM items)

/-- where every variable may be assigned the loop is like any other operation -/
theorem RenderCore.closed {W : Bytes → Prop} {Q : {α : Type} → M α → Prop} {V : {α : Type} → Res Cause α → Prop}
    (L : RenderCore W Q V) (hW : ∀ x, W x) : RenderClosed W Q V :=
  { L with loop := fun hE hb => L.loopIterate (hW _) (hW _) hE (hb (hW _) (hW _)) }

namespace RenderClosed
variable {W : Bytes → Prop} {Q : {α : Type} → M α → Prop} {V : {α : Type} → Res Cause α → Prop} (L : RenderClosed W Q V)
include L

theorem loopRun {P : Prims} (hE : ∀ env e, V (evaluate P env e)) {budget : Int} {path : Bytes} {loc : Loc}
    {tr : Bool} {var : Bytes} {e : Expr} {mods : LoopMods} {bodyM : M Status} (hb : W var → W nmForloop → Q bodyM)
    {tooMany : Bool} {elseM : Option (M Status)} (he : ∀ m, elseM = some m → Q m) :
    Q (loopRun budget P path loc tr var e mods bodyM tooMany elseM) := by
  rw [loopRun_header]
  refine L.wrapAt (L.bind (L.loopHeader hE (L.loopItems _) trivial) fun items => ?_)
  unfold loopDispatch
  split
  · next els => exact he _ rfl
  · exact L.loop hE hb

theorem blockBody {c : RCtx} {body : List Node} (h : Q (_root_.renderList c body)) : Q (_root_.renderBlockBody c body) := by
  unfold _root_.renderBlockBody
  refine L.bind h fun st => ?_
  cases st with
  | done => exact L.bind (L.wrapFailAt L.flush) fun _ => L.pure
  | _ => exact L.pure

variable {c : RCtx}

mutual
theorem renderNode (hc : CtxClosed Q V c) : ∀ n : Node, (∀ x ∈ writesNode n, W x) → Q (renderNode c n)
  | .text line src, _ => by
    unfold _root_.renderNode
    exact L.wrapFailAt (L.bind L.write fun _ => L.pure)
  | .obj line e, _ => by
    unfold _root_.renderNode
    refine L.wrapFailAt (L.bind L.getEnv fun env => L.bind (L.ofRes (hc.evaluate env e)) fun v => ?_)
    split
    · exact L.fail trivial
    · exact L.bind (L.ofRes (hc.chunks v)) fun _ => L.bind (L.writeAll _) fun _ => L.pure
  | .raw slices, _ => by
    unfold _root_.renderNode
    exact L.wrapFailAt (L.bind (L.writeAll _) fun _ => L.pure)
  | .trim true, _ => by
    unfold _root_.renderNode
    exact L.wrapFailAt (L.bind L.trimLeft fun _ => L.pure)
  | .trim false, _ => by
    unfold _root_.renderNode
    exact L.bind L.trimRight fun _ => L.pure
  | .assign line x e, hw => by
    unfold _root_.renderNode
    exact L.wrapFailAt (L.bind L.getEnv fun env => L.bind (L.ofRes (hc.evaluate env e)) fun v =>
      L.bind (L.setVar (hw x (.head _))) fun _ => L.pure)
  | .capture line x body, hw => by
    unfold _root_.renderNode
    refine L.wrapAt (L.bind (L.capture (renderList hc body (List.forall_mem_cons.mp hw).2)) fun r => ?_)
    obtain ⟨st, out⟩ := r
    cases st with
    | done => exact L.bind (L.setVar (hw x (.head _))) fun _ => L.pure
    | _ => exact L.pure
  | .ifB line branches, hw => by
    unfold _root_.renderNode
    exact L.wrapAt (renderBranches hc branches hw)
  | .caseB line subject cases, hw => by
    unfold _root_.renderNode
    exact L.wrapAt (L.bind L.getEnv fun env => L.bind (L.ofRes (hc.evaluate env subject)) fun sel =>
      renderCases hc sel cases hw)
  | .loop line tablerow var e mods body [], hw => by
    unfold _root_.renderNode
    exact L.loopRun hc.evaluate (fun hv hf => L.blockBody (renderList hc body (writes_loopBody hw hv hf)))
      (fun _ h => by cases h)
  | .loop line tablerow var e mods body [els], hw => by
    unfold _root_.renderNode
    exact L.loopRun hc.evaluate (fun hv hf => L.blockBody (renderList hc body (writes_loopBody hw hv hf)))
      (fun m hm => by
        cases hm
        exact L.blockBody (renderList hc els (List.forall_mem_append.mp (List.forall_mem_append.mp hw).2).1))
  | .loop line tablerow var e mods body (_ :: _ :: _), hw => by
    unfold _root_.renderNode
    exact L.loopRun hc.evaluate (fun hv hf => L.blockBody (renderList hc body (writes_loopBody hw hv hf)))
      (fun _ h => by cases h)
  | .cycle line group v0 rest, hw => by
    unfold _root_.renderNode
    refine L.wrapFailAt (L.bind L.getVar fun lv => ?_)
    split
    · exact L.fail trivial
    · exact L.bind (L.setVar (hw _ (.head _))) fun _ => L.bind L.writeVerbatim fun _ => L.pure
  | .brk line, _ => by unfold _root_.renderNode; exact L.pure
  | .cont line, _ => by unfold _root_.renderNode; exact L.pure
  | .incl line args, _ => L.incl hc line args
theorem renderList (hc : CtxClosed Q V c) : ∀ ns : List Node, (∀ x ∈ writesList ns, W x) → Q (renderList c ns)
  | [], _ => by unfold _root_.renderList; exact L.pure
  | n :: ns, hw => by
    have hw := List.forall_mem_append.mp hw
    unfold _root_.renderList
    refine L.bind (renderNode hc n hw.1) fun st => ?_
    cases st with
    | done => exact renderList hc ns hw.2
    | _ => exact L.pure
theorem renderBranches (hc : CtxClosed Q V c) :
    ∀ bs : List (CondT × List Node), (∀ x ∈ writesBranches bs, W x) → Q (renderBranches c bs)
  | [], _ => by unfold _root_.renderBranches; exact L.pure
  | (t, body) :: rest, hw => by
    have hw := List.forall_mem_append.mp hw
    unfold _root_.renderBranches
    refine L.bind (L.evalCond hc.evaluate) fun b => ?_
    split
    · exact L.blockBody (renderList hc body hw.1)
    · exact renderBranches hc rest hw.2
theorem renderCases (hc : CtxClosed Q V c) (sel : GoVal) :
    ∀ cs : List (Option (Nat × List Expr) × List Node), (∀ x ∈ writesCases cs, W x) → Q (renderCases c sel cs)
  | [], _ => by unfold _root_.renderCases; exact L.pure
  | (none, body) :: _, hw => by
    unfold _root_.renderCases
    exact L.blockBody (renderList hc body (List.forall_mem_append.mp hw).1)
  | (some (line, es), body) :: rest, hw => by
    have hw := List.forall_mem_append.mp hw
    unfold _root_.renderCases
    refine L.bind (L.wrapFailAt (L.whenMatches hc.evaluate hc.equalFn sel es)) fun hit => ?_
    split
    · exact L.blockBody (renderList hc body hw.1)
    · exact renderCases hc sel rest hw.2
end

theorem renderBlockBody (hc : CtxClosed Q V c) (body : List Node) (hw : ∀ x ∈ writesList body, W x) :
    Q (renderBlockBody c body) :=
  L.blockBody (L.renderList hc body hw)

end RenderClosed
