import Liquid.Conc
import Liquid.ConcFacts
import Liquid.Generated.Writes
import Proofs.ConcLemmas
/-!
# C04 — concurrent parse/render on a shared engine is race-free and equals sequential

Three parts (DESIGN 6, C04):

* `conc_race_free`, `conc_eq_sequential` (and `conc_prefix_sequential`, `conc_shared_unchanged`,
  `conc_enough_turns_finishes`): theorems about the interleaving machine of `Liquid/Conc.lean`
  for **all schedules** (induction on the schedule), under the ownership discipline "every
  write of a thread targets a location that thread allocated; no thread reads another
  thread's allocations".
* `no_shared_writes`: the static premise for the *code*, re-proved by `decide` on every run over
  the table that translator T3 regenerates from the Go source: no closure that outlives its
  creator writes a variable it captured (a compile-time variable written at render time), no
  package-level variable is written outside `init`. Reintroducing such a write makes this
  theorem fail to build.
* The `conc` correspondence stream runs the real code under the race detector for sampled
  schedules (N ∈ {2,…,32} goroutines × GOMAXPROCS ∈ {1,2,4,16}); it is sampling, labelled so.
-/

open Conc

/-- **Race freedom, all schedules.** If every write of every thread targets a location owned
by that thread, and no thread reads another thread's allocations, then no schedule produces a
trace with two conflicting accesses (different threads, same location, one a write). -/
theorem conc_race_free (ts : List Thread) (σ₀ : Store) (hw : WritesOwned ts) (hr : ReadsVisible ts) :
    ∀ sched : Schedule, ¬ HasRace (run sched σ₀ ts).trace := by
  intro sched
  have hc := confined_of ts hw hr
  exact no_race_of_inv hc (inv_run σ₀ hc sched)

/-- **Prefix form of sequential equivalence, all schedules.** At every point of every
schedule, the observations of thread `i` are those of a sequential run, alone from the initial
store, of the steps it has performed so far; and every location it can see holds what that
sequential run would have left there. -/
theorem conc_prefix_sequential (ts : List Thread) (σ₀ : Store) (hw : WritesOwned ts) (hr : ReadsVisible ts)
    (sched : Schedule) (i : Tid) (st : TState) (h : (run sched σ₀ ts).threads[i]? = some st) :
    ∃ done, ts[i]? = some (done ++ st.rest) ∧ st.out = (seqRun done σ₀ []).2 ∧
      ∀ l, Visible i l → (run sched σ₀ ts).store l = (seqRun done σ₀ []).1 l :=
  (inv_run σ₀ (confined_of ts hw hr) sched).thr i st h

/-- **Concurrent = sequential, all schedules.** Under the same hypothesis, whenever thread `i`
has finished under a schedule, its result is exactly its result when run alone. -/
theorem conc_eq_sequential (ts : List Thread) (σ₀ : Store) (hw : WritesOwned ts) (hr : ReadsVisible ts)
    (sched : Schedule) (i : Tid) (t : Thread) (ht : ts[i]? = some t)
    (hfin : (run sched σ₀ ts).finished i = true) :
    (run sched σ₀ ts).result i = some (runAlone σ₀ t) := by
  obtain ⟨st, hst, hrest⟩ := Option.map_eq_some_iff.mp ((finished_iff _ i).mp hfin)
  obtain ⟨done, h1, h2, _⟩ := conc_prefix_sequential ts σ₀ hw hr sched i st hst
  rw [hrest, List.append_nil, ht] at h1
  have hd : t = done := Option.some.inj h1
  simp only [Config.result, hst, Option.map_some, runAlone, hd, h2]

/-- The shared region (engine configuration, compiled templates, bindings) is never modified,
under any schedule. -/
theorem conc_shared_unchanged (ts : List Thread) (σ₀ : Store) (hw : WritesOwned ts) (hr : ReadsVisible ts)
    (sched : Schedule) (l : Loc) (hl : l.owner = none) : (run sched σ₀ ts).store l = σ₀ l :=
  (inv_run σ₀ (confined_of ts hw hr) sched).shared l hl

/-- The hypothesis `finished` of `conc_eq_sequential` is reached by every schedule that gives
the thread at least as many turns as it has steps (no hypothesis on ownership needed). -/
theorem conc_enough_turns_finishes (ts : List Thread) (σ₀ : Store) (sched : Schedule) (i : Tid) (t : Thread)
    (ht : ts[i]? = some t) (hturns : t.length ≤ sched.count i) :
    (run sched σ₀ ts).finished i = true := by
  rw [finished_iff, run, rest_runFrom, Config.rest, init, List.getElem?_map, ht]
  exact congrArg some (List.drop_eq_nil_of_le hturns)

/-- **The static premise for the code** (translator T3, regenerated on every run): among all
stores to captured or package-level variables in the library packages there is no store by a
closure that outlives its creator (a compile-time variable written at render time) and no
store to a package-level variable outside `init`. -/
theorem no_shared_writes :
    (sharedWrites.filter (fun w => w.cls = .capturedEscaping ∨ (w.cls = .global ∧ !w.inInit))) = [] := by
  decide +kernel

/-- The table is not empty and not trivially clean: it contains captured-variable writes that
are *not* offending (closures that stay local) and package-level writes inside `init`. (A sanity
check of the translator, with thresholds far below the counts of the current source - 14 and 51 - so
that a refactoring that removes a few local closures does not trip it.) -/
theorem shared_writes_nontrivial :
    (sharedWrites.filter (fun w => w.cls = .capturedLocal)).length ≥ 2 ∧
    (sharedWrites.filter (fun w => w.cls = .global ∧ w.inInit)).length ≥ 10 := by
  decide +kernel

/-! ## Non-vacuity

A concrete two-thread system that satisfies the hypotheses: both threads read the shared
location `x`, copy it (plus a thread-specific constant) into a location of their own, read that
back and compute an output. Under an interleaved schedule both finish with the results of
their sequential runs and the trace has no race. -/

def c04Shared : Loc := ⟨none, 0⟩
def c04Own (i : Tid) : Loc := ⟨some i, 0⟩
def c04Store : Store := fun l => if l = c04Shared then 7 else 0

def c04Good : List Thread :=
  [ [.read c04Shared, .write (c04Own 0) (fun o => o.sum + 1), .read (c04Own 0), .pure (fun o => o.sum)],
    [.read c04Shared, .write (c04Own 1) (fun o => o.sum + 2), .read (c04Own 1), .pure (fun o => o.length)] ]

example : WritesOwned c04Good ∧ ReadsVisible c04Good :=
  have h := confinedB_confined c04Good (by decide +kernel)
  ⟨confined_writesOwned _ h, confined_readsVisible _ h⟩

example : (run [0, 1, 1, 0, 1, 0, 0, 1] c04Store c04Good).result 0 = some [7, 8, 15] := by decide +kernel
example : (run [0, 1, 1, 0, 1, 0, 0, 1] c04Store c04Good).result 1 = some [7, 9, 2] := by decide +kernel
example : runAlone c04Store [.read c04Shared, .write (c04Own 0) (fun o => o.sum + 1), .read (c04Own 0),
    .pure (fun o => o.sum)] = [7, 8, 15] := by decide +kernel
example : (run [0, 1, 1, 0, 1, 0, 0, 1] c04Store c04Good).finished 0 = true := by decide +kernel
example : hasRace (run [0, 1, 1, 0, 1, 0, 0, 1] c04Store c04Good).trace = false := by decide +kernel
example : (run [0, 1, 1, 0, 1, 0, 0, 1] c04Store c04Good).trace.length = 6 := by decide +kernel

/-! A racy system — the shape of defect D10: both threads write one *shared* location (the
`err` variable captured at compile time) and read it back. The hypothesis fails, the trace of
an interleaved schedule has a race, and thread 0 returns a value it never returns alone. -/

def c04Racy : List Thread :=
  [ [.write c04Shared (fun _ => 1), .read c04Shared],
    [.write c04Shared (fun _ => 2), .read c04Shared] ]

example : confinedB c04Racy = false := by decide +kernel
example : ¬ WritesOwned c04Racy := by
  intro h
  have := h 0 _ rfl c04Shared (fun _ => 1) (by simp)
  simp [c04Shared] at this
example : HasRace (run [0, 1, 0, 1] c04Store c04Racy).trace :=
  (hasRace_iff _).mp (by decide +kernel)
example : (run [0, 1, 0, 1] c04Store c04Racy).finished 0 = true := by decide +kernel
example : (run [0, 1, 0, 1] c04Store c04Racy).result 0 = some [2] := by decide +kernel
example : runAlone c04Store [.write c04Shared (fun _ => 1), .read c04Shared] = [1] := by decide +kernel
