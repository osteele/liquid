import Liquid.Lookup
import Liquid.Compare
import Liquid.Sprint
/-!
# `values.ToLiquid` and `values.ResolveDrops` on chains of drops (helper lemmas)

Facts about `GoVal.toLiquid` (and its twin `Cmp.toLiq`): it follows a chain of drops, and of pointers to drops,
down to a value that is neither (`toLiquid_induction`, `toLiquid_not_dropLike`, `toLiquid_idem`). Then the simp
lemmas of `resolveDrops` and `sprintR` per constructor, where `unwrap` stops (`unwrap_stops`), and `Cmp.seqElems`: the
elements of a slice or fixed array, the form in which C09 and the lock-step files (`View.seq`) speak of a sequence.
-/

open GoVal

/-- `value.(drop)` succeeds: a drop, or a pointer to one -/
def GoVal.isDropLike : GoVal → Bool
  | .drop _ => true
  | .ptr (.drop _) => true
  | _ => false

@[simp] theorem toLiquid_drop (v : GoVal) : (GoVal.drop v).toLiquid = v.toLiquid := by rw [toLiquid]
@[simp] theorem toLiquid_ptr_drop (v : GoVal) : (GoVal.ptr (.drop v)).toLiquid = v.toLiquid := by rw [toLiquid]

theorem toLiquid_of_not_dropLike {v : GoVal} (h : v.isDropLike = false) : v.toLiquid = v :=
  GoVal.toLiquid.eq_3 v (fun w e => by subst e; cases h) (fun w e => by subst e; cases h)

theorem toLiquid_induction {P : GoVal → Prop} (drop : ∀ v, P v → P (.drop v))
    (ptr : ∀ v, P v → P (.ptr (.drop v))) (stop : ∀ v, v.isDropLike = false → P v) : ∀ v, P v := by
  intro v
  induction v using GoVal.toLiquid.induct with
  | case1 v ih => exact drop v ih
  | case2 v ih => exact ptr v ih
  | case3 v h1 h2 =>
    refine stop v ?_
    unfold isDropLike
    split
    · exact absurd rfl (h1 _)
    · exact absurd rfl (h2 _)
    · rfl

theorem toLiquid_not_dropLike : ∀ v : GoVal, v.toLiquid.isDropLike = false :=
  toLiquid_induction (fun v ih => by rwa [toLiquid_drop]) (fun v ih => by rwa [toLiquid_ptr_drop])
    (fun v h => by rwa [toLiquid_of_not_dropLike h])

theorem toLiquid_idem (v : GoVal) : v.toLiquid.toLiquid = v.toLiquid :=
  toLiquid_of_not_dropLike (toLiquid_not_dropLike v)

theorem toLiquid_drop_of_not_dropLike {v : GoVal} (h : v.isDropLike = false) : (GoVal.drop v).toLiquid = v := by
  rw [toLiquid_drop, toLiquid_of_not_dropLike h]

/-- a function that looks through a drop, and through a pointer to one, does not see `ToLiquid` -/
theorem toLiquid_congr {α : Type} {f : GoVal → α} (drop : ∀ v, f (.drop v) = f v) (ptr : ∀ v, f (.ptr (.drop v)) = f v) :
    ∀ v : GoVal, f v.toLiquid = f v :=
  toLiquid_induction (fun v ih => by rwa [toLiquid_drop, drop]) (fun v ih => by rwa [toLiquid_ptr_drop, ptr])
    (fun v h => by rw [toLiquid_of_not_dropLike h])

theorem unwrap_toLiquid : ∀ v : GoVal, v.toLiquid.unwrap = v.unwrap :=
  toLiquid_congr (fun v => by rw [unwrap]) (fun v => by rw [unwrap])

theorem sizeOf_toLiquid_le : ∀ v : GoVal, sizeOf v.toLiquid ≤ sizeOf v :=
  toLiquid_induction (fun v ih => by rw [toLiquid_drop]; simp; omega)
    (fun v ih => by rw [toLiquid_ptr_drop]; simp; omega)
    (fun v h => by rw [toLiquid_of_not_dropLike h]; exact Nat.le_refl _)

theorem Cmp.toLiq_eq_toLiquid : ∀ v : GoVal, Cmp.toLiq v = v.toLiquid := by
  intro v
  induction v using Cmp.toLiq.induct with
  | case1 v ih => rwa [toLiquid_drop, Cmp.toLiq]
  | case2 v ih => rwa [toLiquid_ptr_drop, Cmp.toLiq]
  | case3 v h1 h2 => rw [Cmp.toLiq.eq_3 v h1 h2, GoVal.toLiquid.eq_3 v h1 h2]

@[simp] theorem resolveDrops_nil : GoVal.nil.resolveDrops = .nil := by simp [resolveDrops]
@[simp] theorem resolveDrops_bool (b : Bool) : (GoVal.bool b).resolveDrops = .bool b := by simp [resolveDrops]
@[simp] theorem resolveDrops_int (k : IntKind) (n : Int) : (GoVal.int k n).resolveDrops = .int k n := by simp [resolveDrops]
@[simp] theorem resolveDrops_flt (k : FltKind) (q : Rat) : (GoVal.flt k q).resolveDrops = .flt k q := by simp [resolveDrops]
@[simp] theorem resolveDrops_str (s : Bytes) : (GoVal.str s).resolveDrops = .str s := by simp [resolveDrops]
@[simp] theorem resolveDrops_bytes (s : Bytes) : (GoVal.bytes s).resolveDrops = .bytes s := by simp [resolveDrops]
@[simp] theorem resolveDrops_range (a b : Int) : (GoVal.range a b).resolveDrops = .range a b := by simp [resolveDrops]
@[simp] theorem resolveDrops_nilPtr : GoVal.nilPtr.resolveDrops = .nilPtr := by simp [resolveDrops]
@[simp] theorem resolveDrops_struct (fs : List (Bytes × GoVal)) : (GoVal.struct fs).resolveDrops = .struct fs := by simp [resolveDrops]
@[simp] theorem resolveDrops_time (u : Int) : (GoVal.time u).resolveDrops = .time u := by simp [resolveDrops]
@[simp] theorem resolveDrops_drop (v : GoVal) : (GoVal.drop v).resolveDrops = v.resolveDrops := by simp [resolveDrops]
@[simp] theorem resolveDrops_slice (t : Ty) (xs : List GoVal) :
    (GoVal.slice t xs).resolveDrops = .slice t (resolveDropsList xs) := by simp [resolveDrops]
@[simp] theorem resolveDrops_array (t : Ty) (xs : List GoVal) :
    (GoVal.array t xs).resolveDrops = .array t (resolveDropsList xs) := by simp [resolveDrops]
@[simp] theorem resolveDrops_map (k t : Ty) (kvs : List (GoVal × GoVal)) :
    (GoVal.map k t kvs).resolveDrops = .map k t (resolveDropsVals kvs) := by simp [resolveDrops]
@[simp] theorem resolveDrops_mapSlice (kvs : List (GoVal × GoVal)) :
    (GoVal.mapSlice kvs).resolveDrops = .mapSlice (resolveDropsVals kvs) := by simp [resolveDrops]
@[simp] theorem resolveDrops_keyedMap (fs : List (Bytes × GoVal)) :
    (GoVal.keyedMap fs).resolveDrops = .keyedMap (resolveDropsFields fs) := by simp [resolveDrops]

@[simp] theorem sprintR_nil : sprintR .nil = sprint .nil := by simp [sprintR]
@[simp] theorem sprintR_bool (b : Bool) : sprintR (.bool b) = sprint (.bool b) := by simp [sprintR]
@[simp] theorem sprintR_int (k : IntKind) (n : Int) : sprintR (.int k n) = sprint (.int k n) := by simp [sprintR]
@[simp] theorem sprintR_flt (k : FltKind) (q : Rat) : sprintR (.flt k q) = sprint (.flt k q) := by simp [sprintR]
@[simp] theorem sprintR_str (s : Bytes) : sprintR (.str s) = sprint (.str s) := by simp [sprintR]
@[simp] theorem sprintR_bytes (s : Bytes) : sprintR (.bytes s) = sprint (.bytes s) := by simp [sprintR]
@[simp] theorem sprintR_range (a b : Int) : sprintR (.range a b) = sprint (.range a b) := by simp [sprintR]
@[simp] theorem sprintR_nilPtr : sprintR .nilPtr = sprint .nilPtr := by simp [sprintR]
@[simp] theorem sprintR_struct (fs : List (Bytes × GoVal)) : sprintR (.struct fs) = sprint (.struct fs) := by simp [sprintR]
@[simp] theorem sprintR_time (u : Int) : sprintR (.time u) = sprint (.time u) := by simp [sprintR]

theorem resolveDropsList_eq_map (xs : List GoVal) : resolveDropsList xs = xs.map GoVal.resolveDrops := by
  induction xs with
  | nil => rfl
  | cons x xs ih => simp [resolveDropsList, ih]

theorem resolveDropsVals_eq_map (kvs : List (GoVal × GoVal)) :
    resolveDropsVals kvs = kvs.map fun kv => (kv.1, kv.2.resolveDrops) := by
  induction kvs with
  | nil => rfl
  | cons kv kvs ih => obtain ⟨k, v⟩ := kv; simp [resolveDropsVals, ih]

theorem resolveDropsFields_eq_map (fs : List (Bytes × GoVal)) :
    resolveDropsFields fs = fs.map fun kv => (kv.1, kv.2.resolveDrops) := by
  induction fs with
  | nil => rfl
  | cons kv fs ih => obtain ⟨k, v⟩ := kv; simp [resolveDropsFields, ih]

theorem unwrap_stops (v : GoVal) : v.unwrap.unwrap = v.unwrap ∧ v.unwrap.isDropLike = false := by
  induction v using GoVal.unwrap.induct with
  | case1 v ih => rwa [unwrap]
  | case2 => exact ⟨rfl, rfl⟩
  | case3 v ih => rwa [unwrap]
  | case4 fs => exact ⟨rfl, rfl⟩
  | case5 a b => exact ⟨rfl, rfl⟩
  | case6 u => exact ⟨rfl, rfl⟩
  | case7 v h1 h2 h3 h4 ih => rwa [unwrap.eq_7 v h1 h2 h3 h4]
  | case8 v h1 h2 h3 h4 h5 h6 h7 =>
    have e := unwrap.eq_8 v h1 h2 h3 h4 h5 h6 h7
    rw [e]
    refine ⟨e, ?_⟩
    cases v with
    | drop w => exact absurd rfl (h1 w)
    | ptr w => exact absurd rfl (h7 w)
    | _ => rfl

theorem unwrap_idem (v : GoVal) : v.unwrap.unwrap = v.unwrap := (unwrap_stops v).1

theorem unwrap_not_dropLike (v : GoVal) : v.unwrap.isDropLike = false := (unwrap_stops v).2

def Cmp.seqElems : GoVal → Option (List GoVal)
  | .slice _ xs | .array _ xs => some xs
  | _ => none

theorem Cmp.seqElems_cases {u : GoVal} {xs : List GoVal} (h : Cmp.seqElems u = some xs) :
    (∃ t, u = .slice t xs) ∨ ∃ t, u = .array t xs := by
  cases u with
  | slice t ys => cases h; exact .inl ⟨t, rfl⟩
  | array t ys => cases h; exact .inr ⟨t, rfl⟩
  | _ => cases h
