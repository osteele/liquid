import Liquid.Render
/-!
# Interaction-tree lemmas: `bind` is associative, `ret` its unit (read at a state for `M`, `wrapFailAt`, `wrapAt`); what a program does when the writer fails, and when it never does
-/

theorem Prog.bind_assoc {α β γ} (p : Prog α) (f : α → Prog β) (g : β → Prog γ) :
    (p.bind f).bind g = p.bind (fun a => (f a).bind g) := by
  induction p with
  | call b k ih => simp only [Prog.bind]; congr 1; funext r; exact ih r
  | _ => rfl

theorem Prog.bind_ret {α} (p : Prog α) : (p.bind fun r => .ret r) = p := by
  induction p with
  | ret a => rfl
  | fail e => rfl
  | panic w => rfl
  | unmodelled w => rfl
  | call b k ih => simp only [Prog.bind]; congr 1; funext r; exact ih r

theorem Prog.mapFail_bind {α β} (g : RawErr → RawErr) (p : Prog α) (f : α → Prog β) :
    (p.bind f).mapFail g = (p.mapFail g).bind (fun a => (f a).mapFail g) := by
  induction p with
  | call b k ih => simp only [Prog.bind, Prog.mapFail]; congr 1; funext r; exact ih r
  | _ => rfl

theorem M.bind_assoc {α β γ} (m : M α) (f : α → M β) (g : β → M γ) :
    (m >>= f) >>= g = m >>= fun a => f a >>= g := by
  funext s
  exact Prog.bind_assoc _ _ _

theorem M.bind_apply {α β} (m : M α) (f : α → M β) (s : RS) :
    (m >>= f) s = (m s).bind (fun x => f x.1 x.2) := rfl

theorem wrapFailAt_apply {α} (path : Bytes) (loc : Loc) (m : M α) (s : RS) :
    wrapFailAt path loc m s = (m s).mapFail (fun e => .located (wrapError path e loc)) := rfl

theorem wrapAt_bind {α} (path : Bytes) (loc : Loc) (m : M α) (f : α → M Status) (s : RS) :
    wrapAt path loc (m >>= f) s = (wrapFailAt path loc m s).bind (fun x => wrapAt path loc (f x.1) x.2) := by
  simp only [wrapAt, M.bind_apply, wrapFailAt_apply, Prog.mapFail_bind, Prog.bind_assoc]

/-- the error carries the writer's failure as its cause -/
def IsIo : RawErr → Prop
  | .plain c => c = .io
  | .located e => e.cause = .io

theorem isIo_wrapError (path : Bytes) (e : RawErr) (loc : Loc) (h : IsIo e) :
    IsIo (.located (wrapError path e loc)) := by
  cases e with
  | plain c => simp only [IsIo] at h; subst h; simp [wrapError, IsIo]
  | located se =>
    simp only [IsIo] at h
    simp only [wrapError]
    split
    · simpa [IsIo] using h
    · simp [IsIo, h]

/-- **Stops on failure.** At every call on the success path, a failed write ends the program at
    once with an error that carries the failure: no further call, no result, no panic. -/
inductive Stops {α : Type} : Prog α → Prop where
  | ret (a) : Stops (.ret a)
  | fail (e) : Stops (.fail e)
  | panic (w) : Stops (.panic w)
  | unmodelled (w) : Stops (.unmodelled w)
  | call (b k) : (∀ n, ∃ e, k (.failed n) = .fail e ∧ IsIo e) → Stops (k .ok) → Stops (.call b k)

theorem Stops.bind {α β} {p : Prog α} {f : α → Prog β} (hp : Stops p) (hf : ∀ a, Stops (f a)) :
    Stops (p.bind f) := by
  induction hp with
  | ret a => exact hf a
  | call b k hk _ ih =>
    refine .call _ _ ?_ ih
    intro n
    obtain ⟨e, he, hio⟩ := hk n
    exact ⟨e, by simp [Prog.bind, he], hio⟩
  | _ => constructor

theorem Stops.mapFail {α} {p : Prog α} (g : RawErr → RawErr) (hg : ∀ e, IsIo e → IsIo (g e))
    (hp : Stops p) : Stops (p.mapFail g) := by
  induction hp with
  | call b k hk _ ih =>
    refine .call _ _ ?_ ih
    intro n
    obtain ⟨e, he, hio⟩ := hk n
    exact ⟨g e, by simp [Prog.mapFail, he], hg e hio⟩
  | _ => constructor

def NoCalls {α} : Prog α → Prop
  | .call _ _ => False
  | _ => True

theorem Stops.ofNoCalls {α} {p : Prog α} (h : NoCalls p) : Stops p := by
  cases p with
  | call b k => exact absurd h (by simp [NoCalls])
  | _ => constructor

inductive Outcome where
  | ok | err (e : RawErr) | panic | unmodelled
  deriving Repr

/-- a writer that fails on its `k`-th call (counting from 0), accepting `acc` bytes of it, and
    succeeds on every other call ("fail once"). Returns the outcome, the bytes accepted over
    the whole run, and the number of calls made AFTER the failing one. -/
def runFaulty {α} : Prog α → Option Nat → Nat → Outcome × Bytes × Nat
  | .ret _, _, _ => (.ok, [], 0)
  | .fail e, _, _ => (.err e, [], 0)
  | .panic _, _, _ => (.panic, [], 0)
  | .unmodelled _, _, _ => (.unmodelled, [], 0)
  | .call b kont, some 0, acc =>
      let (o, rest, later) := runFaulty (kont (.failed acc)) none acc
      (o, b.take acc ++ rest, later + (kont (.failed acc)).calls.length)
  | .call b kont, some (k+1), acc =>
      let (o, rest, later) := runFaulty (kont .ok) (some k) acc
      (o, b ++ rest, later)
  | .call b kont, none, acc =>
      let (o, rest, later) := runFaulty (kont .ok) none acc
      (o, b ++ rest, later)

theorem faulty_spec {α} (p : Prog α) (hp : Stops p) : ∀ k acc, k < p.calls.length →
    (∃ e, (runFaulty p (some k) acc).1 = .err e ∧ IsIo e) ∧
    (runFaulty p (some k) acc).2.1 = (p.calls.take k).flatten ++ (p.calls.getD k []).take acc ∧
    (runFaulty p (some k) acc).2.2 = 0 := by
  induction hp with
  | call b kont hk _ ih =>
    intro k acc h
    cases k with
    | zero =>
      obtain ⟨e, he, hio⟩ := hk acc
      simp only [runFaulty, he, Prog.calls]
      exact ⟨⟨e, rfl, hio⟩, by simp, by simp⟩
    | succ k =>
      simp only [Prog.calls, List.length_cons, Nat.add_lt_add_iff_right] at h
      obtain ⟨h1, h2, h3⟩ := ih k acc h
      simp only [runFaulty, Prog.calls]
      refine ⟨h1, ?_, h3⟩
      simp [h2]
  | _ => intro k acc h; simp [Prog.calls] at h

theorem faulty_prefix {α} (p : Prog α) (hp : Stops p) (k acc : Nat) (h : k < p.calls.length) :
    (runFaulty p (some k) acc).2.1 <+: p.calls.flatten := by
  rw [(faulty_spec p hp k acc h).2.1]
  have hsplit : p.calls = p.calls.take k ++ (p.calls.getD k [] :: p.calls.drop (k + 1)) := by
    have : p.calls.getD k [] = p.calls[k] := by simp [List.getD, h]
    rw [this, List.getElem_cons_drop, List.take_append_drop]
  conv => rhs; rw [hsplit]
  simp only [List.flatten_append, List.flatten_cons]
  refine List.prefix_append_right_inj _ |>.mpr ?_
  exact (List.take_prefix _ _).trans (List.prefix_append _ _)

/-- run against a writer that never fails: the list of calls, and the outcome -/
def Prog.runLog {α} : Prog α → List Bytes × Prog.Outcome α
  | .ret a => ([], .ok a)
  | .fail e => ([], .err e)
  | .panic w => ([], .panic w)
  | .unmodelled w => ([], .unmodelled w)
  | .call b k => let (cs, o) := runLog (k .ok); (b :: cs, o)

theorem Prog.runLog_fst {α} (p : Prog α) : p.runLog.1 = p.calls := by
  induction p with
  | call b k ih => simp only [Prog.runLog, Prog.calls, ← ih]
  | _ => rfl

theorem Prog.runPure_eq_runLog {α} (p : Prog α) : p.runPure = (p.runLog.1.flatten, p.runLog.2) := by
  induction p with
  | call b k ih => simp only [Prog.runLog, Prog.runPure, ih, List.flatten_cons]
  | _ => rfl

theorem runPure_calls {α} (p : Prog α) : p.runPure.1 = p.calls.flatten := by
  rw [Prog.runPure_eq_runLog, Prog.runLog_fst]

theorem Prog.runLog_bind {α β} (p : Prog α) (f : α → Prog β) :
    (p.bind f).runLog =
      match p.runLog with
      | (cs, .ok a) => (cs ++ (f a).runLog.1, (f a).runLog.2)
      | (cs, .err e) => (cs, .err e)
      | (cs, .panic w) => (cs, .panic w)
      | (cs, .unmodelled w) => (cs, .unmodelled w) := by
  induction p with
  | ret a => simp [Prog.bind, Prog.runLog]
  | call b k ih =>
    simp only [Prog.bind, Prog.runLog, ih]
    rcases h : (k .ok).runLog with ⟨cs, o⟩
    cases o <;> simp
  | _ => rfl

theorem Prog.runLog_mapFail {α} (g : RawErr → RawErr) (p : Prog α) :
    (p.mapFail g).runLog =
      match p.runLog with
      | (cs, .err e) => (cs, .err (g e))
      | r => r := by
  induction p with
  | call b k ih =>
    simp only [Prog.mapFail, Prog.runLog, ih]
    rcases h : (k .ok).runLog with ⟨cs, o⟩
    cases o <;> rfl
  | _ => rfl

theorem Prog.runPure_bind {α β} (p : Prog α) (f : α → Prog β) :
    (p.bind f).runPure =
      match p.runPure with
      | (out, .ok a) => (out ++ (f a).runPure.1, (f a).runPure.2)
      | (out, .err e) => (out, .err e)
      | (out, .panic w) => (out, .panic w)
      | (out, .unmodelled w) => (out, .unmodelled w) := by
  simp only [Prog.runPure_eq_runLog, Prog.runLog_bind]
  rcases p.runLog with ⟨cs, o⟩
  cases o <;> simp

theorem Prog.runPure_bind_ok {α β} {p : Prog α} {f : α → Prog β} {out : Bytes} {b : β}
    (h : (p.bind f).runPure = (out, .ok b)) :
    ∃ o1 a o2, p.runPure = (o1, .ok a) ∧ (f a).runPure = (o2, .ok b) ∧ out = o1 ++ o2 := by
  rw [Prog.runPure_bind] at h
  rcases hp : p.runPure with ⟨o1, r⟩
  rw [hp] at h
  cases r with
  | ok a =>
    obtain ⟨rfl, h2⟩ := Prod.mk.inj h
    exact ⟨o1, a, _, rfl, Prod.ext rfl h2, rfl⟩
  | _ => cases h

theorem Prog.runPure_mapFail {α} (g : RawErr → RawErr) (p : Prog α) :
    (p.mapFail g).runPure =
      match p.runPure with
      | (out, .err e) => (out, .err (g e))
      | r => r := by
  simp only [Prog.runPure_eq_runLog, Prog.runLog_mapFail]
  rcases p.runLog with ⟨cs, o⟩
  cases o <;> rfl
