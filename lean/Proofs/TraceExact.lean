import Proofs.RenderTrace
/-!
# The trace says no more than the run: `fin` is set only when the fault-free run ends with an error or a sentinel

`sp_renderNode` … (Proofs/RenderTrace.lean) prove one direction: when the fault-free run of a node fails, or hands a
`break`/`continue` upwards, the trace's `fin` is the location of that error. This file proves the converse
(`FxS`, the instance `fxRel` of the same induction): when `fin` is set, the fault-free run does end that way. Together: `(traceRoot c root env).fin = none`
exactly when the render has no error (`traceRoot_fin_none_iff`) — it returns, or it ends in one of the model
outcomes `panic` / `unmodelled`, about which the walk says nothing.
-/

def Fx {α} (p : Prog α) (t : Tr) : Prop := t.fin ≠ none → p.pureFail ≠ none

def FxS (p : Prog (Status × RS)) (t : Tr) : Prop :=
  t.fin ≠ none → p.pureFail ≠ none ∨ ∃ st s, p.pureRet = some (st, s) ∧ st ≠ .done

theorem FxS.fx {p : Prog (Status × RS)} {t : Tr} (h : FxS p t) (hr : p.pureRet = none) : Fx p t := by
  intro hf
  rcases h hf with h | ⟨st, s, h, _⟩
  · exact h
  · rw [hr] at h; cases h

theorem FxS.ofFinNone {p : Prog (Status × RS)} {t : Tr} (h : t.fin = none) : FxS p t := fun hf => absurd h hf

theorem FxS.failed (e : RawErr) (t : Tr) : FxS (.fail e) t := fun _ => Or.inl (by simp [Prog.pureFail])

theorem FxS.sentinel (st : Status) (s : RS) (t : Tr) (h : st ≠ .done) : FxS (.ret (st, s)) t :=
  fun _ => Or.inr ⟨st, s, rfl, h⟩

/-- a trace whose end is read off the failure of the program itself (`ownTr`, `pieceTr`, what `IncTraced` asks of the handler) -/
theorem fx_ofMap {α} (p : Prog α) (calls : List Site) (g : RawErr → Site) : Fx p ⟨calls, p.pureFail.map g⟩ :=
  fun hf hn => hf (by rw [hn]; rfl)

theorem Fx.mapFail {α} {p : Prog α} {t : Tr} (g : RawErr → RawErr) (h : Fx p t) : Fx (p.mapFail g) t := by
  intro hf
  rw [Prog.pureFail_mapFail]
  exact fun hn => h hf (Option.map_eq_none_iff.mp hn)

/-- of the first part of a sequence `Fx` is asked only when that part does not return -/
theorem FxS.bind {α} {p : Prog α} {f : α → Prog (Status × RS)} {t1 : Tr} {t2 : α → Tr}
    (hp : p.pureRet = none → Fx p t1) (hf : ∀ a, p.pureRet = some a → FxS (f a) (t2 a)) : FxS (p.bind f) (t1.bind p.pureRet t2) := by
  intro hfin
  rw [Prog.pureFail_bind, Prog.pureRet_bind]
  cases h : p.pureRet with
  | none =>
    rw [h] at hfin
    exact Or.inl (hp h hfin)
  | some a =>
    rw [h] at hfin
    exact hf a h hfin

theorem FxS.bind_same {p : Prog (Status × RS)} {f : Status × RS → Prog (Status × RS)} {t : Tr}
    (h : FxS p t) (hf : ∀ x, ∃ s', f x = .ret (x.1, s')) : FxS (p.bind f) t := by
  intro hfin
  rw [Prog.pureFail_bind, Prog.pureRet_bind]
  rcases h hfin with h | ⟨st, s, h, hne⟩
  · rw [Prog.pureRet_none_of_fails h]
    exact Or.inl h
  · rw [h]
    obtain ⟨s', hs⟩ := hf (st, s)
    exact Or.inr ⟨st, s', by simp [hs, Prog.pureRet], hne⟩

theorem FxS.bind_done {α} {p : Prog α} {f : α → Prog (Status × RS)} {t : Tr}
    (h : Fx p t) (_hf : ∀ x, ∃ s', f x = .ret (.done, s')) : FxS (p.bind f) t := by
  intro hfin
  rw [Prog.pureFail_bind, Prog.pureRet_none_of_fails (h hfin)]
  exact Or.inl (h hfin)

theorem Status.wrap_ne_done (path : Bytes) (loc : Loc) (st : Status) (h : st ≠ .done) : st.wrap path loc ≠ .done := by
  cases st with
  | done => exact absurd rfl h
  | brk e => simp [Status.wrap]
  | cont e => simp [Status.wrap]

theorem FxS.wrapped {m : M Status} {s : RS} {t : Tr} (path : Bytes) (loc : Loc) (h : FxS (m s) t) :
    FxS (wrapAt path loc m s) (t.wrap path loc) := by
  intro hfin
  have hf : t.fin ≠ none := by
    intro h0
    simp only [Tr.wrap, h0, Option.map_none] at hfin
    exact hfin rfl
  unfold wrapAt
  rw [Prog.pureFail_bind, Prog.pureRet_bind, Prog.pureRet_mapFail, Prog.pureFail_mapFail]
  rcases h hf with h | ⟨st, s', h, hne⟩
  · rw [Prog.pureRet_none_of_fails h]
    exact Or.inl fun hn => h (Option.map_eq_none_iff.mp hn)
  · rw [h]
    exact Or.inr ⟨st.wrap path loc, s', rfl, Status.wrap_ne_done path loc st hne⟩

theorem fxRel : TraceRel @Fx FxS where
  bind0 := fun h hf => FxS.bind (fun _ => h) hf
  bind := fun h hf => FxS.bind h.fx hf
  bind_same := FxS.bind_same
  bind_done := FxS.bind_done
  ofDone := fun h _ hf => Or.inl (h hf)
  wrapped := FxS.wrapped
  own := fun _ _ => (fx_ofMap _ _ _).mapFail _
  piece := fun _ => fx_ofMap _ _ _
  capture := fun {m s t _ _} ih hf => by
    refine FxS.bind (fun hn hfin => ?_) hf
    rcases ih hfin with h | ⟨st, s1, h, _⟩
    · rwa [captureM_pureFail]
    · rw [captureM_pureRet, h] at hn
      cases hn
  retDone := fun _ => FxS.ofFinNone rfl
  sentinel := fun st s h => FxS.sentinel st s _ h
  handOn := fun _ _ _ hne => FxS.sentinel _ _ _ hne
  failed := fun e => FxS.failed e _
  panicked := fun _ => FxS.ofFinNone rfl
  unmodelled := fun _ => FxS.ofFinNone rfl

theorem fx_inc (c : RCtx) : IncTraced @Fx c := fun _ _ _ => fx_ofMap _ _ _

theorem fx_renderNode (c : RCtx) : ∀ (n : Node) (s : RS), FxS (renderNode c n s) (traceNode c n s) :=
  fun n => fxRel.renderNode n (.inl (fx_inc c))

theorem fx_renderList (c : RCtx) : ∀ (ns : List Node) (s : RS), FxS (renderList c ns s) (traceList c ns s) :=
  fun ns => fxRel.renderList ns (.inl (fx_inc c))

theorem fx_renderBlockBody (c : RCtx) (body : List Node) (s : RS) :
    FxS (renderBlockBody c body s) (traceBlockBody c body s) :=
  fxRel.renderBlockBody body (.inl (fx_inc c)) s

theorem fx_renderBranches (c : RCtx) :
    ∀ (bs : List (CondT × List Node)) (s : RS), FxS (renderBranches c bs s) (traceBranches c bs s) :=
  fun bs => fxRel.renderBranches bs (.inl (fx_inc c))

theorem fx_renderCases (c : RCtx) (sel : GoVal) :
    ∀ (cs : List (Option (Nat × List Expr) × List Node)) (s : RS), FxS (renderCases c sel cs s) (traceCases c sel cs s) :=
  fun cs => fxRel.renderCases sel cs (.inl (fx_inc c))

theorem fx_frenderOf (c : RCtx) (root : List Node) (env : Env) :
    Fx ((renderRoot c root env).bind statusToProg) (traceRoot c root env) := by
  intro hf
  rw [renderRoot_eq, Prog.pureFail_bind, Prog.pureRet_bind]
  rcases fx_renderBlockBody c root { env := env, tw := {} } hf with h | ⟨st, s, h, hne⟩
  · rw [Prog.pureRet_none_of_fails h, Option.bind_none, Prog.pureFail_bind, Prog.pureRet_none_of_fails h]
    exact h
  · rw [h]
    simp only [Option.bind_some, Prog.pureRet]
    cases st with
    | done => exact absurd rfl hne
    | brk e => simp [statusToProg, Prog.pureFail]
    | cont e => simp [statusToProg, Prog.pureFail]

/-- **the walk ends without a site exactly when the render has no error** (fault-free writer) -/
theorem traceRoot_fin_none_iff (c : RCtx) (hc : IncQuiet c) (root : List Node) (env : Env) :
    (traceRoot c root env).fin = none ↔ ((renderRoot c root env).bind statusToProg).pureFail = none := by
  constructor
  · intro h
    cases hpf : ((renderRoot c root env).bind statusToProg).pureFail with
    | none => rfl
    | some e =>
      have := (sp_frenderOf c hc root env).fin e hpf
      rw [h] at this; cases this
  · intro h
    cases hf : (traceRoot c root env).fin with
    | none => rfl
    | some l => exact absurd h (fx_frenderOf c root env (by rw [hf]; simp))
