import Proofs.E2EEquiv
import Proofs.C05E2E
/-!
# C19, as a theorem over all templates — custom delimiters are equivalent to the defaults

A template is a list of abstract items (`Item`: text, object, tag, with their hyphens and inner
white space); `spell d items` writes it with the delimiter set `d`; `tokensOf d items line` is the
token list it denotes. For EVERY delimiter quadruple satisfying `GoodDelims` (non-empty strings of
ASCII bytes that are not white space (`\s`), word characters (`\w`) or `-`; neither opening delimiter a prefix of the other) and every
item list satisfying the decidable predicate `Clean d` the tokenizer — regular expression, backtracking
matcher, hyphen detection, line counting — reads the spelling back as exactly these tokens
(`scan_spell`; the induction over the matcher is `scanWith_spell`, Proofs/E2EScan.lean). Hence the token lists under two
delimiter sets are equal up to the `source` field of tags and objects, and (the block parser and the compiler do not
read that field; a raw block keeps the sources of its tokens, which for a template that is `RawClosed` are one text token of
literal bytes: raw and comment are lexical, `fixes/raw-comment-lexical`) the compiled templates are EQUAL.

`Clean d items` is defined clause by clause in Proofs/E2ESpell.lean (`CleanItem`, `CleanClose`, `CleanText`, `CleanCtx`). The clause
that is a trap: a tag WITHOUT arguments has at most one white-space byte before its closing delimiter, and none
before a right hyphen — see the `example`s at the end of the file: the pattern of `formTokenMatcher`
reads `{% else  %}` as a tag with arguments `" "` and `{% else -%}` as a tag with arguments `"-"`
*and* a right trim marker (real behaviour of the Go code, reproduced by the model).
-/

/-- **C19 (the tokenizer inverts spelling), for all good delimiters and all clean templates.** -/
theorem scan_spell (delims : List Bytes) (items : List Item) (line : Nat)
    (hg : GoodDelims (Delims.ofList delims)) (hc : Clean (Delims.ofList delims) items) :
    scan delims (spell (Delims.ofList delims) items) line = tokensOf (Delims.ofList delims) items line :=
  scanWith_spell (Delims.ofList delims) hg items hc line

/-- `a{{- x | f }}{% if x -%}\n{% endif %}` spelled with `<< >> [ ]` -/
example : scan [[60, 60], [62, 62], [91], [93]] (spell exDelims exItems) 7 = tokensOf exDelims exItems 7 :=
  scan_spell [[60, 60], [62, 62], [91], [93]] exItems 7 (by decide +kernel) (by decide +kernel)
example : spell exDelims exItems = [97, 60, 60, 45, 32, 120, 32, 124, 32, 102, 32, 62, 62, 91, 32, 105, 102, 32, 120, 32, 45, 93, 10,
    91, 32, 101, 110, 100, 105, 102, 32, 93] := by decide +kernel
example : (tokensOf exDelims exItems 7).map (fun t => (t.ty, t.line)) =
    [(.text, 7), (.trimL, 0), (.obj, 7), (.tag, 7), (.trimR, 0), (.text, 7), (.tag, 8)] := by decide +kernel

/-- **C19 (the two token lists).** The tokens of the custom spelling and of the default spelling (any two
    good delimiter sets) are equal up to the `source` field of tag and object tokens: same kinds,
    names, arguments, trim markers, line numbers, and the same text tokens. -/
theorem tokens_equal_up_to_source (delims delims' : List Bytes) (items : List Item) (line : Nat)
    (hg : GoodDelims (Delims.ofList delims)) (hc : Clean (Delims.ofList delims) items)
    (hg' : GoodDelims (Delims.ofList delims')) (hc' : Clean (Delims.ofList delims') items) :
    (scan delims (spell (Delims.ofList delims) items) line).map unsrc =
      (scan delims' (spell (Delims.ofList delims') items) line).map unsrc := by
  rw [scan_spell delims items line hg hc, scan_spell delims' items line hg' hc']
  exact tokensOf_unsrc _ _ hg hg' items line

example : (scan [[60, 60], [62, 62], [91], [93]] (spell exDelims exItems) 1).map unsrc =
    (scan [] (spell Delims.default exItems) 1).map unsrc :=
  tokens_equal_up_to_source [[60, 60], [62, 62], [91], [93]] [] exItems 1 (by decide +kernel) (by decide +kernel) (by decide +kernel) (by decide +kernel)

/-- **C19, main theorem (custom delimiters are equivalent to the defaults, hyphens included).** For every
    template (item list) clean for both delimiter sets, whose raw blocks are closed (`RawClosed`: a `raw` tag
    is followed, at once or after ONE text item — the body, arbitrary bytes —, by an `endraw` tag): compiling the custom
    spelling with the custom delimiters and compiling the other spelling with the other delimiters (in
    particular the defaults) give the SAME result — the same compiled tree, or the same located error. -/
theorem spellings_compile_equal (delims delims' : List Bytes) (items : List Item) (line : Nat)
    (hg : GoodDelims (Delims.ofList delims)) (hc : Clean (Delims.ofList delims) items)
    (hg' : GoodDelims (Delims.ofList delims')) (hc' : Clean (Delims.ofList delims') items)
    (hnr : RawClosed items) :
    compileSource delims (spell (Delims.ofList delims) items) line =
      compileSource delims' (spell (Delims.ofList delims') items) line := by
  rw [compileSource_eq_compileTokens, compileSource_eq_compileTokens]
  refine compileTokens_congr _ _ (tokens_equal_up_to_source delims delims' items line hg hc hg' hc') ?_
  rw [scan_spell delims items line hg hc]; exact rawSafe_tokensOf _ items line hnr

/-- **C19 on `run`.** An engine configured with custom delimiters, run on the custom spelling, returns
    what the same engine returns for the template compiled from the default spelling with the default
    delimiters: same output or same located error, for every value layer, file system, fuel and
    environment. (Files reached through `include` are read with the engine's own delimiters on both
    sides; that is why the right-hand side keeps `cfg`.) -/
theorem run_custom_spelling_eq_default (P : Prims) (O : OutPrims) (cfg : Cfg) (fs : FS) (fuel : Nat) (items : List Item)
    (line : Nat) (env : Env)
    (hg : GoodDelims (Delims.ofList cfg.delims)) (hc : Clean (Delims.ofList cfg.delims) items)
    (hc' : Clean Delims.default items) (hnr : RawClosed items) :
    run P O cfg fs fuel (spell (Delims.ofList cfg.delims) items) line env =
      runCompiled P O cfg fs fuel (compileSource [] (spell Delims.default items) line) env := by
  rw [run_eq_runCompiled, spellings_compile_equal cfg.delims [] items line hg hc (by decide +kernel) hc' hnr]
  rfl

example : compileSource [[60, 60], [62, 62], [91], [93]] (spell exDelims exItems) 1 =
    compileSource [] (spell Delims.default exItems) 1 :=
  spellings_compile_equal [[60, 60], [62, 62], [91], [93]] [] exItems 1 (by decide +kernel) (by decide +kernel) (by decide +kernel) (by decide +kernel) (by decide +kernel)

/-! ## Raw blocks

The tokenizer treats raw and comment lexically, so the body of a raw block is ONE text token: in the
item model it is a text item of arbitrary bytes, the same bytes under every delimiter set (it is literal text, not
something that is re-spelled), and the equivalence covers it: `p[ raw ]{{ x }} << y >> {% b[ endraw ]` and
`p{% raw %}{{ x }} << y >> {% b{% endraw %}` compile to the same tree. What the theorem excludes
(`RawClosed`): a `raw` tag without its end tag followed by a tag named `endraw` that carries arguments (the
tokenizer does not take that for the end tag, the block parser does), where the parser collects the token
sources as spelled. -/
def exRawItems : List Item := [.text [112], .tag rawName [] false false [32] [] [32],
  .text [123, 123, 32, 120, 32, 125, 125, 32, 60, 60, 32, 121, 32, 62, 62, 32, 123, 37, 32, 98],
  .tag endrawName [] false false [32] [] [32]]

example : GoodDelims exDelims ∧ Clean exDelims exRawItems ∧ Clean Delims.default exRawItems ∧ RawClosed exRawItems := by decide +kernel
example : compileSource [[60, 60], [62, 62], [91], [93]] (spell exDelims exRawItems) 1 =
    compileSource [] (spell Delims.default exRawItems) 1 :=
  spellings_compile_equal [[60, 60], [62, 62], [91], [93]] [] exRawItems 1 (by decide +kernel) (by decide +kernel) (by decide +kernel) (by decide +kernel) (by decide +kernel)

/-- the excluded shape: `{% raw %}{{ x }}{% endraw y %}` — no lexical end tag, the parser ends the block at the tag
    named `endraw` and the raw body is the object's source as spelled -/
def exRawOpen : List Item := [.tag rawName [] false false [32] [] [32], .obj [120] false false [32] [32],
  .tag endrawName [121] false false [32] [32] [32]]
example : Clean exDelims exRawOpen ∧ Clean Delims.default exRawOpen ∧ ¬ RawClosed exRawOpen := by decide +kernel
example : runTokens stdPrims stdOut {} (fsOfList []) 1 (scan [[60, 60], [62, 62], [91], [93]] (spell exDelims exRawOpen) 1) []
    = .ok [60, 60, 32, 120, 32, 62, 62] := by
  have h : scan [[60, 60], [62, 62], [91], [93]] (spell exDelims exRawOpen) 1 = tokensOf exDelims exRawOpen 1 :=
    scan_spell [[60, 60], [62, 62], [91], [93]] exRawOpen 1 (by decide +kernel) (by decide +kernel)
  have e : tokensOf exDelims exRawOpen 1 =
      { ty := .tag, line := 1, name := rawName, source := [91, 32, 114, 97, 119, 32, 93] } ::
      ([{ ty := .obj, line := 1, args := [120], source := [60, 60, 32, 120, 32, 62, 62] }] ++
       [{ ty := .tag, line := 1, name := endrawName, args := [121], source := [91, 32, 101, 110, 100, 114, 97, 119, 32, 121, 32, 93] }]) := by decide +kernel
  rw [h, e]
  exact raw_block_renders_body_sources _ _ _ _ _ _ _ _ _ ⟨rfl, rfl⟩ ⟨rfl, rfl⟩ (by decide +kernel) (by rfl)
example : runTokens stdPrims stdOut {} (fsOfList []) 1 (scan [] (spell Delims.default exRawOpen) 1) []
    = .ok [123, 123, 32, 120, 32, 125, 125] := by
  have h : scan [] (spell Delims.default exRawOpen) 1 = tokensOf Delims.default exRawOpen 1 :=
    scan_spell [] exRawOpen 1 (by decide +kernel) (by decide +kernel)
  have e : tokensOf Delims.default exRawOpen 1 =
      { ty := .tag, line := 1, name := rawName, source := [123, 37, 32, 114, 97, 119, 32, 37, 125] } ::
      ([{ ty := .obj, line := 1, args := [120], source := [123, 123, 32, 120, 32, 125, 125] }] ++
       [{ ty := .tag, line := 1, name := endrawName, args := [121], source := [123, 37, 32, 101, 110, 100, 114, 97, 119, 32, 121, 32, 37, 125] }]) := by decide +kernel
  rw [h, e]
  exact raw_block_renders_body_sources _ _ _ _ _ _ _ _ _ ⟨rfl, rfl⟩ ⟨rfl, rfl⟩ (by decide +kernel) (by rfl)

/-! **a tag without arguments and white space before the closing delimiter.**
`{% else  %}` (two spaces): the optional argument group of the pattern matches the second space. -/
example : scan [] (spell Delims.default [.tag [101, 108, 115, 101] [] false false [32] [] [32, 32]]) 1 =
    [{ ty := .tag, line := 1, name := [101, 108, 115, 101], args := [32],
       source := [123, 37, 32, 101, 108, 115, 101, 32, 32, 37, 125] }] := by decide +kernel
example : ¬ Clean Delims.default [.tag [101, 108, 115, 101] [] false false [32] [] [32, 32]] := by decide +kernel
/-- `{% else -%}`: the hyphen is read as the tag's arguments AND as a right trim marker. -/
example : scan [] (spell Delims.default [.tag [101, 108, 115, 101] [] false true [32] [] [32]]) 1 =
    [{ ty := .tag, line := 1, name := [101, 108, 115, 101], args := [45],
       source := [123, 37, 32, 101, 108, 115, 101, 32, 45, 37, 125] }, { ty := .trimR }] := by decide +kernel
example : ¬ Clean Delims.default [.tag [101, 108, 115, 101] [] false true [32] [] [32]] := by decide +kernel
/-- `{% if x%%}` (arguments ending in a prefix of the closing delimiter) is not a tag at all. -/
example : scan [] (spell Delims.default [.tag [105, 102] [120, 37] false false [32] [32] []]) 1 =
    [{ ty := .text, line := 1, source := [123, 37, 32, 105, 102, 32, 120, 37, 37, 125] }] := by decide +kernel
example : ¬ Clean Delims.default [.tag [105, 102] [120, 37] false false [32] [32] []] := by decide +kernel
