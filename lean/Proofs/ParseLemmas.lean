import Proofs.NestLemmas
/-!
# Lemmas relating the block-parser machine (`Liquid/Parse.lean`) to the nesting grammar
(`Liquid/Nest.lean`). Property theorems are in `Proofs/C06.lean`.
-/

theorem syntaxOf_of_isBlock {g : Grammar} {n : Bytes} (h : g.isBlock n = true) :
    g.syntaxOf n = some (.start n) := by
  unfold Grammar.isBlock at h
  simp only [Grammar.syntaxOf, h, if_true]

theorem parents_contains {g : Grammar} {b c : Bytes} :
    ((g.filter (fun d => d.clauses.contains c)).map (·.name)).contains b = g.admits b c := by
  unfold Grammar.admits
  induction g with
  | nil => rfl
  | cons d ds ih =>
    rw [List.filter_cons, List.any_cons, ← ih]
    cases d.clauses.contains c
    · rw [if_neg Bool.false_ne_true, Bool.and_false, Bool.false_or]
    · rw [if_pos rfl, List.map_cons, List.contains_cons, Bool.and_true, Bool.beq_comm]

theorem parents_isEmpty {g : Grammar} {c : Bytes} :
    ((g.filter (fun d => d.clauses.contains c)).map (·.name)).isEmpty = !g.isClause c := by
  unfold Grammar.isClause
  induction g with
  | nil => rfl
  | cons d ds ih =>
    rw [List.filter_cons, List.any_cons]
    cases d.clauses.contains c
    · exact ih
    · rfl

theorem find_end_isSome {g : Grammar} {n : Bytes} :
    (g.find? (fun b => endPrefix ++ b.name == n)).isSome = g.isEnd n :=
  Bool.eq_iff_iff.mpr (by rw [List.find?_isSome, Grammar.isEnd, List.any_eq_true])

theorem syntaxOf_isSome (g : Grammar) (n : Bytes) : (g.syntaxOf n).isSome = g.known n := by
  simp only [Grammar.syntaxOf, Grammar.known, ← find_end_isSome, Grammar.isBlock]
  rw [← Bool.not_not (g.isClause n), ← parents_isEmpty]
  cases g.any (fun b => b.name == n)
  · cases g.find? (fun b => endPrefix ++ b.name == n)
    · cases ((g.filter (fun d => d.clauses.contains n)).map (·.name)).isEmpty <;> rfl
    · rfl
  · rfl

theorem syntaxOf_unknown {g : Grammar} {n : Bytes} (h : g.known n = false) : g.syntaxOf n = none :=
  Option.not_isSome_iff_eq_none.mp (by rw [syntaxOf_isSome, h]; exact Bool.false_ne_true)

theorem syntaxOf_known {g : Grammar} {n : Bytes} (h : g.known n = true) : ∃ cs, g.syntaxOf n = some cs :=
  Option.isSome_iff_exists.mp (by rw [syntaxOf_isSome, h])

theorem syntaxOf_end {g : Grammar} {b : Bytes} (hb : g.isBlock b = true)
    (hn : g.isBlock (endPrefix ++ b) = false) :
    g.syntaxOf (endPrefix ++ b) = some (.end_ (endPrefix ++ b) b) := by
  obtain ⟨d, hd⟩ := Option.isSome_iff_exists.mp (find_end_isSome.trans (isBlock_isEnd hb))
  have hdb : d.name = b := by
    have := List.find?_some hd
    exact List.append_cancel_left (beq_iff_eq.mp this)
  unfold Grammar.isBlock at hn
  simp only [Grammar.syntaxOf, hn, hd, hdb, Bool.false_eq_true, if_false]

theorem admits_isClause {g : Grammar} {b c : Bytes} (h : g.admits b c = true) : g.isClause c = true := by
  unfold Grammar.admits at h
  unfold Grammar.isClause
  simp only [List.any_eq_true, Bool.and_eq_true] at *
  obtain ⟨d, hd, _, h2⟩ := h
  exact ⟨d, hd, h2⟩

theorem syntaxOf_clause {g : Grammar} {b c : Bytes} (hb : g.isBlock c = false) (he : g.isEnd c = false)
    (h : g.admits b c = true) :
    ∃ ps, g.syntaxOf c = some (.clause c ps) ∧ ps.contains b = true := by
  refine ⟨_, ?_, parents_contains.trans h⟩
  unfold Grammar.isBlock at hb
  have hf := Option.not_isSome_iff_eq_none.mp (by rw [find_end_isSome, he]; exact Bool.false_ne_true)
  simp only [Grammar.syntaxOf, hb, hf, parents_isEmpty, admits_isClause h, Bool.not_true, Bool.false_eq_true, if_false]

theorem syntaxOf_some {g : Grammar} {n : Bytes} {cs : Syn} (h : g.syntaxOf n = some cs) :
    match cs with
    | .start _ => g.isBlock n = true
    | .end_ _ sn => n = endPrefix ++ sn
    | .clause _ ps => ∀ b, ps.contains b = true → g.admits b n = true := by
  unfold Grammar.syntaxOf at h
  split at h
  · next hb => cases h; exact hb
  · split at h
    · next d hf =>
      cases h
      have := List.find?_some hf
      exact (beq_iff_eq.mp this).symm
    · dsimp only at h
      split at h
      · cases h
      · cases h; exact fun b hb => parents_contains.symm.trans hb

/-- the frame after clause tag `c`: what was filled so far becomes the body, or one more finished clause -/
def Frame.addClause (f : Frame) (cur : List AST) (c : Token) : Frame :=
  match f.cur with
  | none => { f with body := some cur.reverse, cur := some c }
  | some c0 => { f with clauses := (c0, cur.reverse) :: f.clauses, cur := some c }

@[simp] theorem Frame.addClause_tok (f : Frame) (cur : List AST) (c : Token) : (f.addClause cur c).tok = f.tok := by
  unfold Frame.addClause; cases f.cur <;> rfl

@[simp] theorem Frame.addClause_outer (f : Frame) (cur : List AST) (c : Token) :
    (f.addClause cur c).outer = f.outer := by
  unfold Frame.addClause; cases f.cur <;> rfl

@[simp] theorem Frame.addClause_cur (f : Frame) (cur : List AST) (c : Token) : (f.addClause cur c).cur = some c := by
  unfold Frame.addClause; cases f.cur <;> rfl

/-- What both directions know of the zipper: closed after clause tag `c` and the part `cur'`, a frame makes the block it would
    have made before, with that clause more. (`closeFrame` does not look at the `clauses` of a frame still in its body,
    `addClause` keeps them: there are none.) -/
theorem closeFrame_addClause {f : Frame} (hf : f.cur = none → f.clauses = []) {cur b : List AST}
    {cl : List (Token × List AST)} (h : closeFrame f cur = .block f.tok b cl) (c : Token) (cur' : List AST) :
    closeFrame (f.addClause cur c) cur' = .block f.tok b (cl ++ [(c, cur'.reverse)]) := by
  obtain ⟨tok, outer, body, cls, fc⟩ := f
  cases fc with
  | none =>
    cases hf rfl
    cases h
    rfl
  | some c0 =>
    cases body <;> cases h <;> simp [Frame.addClause, closeFrame]

section steps
variable {g : Grammar} {chk : Bytes → Option Cause}

theorem step_text {cur : List AST} {st : List Frame} {t : Token} (ht : t.ty = .text) :
    parseStep g chk ⟨cur, st, .normal⟩ t = .ok ⟨.text t :: cur, st, .normal⟩ := by
  simp only [parseStep, ht]

theorem step_obj {cur : List AST} {st : List Frame} {t : Token} (ht : t.ty = .obj) (hc : chk t.args = none) :
    parseStep g chk ⟨cur, st, .normal⟩ t = .ok ⟨.obj t :: cur, st, .normal⟩ := by
  simp only [parseStep, ht, hc]

theorem step_obj_err {cur : List AST} {st : List Frame} {t : Token} {c : Cause} (ht : t.ty = .obj)
    (hc : chk t.args = some c) :
    parseStep g chk ⟨cur, st, .normal⟩ t = .err ⟨.objSyntax c, t.line⟩ := by
  simp only [parseStep, ht, hc]

theorem step_trimL {cur : List AST} {st : List Frame} {t : Token} (ht : t.ty = .trimL) :
    parseStep g chk ⟨cur, st, .normal⟩ t = .ok ⟨.trim true :: cur, st, .normal⟩ := by
  simp only [parseStep, ht]

theorem step_trimR {cur : List AST} {st : List Frame} {t : Token} (ht : t.ty = .trimR) :
    parseStep g chk ⟨cur, st, .normal⟩ t = .ok ⟨.trim false :: cur, st, .normal⟩ := by
  simp only [parseStep, ht]

theorem step_plain {cur : List AST} {st : List Frame} {t : Token} (h : g.isPlain t = true) :
    parseStep g chk ⟨cur, st, .normal⟩ t = .ok ⟨.tag t :: cur, st, .normal⟩ := by
  obtain ⟨h1, h2⟩ := isPlain_iff.mp h
  simp only [parseStep, h1, syntaxOf_unknown h2]

theorem step_commentOpen {cur : List AST} {st : List Frame} {t : Token} (h : g.isCommentOpen t = true) :
    parseStep g chk ⟨cur, st, .normal⟩ t = .ok ⟨cur, st, .comment t⟩ := by
  obtain ⟨h1, h2, h3⟩ := isCommentOpen_iff.mp h
  obtain ⟨cs, hs⟩ := syntaxOf_known h3
  simp only [parseStep, h1, h2, hs, beq_self_eq_true, if_true]

theorem step_rawOpen {cur : List AST} {st : List Frame} {t : Token} (h : g.isRawOpen t = true) :
    parseStep g chk ⟨cur, st, .normal⟩ t = .ok ⟨cur, st, .raw t []⟩ := by
  obtain ⟨h1, h2, h3⟩ := isRawOpen_iff.mp h
  obtain ⟨cs, hs⟩ := syntaxOf_known h3
  simp only [parseStep, h1, h2, hs, rawName_ne_commentName, beq_self_eq_true, if_true, Bool.false_eq_true, if_false]

theorem step_inComment_end {cur : List AST} {st : List Frame} {o t : Token} (h : isEndComment t = true) :
    parseStep g chk ⟨cur, st, .comment o⟩ t = .ok ⟨cur, st, .normal⟩ := by
  unfold isEndComment at h
  simp only [parseStep, h, if_true]

theorem step_inComment_other {cur : List AST} {st : List Frame} {o t : Token} (h : isEndComment t = false) :
    parseStep g chk ⟨cur, st, .comment o⟩ t = .ok ⟨cur, st, .comment o⟩ := by
  unfold isEndComment at h
  simp only [parseStep, h, Bool.false_eq_true, if_false]

theorem step_inRaw_end {cur : List AST} {st : List Frame} {o t : Token} {sl : List Bytes} (h : isEndRaw t = true) :
    parseStep g chk ⟨cur, st, .raw o sl⟩ t = .ok ⟨.raw sl.reverse :: cur, st, .normal⟩ := by
  unfold isEndRaw at h
  simp only [parseStep, h, if_true]

theorem step_inRaw_other {cur : List AST} {st : List Frame} {o t : Token} {sl : List Bytes} (h : isEndRaw t = false) :
    parseStep g chk ⟨cur, st, .raw o sl⟩ t = .ok ⟨cur, st, .raw o (t.source :: sl)⟩ := by
  unfold isEndRaw at h
  simp only [parseStep, h, Bool.false_eq_true, if_false]

theorem step_block {cur : List AST} {st : List Frame} {t : Token} {cs : Syn} (ht : t.ty = .tag)
    (hs : g.syntaxOf t.name = some cs) (hc : t.name ≠ commentName) (hr : t.name ≠ rawName)
    (hp : parentOk cs st.head? = true) :
    parseStep g chk ⟨cur, st, .normal⟩ t =
      match cs, st with
      | .start _, st => .ok ⟨[], { tok := t, outer := cur, body := none, clauses := [], cur := none } :: st, .normal⟩
      | .clause _ _, f :: fs => .ok ⟨[], f.addClause cur t :: fs, .normal⟩
      | .end_ _ _, f :: fs => .ok ⟨closeFrame f cur :: f.outer, fs, .normal⟩
      | _, [] => .panic "pop of an empty block stack" := by
  simp only [parseStep, ht, hs, beq_eq_false_iff_ne.mpr hc, beq_eq_false_iff_ne.mpr hr, hp, Bool.not_true,
    Bool.false_eq_true, if_false]
  cases cs with
  | start n => rfl
  | end_ n sn => cases st <;> rfl
  | clause n ps =>
    cases st with
    | nil => rfl
    | cons f fs =>
      obtain ⟨tok, outer, body, cls, fc⟩ := f
      cases fc <;> rfl

theorem step_notInside {cur : List AST} {st : List Frame} {t : Token} {cs : Syn} (ht : t.ty = .tag)
    (hs : g.syntaxOf t.name = some cs) (hc : t.name ≠ commentName) (hr : t.name ≠ rawName)
    (hp : parentOk cs st.head? = false) :
    parseStep g chk ⟨cur, st, .normal⟩ t = .err ⟨.notInside, t.line⟩ := by
  simp only [parseStep, ht, hs, beq_eq_false_iff_ne.mpr hc, beq_eq_false_iff_ne.mpr hr, hp, Bool.not_false,
    Bool.false_eq_true, if_false, if_true]

theorem step_open {cur : List AST} {st : List Frame} {t : Token} (h : g.isOpen t = true) :
    parseStep g chk ⟨cur, st, .normal⟩ t =
      .ok ⟨[], { tok := t, outer := cur, body := none, clauses := [], cur := none } :: st, .normal⟩ := by
  obtain ⟨ht, hb, hc, hr⟩ := isOpen_iff.mp h
  rw [step_block ht (syntaxOf_of_isBlock hb) hc hr rfl]

theorem step_clause (ok : g.OK = true) {cur : List AST} {f : Frame} {fs : List Frame} {c : Token}
    (h : g.isClauseOf f.tok c = true) :
    parseStep g chk ⟨cur, f :: fs, .normal⟩ c = .ok ⟨[], f.addClause cur c :: fs, .normal⟩ := by
  obtain ⟨ht, ha, hc, hr⟩ := isClauseOf_iff.mp h
  obtain ⟨hb, he⟩ := OK_clause ok ha
  obtain ⟨ps, hs, hp⟩ := syntaxOf_clause hb he ha
  rw [step_block (st := f :: fs) ht hs hc hr hp]

theorem step_end (ok : g.OK = true) {cur : List AST} {f : Frame} {fs : List Frame} {e : Token}
    (ho : g.isOpen f.tok = true) (h : isEndOf f.tok e = true) :
    parseStep g chk ⟨cur, f :: fs, .normal⟩ e = .ok ⟨closeFrame f cur :: f.outer, fs, .normal⟩ := by
  obtain ⟨ht, hn⟩ := isEndOf_iff.mp h
  have hb := (isOpen_iff.mp ho).2.1
  have hs := syntaxOf_end hb (OK_end ok hb)
  rw [← hn] at hs
  rw [step_block (st := f :: fs) ht hs (hn ▸ end_ne_comment _) (hn ▸ end_ne_raw _) (beq_self_eq_true _)]

end steps

/-! ## (⇐) A derivable list is accepted: the machine follows the derivation -/

section sound
variable {g : Grammar} {chk : Bytes → Option Cause}

theorem loop_cons_ok {s s' : PState} {t : Token} {ts : List Token} (h : parseStep g chk s t = .ok s') :
    parseLoop g chk s (t :: ts) = parseLoop g chk s' ts := by
  simp only [parseLoop, h]

theorem loop_comment_interior {cur : List AST} {st : List Frame} {o : Token} (k : List Token) :
    ∀ interior : List Token, (∀ t ∈ interior, isEndComment t = false) →
    parseLoop g chk ⟨cur, st, .comment o⟩ (interior ++ k) = parseLoop g chk ⟨cur, st, .comment o⟩ k
  | [], _ => rfl
  | t :: ts, h => by
    rw [List.cons_append, loop_cons_ok (step_inComment_other (h t (List.mem_cons_self ..)))]
    exact loop_comment_interior k ts (fun x hx => h x (List.mem_cons_of_mem _ hx))

theorem loop_raw_interior {cur : List AST} {st : List Frame} {o : Token} (k : List Token) :
    ∀ (interior : List Token) (sl : List Bytes), (∀ t ∈ interior, isEndRaw t = false) →
    parseLoop g chk ⟨cur, st, .raw o sl⟩ (interior ++ k) =
      parseLoop g chk ⟨cur, st, .raw o ((interior.map (·.source)).reverse ++ sl)⟩ k
  | [], _, _ => rfl
  | t :: ts, sl, h => by
    rw [List.cons_append, loop_cons_ok (step_inRaw_other (h t (List.mem_cons_self ..))),
      loop_raw_interior k ts _ (fun x hx => h x (List.mem_cons_of_mem _ hx))]
    simp

/-- Along clause segments the innermost frame keeps its open tag and its enclosing level; closed afterwards, it makes the block it
    would have made before, with the clauses of the segments more. -/
theorem loop_segs (ok : g.OK = true) {o : Token} (fs : List Frame) (k : List Token) :
    ∀ (segs : List Seg), (∀ sg ∈ segs, g.isClauseOf o sg.1 = true) →
    (∀ sg ∈ segs, ∀ cur st k, parseLoop g chk ⟨cur, st, .normal⟩ (sg.2.1 ++ k) =
        parseLoop g chk ⟨sg.2.2.reverse ++ cur, st, .normal⟩ k) →
    ∀ (f : Frame) (cur b : List AST) (cl : List (Token × List AST)), f.tok = o → (f.cur = none → f.clauses = []) →
      closeFrame f cur = .block o b cl →
    ∃ (f' : Frame) (cur' : List AST), f'.tok = o ∧ f'.outer = f.outer ∧ closeFrame f' cur' = .block o b (cl ++ segASTs segs) ∧
      parseLoop g chk ⟨cur, f :: fs, .normal⟩ (segToks segs ++ k) = parseLoop g chk ⟨cur', f' :: fs, .normal⟩ k
  | [], _, _, f, cur, b, cl, hf, _, hcl => ⟨f, cur, hf, rfl, by rw [hcl, segASTs, List.append_nil], rfl⟩
  | (c, ts, ns) :: r, hc, hrun, f, cur, b, cl, hf, hn, hcl => by
    subst hf
    obtain ⟨f', cur', h1, h2, h3, h4⟩ := loop_segs ok fs k r (fun sg h => hc sg (List.mem_cons_of_mem _ h))
      (fun sg h => hrun sg (List.mem_cons_of_mem _ h)) (f.addClause cur c) (ns.reverse ++ []) b (cl ++ [(c, ns)])
      (f.addClause_tok cur c) (fun h => by rw [f.addClause_cur] at h; cases h)
      (by rw [closeFrame_addClause hn hcl, List.append_nil, List.reverse_reverse])
    refine ⟨f', cur', h1, h2.trans (f.addClause_outer cur c), by rw [h3, segASTs, List.append_assoc]; rfl, ?_⟩
    rw [segToks, List.cons_append, List.append_assoc, loop_cons_ok (step_clause ok (hc _ (List.mem_cons_self ..))),
      hrun _ (List.mem_cons_self ..), h4]

theorem loop_leaf {cur : List AST} {st : List Frame} {t : Token} {n : AST} {rest k : List Token} {ns : List AST}
    (hs : parseStep g chk ⟨cur, st, .normal⟩ t = .ok ⟨n :: cur, st, .normal⟩)
    (ih : ∀ cur, parseLoop g chk ⟨cur, st, .normal⟩ (rest ++ k) = parseLoop g chk ⟨ns.reverse ++ cur, st, .normal⟩ k) :
    parseLoop g chk ⟨cur, st, .normal⟩ (t :: rest ++ k) = parseLoop g chk ⟨(n :: ns).reverse ++ cur, st, .normal⟩ k := by
  rw [List.cons_append, loop_cons_ok hs, ih, List.reverse_cons, List.append_assoc]
  rfl

theorem loop_derives (ok : g.OK = true) {toks : List Token} {ns : List AST} (h : Derives g chk toks ns) :
    ∀ (cur : List AST) (st : List Frame) (k : List Token),
    parseLoop g chk ⟨cur, st, .normal⟩ (toks ++ k) = parseLoop g chk ⟨ns.reverse ++ cur, st, .normal⟩ k := by
  induction h with
  | nil => intros; rfl
  | text t rest ns ht _ ih => exact fun cur st k => loop_leaf (step_text ht) (ih · st k)
  | obj t rest ns ht hc _ ih => exact fun cur st k => loop_leaf (step_obj ht hc) (ih · st k)
  | trimL t rest ns ht _ ih => exact fun cur st k => loop_leaf (step_trimL ht) (ih · st k)
  | trimR t rest ns ht _ ih => exact fun cur st k => loop_leaf (step_trimR ht) (ih · st k)
  | tag t rest ns ht _ ih => exact fun cur st k => loop_leaf (step_plain ht) (ih · st k)
  | comment o c interior rest ns ho hi hc _ ih =>
    intro cur st k
    rw [List.cons_append, loop_cons_ok (step_commentOpen ho), List.append_assoc, loop_comment_interior _ _ hi,
      List.cons_append, loop_cons_ok (step_inComment_end hc), ih]
  | raw o c interior rest ns ho hi hc _ ih =>
    intro cur st k
    rw [List.cons_append, loop_cons_ok (step_rawOpen ho), List.append_assoc, loop_raw_interior _ _ _ hi,
      List.cons_append, loop_cons_ok (step_inRaw_end hc), ih, List.append_nil, List.reverse_reverse, List.reverse_cons,
      List.append_assoc]
    rfl
  | block o e body bns segs rest ns ho _ hcl _ he _ ihb ihs ihr =>
    intro cur st k
    obtain ⟨f', cur', hf', hout, hclose, hl⟩ := loop_segs (chk := chk) ok st (e :: (rest ++ k)) segs hcl ihs
      { tok := o, outer := cur, body := none, clauses := [], cur := none } (bns.reverse ++ []) bns [] rfl (fun _ => rfl)
      (by rw [closeFrame, List.append_nil, List.reverse_reverse])
    subst hf'
    rw [List.cons_append, loop_cons_ok (step_open ho), List.append_assoc, ihb, List.append_assoc, List.cons_append, hl,
      loop_cons_ok (step_end ok ho he), hclose, hout, ihr, List.reverse_cons, List.append_assoc]
    rfl

/-- the interior of a block that has not been closed: a body and clauses, all well nested -/
def BlockInterior (g : Grammar) (chk : Bytes → Option Cause) (o : Token) (inner : List Token) : Prop :=
  ∃ (body : List Token) (bns : List AST) (segs : List Seg), Derives g chk body bns ∧
    (∀ sg ∈ segs, g.isClauseOf o sg.1 = true) ∧ (∀ sg ∈ segs, Derives g chk sg.2.1 sg.2.2) ∧
    inner = body ++ segToks segs

theorem loop_blockInterior (ok : g.OK = true) {o : Token} {inner : List Token} (ho : g.isOpen o = true)
    (hin : BlockInterior g chk o inner) (cur : List AST) (st : List Frame) :
    ∃ (f : Frame) (cur' : List AST), f.tok = o ∧
      parseLoop g chk ⟨cur, st, .normal⟩ (o :: inner) = .ok ⟨cur', f :: st, .normal⟩ := by
  obtain ⟨body, bns, segs, hb, hc, hd, rfl⟩ := hin
  obtain ⟨f, cur', hf, -, -, hl⟩ := loop_segs ok st [] segs hc (fun sg h => loop_derives ok (hd sg h))
    { tok := o, outer := cur, body := none, clauses := [], cur := none } (bns.reverse ++ []) bns [] rfl (fun _ => rfl)
    (by rw [closeFrame, List.append_nil, List.reverse_reverse])
  rw [List.append_nil (segToks segs)] at hl
  exact ⟨f, cur', hf, by rw [loop_cons_ok (step_open ho), loop_derives ok hb, hl]; rfl⟩

theorem parse_of_derives (ok : g.OK = true) {toks : List Token} {ast : List AST} (h : Derives g chk toks ast) :
    parseTokens g chk toks = .ok ast := by
  have := loop_derives ok h [] [] []
  rw [List.append_nil, List.append_nil] at this
  unfold parseTokens
  rw [show ({} : PState) = ⟨[], [], .normal⟩ from rfl, this]
  simp only [parseLoop, List.reverse_reverse]
end sound

section derives
variable {g : Grammar} {chk : Bytes → Option Cause}

theorem Derives.append {a b : List Token} {ns ms : List AST} (h : Derives g chk a ns) (hb : Derives g chk b ms) :
    Derives g chk (a ++ b) (ns ++ ms) := by
  induction h with
  | nil => exact hb
  | text t rest ns ht _ ih => exact Derives.text t _ _ ht ih
  | obj t rest ns ht hc _ ih => exact Derives.obj t _ _ ht hc ih
  | trimL t rest ns ht _ ih => exact Derives.trimL t _ _ ht ih
  | trimR t rest ns ht _ ih => exact Derives.trimR t _ _ ht ih
  | tag t rest ns ht _ ih => exact Derives.tag t _ _ ht ih
  | comment o c interior rest ns ho hi hc _ ih =>
    have := Derives.comment o c interior _ _ ho hi hc ih
    simpa using this
  | raw o c interior rest ns ho hi hc _ ih =>
    have := Derives.raw o c interior _ _ ho hi hc ih
    simpa using this
  | block o e body bns segs rest ns ho hbd hcl hsg he _ _ _ ihr =>
    have := Derives.block o e body bns segs _ _ ho hbd hcl hsg he ihr
    simpa using this
end derives

section classify
variable (g : Grammar) (chk : Bytes → Option Cause)

/-- Every result of `parseStep`, with the class of the token (in the terms of `Liquid/Nest.lean`)
    that produces it. -/
inductive StepCase : PState → Token → Res PErr PState → Prop
  | inCommentEnd {cur st o t} : isEndComment t = true → StepCase ⟨cur, st, .comment o⟩ t (.ok ⟨cur, st, .normal⟩)
  | inCommentOther {cur st o t} : isEndComment t = false → StepCase ⟨cur, st, .comment o⟩ t (.ok ⟨cur, st, .comment o⟩)
  | inRawEnd {cur st o sl t} : isEndRaw t = true → StepCase ⟨cur, st, .raw o sl⟩ t (.ok ⟨.raw sl.reverse :: cur, st, .normal⟩)
  | inRawOther {cur st o sl t} : isEndRaw t = false →
      StepCase ⟨cur, st, .raw o sl⟩ t (.ok ⟨cur, st, .raw o (t.source :: sl)⟩)
  | text {cur st t} : t.ty = .text → StepCase ⟨cur, st, .normal⟩ t (.ok ⟨.text t :: cur, st, .normal⟩)
  | trimL {cur st t} : t.ty = .trimL → StepCase ⟨cur, st, .normal⟩ t (.ok ⟨.trim true :: cur, st, .normal⟩)
  | trimR {cur st t} : t.ty = .trimR → StepCase ⟨cur, st, .normal⟩ t (.ok ⟨.trim false :: cur, st, .normal⟩)
  | obj {cur st t} : t.ty = .obj → chk t.args = none → StepCase ⟨cur, st, .normal⟩ t (.ok ⟨.obj t :: cur, st, .normal⟩)
  | objErr {cur st t} (c : Cause) : t.ty = .obj → chk t.args = some c →
      StepCase ⟨cur, st, .normal⟩ t (.err ⟨.objSyntax c, t.line⟩)
  | plain {cur st t} : g.isPlain t = true → StepCase ⟨cur, st, .normal⟩ t (.ok ⟨.tag t :: cur, st, .normal⟩)
  | commentOpen {cur st t} : g.isCommentOpen t = true → StepCase ⟨cur, st, .normal⟩ t (.ok ⟨cur, st, .comment t⟩)
  | rawOpen {cur st t} : g.isRawOpen t = true → StepCase ⟨cur, st, .normal⟩ t (.ok ⟨cur, st, .raw t []⟩)
  | notInside {cur st t} : t.ty = .tag → StepCase ⟨cur, st, .normal⟩ t (.err ⟨.notInside, t.line⟩)
  | open_ {cur st t} : g.isOpen t = true → StepCase ⟨cur, st, .normal⟩ t
      (.ok ⟨[], { tok := t, outer := cur, body := none, clauses := [], cur := none } :: st, .normal⟩)
  | clause {cur f fs t} : g.isClauseOf f.tok t = true →
      StepCase ⟨cur, f :: fs, .normal⟩ t (.ok ⟨[], f.addClause cur t :: fs, .normal⟩)
  | end_ {cur f fs t} : isEndOf f.tok t = true →
      StepCase ⟨cur, f :: fs, .normal⟩ t (.ok ⟨closeFrame f cur :: f.outer, fs, .normal⟩)

variable {g chk}

theorem parseStep_case (s : PState) (t : Token) : StepCase g chk s t (parseStep g chk s t) := by
  obtain ⟨cur, st, mode⟩ := s
  cases mode with
  | comment o =>
    cases he : isEndComment t with
    | true => rw [step_inComment_end he]; exact .inCommentEnd he
    | false => rw [step_inComment_other he]; exact .inCommentOther he
  | raw o sl =>
    cases he : isEndRaw t with
    | true => rw [step_inRaw_end he]; exact .inRawEnd he
    | false => rw [step_inRaw_other he]; exact .inRawOther he
  | normal =>
    cases ht : t.ty with
    | text => rw [step_text ht]; exact .text ht
    | trimL => rw [step_trimL ht]; exact .trimL ht
    | trimR => rw [step_trimR ht]; exact .trimR ht
    | obj =>
      cases hc : chk t.args with
      | none => rw [step_obj ht hc]; exact .obj ht hc
      | some c => rw [step_obj_err ht hc]; exact .objErr c ht hc
    | tag =>
      cases hk : g.known t.name with
      | false =>
        have hp : g.isPlain t = true := isPlain_iff.mpr ⟨ht, hk⟩
        rw [step_plain hp]; exact .plain hp
      | true =>
        obtain ⟨cs, hsyn⟩ := syntaxOf_known hk
        cases hc : t.name == commentName with
        | true =>
          have ho : g.isCommentOpen t = true := isCommentOpen_iff.mpr ⟨ht, beq_iff_eq.mp hc, beq_iff_eq.mp hc ▸ hk⟩
          rw [step_commentOpen ho]; exact .commentOpen ho
        | false =>
        cases hr : t.name == rawName with
        | true =>
          have ho : g.isRawOpen t = true := isRawOpen_iff.mpr ⟨ht, beq_iff_eq.mp hr, beq_iff_eq.mp hr ▸ hk⟩
          rw [step_rawOpen ho]; exact .rawOpen ho
        | false =>
          have hc' := beq_eq_false_iff_ne.mp hc
          have hr' := beq_eq_false_iff_ne.mp hr
          have hsome := syntaxOf_some hsyn
          cases hp : parentOk cs st.head? with
          | false => rw [step_notInside ht hsyn hc' hr' hp]; exact .notInside ht
          | true =>
            rw [step_block ht hsyn hc' hr' hp]
            cases cs with
            | start n => exact .open_ (isOpen_iff.mpr ⟨ht, hsome, hc', hr'⟩)
            | clause n ps =>
              cases st with
              | nil => cases hp
              | cons f fs => exact .clause (isClauseOf_iff.mpr ⟨ht, hsome _ hp, hc', hr'⟩)
            | end_ n sn =>
              cases st with
              | nil => cases hp
              | cons f fs => exact .end_ (isEndOf_iff.mpr ⟨ht, hsome.trans (congrArg _ (beq_iff_eq.mp hp).symm)⟩)
end classify

/-! ## (⇒) What the machine has consumed is derivable, piecewise, from what it has built: the invariant of the loop -/

theorem forall_mem_snoc {α} {p : α → Prop} {l : List α} {a : α} (hl : ∀ x ∈ l, p x) (ha : p a) :
    ∀ x ∈ l ++ [a], p x :=
  List.forall_mem_append.mpr ⟨hl, List.forall_mem_singleton.mpr ha⟩

section complete
variable (g : Grammar) (chk : Bytes → Option Cause)

/-- `hdr` is what was consumed for frame `f` before the part being filled (the open tag and — once a clause has started — the body,
    the finished clauses and the tag of the current clause): with whatever derives that part it is the open tag and a block
    interior, and the frame closed now is the block of that interior -/
structure FrameInv (f : Frame) (hdr : List Token) : Prop where
  isOpen : g.isOpen f.tok = true
  fresh : f.cur = none → f.clauses = []
  interior : ∀ {t2 : List Token} {cur : List AST}, Derives g chk t2 cur.reverse →
    ∃ body bns segs, Derives g chk body bns ∧ (∀ sg ∈ segs, g.isClauseOf f.tok sg.1 = true) ∧
      (∀ sg ∈ segs, Derives g chk sg.2.1 sg.2.2) ∧ hdr ++ t2 = f.tok :: (body ++ segToks segs) ∧
      closeFrame f cur = .block f.tok bns (segASTs segs)

/-- outside comment/raw the state `⟨cur, st⟩` has consumed `toks`: with no block open, `toks` derives `cur`; with innermost frame
    `f`, the machine reached the enclosing level on `pre`, of which the same holds; then came the frame's `hdr` and the items
    of the part being filled -/
def NormalInv : List AST → List Frame → List Token → Prop
  | cur, [], toks => Derives g chk toks cur.reverse
  | cur, f :: fs, toks => ∃ pre hdr t2, toks = pre ++ (hdr ++ t2) ∧ NormalInv f.outer fs pre ∧
      parseLoop g chk {} pre = .ok ⟨f.outer, fs, .normal⟩ ∧ FrameInv g chk f hdr ∧ Derives g chk t2 cur.reverse

/-- the invariant of the token loop; inside comment/raw the machine has reached the surrounding
    normal state on the tokens `pre` before the open tag -/
def ParseInv (s : PState) (toks : List Token) : Prop :=
  match s.mode with
  | .normal => NormalInv g chk s.cur s.stack toks
  | .comment o => ∃ pre interior, toks = pre ++ o :: interior ∧ NormalInv g chk s.cur s.stack pre ∧
      parseLoop g chk {} pre = .ok ⟨s.cur, s.stack, .normal⟩ ∧
      g.isCommentOpen o = true ∧ ∀ x ∈ interior, isEndComment x = false
  | .raw o sl => ∃ pre interior, toks = pre ++ o :: interior ∧ NormalInv g chk s.cur s.stack pre ∧
      parseLoop g chk {} pre = .ok ⟨s.cur, s.stack, .normal⟩ ∧
      g.isRawOpen o = true ∧ (∀ x ∈ interior, isEndRaw x = false) ∧ sl.reverse = interior.map (·.source)

variable {g chk}

theorem NormalInv.push {cur : List AST} {st : List Frame} {toks its : List Token} {ns : List AST}
    (hi : NormalInv g chk cur st toks) (hd : Derives g chk its ns) :
    NormalInv g chk (ns.reverse ++ cur) st (toks ++ its) := by
  have happ : ∀ {t2}, Derives g chk t2 cur.reverse → Derives g chk (t2 ++ its) (ns.reverse ++ cur).reverse := fun h2 => by
    rw [List.reverse_append, List.reverse_reverse]
    exact h2.append hd
  cases st with
  | nil => exact happ hi
  | cons f fs =>
    obtain ⟨pre, hdr, t2, rfl, hn, hrun, hf, h2⟩ := hi
    exact ⟨pre, hdr, t2 ++ its, by simp only [List.append_assoc], hn, hrun, hf, happ h2⟩

theorem FrameInv.addClause {f : Frame} {hdr t2 : List Token} {cur : List AST} {c : Token} (hf : FrameInv g chk f hdr)
    (hd : Derives g chk t2 cur.reverse) (hc : g.isClauseOf f.tok c = true) :
    FrameInv g chk (f.addClause cur c) (hdr ++ (t2 ++ [c])) := by
  obtain ⟨body, bns, segs, hbd, hsc, hsd, heq, hclose⟩ := hf.interior hd
  refine ⟨(f.addClause_tok cur c).symm ▸ hf.isOpen, (fun h => nomatch (f.addClause_cur cur c).symm.trans h), fun {t2' cur'} hd' => ?_⟩
  rw [f.addClause_tok]
  refine ⟨body, bns, segs ++ [(c, t2', cur'.reverse)], hbd, forall_mem_snoc hsc hc, forall_mem_snoc hsd hd', ?_, ?_⟩
  · rw [← List.append_assoc hdr, heq]
    simp [segToks_append, segToks]
  · rw [closeFrame_addClause hf.fresh hclose, segASTs_append]
    rfl

theorem step_inv {s s' : PState} {t : Token} {toks : List Token} (h0 : parseLoop g chk {} toks = .ok s)
    (hi : ParseInv g chk s toks) (h : parseStep g chk s t = .ok s') : ParseInv g chk s' (toks ++ [t]) := by
  have hr := parseStep_case (g := g) (chk := chk) s t
  rw [h] at hr
  cases hr with
  | inCommentEnd he =>
    obtain ⟨pre, interior, rfl, hn, _, ho, hint⟩ := hi
    rw [List.append_assoc, List.cons_append]
    exact hn.push (Derives.comment _ t interior [] [] ho hint he .nil)
  | inCommentOther he =>
    obtain ⟨pre, interior, rfl, hn, hrun, ho, hint⟩ := hi
    exact ⟨pre, interior ++ [t], List.append_assoc .., hn, hrun, ho, forall_mem_snoc hint he⟩
  | inRawEnd he =>
    obtain ⟨pre, interior, rfl, hn, _, ho, hint, hsl⟩ := hi
    rw [List.append_assoc, List.cons_append, hsl]
    exact hn.push (Derives.raw _ t interior [] [] ho hint he .nil)
  | inRawOther he =>
    obtain ⟨pre, interior, rfl, hn, hrun, ho, hint, hsl⟩ := hi
    exact ⟨pre, interior ++ [t], List.append_assoc .., hn, hrun, ho, forall_mem_snoc hint he,
      by rw [List.reverse_cons, hsl, List.map_append]; rfl⟩
  | text ht => exact NormalInv.push hi (.text t [] [] ht .nil)
  | trimL ht => exact NormalInv.push hi (.trimL t [] [] ht .nil)
  | trimR ht => exact NormalInv.push hi (.trimR t [] [] ht .nil)
  | obj ht hc => exact NormalInv.push hi (.obj t [] [] ht hc .nil)
  | plain hp => exact NormalInv.push hi (.tag t [] [] hp .nil)
  | commentOpen ho => exact ⟨toks, [], rfl, hi, h0, ho, (fun _ h => nomatch h)⟩
  | rawOpen ho => exact ⟨toks, [], rfl, hi, h0, ho, (fun _ h => nomatch h), rfl⟩
  | open_ ho =>
    exact ⟨toks, [t], [], rfl, hi, h0, ⟨ho, fun _ => rfl,
      fun {t2 cur} hd => ⟨t2, cur.reverse, [], hd, nofun, nofun, by rw [segToks, List.append_nil]; rfl, rfl⟩⟩, .nil⟩
  | clause hcl =>
    obtain ⟨pre, hdr, t2, rfl, hn, hrun, hf, hd⟩ := hi
    refine ⟨pre, hdr ++ (t2 ++ [t]), [], by simp only [List.append_assoc, List.append_nil], ?_, ?_, hf.addClause hd hcl, .nil⟩
    · rw [Frame.addClause_outer]; exact hn
    · rw [Frame.addClause_outer]; exact hrun
  | @end_ cur f fs _ hen =>
    obtain ⟨pre, hdr, t2, rfl, hn, _, hf, hd⟩ := hi
    obtain ⟨body, bns, segs, hbd, hsc, hsd, heq, hclose⟩ := hf.interior hd
    have := hn.push (.block f.tok t body bns segs [] [] hf.isOpen hbd hsc hsd hen .nil)
    rw [hclose, List.append_assoc, List.append_assoc, ← List.append_assoc hdr, heq, List.cons_append, List.append_assoc]
    exact this
end complete

section loops
variable {g : Grammar} {chk : Bytes → Option Cause}

theorem loop_cons_inv {s s' : PState} {t : Token} {ts : List Token} (h : parseLoop g chk s (t :: ts) = .ok s') :
    ∃ s1, parseStep g chk s t = .ok s1 ∧ parseLoop g chk s1 ts = .ok s' := by
  rw [parseLoop] at h
  cases hst : parseStep g chk s t with
  | ok s1 => rw [hst] at h; exact ⟨s1, rfl, h⟩
  | err e => rw [hst] at h; cases h
  | panic w => rw [hst] at h; cases h
  | unmodelled w => rw [hst] at h; cases h

theorem loop_append_bind (s : PState) (a b : List Token) :
    parseLoop g chk s (a ++ b) = (parseLoop g chk s a).bind (parseLoop g chk · b) := by
  induction a generalizing s with
  | nil => rfl
  | cons t ts ih =>
    rw [List.cons_append, parseLoop, parseLoop]
    cases parseStep g chk s t with
    | ok s1 => exact ih s1
    | err e | panic w | unmodelled w => rfl

theorem loop_append {s s' : PState} {a : List Token} (b : List Token) (h : parseLoop g chk s a = .ok s') :
    parseLoop g chk s (a ++ b) = parseLoop g chk s' b := by
  rw [loop_append_bind, h]; rfl

theorem loop_inv : ∀ (ts : List Token) {s s' : PState} {toks : List Token}, parseLoop g chk {} toks = .ok s →
    ParseInv g chk s toks → parseLoop g chk s ts = .ok s' → ParseInv g chk s' (toks ++ ts)
  | [], s, s', toks, _, hi, h => by cases h; rw [List.append_nil]; exact hi
  | t :: ts, s, s', toks, h0, hi, h => by
    obtain ⟨s1, hst, h1⟩ := loop_cons_inv h
    have h01 : parseLoop g chk {} (toks ++ [t]) = .ok s1 := by rw [loop_append _ h0, loop_cons_ok hst]; rfl
    have := loop_inv ts h01 (step_inv h0 hi hst) h1
    rwa [List.append_assoc] at this

theorem inv_of_loop {toks : List Token} {s : PState} (h : parseLoop g chk {} toks = .ok s) : ParseInv g chk s toks :=
  loop_inv toks (toks := []) rfl .nil h

/-! ## The pop is guarded: a step, and so the loop, answers a state or an error; the only errors of a step are `objSyntax` and `notInside`, at the token -/

theorem step_no_panic (s : PState) (t : Token) : (parseStep g chk s t).isPanic = false := by
  have hr := parseStep_case (g := g) (chk := chk) s t
  generalize parseStep g chk s t = r at hr
  cases hr <;> rfl

/-- the loop answers a state, or the error of the step at the first token that has one -/
theorem loop_end : ∀ (ts : List Token) (s : PState),
    (∃ s', parseLoop g chk s ts = .ok s') ∨
    ∃ pre t rest s1 e, ts = pre ++ t :: rest ∧ parseLoop g chk s pre = .ok s1 ∧ parseStep g chk s1 t = .err e ∧
      parseLoop g chk s ts = .err e
  | [], s => .inl ⟨s, rfl⟩
  | t :: ts, s => by
    have hr := parseStep_case (g := g) (chk := chk) s t
    cases hst : parseStep g chk s t with
    | ok s1 =>
      rw [loop_cons_ok hst]
      rcases loop_end ts s1 with h | ⟨pre, t', rest, s2, e, h1, h2, h3, h4⟩
      · exact .inl h
      · exact .inr ⟨t :: pre, t', rest, s2, e, by rw [h1]; rfl, by rw [loop_cons_ok hst]; exact h2, h3, h4⟩
    | err e => exact .inr ⟨[], t, ts, s, e, rfl, rfl, hst, by rw [parseLoop, hst]⟩
    | panic w => rw [hst] at hr; cases hr
    | unmodelled w => rw [hst] at hr; cases hr
end loops

section errors
variable {g : Grammar} {chk : Bytes → Option Cause}

/-- a prefix the parser has consumed without error, ending outside comment/raw -/
def Viable (g : Grammar) (chk : Bytes → Option Cause) (pre : List Token) : Prop :=
  ∃ s, parseLoop g chk {} pre = .ok s ∧ s.mode = .normal

theorem step_err_cases {s : PState} {t : Token} {e : PErr} (h : parseStep g chk s t = .err e) :
    s.mode = .normal ∧ e.line = t.line ∧
      ((t.ty = .obj ∧ ∃ c, chk t.args = some c ∧ e.kind = .objSyntax c) ∨ (t.ty = .tag ∧ e.kind = .notInside)) := by
  have hr := parseStep_case (g := g) (chk := chk) s t
  rw [h] at hr
  cases hr with
  | objErr c ht hc => exact ⟨rfl, rfl, .inl ⟨ht, c, hc, rfl⟩⟩
  | notInside ht => exact ⟨rfl, rfl, .inr ⟨ht, rfl⟩⟩
end errors

/-! ## Where the token loop can end, and what `parseTokens` answers there -/

theorem stdGrammar_OK : stdGrammar.OK = true := by decide +kernel

/-- Every answer of `parseTokens`, with the end of the token loop that produces it. -/
inductive EndCase (g : Grammar) (chk : Bytes → Option Cause) (toks : List Token) : Res PErr (List AST) → Prop
  | done {cur} : parseLoop g chk {} toks = .ok ⟨cur, [], .normal⟩ → EndCase g chk toks (.ok cur.reverse)
  | inBlock {cur f fs} : parseLoop g chk {} toks = .ok ⟨cur, f :: fs, .normal⟩ →
      EndCase g chk toks (.err ⟨.unterminated, f.tok.line⟩)
  | inComment {cur st o} : parseLoop g chk {} toks = .ok ⟨cur, st, .comment o⟩ →
      EndCase g chk toks (.err ⟨.unterminated, o.line⟩)
  | inRaw {cur st o sl} : parseLoop g chk {} toks = .ok ⟨cur, st, .raw o sl⟩ →
      EndCase g chk toks (.err ⟨.unterminated, o.line⟩)
  | stepErr {pre t rest s e} : toks = pre ++ t :: rest → parseLoop g chk {} pre = .ok s → parseStep g chk s t = .err e →
      EndCase g chk toks (.err e)

theorem parseTokens_end (g : Grammar) (chk : Bytes → Option Cause) (toks : List Token) :
    EndCase g chk toks (parseTokens g chk toks) := by
  unfold parseTokens
  rcases loop_end (g := g) (chk := chk) toks {} with ⟨⟨cur, st, mode⟩, hl⟩ | ⟨pre, t, rest, s1, e, h1, h2, h3, hl⟩
  · rw [hl]
    cases mode with
    | comment o => exact .inComment hl
    | raw o sl => exact .inRaw hl
    | normal =>
      cases st with
      | nil => exact .done hl
      | cons f fs => exact .inBlock hl
  · rw [hl]
    exact .stepErr h1 h2 h3

theorem derives_of_parse {g : Grammar} {chk : Bytes → Option Cause} {toks : List Token} {ast : List AST}
    (h : parseTokens g chk toks = .ok ast) : Derives g chk toks ast := by
  have hc := parseTokens_end g chk toks
  rw [h] at hc
  cases hc with
  | done hl => exact inv_of_loop hl
