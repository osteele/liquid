import Proofs.SrcItems
/-!
# The compile relation on spelled templates

`CompilesTo d items line ns`: the piece `items`, placed at `line`, compiles to the nodes `ns`. A rule for each form the source-level theorems meet (`text`, `ob`;
tags and blocks: `assign`, `incl`, `capture`, `loop` in Proofs/SrcTags.lean, `chain` and, stated as the equation it unfolds to,
`caseK_compile` in Proofs/SrcClauses.lean); `cons` and `append` put forms in sequence, the second piece placed below the newlines
of the first, and `capture` takes what follows the block (`R`) so that the source reads as it is written.
`run_of_compilesTo` is the one step from source bytes to the compiled root; `run_pick_body`, `run_pick_nothing`,
`run_written_single_fail`: what `run` returns when the root is one node that renders one of the source's own pieces, or nothing, or fails.
-/

def CompilesTo (d : Delims) (items : List Item) (line : Nat) (ns : List Node) : Prop :=
  compileTokens (tokensOf d items line) = .ok ns

/-- the node list of a piece placed at `line` (`[]` when it does not compile) -/
def nodesOf (d : Delims) (items : List Item) (line : Nat) : List Node :=
  match compileTokens (tokensOf d items line) with
  | .ok ns => ns
  | _ => []

namespace CompilesTo
variable {d : Delims} {l : Nat}

theorem of_compiles {A : List Item} (h : Compiles d A l) : CompilesTo d A l (nodesOf d A l) := by
  obtain ⟨ns, hns⟩ := h.nodes
  unfold CompilesTo nodesOf
  rw [hns]

theorem nil : CompilesTo d [] l [] := compiles_nil

theorem append {A B : List Item} {na nb : List Node} (ha : CompilesTo d A l na)
    (hb : CompilesTo d B (l + countNL (spell d A)) nb) : CompilesTo d (A ++ B) l (na ++ nb) := by
  unfold CompilesTo
  rw [tokensOf_append]
  exact compiles_append ha hb

theorem cons {it : Item} {R : List Item} {n1 nR : List Node} (h1 : CompilesTo d [it] l n1)
    (hR : CompilesTo d R (l + countNL (it.spell d)) nR) : CompilesTo d (it :: R) l (n1 ++ nR) :=
  append h1 (by rwa [spell_single])

theorem text (s : Bytes) : CompilesTo d [.text s] l [.text l s] :=
  compiles_text { ty := .text, line := l, source := s } rfl

theorem ob {a : Bytes} {e : Expr} (w : Ws) (he : parseExprSource a = .ok e) : CompilesTo d [ob a w] l [.obj l e] :=
  compiles_obj (obTok d a w l) e rfl he

end CompilesTo

/-- the bytes `FRender` has handed to a writer that never fails by the time it returns — with an error or without
    (`run` keeps the output of a successful render only, as `Template.Render` does) -/
def written (P : Prims) (O : OutPrims) (cfg : Cfg) (fs : FS) (fuel : Nat) (src : Bytes) (line : Nat) (env : Env) : Bytes :=
  match compileSource cfg.delims src line with
  | .ok root => (frender P O cfg fs fuel root env).runPure.1
  | _ => []

section
variable (P : Prims) (O : OutPrims) (cfg : Cfg) (fs : FS) (fuel : Nat) {src : List Item} {line : Nat} (env : Env)
  (hg : GoodDelims (Delims.ofList cfg.delims)) (hc : Clean (Delims.ofList cfg.delims) src)
include hg hc

theorem run_of_compilesTo {ns : List Node} (h : CompilesTo (Delims.ofList cfg.delims) src line ns) :
    run P O cfg fs fuel (spell (Delims.ofList cfg.delims) src) line env = runRoot P O cfg fs fuel ns env := by
  rw [run_spell P O cfg fs fuel _ line env hg hc, h]
  rfl

variable {n : Node} (hcomp : CompilesTo (Delims.ofList cfg.delims) src line [n])
include hcomp

/-- the source compiles to one node, which renders (wrapped) the piece `S` of it standing at line `lS`: it succeeds exactly
    when `S` does as a template of its own there, with that output -/
theorem run_pick_body {S : List Item} {lS : Nat} {loc : Loc} (hcS : Clean (Delims.ofList cfg.delims) S)
    (hS : Compiles (Delims.ofList cfg.delims) S lS)
    (h : renderNode (mkCtx P O cfg fs fuel) n ⟨env, {}⟩ = wrapAt cfg.path loc
      (renderBlockBody (mkCtx P O cfg fs fuel) (nodesOf (Delims.ofList cfg.delims) S lS)) ⟨env, {}⟩) (out : Bytes) :
    run P O cfg fs fuel (spell (Delims.ofList cfg.delims) src) line env = .ok out ↔
      run P O cfg fs fuel (spell (Delims.ofList cfg.delims) S) lS env = .ok out := by
  rw [run_of_compilesTo P O cfg fs fuel env hg hc hcomp, run_of_compilesTo P O cfg fs fuel env hg hcS (.of_compiles hS)]
  exact runRoot_wrapped_body_ok P O cfg fs fuel n _ env loc h out

theorem run_pick_nothing (h : renderNode (mkCtx P O cfg fs fuel) n ⟨env, {}⟩ = .ret (.done, ⟨env, {}⟩)) :
    run P O cfg fs fuel (spell (Delims.ofList cfg.delims) src) line env = .ok [] := by
  rw [run_of_compilesTo P O cfg fs fuel env hg hc hcomp]
  exact runRoot_silent P O cfg fs fuel n env h

/-- the source compiles to one node, which fails before writing: `run` returns that error and the writer has received nothing -/
theorem run_written_single_fail {e : SErr} (h : renderNode (mkCtx P O cfg fs fuel) n ⟨env, {}⟩ = .fail (.located e)) :
    run P O cfg fs fuel (spell (Delims.ofList cfg.delims) src) line env = .err e ∧
    written P O cfg fs fuel (spell (Delims.ofList cfg.delims) src) line env = [] := by
  have hf : (frender P O cfg fs fuel [n] env).runPure = ([], .err (.located e)) := by
    rw [frender_single, h]
    rfl
  constructor
  · rw [run_of_compilesTo P O cfg fs fuel env hg hc hcomp]
    unfold runRoot
    rw [hf]
  · unfold written
    rw [compileSource_spell cfg.delims src line hg hc, hcomp]
    simp only [hf]

end
