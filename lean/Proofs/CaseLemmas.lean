import Proofs.CaseTables
/-!
# `unicode.ToUpper` / `unicode.ToLower` on every rune: what follows from the obligations of `Proofs/CaseTables.lean`
-/

theorem upperRune_total (r : Rune) : upperRune r = some (toUpperRune r) := rfl
theorem lowerRune_total (r : Rune) : lowerRune r = some (toLowerRune r) := rfl

theorem toUpperRune_scalar {r : Rune} (h : isScalar r = true) : isScalar (toUpperRune r) = true :=
  caseLookup_scalar (caseTableWf_parts case_tables_wellformed.1).1 h

theorem toLowerRune_scalar {r : Rune} (h : isScalar r = true) : isScalar (toLowerRune r) = true :=
  caseLookup_scalar (caseTableWf_parts case_tables_wellformed.2).1 h

theorem toUpperRune_idem (r : Rune) : toUpperRune (toUpperRune r) = toUpperRune r :=
  caseLookup_idem case_tables_idempotent.1 r

theorem toLowerRune_idem (r : Rune) : toLowerRune (toLowerRune r) = toLowerRune r :=
  caseLookup_idem case_tables_idempotent.2 r

theorem toUpper_toLower_of_upper {u : Rune} (hu : toUpperRune u = u) (hx : u ∉ upperLowerUpperExceptions) :
    toUpperRune (toLowerRune u) = u :=
  caseRoundTrip_sound upperRanges_sorted lowerRanges_sorted case_tables_round_trip.1 hu hx

/-- on ASCII the tables are the byte loops of `strings.ToUpper` / `strings.ToLower`: the first range is `a..z` / `A..Z`,
the second starts above U+007F -/
theorem toUpperRune_ascii {r : Nat} (h : r < 0x80) : toUpperRune r = if 0x61 ≤ r ∧ r ≤ 0x7A then r - 32 else r := by
  have e : upperRanges = ⟨0x61, 0x7A, false, 0x41⟩ :: ⟨0xB5, 0xB5, false, 0x39C⟩ :: (upperRanges.drop 2) := rfl
  have hs := upperRanges_sorted
  unfold toUpperRune
  rw [e] at hs ⊢
  rw [caseLookup_first hs (Nat.lt_trans h (by decide))]
  by_cases hh : 0x61 ≤ r ∧ r ≤ 0x7A
  · rw [if_pos hh, if_pos hh]; show 0x41 + (r - 0x61) = r - 32; omega
  · rw [if_neg hh, if_neg hh]

theorem toLowerRune_ascii {r : Nat} (h : r < 0x80) : toLowerRune r = if 0x41 ≤ r ∧ r ≤ 0x5A then r + 32 else r := by
  have e : lowerRanges = ⟨0x41, 0x5A, false, 0x61⟩ :: ⟨0xC0, 0xD6, false, 0xE0⟩ :: (lowerRanges.drop 2) := rfl
  have hs := lowerRanges_sorted
  unfold toLowerRune
  rw [e] at hs ⊢
  rw [caseLookup_first hs (Nat.lt_trans h (by decide))]
  by_cases hh : 0x41 ≤ r ∧ r ≤ 0x5A
  · rw [if_pos hh, if_pos hh]; show 0x61 + (r - 0x41) = r + 32; omega
  · rw [if_neg hh, if_neg hh]
