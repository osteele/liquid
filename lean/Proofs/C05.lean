import Proofs.ScanLemmas
/-!
# C05 — literal text, raw blocks and string values pass through byte-for-byte

Tokenizer part of C05. The render, verbatim, spelling and end-to-end parts are
`Proofs/C05Render.lean`, `C05Verbatim.lean`, `C05Spell.lean`, `C05E2E.lean`. For every delimiter
set, every source and every start line, the token sources concatenated in order equal the input,
each located token carries the start line plus the number of newlines before it, and a source in
which no delimiter opens is a single text token.
-/

theorem srcs_optTrim (c : Bool) (ty : TokTy) :
    srcs (if c = true then [({ ty := ty } : Token)] else []) = [] := by
  cases c <;> rfl

theorem tokensOfMatch_srcs (d : Delims) (src : Bytes) (ts : Nat) (caps : Caps) (line : Nat)
    (h : d.ol <+: src ∨ d.tl <+: src) :
    srcs (tokensOfMatch d src ts caps line) = src := by
  rcases tokensOfMatch_eq d src ts caps with ⟨h1, h2, _⟩ | ⟨o, c, t, _, hs, _, he⟩
  · rcases h with h | h
    · rw [(isPrefixOfB_iff _ _).mpr h] at h1; cases h1
    · rw [(isPrefixOfB_iff _ _).mpr h] at h2; cases h2
  · rw [he, srcs_trimmed]; exact hs

theorem tokensOfMatch_lines (d : Delims) (src : Bytes) (ts : Nat) (caps : Caps) (line : Nat) :
    linesOk line (tokensOfMatch d src ts caps line) = true := by
  rcases tokensOfMatch_eq d src ts caps with ⟨_, _, he⟩ | ⟨o, c, t, _, _, _, he⟩
  · rw [he]; rfl
  · rw [he]; exact linesOk_trimmed _ _ { t with line := line }

theorem srcs_optText (s : Bytes) (l : Nat) :
    srcs (if s.isEmpty then [] else [({ ty := .text, line := l, source := s } : Token)]) = s := by
  cases s with
  | nil => rfl
  | cons x xs => exact List.append_nil _

theorem linesOk_optText (s : Bytes) (l : Nat) :
    linesOk l (if s.isEmpty then [] else [({ ty := .text, line := l, source := s } : Token)]) = true := by
  cases s with
  | nil => rfl
  | cons x xs => simp [linesOk]

theorem scanLoop_spec (mfuel : Nat) (re : Re) (d : Delims) (hre : StartsWithDelim re d) :
    ∀ (n : Nat) (s : Bytes) (p line : Nat),
      srcs (scanLoop mfuel re d n s p line) = s ∧ linesOk line (scanLoop mfuel re d n s p line) = true := by
  intro n
  induction n with
  | zero => exact fun s p line => ⟨srcs_optText s line, linesOk_optText s line⟩
  | succ n ih =>
    intro s p line
    rw [scanLoop]
    cases hs : re.search mfuel s p 0 with
    | none => exact ⟨srcs_optText s line, linesOk_optText s line⟩
    | some r =>
      obtain ⟨skip, e, caps⟩ := r
      obtain ⟨hlt, hm⟩ := Re.search_zero_spec mfuel re s p skip e caps hs
      have hsplit : s.take skip ++ ((s.drop skip).take (e - (p + skip)) ++ s.drop (skip + (e - (p + skip)))) = s := by
        rw [← List.drop_drop, List.take_append_drop, List.take_append_drop]
      have hpre : d.ol <+: (s.drop skip).take (e - (p + skip)) ∨ d.tl <+: (s.drop skip).take (e - (p + skip)) := by
        rcases hre mfuel _ _ _ _ hm with ⟨h1, h2⟩ | ⟨h1, h2⟩
        · exact Or.inl (List.prefix_take_iff.mpr ⟨h1, by omega⟩)
        · exact Or.inr (List.prefix_take_iff.mpr ⟨h1, by omega⟩)
      simp only
      generalize lexSkip mfuel d (tagNameOfMatch d ((s.drop skip).take (e - (p + skip))) (p + skip) caps)
        (s.drop (skip + (e - (p + skip)))) e = a
      simp only [srcs_append, linesOk_append, srcs_optText, linesOk_optText, tokensOfMatch_srcs d _ _ caps _ hpre,
        tokensOfMatch_lines, List.append_assoc, Bool.true_and]
      by_cases hc : e ≤ p + skip
      · rw [if_pos hc, srcs_optText, linesOk_optText]
        exact ⟨hsplit, rfl⟩
      · rw [if_neg hc, srcs_append, linesOk_append, srcs_optText, linesOk_optText, (ih _ _ _).1, (ih _ _ _).2, List.take_append_drop]
        exact ⟨hsplit, rfl⟩

/-- **C05 (tokenising loses nothing).** For every delimiter list, source and start line the
    token sources concatenated in order equal the input. -/
theorem scan_partition (delims : List Bytes) (src : Bytes) (line : Nat) :
    ((scan delims src line).map Token.source).flatten = src :=
  (scanLoop_spec _ _ _ (tokenRe_startsWithDelim _) _ src 0 line).1

/-- **C05 (line numbers).** Each located token's line is the starting line plus the newlines
    in the sources of the tokens before it. -/
theorem scan_lines (delims : List Bytes) (src : Bytes) (line : Nat) :
    linesOk line (scan delims src line) = true :=
  (scanLoop_spec _ _ _ (tokenRe_startsWithDelim _) _ src 0 line).2

theorem linesOk_get (l : Nat) (ts : List Token) (h : linesOk l ts = true) (i : Nat) (t : Token)
    (hi : ts[i]? = some t) (ht : t.isTrim = false) : t.line = l + countNL (srcs (ts.take i)) := by
  obtain ⟨hlt, rfl⟩ := List.getElem?_eq_some_iff.mp hi
  rw [← List.take_append_drop i ts, linesOk_append, List.drop_eq_getElem_cons hlt, linesOk, ht] at h
  simp only [Bool.false_or, Bool.and_eq_true, beq_iff_eq] at h
  exact h.2.1

theorem scan_line_at (delims : List Bytes) (src : Bytes) (line i : Nat) (t : Token)
    (hi : (scan delims src line)[i]? = some t) (ht : t.isTrim = false) :
    t.line = line + countNL (srcs ((scan delims src line).take i)) :=
  linesOk_get line _ (scan_lines delims src line) i t hi ht

theorem not_infix_of_no_prefix_drop (l s : Bytes) (h : ¬ l <:+: s) (i : Nat) : ¬ l <+: s.drop i := by
  intro hp
  apply h
  obtain ⟨t, ht⟩ := hp
  exact ⟨s.take i, t, by rw [List.append_assoc, ht, List.take_append_drop]⟩

/-- **C05 (no delimiter opens ⇒ one text token).** -/
theorem scan_no_open_delim (delims : List Bytes) (src : Bytes) (line : Nat)
    (hol : ¬ (Delims.ofList delims).ol <:+: src) (htl : ¬ (Delims.ofList delims).tl <:+: src) :
    scan delims src line = if src.isEmpty then [] else [{ ty := .text, line := line, source := src }] :=
  scanLoop_no_open (tokenRe_startsWithDelim _) _ _ _ _ _ fun i _ => ⟨not_infix_of_no_prefix_drop _ _ hol i, not_infix_of_no_prefix_drop _ _ htl i⟩

/-! Non-vacuity: concrete sources on which the statements speak about several tokens. -/
-- "a\n{{- x }}\n{% if y -%} b" scans to 7 tokens (text, trimL, obj, text, tag, trimR, text)
example : (scan [] [97, 10, 123, 123, 45, 32, 120, 32, 125, 125, 10, 123, 37, 32, 105, 102, 32, 121, 32, 45, 37, 125, 32, 98] 1).length = 7 := by decide +kernel
-- "plain } % text" contains no opening delimiter
example : ¬ (Delims.ofList []).ol <:+: ([112, 108, 97, 105, 110, 32, 125, 32, 37, 32, 116, 101, 120, 116] : Bytes) := by decide +kernel
