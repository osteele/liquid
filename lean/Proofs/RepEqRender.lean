import Proofs.ValView
/-!
# Rendering respects representation equivalence (helper lemmas for C18)

The instance of the lock-step congruence (`Proofs/RenderSim.lean`) in which bindings are related by `ERel d`,
results of `Evaluate` by `URel d` and loop items by `RepEq d`, in one context. Two representation-equivalent values
that are no drops have related views (`RepEq.view`): lookup, index, truth test, loop items and evaluation follow
from `Proofs/ValView.lean`. `MRel t d` (Proofs/RepEqProg.lean) is
`MSim (.both t) Eq (EnvRelG (ERel d))` spelled out (`MSim.toMRel`). `RunAgree` (two whole renders agree) follows from any lock
step of `frender` up to `.both t` (`RunAgree.of_frender`, used for C02 as well).
-/

open GoVal

variable {t d : Bool}

/-- what the congruence theorem needs from the output layer: related values print alike -/
structure OutRespect (t d : Bool) (O : OutPrims) : Prop where
  chunks : ∀ v v', URel d v v' → RRel t Eq (O.chunks v) (O.chunks v')

def IncRespect (t d : Bool) (c : RCtx) : Prop :=
  ∀ line f env env', EnvRel d env env' → PRel t Eq (c.inc line f env) (c.inc line f env')

theorem all2_of_normList : ∀ {xs xs' : List GoVal}, normList d xs = normList d xs' → All2 (RepEq d) xs xs'
  | [], [], _ => .nil
  | [], _ :: _, h => by simp [normList] at h
  | _ :: _, [], h => by simp [normList] at h
  | x :: xs, x' :: xs', h => by
    simp only [normList, List.cons.injEq] at h
    exact .cons h.1 (all2_of_normList h.2)

theorem normList_of_all2 {xs xs' : List GoVal} (h : All2 (RepEq d) xs xs') : normList d xs = normList d xs' := by
  induction h with
  | nil => rfl
  | cons hx _ ih => simp only [normList, ih, show _ = _ from hx]

theorem all2_of_normKVs : ∀ {kvs kvs' : List (GoVal × GoVal)}, normKVs d kvs = normKVs d kvs' → All2 (KV (RepEq d)) kvs kvs'
  | [], [], _ => .nil
  | [], _ :: _, h => by simp [normKVs] at h
  | _ :: _, [], h => by simp [normKVs] at h
  | (k, v) :: r, (k', v') :: r', h => by
    simp only [normKVs, List.cons.injEq, Prod.mk.injEq] at h
    exact .cons ⟨h.1.1, h.1.2⟩ (all2_of_normKVs h.2)

/-- what the value layer sees of two representation-equivalent values that are no drops: a typed slice or a fixed array
    is a sequence, a typed map a map; everything else is rigid -/
theorem RepEq.view {u u' : GoVal} (hu : noDrop u = true) (hu' : noDrop u' = true) (h : RepEq d u u') : View (RepEq d) u u' := by
  rcases repEq_noDrop_inv hu hu' h with rfl | ⟨xs, xs', hs, hs', hn⟩ | ⟨kt, vt, vt', kvs, kvs', rfl, rfl, hn⟩
  · exact .same _
  · exact .seq hs hs' (all2_of_normList hn)
  · exact .map kt ⟨_, all2_of_normKVs hn, .inl rfl⟩

theorem hasView_repEq : HasView (VRel d) (RepEq d) where
  view {a b} h := RepEq.view (unwrap_noDrop a) (unwrap_noDrop b) h
  refl := RepEq.refl
  ofPart := RepEq.vrel
  pair k _ _ h := by unfold RepEq at h ⊢; rw [mkPair_norm, mkPair_norm, h]

theorem URel.view {v v' : GoVal} (h : URel d v v') : View (RepEq d) v v' := RepEq.view h.1.noDrop h.2.1.noDrop h.2.2

theorem LRelG.lrel {r r' : LRes} (h : LRelG (RepEq d) r r') : LRel d r r' := by
  cases r <;> cases r' <;> exact h

theorem propertyValue_rel {a b : GoVal} (h : VRel d a b) (name : Bytes) :
    LRel d (propertyValue a name) (propertyValue b name) := (hasView_repEq.propertyValue h name).lrel

theorem indexValue_rel {r r' i i' : GoVal} (hr : VRel d r r') (hi : VRel d i i') :
    LRel d (indexValue r i) (indexValue r' i') := (hasView_repEq.indexValue hr hi).lrel

theorem intOf_rel {a b : GoVal} (h : VRel d a b) : a.intOf = b.intOf := hasView_repEq.intOf h

theorem test_rel {a b : GoVal} (h : VRel d a b) : a.test = b.test := hasView_repEq.test h

theorem isNil_repEq_noDrop {x x' : GoVal} (hx : noDrop x = true) (hx' : noDrop x' = true) (h : RepEq d x x') :
    x.isNil = x'.isNil := (RepEq.view hx hx' h).isNil

theorem mapFind_rel {kvs kvs' : List (GoVal × GoVal)} (h : normKVs d kvs = normKVs d kvs') (k : GoVal) :
    RepEq d ((mapFind kvs k).getD .nil) ((mapFind kvs' k).getD .nil) ∧ ((mapFind kvs k).isSome = (mapFind kvs' k).isSome) :=
  have hf := EntRel.find ⟨_, all2_of_normKVs h, .inl rfl⟩ k
  ⟨hf.getD (RepEq.refl _), hf.isSome_eq⟩

theorem loopItems_unw_rel {budget : Int} {u u' : GoVal} (hu : Unw u) (hu' : Unw u') (h : RepEq d u u') :
    (∃ xs xs', loopItems budget u = .ok xs ∧ loopItems budget u' = .ok xs' ∧ normList d xs = normList d xs') ∨
    (loopItems budget u = loopItems budget u' ∧ ∀ xs, loopItems budget u ≠ .ok xs) :=
  ((RepEq.view hu.noDrop hu'.noDrop h).loopItems RepEq.refl hasView_repEq.pair budget).false_cases.imp_left
    fun ⟨xs, xs', h1, h2, hl⟩ => ⟨xs, xs', h1, h2, normList_of_all2 hl⟩

theorem evalRel_repEq {T : Tol} : EvalRel T (ERel d) (VRel d) (URel d) :=
  hasView_repEq.evalRel (fun h => h.1.toLiquid) (fun h => ⟨Unw.unwrap _, Unw.unwrap _, h⟩)

theorem PrimsRespect.toG {P : Prims} (h : PrimsRespect t d P) : PrimsRespectG (.both t) (VRel d) (URel d) P P where
  equal _ _ _ _ ha hb := (h.equal _ _ _ _ ha hb).sim
  less _ _ _ _ ha hb := (h.less _ _ _ _ ha hb).sim
  contains _ _ _ _ ha hb := (h.contains _ _ _ _ ha hb).sim
  equalFn _ _ _ _ ha hb := (h.equalFn _ _ _ _ ha hb).sim
  hasFilter _ := .inl rfl
  applyFilter _ _ _ _ _ hr has := (h.applyFilter _ _ _ _ _ hr has).sim

theorem eval_rel (P : Prims) (hP : PrimsRespect t d P) {env env' : Env} (he : EnvRel d env env') :
    ∀ e : Expr, RRel t (VRel d) (eval P env e) (eval P env' e) :=
  fun e => (evalRel_repEq.eval hP.toG he e).rrel

theorem evalList_rel (P : Prims) (hP : PrimsRespect t d P) {env env' : Env} (he : EnvRel d env env') :
    ∀ es : List Expr, RRel t (All2 (VRel d)) (evalList P env es) (evalList P env' es) :=
  fun es => (evalRel_repEq.evalList hP.toG he es).rrel

theorem valRel_repEq : ValSim (EnvRelG (ERel d)) (ERel d) (URel d) (RepEq d) :=
  valSim_of_view URel.view ERel.refl (fun h => h.2.2.erel) (fun h => h.erel) cyclesOf_erel

theorem ctxSim_repEq (c : RCtx) (hP : PrimsRespect t d c.P) (hO : OutRespect t d c.O) (inc' : Nat → Bytes → Env → Prog (Status × Bytes)) :
    CtxSim (.both t) (EnvRelG (ERel d)) (URel d) (RepEq d) c { c with inc := inc' } :=
  ctxSim_same c (fun he e => evalRel_repEq.evaluate hP.toG he e) (fun hs hv => hP.equalFn _ _ _ _ hs hv) (hO.chunks _ _)
    (hasView_repEq.loopItems URel.view) inc'

theorem IncRespect.sim {c : RCtx} (h : IncRespect t d c) : IncSim (.both t) (EnvRelG (ERel d)) c.inc c.inc :=
  fun line f _ _ he => (h line f _ _ he).sim

theorem MSim.toMRel {α} {S : α → α → Prop} {m m' : M α} (h : MSim (.both t) Eq (EnvRelG (ERel d)) S m m') : MRel t d S m m' :=
  fun s s' hs => ((h s s' ⟨hs.env, hs.tw⟩).mono (fun _ _ hr => ⟨hr.1, hr.2.env, hr.2.tw⟩)).toPRel

theorem rel_renderNode (c : RCtx) (hP : PrimsRespect t d c.P) (hO : OutRespect t d c.O) (hI : IncRespect t d c) :
    ∀ n : Node, MRel t d Eq (renderNode c n) (renderNode c n) :=
  fun n => (valRel_repEq.renderNode (ctxSim_repEq c hP hO c.inc) hI.sim n).toMRel

theorem rel_renderBlockBody (c : RCtx) (hP : PrimsRespect t d c.P) (hO : OutRespect t d c.O) (hI : IncRespect t d c) (body : List Node) :
    MRel t d Eq (renderBlockBody c body) (renderBlockBody c body) :=
  (valRel_repEq.renderBlockBody (ctxSim_repEq c hP hO c.inc) hI.sim body).toMRel

theorem rel_renderBranches (c : RCtx) (hP : PrimsRespect t d c.P) (hO : OutRespect t d c.O) (hI : IncRespect t d c) :
    ∀ bs : List (CondT × List Node), MRel t d Eq (renderBranches c bs) (renderBranches c bs) :=
  fun bs => (valRel_repEq.renderBranches (ctxSim_repEq c hP hO c.inc) hI.sim bs).toMRel

theorem rel_renderCases (c : RCtx) (hP : PrimsRespect t d c.P) (hO : OutRespect t d c.O) (hI : IncRespect t d c)
    {sel sel' : GoVal} (hs : URel d sel sel') :
    ∀ cs : List (Option (Nat × List Expr) × List Node), MRel t d Eq (renderCases c sel cs) (renderCases c sel' cs) :=
  fun cs => (valRel_repEq.renderCases (ctxSim_repEq c hP hO c.inc) hI.sim hs cs).toMRel

/-- two results of a whole render agree: the same output or the same error; with `t = true`
    a result outside the model agrees with everything -/
def RunAgree (t : Bool) : RunResult → RunResult → Prop
  | .ok out, .ok out' => out = out'
  | .err e, .err e' => e = e'
  | .panic w, .panic w' => w = w'
  | .unmodelled w, .unmodelled w' => t = true ∨ w = w'
  | .unmodelled _, _ => t = true
  | _, .unmodelled _ => t = true
  | _, _ => False

theorem RunAgree.eq {r r' : RunResult} (h : RunAgree false r r') : r = r' := by
  cases r <;> cases r' <;> simp_all [RunAgree]

theorem RunAgree.refl (r : RunResult) : RunAgree t r r := by
  cases r <;> simp [RunAgree]

theorem RunAgree.unmL (ht : t = true) (w : String) (r : RunResult) : RunAgree t (.unmodelled w) r := by
  cases r <;> simp [RunAgree, ht]

theorem RunAgree.unmR (ht : t = true) (r : RunResult) (w : String) : RunAgree t r (.unmodelled w) := by
  cases r <;> simp [RunAgree, ht]

theorem RunAgree.of_frender (P : Prims) (O : OutPrims) (cfg : Cfg) (fs : FS) (fuel : Nat) (src : Bytes) (line : Nat)
    {env env' : Env} (h : ∀ root, PSim (.both t) Eq Eq (frender P O cfg fs fuel root env) (frender P O cfg fs fuel root env')) :
    RunAgree t (run P O cfg fs fuel src line env) (run P O cfg fs fuel src line env') := by
  unfold run
  split
  · exact RunAgree.refl _
  · exact RunAgree.refl _
  · exact RunAgree.refl _
  · next root _ =>
    refine (h root).runPure_elim (fun _ _ _ _ => RunAgree.refl _) (fun _ e _ he => ?_) (fun _ _ => RunAgree.refl _)
      (fun _ _ => RunAgree.refl _) (fun ht _ _ _ => RunAgree.unmL ht _ _) (fun ht _ _ _ => RunAgree.unmR ht _ _) (fun _ _ _ he => he.elim)
    subst he
    cases e <;> exact RunAgree.refl _

theorem run_rel (P : Prims) (O : OutPrims) (cfg : Cfg) (fs : FS) (fuel : Nat) (hP : PrimsRespect t d P) (hO : OutRespect t d O)
    (src : Bytes) (line : Nat) {env env' : Env} (he : EnvRel d env env') :
    RunAgree t (run P O cfg fs fuel src line env) (run P O cfg fs fuel src line env') :=
  RunAgree.of_frender P O cfg fs fuel src line fun root =>
    valRel_repEq.frender fs rfl (fun inner inner' => ctxSim_repEq { P := P, O := O, cfg := cfg, inc := inner } hP hO inner') fuel root he
