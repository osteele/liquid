import Liquid.MapOrder
import Proofs.InsertionSort
/-!
# Basic facts about `MapOrder.sortedMapEntries` (helper lemmas: the sorted list is a permutation of
the entries; an iteration site answers or is outside the model — it never panics or fails; the order looks at
the keys only, so sorting commutes with every map of the entries that keeps the keys: `*_map_keep`)
-/

namespace MapOrder

theorem sortedEntries_perm_self (kvs : List (GoVal × GoVal)) : (sortedEntries kvs).Perm kvs :=
  insertionSort_perm' entryLess kvs

theorem sortedEntries_length (kvs : List (GoVal × GoVal)) : (sortedEntries kvs).length = kvs.length :=
  (sortedEntries_perm_self kvs).length_eq

theorem mem_sortedEntries {kvs : List (GoVal × GoVal)} {e : GoVal × GoVal} : e ∈ sortedEntries kvs ↔ e ∈ kvs :=
  (sortedEntries_perm_self kvs).mem_iff

theorem sortedFields_perm_self (fs : List (Bytes × GoVal)) : (sortedFields fs).Perm fs :=
  insertionSort_perm' _ fs

theorem sortedFields_length (fs : List (Bytes × GoVal)) : (sortedFields fs).length = fs.length :=
  (sortedFields_perm_self fs).length_eq

theorem sortedMapEntries_cases {ε : Type} (kvs : List (GoVal × GoVal)) :
    (manyClass4 kvs = false ∧ (sortedMapEntries kvs : Res ε _) = .ok (sortedEntries kvs)) ∨
    (manyClass4 kvs = true ∧ ∃ w, (sortedMapEntries kvs : Res ε _) = .unmodelled w) := by
  unfold sortedMapEntries
  cases h : manyClass4 kvs
  · exact .inl ⟨rfl, by simp⟩
  · exact .inr ⟨rfl, _, by simp only [if_true]; rfl⟩

theorem sortedMapEntries_ok {ε : Type} {kvs es : List (GoVal × GoVal)}
    (h : (sortedMapEntries kvs : Res ε _) = .ok es) : es = sortedEntries kvs ∧ manyClass4 kvs = false := by
  rcases sortedMapEntries_cases (ε := ε) kvs with ⟨h1, h2⟩ | ⟨_, w, h2⟩
  · rw [h2] at h; injection h with h; exact ⟨h.symm, h1⟩
  · rw [h2] at h; cases h

theorem sortedMapEntries_isPanic {ε : Type} (kvs : List (GoVal × GoVal)) :
    (sortedMapEntries kvs : Res ε _).isPanic = false := by
  unfold sortedMapEntries
  split <;> rfl

theorem sortedMapEntries_of_noClass4 {ε : Type} {kvs : List (GoVal × GoVal)}
    (h : ∀ kv ∈ kvs, keyClass kv.1 ≠ 4) : (sortedMapEntries kvs : Res ε _) = .ok (sortedEntries kvs) := by
  unfold sortedMapEntries manyClass4
  have : kvs.filter (fun kv => keyClass kv.1 == 4) = [] := by
    rw [List.filter_eq_nil_iff]
    intro kv hkv
    simpa using h kv hkv
  simp [this]

theorem sortedEntries_map_keep (f : GoVal × GoVal → GoVal × GoVal) (hf : ∀ kv, (f kv).1 = kv.1)
    (kvs : List (GoVal × GoVal)) : sortedEntries (kvs.map f) = (sortedEntries kvs).map f := by
  unfold sortedEntries
  rw [← insertionSort_map f entryLess kvs]
  congr 2
  funext a b
  simp [entryLess, hf]

theorem manyClass4_keys {kvs kvs' : List (GoVal × GoVal)} (he : kvs.map (·.1) = kvs'.map (·.1)) : manyClass4 kvs = manyClass4 kvs' := by
  have : ∀ l : List (GoVal × GoVal), (l.filter fun kv => keyClass kv.1 == 4).length = ((l.map (·.1)).filter fun k => keyClass k == 4).length := by
    intro l
    rw [List.filter_map, List.length_map]
    rfl
  unfold manyClass4
  rw [this, this, he]

theorem sortedMapEntries_map_keep {ε : Type} (f : GoVal × GoVal → GoVal × GoVal) (hf : ∀ kv, (f kv).1 = kv.1)
    (kvs : List (GoVal × GoVal)) :
    (sortedMapEntries (kvs.map f) : Res ε _) = (sortedMapEntries kvs).bind fun es => .ok (es.map f) := by
  unfold sortedMapEntries
  rw [manyClass4_keys (List.map_map.trans (List.map_congr_left fun kv _ => hf kv)), sortedEntries_map_keep f hf]
  split <;> rfl

theorem sortedFields_map_keep (f : Bytes × GoVal → Bytes × GoVal) (hf : ∀ kv, (f kv).1 = kv.1)
    (fs : List (Bytes × GoVal)) : sortedFields (fs.map f) = (sortedFields fs).map f := by
  unfold sortedFields
  rw [← insertionSort_map f (fun a b => decide (a.1 < b.1)) fs]
  congr 2
  funext a b
  simp [hf]

end MapOrder
