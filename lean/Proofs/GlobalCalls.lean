import Liquid.Generated.Writes
/-!
# Obligation over the call facts of translator T3 (C02, C03, C04)
-/

/-- No package-level variable other than the
five audited read-only ones (`auditedGlobalCalls`) is handed, outside `init`, to a call that may write through
it: the library keeps no package-level cache, pool or registry that a render could fill. A `sync.Map`, a
`sync.Pool` or a hand-rolled memo table added to the source breaks this obligation. -/
theorem global_calls_audited : (sharedWrites.filter WriteFact.unauditedGlobalCall) = [] := by
  decide +kernel

/-- the translator does find call facts on the current source, those of the audited variables: the rule is exercised -/
theorem global_calls_found : 1 ≤ (sharedWrites.filter (fun w => w.cls = .globalCall)).length := by decide +kernel
