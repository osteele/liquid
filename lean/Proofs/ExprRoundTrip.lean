import Proofs.ExprShowParse
import Liquid.Eval
/-!
# Round trip between expression trees and their canonical text

`Expr.toks e 0` is the canonical token list of `e`, `Expr.show e` its text (`Liquid/ExprShow.lean`).
Token level (proved for EVERY tree, no hypothesis): the parser returns `e` on `e.toks 0` (`parseTokensE_toks`,
`Proofs/ExprShowParse.lean`). Byte level: `parseExprSource e.show = .ok e` follows as soon as the scanner
reads `e.show` back as `e.toks 0` (`parse_show_of_lex`); that the scanner does so for every printable tree is
`lexesBack_of_printable` (`Proofs/ExprShowLex.lean`), and is checked by the driver op `eshow` on every generated case.
-/

/-- the scanner reads the printed text back as the canonical tokens -/
def Expr.lexesBack (e : Expr) : Prop := lex e.show = (e.toks 0 ++ [.ch 59], none)

/-- a text that the scanner reads as the canonical tokens of `e` parses to `e` -/
theorem parseExprSource_of_lex {s : Bytes} {e : Expr} (h : lex s = (e.toks 0 ++ [.ch 59], none)) :
    parseExprSource s = .ok e := by
  unfold parseExprSource parseSource
  rw [h]
  simp only [parseTokensE_toks e]

theorem parse_show_of_lex (e : Expr) (h : e.lexesBack) : parseExprSource e.show = .ok e := parseExprSource_of_lex h

theorem toks_injective (e1 e2 : Expr) (h : e1.toks 0 = e2.toks 0) : e1 = e2 := by
  have h1 := parseTokensE_toks e1
  rw [h, parseTokensE_toks e2] at h1
  injection h1 with h1
  injection h1 with h1
  exact h1.symm

/-- the value of the expression a token list parses to -/
def evalTokens (P : Prims) (env : Env) (ts : List ETok) : Option (Res Cause GoVal) :=
  match parseTokensE ts with
  | some (.expr e) => some (eval P env e)
  | _ => none

theorem evalTokens_toks (P : Prims) (env : Env) (e : Expr) :
    evalTokens P env (e.toks 0 ++ [.ch 59]) = some (eval P env e) := by
  unfold evalTokens; rw [parseTokensE_toks]

/-- the example tree: `a.b[1] | f: 'x"', -2 and (c or d.e contains "s")` -/
def rtExTree : Expr :=
  .and_ (.filter (.index (.prop (.var [97]) [98]) (.lit (.int .int 1))) [102] [.lit (.str [120, 34]), .lit (.int .int (-2))])
    (.or_ (.var [99]) (.rel .contains (.prop (.var [100]) [101]) (.lit (.str [115]))))

/-- its canonical text -/
def rtExText : Bytes :=
  [97, 46, 98, 91, 49, 93, 32, 124, 32, 102, 58, 32, 39, 120, 34, 39, 44, 32, 45, 50, 32, 97, 110, 100, 32, 40, 99, 32,
   111, 114, 32, 100, 46, 101, 32, 99, 111, 110, 116, 97, 105, 110, 115, 32, 34, 115, 34, 41]
