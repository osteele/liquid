import Proofs.E2EUnits
/-!
# Abstract token-level templates: items, their spelling with a delimiter set, the tokens they
denote, and the cleanliness conditions under which the tokenizer reads the spelling back

(the Lean counterpart of `harness/tokitems.go` in `Item`, `spell`, `tokensOf`; `Clean` and `GoodDelims` are NOT the harness's predicates of
those names, and neither contains the other; every theorem "from source bytes" is stated about `spell d items`)
-/

/-- an item of a template: literal text, an object `OL -? ws args ws -? OR`, or a tag
    `TL -? ws name (ws args)? ws -? TR`; the white space inside the delimiters is recorded so that the
    same item can be spelled with any delimiters -/
inductive Item where
  | text (s : Bytes)
  | obj (args : Bytes) (hl hr : Bool) (wl wr : Bytes)
  | tag (name args : Bytes) (hl hr : Bool) (wl wm wr : Bytes)
  deriving Repr, DecidableEq

def Item.isText : Item → Bool
  | .text _ => true
  | _ => false

/-- a tag's arguments with the white space that separates them from the name (nothing when there are none) -/
def tagArgPart (args wm : Bytes) : Bytes := if args = [] then [] else wm ++ args

def Item.spell (d : Delims) : Item → Bytes
  | .text s => s
  | .obj args hl hr wl wr => d.ol ++ (hyB hl ++ (wl ++ (args ++ (wr ++ (hyB hr ++ d.or)))))
  | .tag name args hl hr wl wm wr =>
    d.tl ++ (hyB hl ++ (wl ++ (name ++ (tagArgPart args wm ++ (wr ++ (hyB hr ++ d.tr))))))

def spell (d : Delims) : List Item → Bytes
  | [] => []
  | it :: r => it.spell d ++ spell d r

/-- the tokens an item denotes, at line `line` -/
def Item.tokens (d : Delims) (line : Nat) : Item → List Token
  | .text s => [{ ty := .text, line := line, source := s }]
  | .obj args hl hr wl wr =>
    (if hl then [{ ty := .trimL }] else []) ++
    [{ ty := .obj, line := line, args := args, source := (Item.obj args hl hr wl wr).spell d }] ++
    (if hr then [{ ty := .trimR }] else [])
  | .tag name args hl hr wl wm wr =>
    (if hl then [{ ty := .trimL }] else []) ++
    [{ ty := .tag, line := line, name := name, args := args, source := (Item.tag name args hl hr wl wm wr).spell d }] ++
    (if hr then [{ ty := .trimR }] else [])

/-- the token list of a template: every item's tokens, the line advancing by the newlines of its spelling -/
def tokensOf (d : Delims) : List Item → Nat → List Token
  | [], _ => []
  | it :: r, line => it.tokens d line ++ tokensOf d r (line + countNL (it.spell d))

theorem spell_append (d : Delims) (a b : List Item) : spell d (a ++ b) = spell d a ++ spell d b := by
  induction a with
  | nil => rfl
  | cons it a ih => rw [List.cons_append, spell, spell, ih, List.append_assoc]

theorem spell_cons (d : Delims) (it : Item) (r : List Item) : spell d (it :: r) = it.spell d ++ spell d r := rfl

theorem tokensOf_append (d : Delims) (a b : List Item) (line : Nat) :
    tokensOf d (a ++ b) line = tokensOf d a line ++ tokensOf d b (line + countNL (spell d a)) := by
  induction a generalizing line with
  | nil => rfl
  | cons it a ih => rw [List.cons_append, tokensOf, tokensOf, spell, ih, countNL_append, List.append_assoc, Nat.add_assoc]

theorem tokensOf_nil (d : Delims) (line : Nat) : tokensOf d [] line = [] := rfl

/-- a byte a delimiter may be made of: ASCII, not white space, not a word character, not a hyphen -/
def delimByte (b : UInt8) : Bool := !Pred.test .space b && !Pred.test .word b && b != 45 && b < 128

/-- four non-empty strings of ASCII bytes that are not white space (`\s`), word characters (`\w`) or `-`;
    neither opening delimiter is a prefix of the other -/
def GoodDelims (d : Delims) : Prop :=
  d.ol ≠ [] ∧ d.or ≠ [] ∧ d.tl ≠ [] ∧ d.tr ≠ [] ∧
  (∀ b ∈ d.ol, delimByte b = true) ∧ (∀ b ∈ d.or, delimByte b = true) ∧
  (∀ b ∈ d.tl, delimByte b = true) ∧ (∀ b ∈ d.tr, delimByte b = true) ∧
  ¬ d.ol <+: d.tl ∧ ¬ d.tl <+: d.ol

instance (d : Delims) : Decidable (GoodDelims d) := by unfold GoodDelims; infer_instance

instance (pr : Pred) (ws : Bytes) : Decidable (AllP pr ws) := by unfold AllP; infer_instance

/-- the last byte, if any, is neither white space nor a hyphen -/
def lastOk (a : Bytes) : Prop :=
  match a.getLast? with
  | some z => Pred.test .space z = false ∧ z ≠ 45
  | none => True

instance (a : Bytes) : Decidable (lastOk a) := by unfold lastOk; split <;> infer_instance

/-- the closing delimiter `l` does not occur in `mid ++ l` before its end -/
def firstAt (l mid : Bytes) : Prop := ∀ i, i < mid.length → ¬ l <+: (mid ++ l).drop i

instance (l mid : Bytes) : Decidable (firstAt l mid) := by unfold firstAt; infer_instance

/-- `a` does not end in a non-empty prefix of `tr` -/
def noPrefixSuffix (tr a : Bytes) : Prop := ∀ n, n < tr.length → ¬ tr.take (n + 1) <:+ a

instance (tr a : Bytes) : Decidable (noPrefixSuffix tr a) := by unfold noPrefixSuffix; infer_instance

/-- what one item must satisfy on its own. The clause for a tag WITHOUT arguments (at most one blank before the closing
    delimiter, none before a right hyphen) is a fact about the pattern of `formTokenMatcher`: its optional argument group reads
    the second blank of `{% else  %}`, and the hyphen of `{% else -%}`, as the tag's arguments (examples at the end of
    `Proofs/C19E2E.lean`) -/
def CleanItem (d : Delims) : Item → Prop
  | .text s => s ≠ []
  | .obj args hl _ wl wr =>
    AllP .space wl ∧ AllP .space wr ∧ args ≠ [] ∧ HeadNot .space args ∧
    ((hl = false ∧ wl = []) → HeadNot (.eq 45) args) ∧ lastOk args
  | .tag name args _ hr wl wm wr =>
    AllP .space wl ∧ AllP .space wm ∧ AllP .space wr ∧ name ≠ [] ∧ AllP .word name ∧
    (args = [] → wr.length ≤ 1 ∧ (wr ≠ [] → hr = false)) ∧
    (args ≠ [] → wm ≠ [] ∧ HeadNot .space args ∧ lastOk args ∧ noPrefixSuffix d.tr args)

/-- the closing delimiter of an object or tag is the first one after its opening -/
def CleanClose (d : Delims) : Item → Prop
  | .text _ => True
  | .obj args _ hr _ wr => firstAt d.or (args ++ (wr ++ hyB hr))
  | .tag _ args _ hr _ _ wr => args ≠ [] → firstAt d.tr (args ++ (wr ++ hyB hr))

/-- a text is followed by an object or tag (or nothing), and no opening delimiter begins inside it —
    not even one completed by the bytes that follow -/
def CleanText (d : Delims) (s : Bytes) (r : List Item) : Prop :=
  (∀ i, i < s.length → ¬ d.ol <+: (s ++ spell d r).drop i ∧ ¬ d.tl <+: (s ++ spell d r).drop i) ∧
  (match r with | it :: _ => it.isText = false | [] => True)

/-! ### raw and comment blocks are lexical

After a tag named `raw` or `comment` the tokenizer looks for the block's end tag
(`TL -? \s* endraw \s* -? TR`); the bytes before it are one text token, whatever they look like. -/

def Item.tagName : Item → Option Bytes
  | .tag name _ _ _ _ _ _ => some name
  | _ => none

/-- the end tag the tokenizer looks for after this item (`none`: it does not look for one) -/
def lexEndOf (name : Option Bytes) : Option Bytes :=
  match name with
  | some n => if n == nameRaw || n == nameComment then some (nameEnd ++ n) else none
  | none => none

def Item.lexEnd (it : Item) : Option Bytes := lexEndOf it.tagName

/-- `s` begins with an end tag named `n`: `TL -? \s* n \s* -? TR` -/
def EndTagAt (d : Delims) (n s : Bytes) : Prop :=
  ∃ (b1 b2 : Bool) (ws1 ws2 t : Bytes),
    s = d.tl ++ (hyB b1 ++ (ws1 ++ (n ++ (ws2 ++ (hyB b2 ++ (d.tr ++ t)))))) ∧ AllP .space ws1 ∧ AllP .space ws2

/-- Boolean form: the end-tag expression matches at the head of `s`; equivalent to `EndTagAt` for good delimiters
    and names (`endTagAtB_iff`, Proofs/E2ELex.lean) -/
def endTagAtB (d : Delims) (n s : Bytes) : Bool := ((endTagRe d n).matchAt s.length s 0).isSome

/-- no end tag `n` begins anywhere in `s` -/
def NoEnd (d : Delims) (n s : Bytes) : Prop := ∀ i, i < s.length → endTagAtB d n (s.drop i) = false

/-- the first end tag `n` in `s` begins at offset `a` -/
def FirstEnd (d : Delims) (n s : Bytes) (a : Nat) : Prop :=
  (∀ i, i < a → endTagAtB d n (s.drop i) = false) ∧ endTagAtB d n (s.drop a) = true

instance (d : Delims) (n s : Bytes) : Decidable (NoEnd d n s) := by unfold NoEnd; infer_instance
instance (d : Delims) (n s : Bytes) (a : Nat) : Decidable (FirstEnd d n s a) := by unfold FirstEnd; infer_instance

/-- what the position of an item requires: after a raw/comment tag (`lex = some n`) a text is the block's
    body — ANY bytes in which no end tag begins, followed by the end tag — or there is no end tag ahead at
    all and the text is an ordinary one; an object or tag stands where the end tag begins, or there is no
    end tag ahead. Elsewhere (`lex = none`) a text is an ordinary text. -/
def CleanCtx (d : Delims) (lex : Option Bytes) (it : Item) (r : List Item) : Prop :=
  match lex, it with
  | none, .text s => CleanText d s r
  | none, _ => True
  | some n, .text s => FirstEnd d n (s ++ spell d r) s.length ∨ (NoEnd d n (s ++ spell d r) ∧ CleanText d s r)
  | some n, it => endTagAtB d n (spell d (it :: r)) = true ∨ NoEnd d n (spell d (it :: r))

/-- `CleanFrom d lex items`: `items` are clean when they follow an item after which the tokenizer looks for the end
    tag `lex` (`none`: for none) -/
def CleanFrom (d : Delims) : Option Bytes → List Item → Prop
  | _, [] => True
  | lex, it :: r => CleanItem d it ∧ CleanClose d it ∧ CleanCtx d lex it r ∧ CleanFrom d it.lexEnd r

/-- every object and tag satisfies `CleanItem` and is closed by the first closing delimiter after its opening
    (`CleanClose`); texts are non-empty, not adjacent, and no opening delimiter begins inside one (`CleanText`);
    except that the text after a `raw` / `comment` tag is ANY bytes up to the first end tag (`CleanCtx`). Decidable. -/
@[reducible] def Clean (d : Delims) (items : List Item) : Prop := CleanFrom d none items

instance headNotDec (pr : Pred) (t : Bytes) : Decidable (HeadNot pr t) :=
  match t with
  | [] => isTrue (headNot_nil pr)
  | x :: xs => if h : pr.test x = false then isTrue (headNot_cons h) else isFalse (fun hn => h (hn x xs rfl))

instance (d : Delims) (it : Item) : Decidable (CleanItem d it) := by cases it <;> (unfold CleanItem; infer_instance)
instance (d : Delims) (it : Item) : Decidable (CleanClose d it) := by cases it <;> (unfold CleanClose; infer_instance)
instance (d : Delims) (s : Bytes) (r : List Item) : Decidable (CleanText d s r) := by
  unfold CleanText
  cases r <;> infer_instance
instance (d : Delims) (lex : Option Bytes) (it : Item) (r : List Item) : Decidable (CleanCtx d lex it r) := by
  unfold CleanCtx
  cases lex <;> cases it <;> infer_instance

def CleanFrom.dec (d : Delims) : (lex : Option Bytes) → (items : List Item) → Decidable (CleanFrom d lex items)
  | _, [] => isTrue trivial
  | lex, it :: r =>
    have := CleanFrom.dec d it.lexEnd r
    by unfold CleanFrom; infer_instance

instance (d : Delims) (lex : Option Bytes) (items : List Item) : Decidable (CleanFrom d lex items) := CleanFrom.dec d lex items

theorem Clean_cons (d : Delims) (it : Item) (r : List Item) :
    Clean d (it :: r) ↔ CleanItem d it ∧ CleanClose d it ∧ CleanCtx d none it r ∧ CleanFrom d it.lexEnd r := Iff.rfl

theorem Clean_tail {d : Delims} {it : Item} {r : List Item} (h : Clean d (it :: r)) (hl : it.lexEnd = none) : Clean d r := by
  have := h.2.2.2
  rw [hl] at this
  exact this

/-! Sanity: `a{{- x | f }}{% if x -%}\n{% endif %}` with the defaults and with `<< >> [ ]` -/
def exItems : List Item :=
  [.text [97], .obj [120, 32, 124, 32, 102] true false [32] [32], .tag [105, 102] [120] false true [32] [32] [32],
   .text [10], .tag [101, 110, 100, 105, 102] [] false false [32] [] [32]]
def exDelims : Delims := ⟨[60, 60], [62, 62], [91], [93]⟩

example : GoodDelims Delims.default ∧ GoodDelims exDelims := by decide +kernel
example : Clean Delims.default exItems ∧ Clean exDelims exItems := by decide +kernel
example : scanWith (tokenRe exDelims) exDelims (spell exDelims exItems) 1 = tokensOf exDelims exItems 1 := by decide +kernel

/-! `p{% raw-%}{% b {{ x {%- endraw %}q`: the body `{% b {{ x ` is a text item of arbitrary bytes -/
def exRawBody : List Item :=
  [.text [112], .tag nameRaw [] false true [32] [] [], .text [123, 37, 32, 98, 32, 123, 123, 32, 120, 32],
   .tag (nameEnd ++ nameRaw) [] true false [32] [] [32], .text [113]]
example : Clean Delims.default exRawBody ∧ Clean exDelims exRawBody := by decide +kernel
example : scanWith (tokenRe Delims.default) Delims.default (spell Delims.default exRawBody) 1 = tokensOf Delims.default exRawBody 1 := by decide +kernel
