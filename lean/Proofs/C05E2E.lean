import Proofs.E2ERun
/-!
# C05, end to end — statements about `run` on source bytes and about `runTokens` on token lists

`run P O cfg fs fuel src line env` is the whole pipeline (tokenizer, block parser, compiler,
renderer, fault-free writer); `runTokens` is the pipeline after the tokenizer
(`run_eq_runTokens`). The theorems hold for every value layer `P O`, configuration, file
system, include fuel, start line and environment.

Side condition that is a boundary of the MODEL, not of the code: `compileSource` answers
`unmodelled` when the arguments of some object token — also one inside a comment or raw body —
contain a negative-zero literal (`firstUnmodelledObj`). The token-level theorems therefore assume
`firstUnmodelledObj body = none` for the body of the raw/comment block.
-/

/-- **C05, end to end (a source in which no tag or object opens renders to itself).** For every
    configuration (delimiters included), file system, fuel, start line and environment: if
    neither opening delimiter occurs in `src`, then the whole pipeline returns exactly `src` —
    the empty source included. -/
theorem source_without_open_delim_renders_itself (P : Prims) (O : OutPrims) (cfg : Cfg) (fs : FS) (fuel : Nat)
    (src : Bytes) (line : Nat) (env : Env)
    (hol : ¬ (Delims.ofList cfg.delims).ol <:+: src) (htl : ¬ (Delims.ofList cfg.delims).tl <:+: src) :
    run P O cfg fs fuel src line env = .ok src := by
  rw [run_eq_runTokens, scan_no_open_delim cfg.delims src line hol htl]
  cases src with
  | nil =>
    simp only [List.isEmpty_nil, if_true, runTokens]
    rw [compileTokens_of_parse (ast := []) rfl rfl]
    exact runRoot_nil P O cfg fs fuel env
  | cons b bs =>
    simp only [List.isEmpty_cons, Bool.false_eq_true, if_false, runTokens]
    rw [compileTokens_of_parse (firstUnmodelledObj_none_of_no_obj _ (by simp)) (parseTokens_text objChk _ rfl),
      compileList_text]
    exact runRoot_text P O cfg fs fuel line (b :: bs) env

theorem source_without_open_delim_renders_itself_std (cfg : Cfg) (fs : FS) (fuel : Nat) (src : Bytes) (line : Nat) (env : Env)
    (hol : ¬ (Delims.ofList cfg.delims).ol <:+: src) (htl : ¬ (Delims.ofList cfg.delims).tl <:+: src) :
    run stdPrims stdOut cfg fs fuel src line env = .ok src :=
  source_without_open_delim_renders_itself stdPrims stdOut cfg fs fuel src line env hol htl

/-- "plain } % text" under the default delimiters; "{{ x }}" under the delimiters `< > [ ]` -/
example : run stdPrims stdOut {} (fsOfList []) 3 [112, 108, 97, 105, 110, 32, 125, 32, 37, 32, 116, 101, 120, 116] 1 []
    = .ok [112, 108, 97, 105, 110, 32, 125, 32, 37, 32, 116, 101, 120, 116] :=
  source_without_open_delim_renders_itself_std _ _ _ _ _ _ (by decide +kernel) (by decide +kernel)
example : run stdPrims stdOut { delims := [[60], [62], [91], [93]] } (fsOfList []) 3 [123, 123, 32, 120, 32, 125, 125] 1 []
    = .ok [123, 123, 32, 120, 32, 125, 125] :=
  source_without_open_delim_renders_itself_std _ _ _ _ _ _ (by decide +kernel) (by decide +kernel)
example : run stdPrims stdOut {} (fsOfList []) 0 [] 1 [] = .ok [] :=
  source_without_open_delim_renders_itself_std _ _ _ _ _ _ (by decide +kernel) (by decide +kernel)

/-- **C05, end to end (raw).** A token list `raw-tag, body…, endraw-tag` — the body arbitrary except
    that it contains no tag named `endraw` — renders to exactly the concatenated sources of the body
    tokens, whatever tag-like or object-like tokens the body contains: block parser, compiler and
    renderer composed. -/
theorem raw_block_renders_body_sources (P : Prims) (O : OutPrims) (cfg : Cfg) (fs : FS) (fuel : Nat) (env : Env)
    (o c : Token) (body : List Token)
    (ho : o.ty = .tag ∧ o.name = rawName) (hc : c.ty = .tag ∧ c.name = endrawName)
    (hb : ∀ t ∈ body, ¬ (t.ty = .tag ∧ t.name = endrawName))
    (hU : firstUnmodelledObj body = none) :
    runTokens P O cfg fs fuel (o :: (body ++ [c])) env = .ok (srcs body) := by
  have hc' : isEndRaw c = true := isEndRaw_iff.mpr hc
  have hb' : ∀ t ∈ body, isEndRaw t = false := fun t ht => Bool.eq_false_iff.mpr (mt isEndRaw_iff.mp (hb t ht))
  have hU' : firstUnmodelledObj (o :: (body ++ [c])) = none := (firstUnmodelledObj_enclosed o c body ho.1 hc.1).trans hU
  unfold runTokens
  rw [compileTokens_of_parse hU' (parseTokens_raw_block objChk o c body (isRawOpen_std ho.1 ho.2) hc' hb'), compileList_raw]
  exact runRoot_raw P O cfg fs fuel _ env

/-- **C05, end to end (comment).** A token list `comment-tag, body…, endcomment-tag` renders to
    nothing and is never an error, whatever the body tokens are — objects whose arguments are not
    expressions, unknown tags, unbalanced block tags: the body is never parsed. -/
theorem comment_block_renders_nothing (P : Prims) (O : OutPrims) (cfg : Cfg) (fs : FS) (fuel : Nat) (env : Env)
    (o c : Token) (body : List Token)
    (ho : o.ty = .tag ∧ o.name = commentName) (hc : c.ty = .tag ∧ c.name = endcommentName)
    (hb : ∀ t ∈ body, ¬ (t.ty = .tag ∧ t.name = endcommentName))
    (hU : firstUnmodelledObj body = none) :
    runTokens P O cfg fs fuel (o :: (body ++ [c])) env = .ok [] := by
  have hc' : isEndComment c = true := isEndComment_iff.mpr hc
  have hb' : ∀ t ∈ body, isEndComment t = false :=
    fun t ht => Bool.eq_false_iff.mpr (mt isEndComment_iff.mp (hb t ht))
  have hU' : firstUnmodelledObj (o :: (body ++ [c])) = none := (firstUnmodelledObj_enclosed o c body ho.1 hc.1).trans hU
  unfold runTokens
  rw [compileTokens_of_parse hU' (parseTokens_comment_block objChk o c body (isCommentOpen_std ho.1 ho.2) hc' hb')]
  exact runRoot_nil P O cfg fs fuel env

/-- **C05, end to end (a comment block anywhere is invisible).** After any prefix that the block
    parser leaves outside comment/raw (or rejects), deleting a whole comment block from the token
    list does not change the result of the pipeline — output or error. -/
theorem comment_block_erased (P : Prims) (O : OutPrims) (cfg : Cfg) (fs : FS) (fuel : Nat) (env : Env)
    (pre body post : List Token) (o c : Token)
    (hpre : ∀ s, parseLoop stdGrammar objChk {} pre = .ok s → s.mode = .normal)
    (ho : o.ty = .tag ∧ o.name = commentName) (hc : c.ty = .tag ∧ c.name = endcommentName)
    (hb : ∀ t ∈ body, ¬ (t.ty = .tag ∧ t.name = endcommentName))
    (hU : firstUnmodelledObj body = none) :
    runTokens P O cfg fs fuel (pre ++ o :: (body ++ c :: post)) env = runTokens P O cfg fs fuel (pre ++ post) env := by
  have hc' : isEndComment c = true := isEndComment_iff.mpr hc
  have hb' : ∀ t ∈ body, isEndComment t = false :=
    fun t ht => Bool.eq_false_iff.mpr (mt isEndComment_iff.mp (hb t ht))
  have hU' : firstUnmodelledObj (pre ++ o :: (body ++ c :: post)) = firstUnmodelledObj (pre ++ post) := by
    rw [firstUnmodelledObj_append, firstUnmodelledObj_append pre post, firstUnmodelledObj_tag _ _ ho.1,
      firstUnmodelledObj_append, hU, firstUnmodelledObj_tag _ _ hc.1]
  unfold runTokens compileTokens
  rw [hU', parseTokens_comment_erased stdGrammar objChk pre body post o c hpre (isCommentOpen_std ho.1 ho.2) hc' hb']

/-! Non-vacuity. Tokens: `{% raw %}`, `{{ | }}` (not an expression), `{% endif %}` (unbalanced), text,
    `{% endraw %}`; the same body inside `{% comment %}…{% endcomment %}`. -/
example : runTokens stdPrims stdOut {} (fsOfList []) 1
    [{ ty := .tag, line := 1, name := rawName },
     { ty := .obj, line := 1, args := [124], source := [123, 123, 32, 124, 32, 125, 125] },
     { ty := .tag, line := 1, name := [101, 110, 100, 105, 102], source := [123, 37, 32, 101, 110, 100, 105, 102, 32, 37, 125] },
     { ty := .text, line := 1, source := [97] },
     { ty := .tag, line := 1, name := endrawName }] []
    = .ok [123, 123, 32, 124, 32, 125, 125, 123, 37, 32, 101, 110, 100, 105, 102, 32, 37, 125, 97] :=
  raw_block_renders_body_sources _ _ _ _ _ _ _ _
    [{ ty := .obj, line := 1, args := [124], source := [123, 123, 32, 124, 32, 125, 125] },
     { ty := .tag, line := 1, name := [101, 110, 100, 105, 102], source := [123, 37, 32, 101, 110, 100, 105, 102, 32, 37, 125] },
     { ty := .text, line := 1, source := [97] }]
    ⟨rfl, rfl⟩ ⟨rfl, rfl⟩ (by decide +kernel) (by decide +kernel)

example : runTokens stdPrims stdOut {} (fsOfList []) 1
    [{ ty := .tag, line := 1, name := commentName },
     { ty := .obj, line := 1, args := [124], source := [123, 123, 32, 124, 32, 125, 125] },
     { ty := .tag, line := 1, name := [101, 110, 100, 105, 102], source := [123, 37, 32, 101, 110, 100, 105, 102, 32, 37, 125] },
     { ty := .tag, line := 1, name := endcommentName }] []
    = .ok [] :=
  comment_block_renders_nothing _ _ _ _ _ _ _ _
    [{ ty := .obj, line := 1, args := [124], source := [123, 123, 32, 124, 32, 125, 125] },
     { ty := .tag, line := 1, name := [101, 110, 100, 105, 102], source := [123, 37, 32, 101, 110, 100, 105, 102, 32, 37, 125] }]
    ⟨rfl, rfl⟩ ⟨rfl, rfl⟩ (by decide +kernel) (by decide +kernel)

/-! The model-boundary side condition is needed in the model: `compileTokens` on `{% comment %}`, an object
    token with arguments `-0.0`, `{% endcomment %}` evaluates (`#eval`) to `unmodelled "negative zero literal"`
    (the literal's lexer uses rational arithmetic that the kernel cannot evaluate by `decide`, so this is
    recorded as a remark, not as an `example`). The Go code renders such a comment to nothing. -/
