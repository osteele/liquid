import Proofs.HeapStage
/-!
# `stageP` is the expression `x | f: args` of the pure model (`Call.evalFilter` with the standard table)

`bodyP` (`Proofs/HeapStage.lean`) is defined without reference to the call layer; this file shows that it is
what `applyFilter` computes with the registry `stdFilters` and the bodies of `Filters/Arr.lean` /
`Filters/Num.lean` (`applyFilter_eq_bodyP`), so that the memory-level run refines `evalFilter` itself
(`stageP_eq_evalFilter`) and every theorem of `Proofs/C15.lean` about `applyFilter` / the bodies speaks about
what the memory-level run returns.
-/

namespace Heap

open ArrF

/-- where the body of `f` stands in `stdFilterImpls` (`stdSigPos` of `Proofs/CallLemmas.lean` leads from there to the registry) -/
def FName.pos : FName → Nat
  | .default => 9 | .size => 10 | .compact => 34 | .concat => 35 | .join => 36 | .map => 37 | .reverse => 38 | .sort => 39
  | .first => 40 | .last => 41 | .uniq => 42 | .sortNatural => 43

/-- the name registered at that position is the filter's, and it has the parameters `FName.arity` counts -/
theorem FName.pos_spec (f : FName) :
    stdSigPos[f.pos]?.map (nameAt stdFilters) = some f.name ∧ (paramsAt f.pos).length = f.arity := by
  cases f <;> decide +kernel

theorem convArgVal_anys (og : Option GoVal) :
    convArgVal .anys og = (convAnysP (og.getD .nil)).bind fun xs => .ok (.slice .any xs) := by
  cases og with
  | none => rfl
  | some g =>
    by_cases hn : g = .nil
    · subst hn; rfl
    · rw [convArgVal_of_ne_nil .anys hn, Option.getD_some, convAnysP_val hn]
      cases hc : convert g .anys with
      | ok w => obtain ⟨ys, rfl⟩ := convert_hasTy (t := .anys) hc; rfl
      | _ => rfl

theorem sliceOf_bts (r : Res Cause (List GoVal)) :
    (sliceOf r).bind (fun w => Res.ok (bytesToString w)) = sliceOf r := by
  cases r <;> rfl

theorem length_le_one {args : List GoVal} {g : GoVal} (h : ¬ (g :: args).length > 1) : args = [] := by
  cases args with
  | nil => rfl
  | cons a as => simp at h

theorem length_le_two {args : List GoVal} {g : GoVal} (h : ¬ (g :: args).length > 2) : args = [] ∨ ∃ a, args = [a] := by
  cases args with
  | nil => exact Or.inl rfl
  | cons a as =>
    cases as with
    | nil => exact Or.inr ⟨a, rfl⟩
    | cons b bs => simp at h

/-- the conversion and the call of an eager body whose only parameter is the receiver -/
theorem call_unary (name : Bytes) (X : List GoVal → R GoVal) (g : GoVal) :
    ((convertArgs [.val .anys] [g]).bind fun c => applyFilter.finish name (eager X c)) =
      (convAnysP g).bind fun xs => (X [.slice .any xs]).bind fun v => .ok (bytesToString v) := by
  simp only [convertArgs_val, convertArgs_of_nil, convArgVal_anys, List.head?_cons, Option.getD_some, Res.bind_assoc, Res.bind_ok,
    eager_val1, finish_eager]

/-- … of one with a second parameter of type `t` -/
theorem call_binary (name : Bytes) (t : ParamTy) (X : List GoVal → R GoVal) (g : GoVal) (args : List GoVal) :
    ((convertArgs [.val .anys, .val t] (g :: args)).bind fun c => applyFilter.finish name (eager X c)) =
      (convAnysP g).bind fun xs => (convArgVal t args.head?).bind fun c =>
        (X [.slice .any xs, c]).bind fun v => .ok (bytesToString v) := by
  simp only [convertArgs_val, convertArgs_of_nil, convArgVal_anys, List.head?_cons, List.tail_cons, Option.getD_some,
    Res.bind_assoc, Res.bind_ok, eager_val2, finish_eager]

/-- the sort bodies answer a `[]any` or not at all: `sortedList` loses nothing -/
theorem sortedList_sliceOf (strict natural : Bool) (xs : List GoVal) (key : GoVal) :
    sliceOf (sortedList strict natural xs key) =
      if natural then sortNaturalWith strict [.slice .any xs, key] else sortWith strict [.slice .any xs, key] := by
  unfold sortedList sliceOf
  generalize h : (if natural = true then sortNaturalWith strict [.slice .any xs, key]
    else sortWith strict [.slice .any xs, key]) = r
  cases r with
  | ok w => obtain ⟨ys, rfl, _⟩ := sortFn_ok_perm h; rfl
  | _ => rfl

/-! The call is unfolded by position (`applyFilter_pos`), the arguments are converted parameter by parameter, and both sides are
brought to the same chain of binds (`Res.bind_assoc`, `Res.bind_ok`). -/

theorem applyFilter_eq_bodyP (f : FName) (g : GoVal) (args : List GoVal) :
    applyFilter (lookupImpl stdFilterImpls) f.name g args =
      if (g :: args).length > f.arity then .err (.filterErr f.name .parity)
      else (bodyP true f g args).bind fun w => .ok (bytesToString w) := by
  rw [applyFilter_pos f.pos f.pos_spec.1, f.pos_spec.2]
  split
  · rfl
  next hl =>
  -- in each case the parameter list and the body are read off the two tables by position (`call_unary … |>.trans`, `show`)
  cases f with
  | compact | reverse | first | last =>
    obtain rfl := length_le_one hl
    refine (call_unary _ _ g).trans ?_
    rw [bodyP, Res.bind_assoc]
    rfl
  | uniq =>
    obtain rfl := length_le_one hl
    refine (call_unary _ uniq g).trans ?_
    rw [bodyP, Res.bind_assoc]
    congr 1
    funext xs
    rw [uniq_eq_uniqP]
    cases uniqP xs <;> rfl
  | size =>
    obtain rfl := length_le_one hl
    show ((convertArgs [.val .any] [g]).bind fun c => applyFilter.finish _ (Num.size c)) = _
    simp only [convertArgs_val, convertArgs_of_nil, List.head?_cons, List.tail_cons, bodyP, sizeP, Res.bind_assoc, Res.bind_ok]
    congr 1
    funext c
    simp only [applyFilter.finish]
    cases Num.size [.val c] with
    | ok e => cases e <;> rfl
    | _ => rfl
  | concat =>
    have hd : (args.head?.getD .nil) = args.headD .nil := by cases args <;> rfl
    refine (call_binary _ .anys concat g args).trans ?_
    simp only [convArgVal_anys, bodyP, Res.bind_assoc, Res.bind_ok, hd]
    rfl
  | map =>
    refine (call_binary _ .str ArrF.map g args).trans ?_
    simp only [bodyP, strArgP, Res.bind_assoc]
    congr 1
    funext xs
    cases hc : convArgVal .str args.head? with
    | ok k =>
      obtain ⟨s, rfl⟩ := (convArgVal_resTy .str _).2 k hc
      simp only [ArrF.map, sliceOf, Res.bind_ok, Res.bind_assoc]
    | _ => rfl
  | sort | sortNatural =>
    refine (call_binary _ .any _ g args).trans ?_
    simp only [bodyP, sortedList_sliceOf, Bool.false_eq_true, if_false, if_true, Res.bind_assoc]
    rfl
  | join =>
    show ((convertArgs [.val .anys, .fn .str] (g :: args)).bind fun c => applyFilter.finish _ (eager join c)) = _
    simp only [convertArgs_val, convertArgs_fn, convertArgs_of_nil, convArgVal_anys, List.head?_cons, List.tail_cons,
      Option.getD_some, bodyP, Res.bind_assoc, Res.bind_ok]
    congr 1
    funext xs
    simp only [eager, FilterImpl.ofEager, collect_val_fn]
    cases args.head? with
    | none =>
      simp only [Option.map, sepP, Res.bind_ok, ArrF.join, applyFilter.finish]
      cases joinF xs [32] <;> rfl
    | some a =>
      simp only [Option.map, sepP, Res.bind_assoc]
      cases hc : convert a .str with
      | ok w =>
        obtain ⟨s, rfl⟩ := convert_hasTy (t := .str) hc
        simp only [Res.bind_ok, ArrF.join, applyFilter.finish]
        cases joinF xs _ <;> rfl
      | _ => rfl
  | default =>
    show ((convertArgs [.val .any, .val .any] (g :: args)).bind fun c => applyFilter.finish _ (Num.default c)) = _
    simp only [convertArgs_val, convertArgs_of_nil, List.head?_cons, List.tail_cons, bodyP, Res.bind_assoc, Res.bind_ok]
    rfl

theorem applyFilter_bodyP {f : FName} {g : GoVal} {args : List GoVal} (hl : (g :: args).length ≤ f.arity) :
    applyFilter (lookupImpl stdFilterImpls) f.name g args = (bodyP true f g args).bind fun w => .ok (bytesToString w) := by
  rw [applyFilter_eq_bodyP, if_neg (Nat.not_lt.mpr hl)]

theorem convAnysP_of_convert {g : GoVal} {ys : List GoVal} (hn : g ≠ .nil) (hc : convert g .anys = .ok (.slice .any ys)) :
    convAnysP g = .ok ys := by
  rw [convAnysP_val hn, hc]
  rfl

theorem stageP_eq_evalFilter (f : FName) (g : GoVal) (args : List GoVal) :
    stageP true f g args = evalFilter (lookupImpl stdFilterImpls) f.name g args := by
  unfold stageP evalFilter
  rw [applyFilter_eq_bodyP]
  simp only [List.length_cons, List.length_map]
  by_cases hl : args.length + 1 > f.arity
  · rw [if_pos hl, if_pos hl]; rfl
  · rw [if_neg hl, if_neg hl, Res.bind_assoc]
    rfl

/-- a pipeline in the pure model (`Driver.runPipeline` with decoded steps) -/
def evalChain : GoVal → List (FName × List GoVal) → Res Cause GoVal
  | g, [] => .ok g
  | g, (f, args) :: rest => (evalFilter (lookupImpl stdFilterImpls) f.name g args).bind fun w => evalChain w rest

theorem chainP_eq_evalChain : ∀ (chain : List (FName × List GoVal)) (g : GoVal), chainP true g chain = evalChain g chain
  | [], _ => rfl
  | (f, args) :: rest, g => by
    simp only [chainP, evalChain, stageP_eq_evalFilter]
    congr 1
    funext w
    exact chainP_eq_evalChain rest w

end Heap
