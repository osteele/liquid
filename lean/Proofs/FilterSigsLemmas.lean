import Liquid.Call
import Proofs.ResLemmas
/-!
# Registries of filter signatures: when two tables define the same name → signature map
(definitions and lemmas for `Proofs/FilterSigs.lean`, the obligation of translator T2)
-/

def namesDistinct : List FilterSig → Bool
  | [] => true
  | x :: xs => xs.all (fun y => !(y.name == x.name)) && namesDistinct xs

def sameRegistry (a b : List FilterSig) : Bool :=
  namesDistinct a && namesDistinct b && a.all (fun x => b.contains x) && b.all (fun x => a.contains x)

/-- lookup by name, as `lookupSig` does on `stdFilters` -/
def findSig (l : List FilterSig) (name : Bytes) : Option FilterSig := l.find? (·.name == name)

theorem namesDistinct_iff_nodup : ∀ {l : List FilterSig}, namesDistinct l = true ↔ (l.map (·.name)).Nodup
  | [] => ⟨fun _ => .nil, fun _ => rfl⟩
  | x :: xs => by
    -- both sides say: no entry of `xs` has the name of `x`, and the same of `xs`
    simp only [namesDistinct, Bool.and_eq_true, List.all_eq_true, Bool.not_eq_eq_eq_not, Bool.not_true, beq_eq_false_iff_ne, ne_eq,
      List.map_cons, List.nodup_cons, List.mem_map, not_exists, not_and, namesDistinct_iff_nodup (l := xs)]

theorem findSig_some_iff (l : List FilterSig) (hd : namesDistinct l = true) (name : Bytes) (x : FilterSig) :
    findSig l name = some x ↔ x ∈ l ∧ x.name = name := by
  constructor
  · intro h
    exact ⟨List.mem_of_find?_eq_some h, by simpa using List.find?_some h⟩
  · rintro ⟨hx, rfl⟩
    exact List.find?_key_of_nodup (·.name) (namesDistinct_iff_nodup.mp hd) hx

theorem sameRegistry_findSig (a b : List FilterSig) (h : sameRegistry a b = true) (name : Bytes) :
    findSig a name = findSig b name := by
  simp only [sameRegistry, Bool.and_eq_true, List.all_eq_true, List.contains_iff_mem] at h
  obtain ⟨⟨⟨ha, hb⟩, hab⟩, hba⟩ := h
  -- both tables answer `name` with the entry of that name, and they have the same entries
  refine Option.ext fun x => ?_
  rw [findSig_some_iff a ha, findSig_some_iff b hb]
  exact ⟨fun h => ⟨hab x h.1, h.2⟩, fun h => ⟨hba x h.1, h.2⟩⟩

/-- two tables with the same entries in any order, one of them without a repeated name, are the same registry -/
theorem sameRegistry_of_perm {a b : List FilterSig} (hp : a.Perm b) (hd : namesDistinct a = true) : sameRegistry a b = true := by
  have hb : namesDistinct b = true := namesDistinct_iff_nodup.mpr ((hp.map (·.name)).nodup_iff.mp (namesDistinct_iff_nodup.mp hd))
  simp only [sameRegistry, hd, hb, Bool.true_and, Bool.and_eq_true, List.all_eq_true, List.contains_iff_mem]
  exact ⟨fun x hx => hp.mem_iff.mp hx, fun x hx => hp.mem_iff.mpr hx⟩
