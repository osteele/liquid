import Proofs.RenderSteps
/-!
# C10 — conditional tags render exactly the first branch whose condition is truthy

Statements about the compiled tree (`Node.ifB`, `Node.caseB`), for every `Prims`, every state and
every branch list. `condRes` (Proofs/RenderSteps.lean) is the value the model's `evalCond` computes (it reads the
variables and never changes the state); the step equations `renderBranches_cons`, `renderCases_when` are there too.
-/

/-- **C10 (truthiness).** A value is truthy exactly when it is neither nil nor false — so 0, the
    empty string and empty collections are truthy. -/
theorem test_truthy_iff (v : GoVal) :
    v.test = true ↔ (∀ h : v.unwrap = .nil, False) ∧ (∀ h : v.unwrap = .bool false, False) := by
  unfold GoVal.test
  split
  · next h => simp [h]
  · next h => simp [h]
  · next h1 h2 =>
    constructor
    · intro _; exact ⟨fun h => h1 h, fun h => h2 h⟩
    · intro _; rfl

/-- **C10 (first truthy branch).** If the tests of the branches before `b` are all falsy and
    `b`'s test is truthy, the conditional renders exactly `b`'s body — whatever follows. -/
theorem if_first_truthy (c : RCtx) (s : RS) (pre : List (CondT × List Node)) (t : CondT) (body : List Node)
    (later : List (CondT × List Node))
    (hpre : ∀ b ∈ pre, condRes c.P s.env b.1 = .ok false) (ht : condRes c.P s.env t = .ok true) :
    renderBranches c (pre ++ (t, body) :: later) s = renderBlockBody c body s := by
  rw [renderBranches_skip c s pre _ hpre, renderBranches_cons, ht]

/-- **C10 (lazy).** Conditions after the selected branch are not evaluated: the result does not
    depend on the later branches at all (they may be erroring, or anything else). -/
theorem if_lazy (c : RCtx) (s : RS) (pre : List (CondT × List Node)) (t : CondT) (body : List Node)
    (later later' : List (CondT × List Node))
    (hpre : ∀ b ∈ pre, condRes c.P s.env b.1 = .ok false) (ht : condRes c.P s.env t = .ok true) :
    renderBranches c (pre ++ (t, body) :: later) s = renderBranches c (pre ++ (t, body) :: later') s := by
  rw [if_first_truthy c s pre t body later hpre ht, if_first_truthy c s pre t body later' hpre ht]

/-- **C10 (no branch).** If every test is falsy nothing is rendered and the state is unchanged. -/
theorem if_none (c : RCtx) (s : RS) (bs : List (CondT × List Node))
    (h : ∀ b ∈ bs, condRes c.P s.env b.1 = .ok false) :
    renderBranches c bs s = .ret (.done, s) := by
  rw [← List.append_nil bs, renderBranches_skip c s bs [] h, renderBranches]
  rfl

/-- **C10 (erroring condition).** If the first test that is not falsy fails, the conditional fails
    with that error and renders nothing. -/
theorem if_cond_err (c : RCtx) (s : RS) (pre : List (CondT × List Node)) (t : CondT) (body : List Node)
    (later : List (CondT × List Node)) (e : Cause)
    (hpre : ∀ b ∈ pre, condRes c.P s.env b.1 = .ok false) (ht : condRes c.P s.env t = .err e) :
    renderBranches c (pre ++ (t, body) :: later) s = .fail (condErr c.cfg.path t e) := by
  rw [renderBranches_skip c s pre _ hpre, renderBranches_cons, ht]

/-- an `if` node whose first test that is not falsy is truthy renders that branch's body -/
theorem ifB_selects (c : RCtx) (line : Nat) (s : RS) (pre : List (CondT × List Node)) (t : CondT) (body : List Node)
    (later : List (CondT × List Node)) (hpre : ∀ b ∈ pre, condRes c.P s.env b.1 = .ok false) (ht : condRes c.P s.env t = .ok true) :
    renderNode c (.ifB line (pre ++ (t, body) :: later)) s = wrapAt c.cfg.path ⟨line, true⟩ (renderBlockBody c body) s := by
  rw [renderNode]
  simp only [wrapAt, if_first_truthy c s pre t body later hpre ht]

theorem ifB_none (c : RCtx) (line : Nat) (s : RS) (bs : List (CondT × List Node))
    (h : ∀ b ∈ bs, condRes c.P s.env b.1 = .ok false) : renderNode c (.ifB line bs) s = .ret (.done, s) := by
  rw [renderNode]
  simp only [wrapAt, if_none c s bs h]
  rfl

/-- **C10 (unless is the dual of if).** For every condition `e` (erroring ones included), bodies
    `A`, `B` and state: `{% if e %}A{% else %}B{% endif %}` and
    `{% unless e %}B{% else %}A{% endunless %}` render identically. -/
theorem unless_dual (c : RCtx) (line : Nat) (e : Expr) (A B : List Node) (s : RS) :
    renderNode c (.ifB line [(.expr line e, A), (.always, B)]) s =
    renderNode c (.ifB line [(.notExpr line e, B), (.always, A)]) s := by
  have h : renderBranches c [(.expr line e, A), (.always, B)] s = renderBranches c [(.notExpr line e, B), (.always, A)] s := by
    rw [renderBranches_cons, renderBranches_cons, renderBranches_cons, renderBranches_cons]
    simp only [condRes, condErr, CondT.line]
    cases evaluate c.P s.env e with
    | ok v =>
      simp only
      cases hvt : v.test
      · simp
      · simp
    | _ => rfl
  simp only [renderNode, wrapAt, h]

/-- **C10 (case).** `case` renders the first `when` clause one of whose values equals the
    subject (earlier clauses matching nothing)… -/
theorem case_first_equal (c : RCtx) (sel : GoVal) (s : RS) (pre : List ((Nat × List Expr) × List Node)) (line : Nat) (es : List Expr)
    (body : List Node) (later : List (Option (Nat × List Expr) × List Node))
    (hpre : ∀ b ∈ pre, whenRes c.P s.env sel b.1.2 = .ok false) (ht : whenRes c.P s.env sel es = .ok true) :
    renderCases c sel (pre.map (fun b => (some b.1, b.2)) ++ (some (line, es), body) :: later) s = renderBlockBody c body s := by
  rw [renderCases_skip c sel s pre _ hpre, renderCases_when, ht]

/-- …otherwise the `else` clause… -/
theorem case_else (c : RCtx) (sel : GoVal) (s : RS) (pre : List ((Nat × List Expr) × List Node)) (body : List Node)
    (later : List (Option (Nat × List Expr) × List Node))
    (hpre : ∀ b ∈ pre, whenRes c.P s.env sel b.1.2 = .ok false) :
    renderCases c sel (pre.map (fun b => (some b.1, b.2)) ++ (none, body) :: later) s = renderBlockBody c body s := by
  rw [renderCases_skip c sel s pre _ hpre, renderCases]

/-- …otherwise nothing. -/
theorem case_none (c : RCtx) (sel : GoVal) (s : RS) (pre : List ((Nat × List Expr) × List Node))
    (hpre : ∀ b ∈ pre, whenRes c.P s.env sel b.1.2 = .ok false) :
    renderCases c sel (pre.map (fun b => (some b.1, b.2))) s = .ret (.done, s) := by
  rw [← List.append_nil (pre.map _), renderCases_skip c sel s pre [] hpre, renderCases]
  rfl

/-! ### Closed forms: the whole chain in one equation -/

/-- a branch *fires* when its test is not falsy: it is truthy, or its evaluation fails -/
def branchFires (P : Prims) (env : Env) (b : CondT × List Node) : Bool :=
  match condRes P env b.1 with
  | .ok false => false
  | _ => true

/-- **C10 (if_denotation).** Rendering an `if`/`elsif`/`else` (or `unless`) chain is, for every
    branch list and state, rendering what `List.find?` selects: the first branch whose test is
    not falsy. If that test is truthy the result is exactly the rendering of that branch's body;
    if its evaluation fails the chain fails with that error, located at the branch's own tag
    (tests of earlier branches were falsy, tests of later branches are never evaluated); if no
    branch fires nothing is rendered and the state is unchanged. `if_first_truthy`, `if_none` and
    `if_cond_err` are its special cases. -/
theorem if_denotation (c : RCtx) (bs : List (CondT × List Node)) (s : RS) :
    renderBranches c bs s =
      match bs.find? (branchFires c.P s.env) with
      | none => .ret (.done, s)
      | some (t, body) =>
        match condRes c.P s.env t with
        | .ok _ => renderBlockBody c body s
        | .err e => .fail (condErr c.cfg.path t e)
        | .panic w => .panic w
        | .unmodelled w => .unmodelled w := by
  induction bs with
  | nil => rw [renderBranches]; rfl
  | cons b bs ih =>
    obtain ⟨t, body⟩ := b
    rw [renderBranches_cons, List.find?_cons]
    cases h : condRes c.P s.env t with
    | ok v =>
      cases v with
      | true => simp only [branchFires, h]
      | false => simp only [branchFires, h]; exact ih
    | _ => simp only [branchFires, h]

/-- the selected branch of `if_denotation` is the first that fires: every branch before it has a
    falsy test (so `find?` here says exactly "first truthy, errors of earlier tests propagated") -/
theorem if_denotation_selects (P : Prims) (env : Env) (bs : List (CondT × List Node)) (b : CondT × List Node)
    (h : bs.find? (branchFires P env) = some b) :
    ∃ pre later, bs = pre ++ b :: later ∧ (∀ x ∈ pre, condRes P env x.1 = .ok false) ∧
      condRes P env b.1 ≠ .ok false := by
  obtain ⟨hb, pre, later, hbs, hpre⟩ := List.find?_eq_some_iff_append.mp h
  refine ⟨pre, later, hbs, ?_, ?_⟩
  · intro x hx
    have := hpre x hx
    simp only [branchFires] at this
    split at this
    · assumption
    · simp at this
  · intro hf
    simp [branchFires, hf] at hb

/-- the `if` node itself: the chain, with failures and loop sentinels re-wrapped at the tag -/
theorem if_node_denotation (c : RCtx) (line : Nat) (bs : List (CondT × List Node)) (s : RS) :
    renderNode c (.ifB line bs) s =
      wrapAt c.cfg.path ⟨line, true⟩ (fun s =>
        match bs.find? (branchFires c.P s.env) with
        | none => .ret (.done, s)
        | some (t, body) =>
          match condRes c.P s.env t with
          | .ok _ => renderBlockBody c body s
          | .err e => .fail (condErr c.cfg.path t e)
          | .panic w => .panic w
          | .unmodelled w => .unmodelled w) s := by
  rw [renderNode]
  simp only [wrapAt, if_denotation]

/-- a `case` clause fires when it is the `else` clause or its `when` values are not all unequal
    to the subject (one is equal, or the evaluation / comparison fails) -/
def clauseFires (P : Prims) (env : Env) (sel : GoVal) (cl : Option (Nat × List Expr) × List Node) : Bool :=
  match cl.1 with
  | none => true
  | some (_, es) =>
    match whenRes P env sel es with
    | .ok false => false
    | _ => true

/-- **C10 (case_denotation).** Rendering the clauses of a `case` with subject value `sel` is
    rendering what `List.find?` selects: the first clause that is an `else` or whose `when` list
    is not entirely unequal to the subject. A matching `when` (or the `else`) renders exactly its
    body; a `when` whose evaluation fails makes the `case` fail with that error at the `when` tag;
    no clause: nothing is rendered. `case_first_equal`, `case_else`, `case_none` are its special cases. -/
theorem case_denotation (c : RCtx) (sel : GoVal) (cs : List (Option (Nat × List Expr) × List Node)) (s : RS) :
    renderCases c sel cs s =
      match cs.find? (clauseFires c.P s.env sel) with
      | none => .ret (.done, s)
      | some (none, body) => renderBlockBody c body s
      | some (some (line, es), body) =>
        match whenRes c.P s.env sel es with
        | .ok _ => renderBlockBody c body s
        | .err x => .fail (.located (wrapError c.cfg.path (.plain x) ⟨line, true⟩))
        | .panic w => .panic w
        | .unmodelled w => .unmodelled w := by
  induction cs with
  | nil => rw [renderCases]; rfl
  | cons cl cs ih =>
    obtain ⟨w, body⟩ := cl
    cases w with
    | none => rw [renderCases, List.find?_cons]; simp only [clauseFires]
    | some le =>
      obtain ⟨line, es⟩ := le
      rw [renderCases_when, List.find?_cons]
      cases h : whenRes c.P s.env sel es with
      | ok v =>
        cases v with
        | true => simp only [clauseFires, h]
        | false => simp only [clauseFires, h]; exact ih
      | _ => simp only [clauseFires, h]

/-- the `case` node: the subject is evaluated once, first; its failure is the node's failure -/
theorem case_node_denotation (c : RCtx) (line : Nat) (subject : Expr) (cs : List (Option (Nat × List Expr) × List Node))
    (s : RS) (sel : GoVal) (hsel : evaluate c.P s.env subject = .ok sel) :
    renderNode c (.caseB line subject cs) s = wrapAt c.cfg.path ⟨line, true⟩ (renderCases c sel cs) s := by
  rw [renderNode]
  simp only [wrapAt, bind, M.bind, M.getEnv, Prog.bind, hsel, M.ofRes, M.pure]

theorem case_subject_err (c : RCtx) (line : Nat) (subject : Expr) (cs : List (Option (Nat × List Expr) × List Node))
    (s : RS) (e : Cause) (hsel : evaluate c.P s.env subject = .err e) :
    renderNode c (.caseB line subject cs) s = .fail (.located (wrapError c.cfg.path (.plain e) ⟨line, true⟩)) := by
  rw [renderNode]
  simp only [wrapAt, bind, M.bind, M.getEnv, Prog.bind, hsel, M.ofRes, M.fail, Prog.mapFail]

/-! Non-vacuity: literal conditions `false`, `nil`, `0` — the third is truthy. -/
example (P : Prims) (env : Env) : condRes P env (.expr 1 (.lit (.bool false))) = .ok false := rfl
example (P : Prims) (env : Env) : condRes P env (.expr 1 (.lit .nil)) = .ok false := rfl
example (P : Prims) (env : Env) : condRes P env (.expr 1 (.lit (.int .int 0))) = .ok true := rfl
example (P : Prims) (env : Env) : condRes P env (.expr 1 (.lit (.str []))) = .ok true := rfl
example (P : Prims) (env : Env) : condRes P env (.expr 1 (.lit (.slice .any []))) = .ok true := rfl

/-! Non-vacuity of the closed forms: `{% if false %}A{% elsif 0 %}B{% else %}C{% endif %}` selects B
    (0 is truthy); a `case` with `when 2`, `else` under a comparison that never holds selects the else clause. -/
example (P : Prims) (env : Env) (A B C : List Node) :
    [(CondT.expr 1 (.lit (.bool false)), A), (CondT.expr 2 (.lit (.int .int 0)), B), (CondT.always, C)].find?
      (branchFires P env) = some (CondT.expr 2 (.lit (.int .int 0)), B) := rfl
example (P : Prims) (env : Env) (A : List Node) :
    [(CondT.expr 1 (.lit .nil), A)].find? (branchFires P env) = none := rfl
/-- with a comparison that never holds, a `case` with one `when` and an `else` selects the `else` clause -/
example (env : Env) (sel : GoVal) (A B : List Node) :
    [(some (1, [Expr.lit (.int .int 2)]), A), (none, B)].find?
      (clauseFires { equal := fun _ _ => .ok false, less := fun _ _ => .ok false, contains := fun _ _ => .ok false,
                     equalFn := fun _ _ => .ok false, applyFilter := fun _ v _ => .ok v, hasFilter := fun _ => false }
        env sel) = some (none, B) := rfl
