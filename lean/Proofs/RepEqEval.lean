import Proofs.RepEqProg
import Proofs.RenderTreeDefs
/-!
# Expression evaluation on related variables, with two value layers (helper lemmas for C18, C02 and the oracles)

`EvalRel.eval`: for any three relations that the lookups, the truth test and `unwrap` respect (`EvalRel`) and any two
comparison and filter layers of which the second answers as the first on related operands (`PrimsRespectG`), an expression
evaluated against related variables gives related values, up to the tolerance `T` (`RSim`, Proofs/ProgSim.lean). `eval_rel`
(Proofs/RepEqRender.lean) is the instance for representation equivalence with one layer; `evalRel_eq` (Proofs/Oracles.lean) gives the
one for equal variables and a layer that answers more. `URel d` and `PrimsRespect t d` (the hypothesis of `run_rep_independent`,
Proofs/C18.lean) belong to the instance for representation equivalence.
-/

open GoVal

variable {t d : Bool}

/-- related values that are both unwrapped (results of `Evaluate`, filter inputs) -/
def URel (d : Bool) (a b : GoVal) : Prop := Unw a ∧ Unw b ∧ RepEq d a b

theorem URel.refl_unw {a : GoVal} (h : Unw a) : URel d a a := ⟨h, h, RepEq.refl a⟩

/-- what the congruence theorem needs from the comparison and filter layers: related operands
    give the same answer, related filter inputs give related results (`t`: up to `unmodelled`) -/
structure PrimsRespect (t d : Bool) (P : Prims) : Prop where
  equal : ∀ a a' b b', VRel d a a' → VRel d b b' → RRel t Eq (P.equal a b) (P.equal a' b')
  less : ∀ a a' b b', VRel d a a' → VRel d b b' → RRel t Eq (P.less a b) (P.less a' b')
  contains : ∀ a a' b b', VRel d a a' → VRel d b b' → RRel t Eq (P.contains a b) (P.contains a' b')
  /-- the operands of `case`/`when` are results of `Evaluate` (unwrapped) -/
  equalFn : ∀ a a' b b', URel d a a' → URel d b b' → RRel t Eq (P.equalFn a b) (P.equalFn a' b')
  /-- receiver and arguments reach a filter unwrapped -/
  applyFilter : ∀ name r r' as as', URel d r r' → All2 (URel d) as as' →
    RRel t (VRel d) (P.applyFilter name r as) (P.applyFilter name r' as')

variable {T : Tol} {E W U : GoVal → GoVal → Prop}

/-- what evaluation needs of three relations: `E` on bindings, `W` on the values of subexpressions, `U` on what
    `Evaluate` hands out and what reaches a filter (unwrapped) -/
structure EvalRel (T : Tol) (E W U : GoVal → GoVal → Prop) : Prop where
  refl (v : GoVal) : W v v
  ofVar {a b : GoVal} : E a b → W a.toLiquid b.toLiquid
  unwrap {a b : GoVal} : W a b → U a.unwrap b.unwrap
  property {a b : GoVal} (name : Bytes) : W a b → RSim T W (liftL (propertyValue a name)) (liftL (propertyValue b name))
  index {r r' i i' : GoVal} : W r r' → W i i' → RSim T W (liftL (indexValue r i)) (liftL (indexValue r' i'))
  intOf {a b : GoVal} : W a b → a.intOf = b.intOf
  test {a b : GoVal} : W a b → a.test = b.test

/-- what it needs of two comparison and filter layers: on related operands the second answers as the first, on related filter
    inputs with related results, up to what `T` tolerates -/
structure PrimsRespectG (T : Tol) (W U : GoVal → GoVal → Prop) (P P' : Prims) : Prop where
  equal : ∀ a a' b b', W a a' → W b b' → RSim T Eq (P.equal a b) (P'.equal a' b')
  less : ∀ a a' b b', W a a' → W b b' → RSim T Eq (P.less a b) (P'.less a' b')
  contains : ∀ a a' b b', W a a' → W b b' → RSim T Eq (P.contains a b) (P'.contains a' b')
  equalFn : ∀ a a' b b', U a a' → U b b' → RSim T Eq (P.equalFn a b) (P'.equalFn a' b')
  /-- the two know the same filters, or `P` does not know this one and saying so counts as no answer -/
  hasFilter : ∀ n, P'.hasFilter n = P.hasFilter n ∨ (P.hasFilter n = false ∧ T.bl (.plain (.undefinedFilter n)))
  applyFilter : ∀ name r r' as as', U r r' → All2 U as as' →
    RSim T W (P.applyFilter name r as) (P'.applyFilter name r' as')

namespace EvalRel
variable (L : EvalRel T E W U)
include L

theorem boolOk {r r' : Res Cause Bool} (h : RSim T Eq r r') (f : Bool → Bool) :
    RSim T W (r.bind fun b => .ok (.bool (f b))) (r'.bind fun b => .ok (.bool (f b))) :=
  h.bindEq fun _ => .of_eq L.refl rfl

theorem all2_unwrap {as as' : List GoVal} (h : All2 W as as') : All2 U (as.map GoVal.unwrap) (as'.map GoVal.unwrap) := by
  induction h with
  | nil => exact .nil
  | cons h _ ih => exact .cons (L.unwrap h) ih

variable {P P' : Prims} (hP : PrimsRespectG T W U P P') {env env' : Env} (he : ∀ x, E (env.get x) (env'.get x))
include hP he

mutual
theorem eval : ∀ e : Expr, RSim T W (eval P env e) (eval P' env' e)
  | .lit v => by simp only [_root_.eval]; exact .ok (L.refl _)
  | .var x => by
    simp only [_root_.eval]
    exact .ok (L.ofVar (he x))
  | .prop e name => by
    simp only [_root_.eval, Res.bind_eq]
    exact (eval e).bind fun v v' hv => L.property name hv
  | .index e i => by
    simp only [_root_.eval, Res.bind_eq]
    exact (eval e).bind fun v v' hv => (eval i).bind fun iv iv' hi => L.index hv hi
  | .range a b => by
    simp only [_root_.eval, Res.bind_eq]
    refine (eval a).bind fun va va' ha => ?_
    rw [L.intOf ha]
    cases va'.intOf with
    | none => exact .of_eq L.refl rfl
    | some x =>
      refine (eval b).bind fun vb vb' hb => ?_
      rw [L.intOf hb]
      exact .of_eq L.refl rfl
  | .rel op a b => by
    simp only [_root_.eval, Res.bind_eq]
    refine (eval a).bind fun va va' ha => (eval b).bind fun vb vb' hb => ?_
    have e1 := hP.equal va va' vb vb' ha hb
    have l1 := hP.less va va' vb vb' ha hb
    have l2 := hP.less vb vb' va va' hb ha
    cases op <;> simp only
    · exact L.boolOk e1 id
    · exact L.boolOk e1 (fun b => !b)
    · exact L.boolOk l2 id
    · exact L.boolOk l1 id
    · refine l2.bindEq fun l => ?_
      split
      · exact .of_eq L.refl rfl
      · exact L.boolOk e1 id
    · refine l1.bindEq fun l => ?_
      split
      · exact .of_eq L.refl rfl
      · exact L.boolOk e1 id
    · exact L.boolOk (hP.contains va va' vb vb' ha hb) id
  | .and_ a b => by
    simp only [_root_.eval, Res.bind_eq]
    refine (eval a).bind fun va va' ha => ?_
    rw [L.test ha]
    split
    · refine (eval b).bind fun vb vb' hb => ?_
      rw [L.test hb]
      exact .of_eq L.refl rfl
    · exact .of_eq L.refl rfl
  | .or_ a b => by
    simp only [_root_.eval, Res.bind_eq]
    refine (eval a).bind fun va va' ha => ?_
    rw [L.test ha]
    split
    · exact .of_eq L.refl rfl
    · refine (eval b).bind fun vb vb' hb => ?_
      rw [L.test hb]
      exact .of_eq L.refl rfl
  | .filter e name args => by
    simp only [_root_.eval]
    rcases hP.hasFilter name with hf | ⟨hf, hb⟩
    · rw [hf]
      split
      · exact .of_eq L.refl rfl
      · simp only [Res.bind_eq]
        exact (eval e).bind fun r r' hr => (evalList args).bind fun as as' has =>
          hP.applyFilter name _ _ _ _ (L.unwrap hr) (L.all2_unwrap has)
    · rw [hf]
      exact .failL hb _
theorem evalList : ∀ es : List Expr, RSim T (All2 W) (evalList P env es) (evalList P' env' es)
  | [] => by simp only [_root_.evalList]; exact .ok .nil
  | e :: es => by
    simp only [_root_.evalList, Res.bind_eq]
    exact (eval e).bind fun v v' hv => (evalList es).bind fun vs vs' hvs => .ok (All2.cons hv hvs)
end

theorem evaluate (e : Expr) : RSim T U (evaluate P env e) (evaluate P' env' e) := by
  have hb : ∀ P env, _root_.evaluate P env e = (_root_.eval P env e).bind fun v => .ok v.unwrap := fun P env => by
    unfold _root_.evaluate
    cases _root_.eval P env e <;> rfl
  rw [hb, hb]
  exact (L.eval hP he e).bind fun v v' hv => .ok (L.unwrap hv)

end EvalRel
