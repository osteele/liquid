import Proofs.C20
import Proofs.SrcItems
/-!
# C20, from source bytes — what a failing writer accepted is a prefix of what `run` returns

`Template.FRender(w, vars)` on the template compiled from a source is the interaction tree
`frender … root env` with `compileSource cfg.delims src line = .ok root`; `run` is that tree against a writer
that never fails. The theorems compose `frender_faulty`/`frender_faulty_prefix` (`Proofs/C20.lean`) with
`run_eq_runCompiled`.
-/

/-- **C20 (prefix), for every source that compiles.** Take any source text that compiles (`root`), any
    value layer, configuration, file system, fuel and environment, and a writer that fails at its `k`-th call
    (`k` < the number of calls the fault-free render makes), accepting `acc` bytes of it: the render ends with
    an error whose cause is the writer's failure (never success, never a panic), no call follows, and the
    bytes the writer accepted are a prefix of the bytes the fault-free render writes. -/
theorem source_faulty_prefix (P : Prims) (O : OutPrims) (cfg : Cfg) (fs : FS) (fuel : Nat) (src : Bytes) (line : Nat) (env : Env) :
    ∀ root, compileSource cfg.delims src line = .ok root →
    ∀ k acc, k < (frender P O cfg fs fuel root env).calls.length →
    (∃ e, (runFaulty (frender P O cfg fs fuel root env) (some k) acc).1 = .err e ∧ IsIo e) ∧
    (runFaulty (frender P O cfg fs fuel root env) (some k) acc).2.2 = 0 ∧
    (runFaulty (frender P O cfg fs fuel root env) (some k) acc).2.1 <+: (frender P O cfg fs fuel root env).runPure.1 := by
  intro root _ k acc hk
  have h := frender_faulty P O cfg fs fuel root env k acc hk
  exact ⟨h.1, h.2.2, frender_faulty_prefix P O cfg fs fuel root env k acc hk⟩

/-- **C20 (prefix of the output of `run`), from source bytes.** If the whole pipeline returns the output `out`
    for a source, then the template compiled from that source, rendered to a writer that fails at any call
    `k` (accepting any `acc` bytes of it), ends with the writer's failure as its error, makes no further call,
    and what the writer accepted is a prefix of `out`. -/
theorem run_faulty_prefix (P : Prims) (O : OutPrims) (cfg : Cfg) (fs : FS) (fuel : Nat) (src : Bytes) (line : Nat) (env : Env)
    (out : Bytes) (h : run P O cfg fs fuel src line env = .ok out) :
    ∃ root, compileSource cfg.delims src line = .ok root ∧
      ∀ k acc, k < (frender P O cfg fs fuel root env).calls.length →
        (∃ e, (runFaulty (frender P O cfg fs fuel root env) (some k) acc).1 = .err e ∧ IsIo e) ∧
        (runFaulty (frender P O cfg fs fuel root env) (some k) acc).2.2 = 0 ∧
        (runFaulty (frender P O cfg fs fuel root env) (some k) acc).2.1 <+: out := by
  rw [run_eq_runCompiled] at h
  cases hc : compileSource cfg.delims src line with
  | ok root =>
    rw [hc] at h
    refine ⟨root, rfl, fun k acc hk => ?_⟩
    have hout : (frender P O cfg fs fuel root env).runPure.1 = out := by
      simp only [runCompiled, runRoot] at h
      split at h <;> simp_all
    obtain ⟨h1, h2, h3⟩ := source_faulty_prefix P O cfg fs fuel src line env root hc k acc hk
    exact ⟨h1, h2, hout ▸ h3⟩
  | _ => rw [hc] at h; cases h

/-- the prefix statement alone, for a source that is the spelling of an item list -/
theorem run_spell_faulty_prefix (P : Prims) (O : OutPrims) (cfg : Cfg) (fs : FS) (fuel : Nat) (items : List Item) (line : Nat)
    (env : Env) (out : Bytes)
    (h : run P O cfg fs fuel (spell (Delims.ofList cfg.delims) items) line env = .ok out) :
    ∃ root, compileSource cfg.delims (spell (Delims.ofList cfg.delims) items) line = .ok root ∧
      ∀ k acc, k < (frender P O cfg fs fuel root env).calls.length →
        (runFaulty (frender P O cfg fs fuel root env) (some k) acc).2.1 <+: out := by
  obtain ⟨root, hc, hall⟩ := run_faulty_prefix P O cfg fs fuel _ line env out h
  exact ⟨root, hc, fun k acc hk => (hall k acc hk).2.2⟩

/-! ## Non-vacuity, on concrete bytes: `a {{- x }}b` (text, trim-left, object, text) with `x` unbound -/

def c20Src : Bytes := [97, 32, 123, 123, 45, 32, 120, 32, 125, 125, 98]

theorem c20_compiles : compileSource [] c20Src 1 = .ok [.text 1 [97, 32], .trim true, .obj 1 (.var [120]), .text 1 [98]] := by decide +kernel

/-- the fault-free render makes two calls on the writer: `a` (trimmed) and `b` -/
theorem c20_calls (P : Prims) (fs : FS) :
    (frender P stdOut {} fs 1 [.text 1 [97, 32], .trim true, .obj 1 (.var [120]), .text 1 [98]] []).calls = [[97], [98]] := by
  simp only [frender, renderRoot, renderList, renderNode]
  rfl

/-- a writer failing at the second call after accepting nothing has accepted `a`, a prefix of `ab` -/
example (P : Prims) (fs : FS) :
    (runFaulty (frender P stdOut {} fs 1 [.text 1 [97, 32], .trim true, .obj 1 (.var [120]), .text 1 [98]] []) (some 1) 0).2.1 <+:
      (frender P stdOut {} fs 1 [.text 1 [97, 32], .trim true, .obj 1 (.var [120]), .text 1 [98]] []).runPure.1 :=
  (source_faulty_prefix P stdOut {} fs 1 c20Src 1 [] _ c20_compiles 1 0 (by rw [c20_calls]; decide)).2.2
