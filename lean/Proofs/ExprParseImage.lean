import Proofs.ExprScanImage
/-!
# The trees the parser returns

Every leaf of the tree the parser builds (a literal, a variable, a property name, a filter name) is the content of
one of the tokens it was given (`parse_lvAll`: a predicate that holds for all the tokens holds for all the leaves,
`Expr.lvAll`). The scanner's tokens are well formed (`lex_scanOK`), so the parser's image lies inside
`Expr.printable` (`printable_of_parse` with the float literals as a hypothesis, which `lex_floatOK` discharges:
`printable_of_parse_all`).
-/

mutual
/-- `P` holds for every leaf of the tree, presented as the token it is printed as -/
def Expr.lvAll (P : ETok → Bool) : Expr → Bool
  | .lit v => P (.lit v)
  | .var x => P (.ident x)
  | .prop e n => e.lvAll P && P (.property n)
  | .index e i => e.lvAll P && i.lvAll P
  | .range a b => a.lvAll P && b.lvAll P
  | .rel _ a b => a.lvAll P && b.lvAll P
  | .and_ a b => a.lvAll P && b.lvAll P
  | .or_ a b => a.lvAll P && b.lvAll P
  | .filter e n args => e.lvAll P && (if args.isEmpty then P (.ident n) else P (.keyword n)) && Expr.lvAllL P args
def Expr.lvAllL (P : ETok → Bool) : List Expr → Bool
  | [] => true
  | a :: as => a.lvAll P && Expr.lvAllL P as
end

/-- `PI P f` (parser image at fuel `f`): whenever one of the nine parser functions succeeds on tokens that all
    satisfy `P` (and a tree built so far with `lvAll P`), the tree returned has `lvAll P` and the remaining tokens
    satisfy `P` -/
structure PI (P : ETok → Bool) (f : Nat) : Prop where
  ex : ∀ toks e r, parseExpr f toks = some (e, r) → toks.all P = true → e.lvAll P = true ∧ r.all P = true
  pr : ∀ toks e r, parsePrimary f toks = some (e, r) → toks.all P = true → e.lvAll P = true ∧ r.all P = true
  po : ∀ e0 toks e r, parsePostfix f e0 toks = some (e, r) → e0.lvAll P = true → toks.all P = true →
    e.lvAll P = true ∧ r.all P = true
  fi : ∀ e0 toks e r, parseFilters f e0 toks = some (e, r) → e0.lvAll P = true → toks.all P = true →
    e.lvAll P = true ∧ r.all P = true
  pa : ∀ toks as r, parseParams f toks = some (as, r) → toks.all P = true →
    Expr.lvAllL P as = true ∧ r.all P = true ∧ as.isEmpty = false
  rf : ∀ e0 toks e r, parseRelFrom f e0 toks = some (e, r) → e0.lvAll P = true → toks.all P = true →
    e.lvAll P = true ∧ r.all P = true
  cf : ∀ e0 toks e r, parseCondFrom f e0 toks = some (e, r) → e0.lvAll P = true → toks.all P = true →
    e.lvAll P = true ∧ r.all P = true
  ct : ∀ e0 toks e r, parseCondTail f e0 toks = some (e, r) → e0.lvAll P = true → toks.all P = true →
    e.lvAll P = true ∧ r.all P = true
  rl : ∀ toks e r, parseRel f toks = some (e, r) → toks.all P = true → e.lvAll P = true ∧ r.all P = true

theorem pi_zero (P : ETok → Bool) : PI P 0 where
  ex := by intro _ _ _ h; simp [parseExpr] at h
  pr := by intro _ _ _ h; simp [parsePrimary] at h
  po := by intro _ _ _ _ h; simp [parsePostfix] at h
  fi := by intro _ _ _ _ h; simp [parseFilters] at h
  pa := by intro _ _ _ h; simp [parseParams] at h
  rf := by intro _ _ _ _ h; simp [parseRelFrom] at h
  cf := by intro _ _ _ _ h; simp [parseCondFrom] at h
  ct := by intro _ _ _ _ h; simp [parseCondTail] at h
  rl := by intro _ _ _ h; simp [parseRel] at h

theorem pi_succ (P : ETok → Bool) (f : Nat) (ih : PI P f) : PI P (f + 1) where
  ex := by
    intro toks e r h ht
    rw [parseExpr] at h
    split at h
    · rename_i e1 r1 h1
      obtain ⟨a, b⟩ := ih.pr _ _ _ h1 ht
      exact ih.po _ _ _ _ h a b
    · cases h
  pr := by
    intro toks e r h ht
    rw [parsePrimary.eq_def] at h
    simp only at h
    split at h
    · obtain ⟨rfl, rfl⟩ := Prod.mk.inj (Option.some.inj h)
      simp only [List.all_cons, Bool.and_eq_true] at ht
      exact ⟨by rw [Expr.lvAll]; exact ht.1, ht.2⟩
    · obtain ⟨rfl, rfl⟩ := Prod.mk.inj (Option.some.inj h)
      simp only [List.all_cons, Bool.and_eq_true] at ht
      exact ⟨by rw [Expr.lvAll]; exact ht.1, ht.2⟩
    · simp only [List.all_cons, Bool.and_eq_true] at ht
      split at h
      · rename_i a r1 h1
        obtain ⟨ha, hr1⟩ := ih.ex _ _ _ h1 ht.2
        simp only [List.all_cons, Bool.and_eq_true] at hr1
        split at h
        · rename_i b r2 h2
          obtain ⟨hb, hr2⟩ := ih.ex _ _ _ h2 hr1.2
          simp only [List.all_cons, Bool.and_eq_true] at hr2
          obtain ⟨rfl, rfl⟩ := Prod.mk.inj (Option.some.inj h)
          exact ⟨by rw [Expr.lvAll, ha, hb]; rfl, hr2.2⟩
        · cases h
      · rename_i a r1 _ h1
        obtain ⟨ha, hr1⟩ := ih.ex _ _ _ h1 ht.2
        split at h
        · rename_i c r2 h2
          obtain ⟨hc, hr2⟩ := ih.cf _ _ _ _ h2 ha hr1
          simp only [List.all_cons, Bool.and_eq_true] at hr2
          obtain ⟨rfl, rfl⟩ := Prod.mk.inj (Option.some.inj h)
          exact ⟨hc, hr2.2⟩
        · cases h
      · cases h
    · cases h
  po := by
    intro e0 toks e r h he ht
    rw [parsePostfix.eq_def] at h
    simp only at h
    split at h
    · simp only [List.all_cons, Bool.and_eq_true] at ht
      exact ih.po _ _ _ _ h (by rw [Expr.lvAll, he, ht.1]; rfl) ht.2
    · simp only [List.all_cons, Bool.and_eq_true] at ht
      split at h
      · rename_i i r1 h1
        obtain ⟨hi, hr1⟩ := ih.ex _ _ _ h1 ht.2
        simp only [List.all_cons, Bool.and_eq_true] at hr1
        exact ih.po _ _ _ _ h (by rw [Expr.lvAll, he, hi]; rfl) hr1.2
      · cases h
    · obtain ⟨rfl, rfl⟩ := Prod.mk.inj (Option.some.inj h)
      exact ⟨he, ht⟩
  fi := by
    intro e0 toks e r h he ht
    rw [parseFilters.eq_def] at h
    simp only at h
    split at h
    · simp only [List.all_cons, Bool.and_eq_true] at ht
      exact ih.fi _ _ _ _ h (by rw [Expr.lvAll, he]; simp [ht.2.1, Expr.lvAllL]) ht.2.2
    · simp only [List.all_cons, Bool.and_eq_true] at ht
      split at h
      · rename_i args r1 h1
        obtain ⟨ha, hr1, hne⟩ := ih.pa _ _ _ h1 ht.2.2
        exact ih.fi _ _ _ _ h (by rw [Expr.lvAll, he, ha, hne]; simp [ht.2.1]) hr1
      · cases h
    · cases h
    · obtain ⟨rfl, rfl⟩ := Prod.mk.inj (Option.some.inj h)
      exact ⟨he, ht⟩
  pa := by
    intro toks as r h ht
    rw [parseParams.eq_def] at h
    simp only at h
    split at h
    · rename_i a r0 h1
      obtain ⟨ha, hr0⟩ := ih.ex _ _ _ h1 ht
      simp only [List.all_cons, Bool.and_eq_true] at hr0
      split at h
      · rename_i as' r1 h2
        obtain ⟨has, hr1, _⟩ := ih.pa _ _ _ h2 hr0.2
        obtain ⟨rfl, rfl⟩ := Prod.mk.inj (Option.some.inj h)
        exact ⟨by rw [Expr.lvAllL, ha, has]; rfl, hr1, rfl⟩
      · cases h
    · rename_i a r0 _ h1
      obtain ⟨ha, hr0⟩ := ih.ex _ _ _ h1 ht
      obtain ⟨rfl, rfl⟩ := Prod.mk.inj (Option.some.inj h)
      exact ⟨by rw [Expr.lvAllL, ha]; rfl, hr0, rfl⟩
    · cases h
  rf := by
    intro e0 toks e r h he ht
    rw [parseRelFrom.eq_def] at h
    simp only at h
    split at h
    · rename_i t r0
      split at h
      · rename_i op _
        simp only [List.all_cons, Bool.and_eq_true] at ht
        split at h
        · rename_i b r1 h1
          obtain ⟨hb, hr1⟩ := ih.ex _ _ _ h1 ht.2
          obtain ⟨rfl, rfl⟩ := Prod.mk.inj (Option.some.inj h)
          exact ⟨by rw [Expr.lvAll, he, hb]; rfl, hr1⟩
        · cases h
      · exact ih.fi _ _ _ _ h he ht
    · obtain ⟨rfl, rfl⟩ := Prod.mk.inj (Option.some.inj h)
      exact ⟨he, ht⟩
  cf := by
    intro e0 toks e r h he ht
    rw [parseCondFrom] at h
    split at h
    · rename_i c r1 h1
      obtain ⟨hc, hr1⟩ := ih.rf _ _ _ _ h1 he ht
      exact ih.ct _ _ _ _ h hc hr1
    · cases h
  ct := by
    intro e0 toks e r h he ht
    rw [parseCondTail.eq_def] at h
    simp only at h
    split at h
    · simp only [List.all_cons, Bool.and_eq_true] at ht
      split at h
      · rename_i d r1 h1
        obtain ⟨hd, hr1⟩ := ih.rl _ _ _ h1 ht.2
        exact ih.ct _ _ _ _ h (by rw [Expr.lvAll, he, hd]; rfl) hr1
      · cases h
    · simp only [List.all_cons, Bool.and_eq_true] at ht
      split at h
      · rename_i d r1 h1
        obtain ⟨hd, hr1⟩ := ih.rl _ _ _ h1 ht.2
        exact ih.ct _ _ _ _ h (by rw [Expr.lvAll, he, hd]; rfl) hr1
      · cases h
    · obtain ⟨rfl, rfl⟩ := Prod.mk.inj (Option.some.inj h)
      exact ⟨he, ht⟩
  rl := by
    intro toks e r h ht
    rw [parseRel] at h
    split at h
    · rename_i a r1 h1
      obtain ⟨ha, hr1⟩ := ih.ex _ _ _ h1 ht
      exact ih.rf _ _ _ _ h ha hr1
    · cases h

theorem pi (P : ETok → Bool) : ∀ f, PI P f
  | 0 => pi_zero P
  | f + 1 => pi_succ P f (pi P f)

theorem parseCond_lvAll (P : ETok → Bool) (f : Nat) (toks : List ETok) (e : Expr) (r : List ETok)
    (h : parseCond f toks = some (e, r)) (ht : toks.all P = true) : e.lvAll P = true := by
  unfold parseCond at h
  split at h
  · rename_i a r1 h1
    obtain ⟨ha, hr1⟩ := (pi P f).ex _ _ _ h1 ht
    exact ((pi P f).cf _ _ _ _ h ha hr1).1
  · cases h

theorem parse_lvAll (P : ETok → Bool) (toks : List ETok) (e : Expr) (h : parseTokensE toks = some (.expr e))
    (ht : toks.all P = true) : e.lvAll P = true := by
  simp only [parseTokensE] at h
  split at h
  all_goals try (repeat' split at h)
  all_goals try (cases h; done)
  all_goals (cases h; exact parseCond_lvAll P _ _ _ _ (by assumption) ht)

theorem ok40 : (ETok.ch 40).ok = true := rfl
theorem ok41 : (ETok.ch 41).ok = true := rfl
theorem ok91 : (ETok.ch 91).ok = true := rfl
theorem ok93 : (ETok.ch 93).ok = true := rfl
theorem ok124 : (ETok.ch 124).ok = true := rfl
theorem ok44 : (ETok.ch 44).ok = true := rfl
theorem okDD : ETok.dotdot.ok = true := rfl
theorem okAnd : ETok.and_.ok = true := rfl
theorem okOr : ETok.or_.ok = true := rfl

/-- what the round trip needs of a token: a leaf token has a spelling (nothing is asked of the other tokens) -/
def leafOK : ETok → Bool
  | .lit v => (ETok.lit v).ok
  | .ident x => (ETok.ident x).ok
  | .keyword x => (ETok.keyword x).ok
  | .property x => (ETok.property x).ok
  | _ => true

theorem all_ok_parenIf (c : Bool) {ts : List ETok} (h : ts.all ETok.ok = true) : (parenIf c ts).all ETok.ok = true := by
  unfold parenIf
  split
  · rw [List.all_cons, List.all_append, h]; rfl
  · exact h

mutual
theorem toks_ok (P : ETok → Bool) (hP : ∀ t, P t = true → leafOK t = true) :
    (e : Expr) → (lvl : Nat) → e.lvAll P = true → (e.toks lvl).all ETok.ok = true
  | .lit v, lvl, h => by
    rw [Expr.lvAll] at h; rw [Expr.toks, List.all_cons, show (ETok.lit v).ok = true from hP _ h]; rfl
  | .var x, lvl, h => by
    rw [Expr.lvAll] at h; rw [Expr.toks, List.all_cons, show (ETok.ident x).ok = true from hP _ h]; rfl
  | .prop e n, lvl, h => by
    rw [Expr.lvAll, Bool.and_eq_true] at h
    rw [Expr.toks, List.all_append, toks_ok P hP e 3 h.1, List.all_cons, show (ETok.property n).ok = true from hP _ h.2]; rfl
  | .index e i, lvl, h => by
    rw [Expr.lvAll, Bool.and_eq_true] at h
    rw [Expr.toks, List.all_append, List.all_cons, List.all_append, toks_ok P hP e 3 h.1, toks_ok P hP i 3 h.2]; rfl
  | .range a b, lvl, h => by
    rw [Expr.lvAll, Bool.and_eq_true] at h
    rw [Expr.toks, List.all_cons, List.all_append, List.all_cons, List.all_append, toks_ok P hP a 3 h.1,
      toks_ok P hP b 3 h.2]; rfl
  | .rel op a b, lvl, h => by
    rw [Expr.lvAll, Bool.and_eq_true] at h; rw [Expr.toks]
    refine all_ok_parenIf _ ?_
    rw [List.all_append, List.all_cons, toks_ok P hP a 3 h.1, toks_ok P hP b 3 h.2]
    cases op <;> rfl
  | .and_ a b, lvl, h | .or_ a b, lvl, h => by
    rw [Expr.lvAll, Bool.and_eq_true] at h; rw [Expr.toks]
    refine all_ok_parenIf _ ?_
    rw [List.all_append, List.all_cons, toks_ok P hP a 0 h.1, toks_ok P hP b 1 h.2]; rfl
  | .filter e n args, lvl, h => by
    rw [Expr.lvAll, Bool.and_eq_true, Bool.and_eq_true] at h; rw [Expr.toks]
    refine all_ok_parenIf _ ?_
    rw [List.all_append, List.all_cons, toks_ok P hP e 2 h.1.1]
    have ha := argsToks_ok P hP args h.2
    cases args with
    | nil => rw [List.isEmpty_nil, if_pos rfl, List.all_cons, show (ETok.ident n).ok = true from hP _ h.1.2]; rfl
    | cons a as =>
      rw [Expr.argsToks, List.all_cons] at ha
      rw [List.isEmpty_cons, if_neg Bool.false_ne_true, Expr.argsToks, List.drop_succ_cons, List.drop_zero, List.all_cons,
        show (ETok.keyword n).ok = true from hP _ h.1.2, (Bool.and_eq_true_iff.1 ha).2]; rfl
theorem argsToks_ok (P : ETok → Bool) (hP : ∀ t, P t = true → leafOK t = true) :
    (as : List Expr) → Expr.lvAllL P as = true → (Expr.argsToks as).all ETok.ok = true
  | [], _ => by rw [Expr.argsToks]; rfl
  | a :: as, h => by
    rw [Expr.lvAllL, Bool.and_eq_true] at h
    rw [Expr.argsToks, List.all_cons, List.all_append, toks_ok P hP a 3 h.1, argsToks_ok P hP as h.2]; rfl
end

theorem argsToks_ok_of_lvAll (P : ETok → Bool) (h1 : ∀ v, P (.lit v) = true → (ETok.lit v).ok = true)
    (h2 : ∀ x, P (.ident x) = true → (ETok.ident x).ok = true)
    (h3 : ∀ x, P (.keyword x) = true → (ETok.keyword x).ok = true)
    (h4 : ∀ x, P (.property x) = true → (ETok.property x).ok = true) :
    (as : List Expr) → Expr.lvAllL P as = true → (Expr.argsToks as).all ETok.ok = true :=
  argsToks_ok P fun t ht => by
    cases t with
    | lit v => exact h1 v ht
    | ident x => exact h2 x ht
    | keyword x => exact h3 x ht
    | property x => exact h4 x ht
    | _ => rfl

theorem leafOK_of_scan (t : ETok) (h1 : scanOK t = true) (h2 : floatOK t = true) : leafOK t = true := by
  cases t with
  | lit v =>
    cases v with
    | flt k q => cases k with
      | f64 => exact h2
      | f32 => exact h1
    | _ => exact h1
  | ident => exact h1
  | keyword => exact h1
  | property => exact h1
  | _ => rfl

/-- **the parser's image lies inside `Expr.printable`**, up to the values of the float literals of the source -/
theorem printable_of_parse (s : Bytes) (e : Expr) (h : parseExprSource s = .ok e)
    (hf : (lex s).1.all floatOK = true) : e.printable = true := by
  unfold parseExprSource parseSource at h
  have hscan := lex_scanOK s
  generalize lex s = lx at h hf hscan
  obtain ⟨toks, err⟩ := lx
  have hleaf : toks.all leafOK = true := by
    rw [List.all_eq_true] at hf hscan ⊢
    intro t ht
    exact leafOK_of_scan t (hscan t ht) (hf t ht)
  cases err with
  | some x => cases x <;> simp at h
  | none =>
    simp only at h
    cases hp : parseTokensE toks with
    | none => rw [hp] at h; simp at h
    | some st =>
      rw [hp] at h
      cases st with
      | expr e' =>
        simp only [Res.ok.injEq] at h
        subst h
        have := parse_lvAll leafOK toks e' hp hleaf
        exact toks_ok leafOK (fun _ h => h) e' 0 this
      | _ => simp at h

/-- **the parser's image lies inside `Expr.printable`**: the float hypothesis holds for every source (`lex_floatOK`) -/
theorem printable_of_parse_all (s : Bytes) (e : Expr) (h : parseExprSource s = .ok e) : e.printable = true :=
  printable_of_parse s e h (lex_floatOK s)
