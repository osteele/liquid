import Liquid.Scan
/-! Helper lemmas about the tokenizer model: `srcs` and `linesOk` (the two facts C05 states about a
token list), `trimmed` (a located token between optional trim markers: what one match, `tokensOfMatch_eq`, and what one item
contribute), `StartsWithDelim` (every match of `tokenRe` begins with an opening delimiter),
what `Re.search_first` (Liquid/Regex.lean) says of a search that answers, answers nothing, or must answer at a given
position, the loop where no delimiter opens (`scanLoop_no_open`), and the
alternatives of the exclusion expression one by one (`exclAlt`, `exclAlts_eq`). -/

def Token.isTrim (t : Token) : Bool := t.ty == .trimL || t.ty == .trimR

def srcs (ts : List Token) : Bytes := (ts.map Token.source).flatten

@[simp] theorem srcs_nil : srcs [] = [] := rfl
@[simp] theorem srcs_cons (t : Token) (ts : List Token) : srcs (t :: ts) = t.source ++ srcs ts := by
  simp [srcs]
@[simp] theorem srcs_append (a b : List Token) : srcs (a ++ b) = srcs a ++ srcs b := by
  simp [srcs]

/-- running-line check: every located token carries the start line plus the newlines of the
    sources before it -/
def linesOk : Nat → List Token → Bool
  | _, [] => true
  | l, t :: ts => (t.isTrim || t.line == l) && linesOk (l + countNL t.source) ts

theorem countNL_append (a b : Bytes) : countNL (a ++ b) = countNL a + countNL b := by
  simp [countNL]

theorem linesOk_append (l : Nat) (a b : List Token) :
    linesOk l (a ++ b) = (linesOk l a && linesOk (l + countNL (srcs a)) b) := by
  induction a generalizing l with
  | nil => simp [linesOk, countNL]
  | cons t ts ih =>
    simp only [List.cons_append, linesOk, ih, srcs_cons, countNL_append, Bool.and_assoc, Nat.add_assoc]

/-- a located token between optional trim markers -/
def trimmed (l r : Bool) (t : Token) : List Token :=
  (if l then [{ ty := .trimL }] else []) ++ [t] ++ (if r then [{ ty := .trimR }] else [])

theorem srcs_trimmed (l r : Bool) (t : Token) : srcs (trimmed l r t) = t.source := by
  cases l <;> cases r <;> simp [trimmed]

theorem linesOk_trimmed (l r : Bool) (t : Token) : linesOk t.line (trimmed l r t) = true := by
  cases l <;> cases r <;> simp [trimmed, linesOk, Token.isTrim, countNL]

theorem mem_trimmed {l r : Bool} {t x : Token} (h : x ∈ trimmed l r t) :
    x = { ty := .trimL } ∨ x = { ty := .trimR } ∨ x = t := by
  rw [trimmed, List.mem_append, List.mem_append, List.mem_singleton] at h
  rcases h with (h | h) | h
  · split at h
    · exact .inl (List.mem_singleton.mp h)
    · cases h
  · exact .inr (.inr h)
  · split at h
    · exact .inr (.inl (List.mem_singleton.mp h))
    · cases h

/-- the trim markers are read off the two ends -/
theorem trimmed_ends (l r : Bool) (t : Token) (ht : t.isTrim = false) :
    ((trimmed l r t).head?.map (·.ty) = some .trimL ↔ l = true) ∧
    ((trimmed l r t).getLast?.map (·.ty) = some .trimR ↔ r = true) := by
  have h : t.ty ≠ .trimL ∧ t.ty ≠ .trimR := by
    simp only [Token.isTrim, Bool.or_eq_false_iff, beq_eq_false_iff_ne] at ht; exact ht
  cases l <;> cases r <;> simp [trimmed, h.1, h.2]

theorem isHyphenAt_iff (src : Bytes) (i : Nat) : isHyphenAt src i = true ↔ src[i]? = some 45 := beq_iff_eq

/-- What one match contributes: nothing when its source begins with neither opening delimiter; otherwise one token
    (the same for every `line`, but for its line) between trim markers that stand exactly when `isHyphenAt` answers behind
    the opening delimiter `o` resp. before the closing delimiter `c` of the pair the source begins with. -/
theorem tokensOfMatch_eq (d : Delims) (src : Bytes) (ts : Nat) (caps : Caps) :
    (isPrefixOfB d.ol src = false ∧ isPrefixOfB d.tl src = false ∧ ∀ line, tokensOfMatch d src ts caps line = []) ∨
    ∃ (o c : Bytes) (t : Token),
      ((isPrefixOfB d.ol src = true ∧ o = d.ol ∧ c = d.or) ∨
       (isPrefixOfB d.ol src = false ∧ isPrefixOfB d.tl src = true ∧ o = d.tl ∧ c = d.tr)) ∧
      t.source = src ∧ t.isTrim = false ∧
      ∀ line, tokensOfMatch d src ts caps line =
        trimmed (isHyphenAt src o.length) (isHyphenAt src (src.length - c.length - 1)) { t with line := line } := by
  unfold tokensOfMatch
  cases h1 : isPrefixOfB d.ol src with
  | true => exact .inr ⟨d.ol, d.or, { ty := .obj, args := _, source := src }, .inl ⟨rfl, rfl, rfl⟩, rfl, rfl, fun _ => rfl⟩
  | false =>
    cases h2 : isPrefixOfB d.tl src with
    | true =>
      exact .inr ⟨d.tl, d.tr, { ty := .tag, name := _, args := _, source := src }, .inr ⟨rfl, rfl, rfl, rfl⟩, rfl, rfl,
        fun _ => rfl⟩
    | false => exact .inl ⟨rfl, rfl, fun _ => rfl⟩

def StartsWithDelim (re : Re) (d : Delims) : Prop :=
  ∀ fuel s p e c, re.matchAt fuel s p = some (e, c) →
    (d.ol <+: s ∧ p + d.ol.length ≤ e) ∨ (d.tl <+: s ∧ p + d.tl.length ≤ e)

theorem lang_lit : ∀ {l w : Bytes}, (Re.lit l).Lang w → w = l
  | [], _, h => by cases h; rfl
  | x :: xs, _, h => by
    obtain ⟨_, _, rfl, h1, h2⟩ := lang_seq (a := .chr (.eq x)) (b := Re.lit xs) h
    cases h1 with
    | chr hx =>
      simp only [Pred.test, beq_iff_eq] at hx
      rw [lang_lit h2, hx]
      rfl

theorem seq_lit_matchAt (fuel : Nat) (l : Bytes) (x : Re) (s : Bytes) (p e : Nat) (c : Caps)
    (h : (Re.seq (Re.lit l) x).matchAt fuel s p = some (e, c)) : l <+: s ∧ p + l.length ≤ e := by
  obtain ⟨w, t, c', rfl, hw, hk⟩ := Re.m_sound fuel _ _ _ _ _ _ h
  obtain ⟨_, v, rfl, h1, _⟩ := lang_seq hw
  cases hk
  rw [lang_lit h1, List.append_assoc, List.length_append]
  exact ⟨List.prefix_append .., by omega⟩

theorem tokenRe_startsWithDelim (d : Delims) : StartsWithDelim (tokenRe d) d := by
  intro fuel s p e c h
  unfold tokenRe at h
  simp only at h
  unfold Re.matchAt at h
  unfold Re.m at h
  split at h
  · next r hr =>
    cases h
    exact Or.inl (seq_lit_matchAt fuel _ _ s p e c hr)
  · exact Or.inr (seq_lit_matchAt fuel _ _ s p e c h)

theorem Re.search_zero_spec (fuel : Nat) (re : Re) (s : Bytes) (p n e : Nat) (c : Caps)
    (h : re.search fuel s p 0 = some (n, e, c)) :
    n < s.length ∧ re.matchAt fuel (s.drop n) (p + n) = some (e, c) := by
  rcases Re.search_first fuel re s p 0 with ⟨h1, _⟩ | ⟨n', e', c', h1, h2, _, h4⟩
  · rw [h1] at h; cases h
  · rw [h1, Nat.zero_add] at h; cases h; exact ⟨h2, h4⟩

theorem Re.search_none (fuel : Nat) (re : Re) : ∀ (s : Bytes) (p sk : Nat),
    re.search fuel s p sk = none → ∀ i, i < s.length → re.matchAt fuel (s.drop i) (p + i) = none := by
  intro s p sk h
  rcases Re.search_first fuel re s p sk with ⟨_, h2⟩ | ⟨n, e, c, h1, _⟩
  · exact h2
  · rw [h1] at h; cases h

theorem search_none_of (mf : Nat) (re : Re) (s : Bytes) (p sk : Nat)
    (h : ∀ i, i < s.length → re.matchAt mf (s.drop i) (p + i) = none) : re.search mf s p sk = none := by
  rcases Re.search_first mf re s p sk with ⟨h1, _⟩ | ⟨n, e, c, _, h2, _, h4⟩
  · exact h1
  · rw [h n h2] at h4; cases h4

theorem search_at (mf : Nat) (re : Re) (e : Nat) (c : Caps) (n : Nat) (s : Bytes) (p sk : Nat) (hn : n < s.length)
    (hnone : ∀ i, i < n → re.matchAt mf (s.drop i) (p + i) = none) (hm : re.matchAt mf (s.drop n) (p + n) = some (e, c)) :
    re.search mf s p sk = some (sk + n, e, c) := by
  rcases Re.search_first mf re s p sk with ⟨_, h2⟩ | ⟨n', e', c', h1, _, h3, h4⟩
  · rw [h2 n hn] at hm; cases hm
  · -- the two first positions coincide
    rcases Nat.lt_trichotomy n n' with hlt | rfl | hgt
    · rw [h3 n hlt] at hm; cases hm
    · rw [hm] at h4; cases h4; exact h1
    · rw [hnone n' hgt] at h4; cases h4

theorem scanLoop_text_only (mfuel : Nat) (re : Re) (d : Delims) (n : Nat) (s : Bytes) (p line : Nat)
    (h : re.search mfuel s p 0 = none) :
    scanLoop mfuel re d n s p line = if s.isEmpty then [] else [{ ty := .text, line := line, source := s }] := by
  cases n with
  | zero => rfl
  | succ n => unfold scanLoop; rw [h]

/-- an expression whose matches begin with an opening delimiter matches nowhere inside a stretch `s` in which none begins —
    not even one completed by what follows -/
theorem text_no_match {re : Re} {d : Delims} (hre : StartsWithDelim re d) (mf : Nat) (s x : Bytes) (p : Nat)
    (h : ∀ i, i < s.length → ¬ d.ol <+: (s ++ x).drop i ∧ ¬ d.tl <+: (s ++ x).drop i) :
    ∀ i, i < s.length → re.matchAt mf ((s ++ x).drop i) (p + i) = none := by
  intro i hi
  cases hm : re.matchAt mf ((s ++ x).drop i) (p + i) with
  | none => rfl
  | some r =>
    obtain ⟨e, c⟩ := r
    rcases hre _ _ _ _ _ hm with ⟨h1, _⟩ | ⟨h1, _⟩
    · exact absurd h1 (h i hi).1
    · exact absurd h1 (h i hi).2

/-- where no opening delimiter begins the loop makes one text token, from any offset and with any fuel -/
theorem scanLoop_no_open {re : Re} {d : Delims} (hre : StartsWithDelim re d) (mf n : Nat) (s : Bytes) (p line : Nat)
    (h : ∀ i, i < s.length → ¬ d.ol <+: s.drop i ∧ ¬ d.tl <+: s.drop i) :
    scanLoop mf re d n s p line = if s.isEmpty then [] else [{ ty := .text, line := line, source := s }] := by
  refine scanLoop_text_only _ _ _ _ _ _ _ (search_none_of _ _ _ _ _ ?_)
  have := text_no_match hre mf s [] p (by rwa [List.append_nil])
  rwa [List.append_nil] at this

/-- the alternative of the exclusion expression for position `i`: `t0…t(i-1)[^ti]` -/
def exclAlt (tr : Bytes) (i : Nat) : Re := .seq (Re.lit (tr.take i)) (.chr (.ne (tr.getD i 0)))

theorem exclAlts_filterMap (tr : Bytes) : ∀ (l : List Nat), (∀ i ∈ l, i < tr.length) →
    (l.filterMap fun i => match tr[i]? with
      | some b => some (Re.seq (Re.lit (tr.take i)) (.chr (.ne b)))
      | none => none) = l.map (exclAlt tr)
  | [], _ => rfl
  | i :: r, h => by
    have hi : i < tr.length := h i (by simp)
    have hr := exclAlts_filterMap tr r (fun j hj => h j (List.mem_cons_of_mem _ hj))
    simp only [List.filterMap_cons, List.map_cons, List.getElem?_eq_getElem hi, hr]
    simp [exclAlt, List.getD, List.getElem?_eq_getElem hi]

theorem exclAlts_eq (tr : Bytes) : exclAlts tr = (List.range tr.length).map (exclAlt tr) :=
  exclAlts_filterMap tr _ (fun _ hi => List.mem_range.1 hi)
