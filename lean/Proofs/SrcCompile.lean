import Proofs.E2ERun
import Proofs.ParseLemmas
/-!
# Source-level helpers: how `compileTokens` composes

`compileTokens toks = .ok ns` says that the token list is a self-contained template compiling to `ns`: well nested on its
own (every block opened in it is closed in it), every object an expression, every tag compiles. The source-level theorems
(`Proofs/C10Source.lean` …) ask it of the pieces of a template as `Compiles` (Proofs/SrcItems.lean) and derive it for the whole
as `CompilesTo` (Proofs/SrcCompilesTo.lean). This file proves that such pieces compose in sequence, and what single tokens
compile to (blocks: `blockK_compile`, Proofs/SrcClauses.lean).
-/

theorem compileTokens_ok {toks : List Token} {ns : List Node} (h : compileTokens toks = .ok ns) :
    firstUnmodelledObj toks = none ∧ ∃ ast, Derives stdGrammar objChk toks ast ∧ compileList ast = .ok ns := by
  unfold compileTokens at h
  split at h
  · cases h
  · next hU =>
    refine ⟨hU, ?_⟩
    cases hp : parseTokens stdGrammar objChk toks with
    | ok ast =>
      rw [hp] at h
      exact ⟨ast, derives_of_parse hp, by simpa [liftPErr, bind, Res.bind] using h⟩
    | _ => rw [hp] at h; simp [liftPErr, bind, Res.bind] at h

theorem compileTokens_of_derives {toks : List Token} {ast : List AST} (hU : firstUnmodelledObj toks = none)
    (h : Derives stdGrammar objChk toks ast) : compileTokens toks = compileList ast :=
  compileTokens_of_parse hU (parse_of_derives stdGrammar_OK h)

theorem compileList_append : ∀ (a b : List AST),
    compileList (a ++ b) = (do let x ← compileList a; let y ← compileList b; pure (x ++ y))
  | [], b => by
    simp only [List.nil_append, compileList, bind, Res.bind, pure]
    cases compileList b <;> simp []
  | n :: ns, b => by
    simp only [List.cons_append, compileList, compileList_append ns b, bind, Res.bind, pure]
    cases compileNode n with
    | ok x =>
      simp only
      cases compileList ns with
      | ok y =>
        simp only
        cases compileList b <;> simp []
      | _ => rfl
    | _ => rfl

theorem compileList_single (n : AST) : compileList [n] = compileNode n := by
  simp only [compileList, bind, Res.bind, pure]
  cases compileNode n <;> simp []

theorem compiles_append {a b : List Token} {na nb : List Node}
    (ha : compileTokens a = .ok na) (hb : compileTokens b = .ok nb) : compileTokens (a ++ b) = .ok (na ++ nb) := by
  obtain ⟨hUa, astA, hdA, hcA⟩ := compileTokens_ok ha
  obtain ⟨hUb, astB, hdB, hcB⟩ := compileTokens_ok hb
  have hU : firstUnmodelledObj (a ++ b) = none := by rw [firstUnmodelledObj_append, hUa, hUb]
  rw [compileTokens_of_derives hU (hdA.append hdB), compileList_append, hcA, hcB]
  rfl

theorem compiles_nil : compileTokens [] = .ok [] := by
  rw [compileTokens_of_derives rfl .nil]; rfl

theorem compiles_text (t : Token) (h : t.ty = .text) : compileTokens [t] = .ok [.text t.line t.source] := by
  rw [compileTokens_of_derives (firstUnmodelledObj_none_of_no_obj _ (by simp [h])) (.text t [] [] h .nil), compileList_text]

theorem compiles_trimL (t : Token) (h : t.ty = .trimL) : compileTokens [t] = .ok [.trim true] := by
  rw [compileTokens_of_derives (firstUnmodelledObj_none_of_no_obj _ (by simp [h])) (.trimL t [] [] h .nil)]
  simp [compileList, compileNode, bind, Res.bind, pure]

theorem compiles_trimR (t : Token) (h : t.ty = .trimR) : compileTokens [t] = .ok [.trim false] := by
  rw [compileTokens_of_derives (firstUnmodelledObj_none_of_no_obj _ (by simp [h])) (.trimR t [] [] h .nil)]
  simp [compileList, compileNode, bind, Res.bind, pure]

theorem compiles_obj (t : Token) (e : Expr) (h : t.ty = .obj) (he : parseExprSource t.args = .ok e) :
    compileTokens [t] = .ok [.obj t.line e] := by
  have hU : firstUnmodelledObj [t] = none := by simp [firstUnmodelledObj, h, he]
  rw [compileTokens_of_derives hU (.obj t [] [] h (by simp [objChk, he]) .nil), compileList_single]
  simp [compileNode, he]

theorem compileTokens_plain (t : Token) (h : t.ty = .tag) (hk : stdGrammar.known t.name = false) :
    compileTokens [t] = compileNode (.tag t) := by
  rw [compileTokens_of_derives (firstUnmodelledObj_none_of_no_obj _ (by simp [h])) (.tag t [] [] (isPlain_iff.mpr ⟨h, hk⟩) .nil),
    compileList_single]
