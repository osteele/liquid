import Liquid.TrimWriter
import Liquid.TrimGeneric
import Proofs.TwLemmas
import Proofs.TwBridge
/-!
# C13 — whitespace-control hyphens strip exactly the adjacent literal whitespace

Level of this file: **operation lists of the trim writer** (`render/trimwriter.go`). A template
with hyphens issues the operation list of the same template without hyphens plus `TrimLeft` /
`TrimRight` operations (`eraseTrims` removes them again).

The machine is the repaired one (/repo 2593661): `Write` always flushes the previous buffer and
then buffers the new text (left-stripped when a `TrimRight` is pending), so a write always
consumes the flag and a `TrimLeft` only ever sees the text written last.

* Part A: the laws on a generic alphabet with a whitespace predicate, for EVERY operation list:
  erasure (`trim_subseq`, `trim_only_ws`, `trim_sublist`, `no_trim_identity`), the "faces text"
  laws for EVERY text and position (`trimLeft_adjacent_all`, `trimRight_adjacent_all`) with their
  special cases, and the statement of the repair (`trimLeft_sees_last_write_only`,
  `write_commits_previous`, `buffer_is_last_write`).
* Part B: the bridge to the byte-level model `TW.step` (which the `tw` stream compares with the
  real `trimWriter` call by call): for writes that are valid UTF-8 the byte machine is the image of
  the generic machine under `encodeRunes`; byte-level corollaries; the adjacency laws and
  `tw_trimLeft_sees_last_write_only` for ALL byte strings; the counterexample that shows the validity hypothesis cannot be dropped
  from the erasure law.
* Part C: facts about the underlying write calls (at most one per operation; only `TrimLeft` can issue
  an empty one).

Helper lemmas: `Proofs/TwLemmas.lean` (generic machine), `Proofs/TrimLemmas.lean` (the two trim loops on
bytes), `Proofs/TwBridge.lean` (UTF-8 bridge), `Proofs/Utf8Lemmas.lean` (codec).
-/

open Gen

/-! ## Part A — generic alphabet -/

section generic
variable {α : Type} (sp : α → Bool)

/-- an operation list without trim operations outputs the concatenation of its writes -/
theorem erased_output_is_concat (ops : List (GOp α)) : out sp (eraseTrims ops) = writes ops := by
  have := outFrom_eraseTrims sp ops []
  simpa [out] using this

/-- hyphens never remove anything but whitespace: the output with the trim operations is obtained
    from the output without them by deleting whitespace characters only -/
theorem trim_subseq (ops : List (GOp α)) : WsDeletion sp (out sp (eraseTrims ops)) (out sp ops) := by
  rw [erased_output_is_concat]; exact out_wsDeletion sp ops

/-- deleting every whitespace character from the outputs with and without the trim operations
    gives the same string -/
theorem trim_only_ws (ops : List (GOp α)) : stripWS sp (out sp ops) = stripWS sp (out sp (eraseTrims ops)) :=
  ((trim_subseq sp ops).stripWS_eq sp).symm

/-- the trimmed output is a subsequence of the untrimmed one (in particular never longer) -/
theorem trim_sublist (ops : List (GOp α)) : (out sp ops).Sublist (out sp (eraseTrims ops)) :=
  (trim_subseq sp ops).sublist sp

/-- a template without hyphens loses nothing -/
theorem no_trim_identity (ops : List (GOp α)) (h : eraseTrims ops = ops) : out sp ops = writes ops := by
  rw [← h, erased_output_is_concat, h]

/-- **the "faces text" law, left side, for EVERY text and EVERY position**: a `TrimLeft` directly
    after a write acts as the write of the right-stripped text. No exception for whitespace-only
    or empty text, no condition on a pending `TrimRight` (then the text is stripped on both sides). -/
theorem trimLeft_adjacent_all (pre post : List (GOp α)) (u : List α) :
    out sp (pre ++ .write u :: .trimLeft :: post) = out sp (pre ++ .write (rstrip sp u) :: post) := by
  rw [out_append, out_append, outFrom_write_trimLeft sp _ u post]

/-- **the "faces text" law, right side, for EVERY text and EVERY position**: a `TrimRight` directly
    before a write acts as the write of the left-stripped text. -/
theorem trimRight_adjacent_all (pre post : List (GOp α)) (u : List α) :
    out sp (pre ++ .trimRight :: .write u :: post) = out sp (pre ++ .write (lstrip sp u) :: post) := by
  rw [out_append, out_append, outFrom_trimRight_write sp _ u post]

/-- the pending-flag case of `trimLeft_adjacent_all` spelled out: text between a `TrimRight` and a
    `TrimLeft` is stripped on both sides, and nothing else happens -/
theorem trim_both_adjacent (pre post : List (GOp α)) (u : List α) :
    out sp (pre ++ .trimRight :: .write u :: .trimLeft :: post) =
      out sp (pre ++ .write (rstrip sp (lstrip sp u)) :: post) := by
  rw [trimRight_adjacent_all, trimLeft_adjacent_all]

/-- Special case of `trimLeft_adjacent_all` (the hypothesis is not needed): a `TrimLeft` directly after
    the write of a text with ink acts as the write of the right-stripped text — wherever it stands -/
theorem trimLeft_adjacent (pre post : List (GOp α)) (u : List α) (_hu : hasInk sp u = true) :
    out sp (pre ++ .write u :: .trimLeft :: post) = out sp (pre ++ .write (rstrip sp u) :: post) :=
  trimLeft_adjacent_all sp pre post u

/-- Special case of `trimLeft_adjacent_all` (the hypothesis is not needed): the same for any text
    (whitespace-only or empty included: it is deleted entirely) when no `TrimRight` is pending -/
theorem trimLeft_adjacent_noflag (pre post : List (GOp α)) (u : List α) (_hf : flagAfter sp pre = false) :
    out sp (pre ++ .write u :: .trimLeft :: post) = out sp (pre ++ .write (rstrip sp u) :: post) :=
  trimLeft_adjacent_all sp pre post u

/-- whitespace-only (or empty) text before a `TrimLeft` is deleted entirely and NOTHING ELSE is:
    what remains is an empty write (it flushes the earlier text unchanged and clears the flag).
    Holds with or without a pending `TrimRight`. -/
theorem trimLeft_adjacent_ws (pre post : List (GOp α)) (u : List α) (hu : hasInk sp u = false) :
    out sp (pre ++ .write u :: .trimLeft :: post) = out sp (pre ++ .write [] :: post) := by
  rw [trimLeft_adjacent_all, rstrip_of_no_ink sp u hu]

/-- Special case of `trimRight_adjacent_all` (the hypothesis is not needed): a `TrimRight` directly before
    the write of a text with ink acts as the write of the left-stripped text -/
theorem trimRight_adjacent (pre post : List (GOp α)) (u : List α) (_hu : hasInk sp u = true) :
    out sp (pre ++ .trimRight :: .write u :: post) = out sp (pre ++ .write (lstrip sp u) :: post) :=
  trimRight_adjacent_all sp pre post u

/-- Special case of `trimRight_adjacent_all` (the hypothesis is not needed): the same for any text when a
    `TrimRight` was already pending -/
theorem trimRight_adjacent_flag (pre post : List (GOp α)) (u : List α) (_hf : flagAfter sp pre = true) :
    out sp (pre ++ .trimRight :: .write u :: post) = out sp (pre ++ .write (lstrip sp u) :: post) :=
  trimRight_adjacent_all sp pre post u

/-- whitespace-only (or empty) text after a `TrimRight` is deleted entirely and NOTHING ELSE is:
    what remains is an empty write, which is the same as `write (lstrip u)` -/
theorem trimRight_adjacent_ws (pre post : List (GOp α)) (u : List α) (hu : hasInk sp u = false) :
    out sp (pre ++ .trimRight :: .write u :: post) = out sp (pre ++ .write [] :: post) := by
  rw [trimRight_adjacent_all, lstrip_of_no_ink sp u hu]

/-- an empty write flushes and clears the flag; with no flag pending it is exactly a `Flush` -/
theorem empty_write_is_flush (pre post : List (GOp α)) (hf : flagAfter sp pre = false) :
    out sp (pre ++ .write [] :: post) = out sp (pre ++ .flush :: post) := by
  rw [out_append, out_append, outFrom_write, outFrom_flush]
  unfold flagAfter at hf
  generalize (GTW.run sp {} pre).1 = t at hf
  obtain ⟨buf, trim⟩ := t
  subst hf
  rfl

/-- an EMPTY write consumes the trim flag and flushes: `TrimRight` followed by an empty write
    acts as a `Flush` (not as a no-op: the earlier text is out of reach of a later `TrimLeft`) -/
theorem trimRight_empty_write (pre post : List (GOp α)) (hf : flagAfter sp pre = false) :
    out sp (pre ++ .trimRight :: .write [] :: post) = out sp (pre ++ .flush :: post) := by
  rw [trimRight_adjacent_all]
  exact empty_write_is_flush sp pre post hf

/-- a `TrimRight` persists across a `TrimLeft` (`{{ a -}}{{- b }} text`: the text is still stripped) -/
theorem trimRight_persists_trimLeft (pre post : List (GOp α)) :
    out sp (pre ++ .trimRight :: .trimLeft :: post) = out sp (pre ++ .trimLeft :: .trimRight :: post) := by
  rw [out_append, out_append, outFrom_trimRight, outFrom_trimLeft, outFrom_trimLeft, outFrom_trimRight]

/-- ... and across a `Flush` -/
theorem trimRight_persists_flush (pre post : List (GOp α)) :
    out sp (pre ++ .trimRight :: .flush :: post) = out sp (pre ++ .flush :: .trimRight :: post) := by
  rw [out_append, out_append, outFrom_trimRight, outFrom_flush, outFrom_flush, outFrom_trimRight]

/-- after a write the buffer holds that write only (left-stripped when a `TrimRight` was
    pending), whatever came before, and the flag is clear -/
theorem buffer_is_last_write (pre : List (GOp α)) (b : List α) :
    (GTW.run sp {} (pre ++ [.write b])).1 =
      { buf := if flagAfter sp pre then lstrip sp b else b, trim := false } := by
  rw [run_append]; rfl

/-- a write commits everything before it: the output splits into the complete output of the list
    that ends with the earlier write and a part that does not depend on that list -/
theorem write_commits_previous (pre rest : List (GOp α)) (a b : List α) :
    out sp (pre ++ .write a :: .write b :: rest) = out sp (pre ++ [.write a]) ++ out sp (.write b :: rest) ∧
    out sp (pre ++ .write a :: .trimRight :: .write b :: rest) =
      out sp (pre ++ [.write a]) ++ out sp (.trimRight :: .write b :: rest) := by
  -- both sides, written out: the calls of `pre`, what `pre` left pending, `a` (left-stripped if a `TrimRight` was pending), and
  -- what follows from a machine that holds `b` alone
  constructor
  · rw [out_append, out_append, outFrom_write, outFrom_write, outFrom_write, outFrom_nil]
    simp only [out, outFrom_write, if_false, Bool.false_eq_true, List.nil_append, List.append_assoc]
  · rw [out_append, out_append, outFrom_write, outFrom_trimRight, outFrom_write, outFrom_write, outFrom_nil]
    simp only [out, outFrom_write, outFrom_trimRight, if_true, List.nil_append, List.append_assoc]

/-- **the repair (2593661)**: a `TrimLeft` sees the last write only. Whatever `b` is (whitespace-only
    and empty included), everything up to and including the earlier write `a` is output exactly as
    if the operation list ended there; then comes the right-stripped `b`; then the output of `post`
    from a fresh machine. -/
theorem trimLeft_sees_last_write_only (pre post : List (GOp α)) (a b : List α) :
    out sp (pre ++ .write a :: .write b :: .trimLeft :: post) =
      out sp (pre ++ [.write a]) ++ rstrip sp b ++ out sp post := by
  rw [(write_commits_previous sp pre _ a b).1, List.append_assoc]
  simp only [out, outFrom_write, outFrom_trimLeft, if_false, Bool.false_eq_true, List.nil_append]

/-- the same with a `TrimRight` pending before `write b` (`a -}} b {{-`): `b` is stripped on both
    sides — it vanishes when it is whitespace-only — and `a` is still output in full. -/
theorem trimLeft_sees_last_write_only_flag (pre post : List (GOp α)) (a b : List α) :
    out sp (pre ++ .write a :: .trimRight :: .write b :: .trimLeft :: post) =
      out sp (pre ++ [.write a]) ++ rstrip sp (lstrip sp b) ++ out sp post := by
  rw [(write_commits_previous sp pre _ a b).2, List.append_assoc]
  simp only [out, outFrom_write, outFrom_trimRight, outFrom_trimLeft, if_true, List.nil_append]

/-- in particular whitespace-only text between two hyphens costs the earlier write nothing -/
theorem trimLeft_keeps_earlier_write (pre post : List (GOp α)) (a b : List α) (hb : hasInk sp b = false) :
    out sp (pre ++ .write a :: .trimRight :: .write b :: .trimLeft :: post) =
      out sp (pre ++ [.write a]) ++ out sp post := by
  rw [trimLeft_sees_last_write_only_flag, lstrip_of_no_ink sp b hb, rstrip_nil, List.append_nil]

end generic

/-! ### non-vacuity (alphabet `Nat`, whitespace = `0`) -/

section examples_generic
private def sp0 : Nat → Bool := fun c => c == 0

-- `x ␠ {{- … -}} ␠ y ␠ {{- … }} z`
private def opsA : List (GOp Nat) :=
  [.write [1, 0], .trimLeft, .trimRight, .write [0, 2, 0], .trimLeft, .write [3]]

example : out sp0 opsA = [1, 2, 3] := by decide +kernel
example : out sp0 (eraseTrims opsA) = [1, 0, 0, 2, 0, 3] := by decide +kernel
example : stripWS sp0 (out sp0 opsA) = [1, 2, 3] ∧ stripWS sp0 (out sp0 (eraseTrims opsA)) = [1, 2, 3] := by decide +kernel
example : WsDeletion sp0 (out sp0 (eraseTrims opsA)) (out sp0 opsA) := trim_subseq sp0 opsA
example : out sp0 opsA ≠ out sp0 (eraseTrims opsA) := by decide +kernel
-- no_trim_identity: hypothesis holds on a list with writes and a flush, whitespace is kept
example : eraseTrims [GOp.write [0, 1, 0], .flush, .write [0], .write [2]] = [.write [0, 1, 0], .flush, .write [0], .write [2]]
    ∧ out sp0 [GOp.write [0, 1, 0], .flush, .write [0], .write [2]] = [0, 1, 0, 0, 2] := by decide +kernel
-- trimLeft_adjacent(_all): `hasInk`, also with a pending TrimRight in front
example : hasInk sp0 [0, 1, 0] = true ∧
    out sp0 ([GOp.write [7, 0], .trimRight] ++ .write [0, 1, 0] :: .trimLeft :: [.write [2]]) = [7, 0, 1, 2] ∧
    rstrip sp0 [0, 1, 0] = [0, 1] := by decide +kernel
-- trimLeft_adjacent_noflag / _ws with whitespace-only text: the text disappears, the earlier text keeps its blank
example : flagAfter sp0 [GOp.write [7, 0]] = false ∧ hasInk sp0 [0, 0] = false ∧
    out sp0 ([GOp.write [7, 0]] ++ .write [0, 0] :: .trimLeft :: [.write [2]]) = [7, 0, 2] := by decide +kernel
-- trimLeft_adjacent_ws / trimLeft_keeps_earlier_write with a pending TrimRight: the whitespace-only
-- text disappears and the earlier text STILL keeps its blank
example : flagAfter sp0 [GOp.write [7, 0], .trimRight] = true ∧ hasInk sp0 [0, 0] = false ∧
    out sp0 ([GOp.write [7, 0], .trimRight] ++ .write [0, 0] :: .trimLeft :: [.write [2]]) = [7, 0, 2] ∧
    out sp0 ([GOp.write [7, 0]] ++ .write [] :: [.write [2]]) = [7, 0, 2] := by decide +kernel
-- trimRight_adjacent(_all)
example : hasInk sp0 [0, 1, 0] = true ∧
    out sp0 ([GOp.write [7, 0]] ++ .trimRight :: .write [0, 1, 0] :: [.write [2]]) = [7, 0, 1, 0, 2] ∧
    lstrip sp0 [0, 1, 0] = [1, 0] := by decide +kernel
-- trimRight_adjacent_flag
example : flagAfter sp0 [GOp.write [7], .trimRight, .trimLeft] = true := by decide +kernel
-- trimRight_adjacent_ws: the result is that of `write (lstrip u)`, also when a TrimLeft follows
example : hasInk sp0 [0, 0] = false ∧
    out sp0 ([GOp.write [7, 0]] ++ .trimRight :: .write [0, 0] :: [.trimLeft, .write [2]]) = [7, 0, 2] ∧
    out sp0 ([GOp.write [7, 0]] ++ .write (lstrip sp0 [0, 0]) :: [.trimLeft, .write [2]]) = [7, 0, 2] := by decide +kernel
-- trimRight_empty_write / empty_write_is_flush: the empty write consumed the flag (`[0, 2]` keeps its
-- blank) and flushed (`[7, 0]` is out of reach of the TrimLeft); it is NOT a no-op
example : flagAfter sp0 [GOp.write [7, 0]] = false ∧
    out sp0 ([GOp.write [7, 0]] ++ .trimRight :: .write [] :: [.trimLeft, .write [0, 2]]) = [7, 0, 0, 2] ∧
    out sp0 ([GOp.write [7, 0]] ++ .flush :: [.trimLeft, .write [0, 2]]) = [7, 0, 0, 2] ∧
    out sp0 ([GOp.write [7, 0]] ++ [.trimLeft, .write [0, 2]]) = [7, 0, 2] := by decide +kernel
-- trimRight_persists_trimLeft
example : out sp0 ([GOp.write [7, 0]] ++ .trimRight :: .trimLeft :: [.write [0, 2]]) = [7, 2] := by decide +kernel
example : out sp0 ([GOp.write [7, 0]] ++ .trimRight :: .flush :: [.write [0, 2]]) = [7, 0, 2] := by decide +kernel
-- trimLeft_sees_last_write_only(_flag): `6 ␠ -}} ␠ 7 ␠ | ␠ 1 ␠ {{- 2`, the blank after 7 survives
example : out sp0 ([GOp.write [6, 0], .trimRight] ++ .write [0, 7, 0] :: .write [0, 1, 0] :: .trimLeft :: [.write [2]])
      = [6, 0, 7, 0, 0, 1, 2] ∧
    out sp0 ([GOp.write [6, 0], .trimRight] ++ [.write [0, 7, 0]]) = [6, 0, 7, 0] ∧ rstrip sp0 [0, 1, 0] = [0, 1] ∧
    out sp0 [GOp.write [2]] = [2] := by decide +kernel
example : out sp0 ([GOp.write [6, 0]] ++ .write [7, 0] :: .trimRight :: .write [0, 0] :: .trimLeft :: [.write [2]])
      = [6, 0, 7, 0, 2] ∧ rstrip sp0 (lstrip sp0 [0, 0]) = [] := by decide +kernel
-- buffer_is_last_write
example : (GTW.run sp0 {} ([GOp.write [6, 0], .trimRight] ++ [.write [0, 7, 0]])).1 = { buf := [7, 0], trim := false } := by
  decide +kernel
end examples_generic

/-! ## Part B — the bridge to the byte-level model

The first six theorems are lemmas of `Proofs/TwBridge.lean` (the first: of `Proofs/Utf8Lemmas.lean`) under the names the
claim uses. -/

theorem tw_decode_encode (rs : List Rune) (h : ∀ r ∈ rs, ValidScalar r) : decodeRunes (encodeRunes rs) = rs :=
  decodeRunes_encodeRunes rs h

/-- `bytes.TrimLeftFunc(·, unicode.IsSpace)` on valid UTF-8 drops the leading whitespace runes -/
theorem tw_trimLeftSpace_encode (rs : List Rune) (h : ∀ r ∈ rs, ValidScalar r) :
    trimLeftSpace (encodeRunes rs) = encodeRunes (rs.dropWhile isSpaceRune) :=
  trimLeftSpace_encode rs h

/-- `bytes.TrimRightFunc(·, unicode.IsSpace)` on valid UTF-8 drops the trailing whitespace runes -/
theorem tw_trimRightSpace_encode (rs : List Rune) (h : ∀ r ∈ rs, ValidScalar r) :
    trimRightSpace (encodeRunes rs) = encodeRunes ((rs.reverse.dropWhile isSpaceRune).reverse) :=
  trimRightSpace_encode rs h

/-- one step of the byte machine on an encoded state and operation is the encoding of one step of
    the generic machine, underlying write calls included -/
theorem tw_step_encode (t : GTW Rune) (ht : ∀ r ∈ t.buf, ValidScalar r) (op : GOp Rune) (hop : ScalarOp op) :
    TW.step (encTW t) (encOp op) =
      (encTW (t.step isSpaceRune op).1, (t.step isSpaceRune op).2.map encodeRunes) :=
  (step_enc t ht op hop).1

/-- the bridge: the bytes written for an operation list with valid UTF-8 writes are the encoding
    of the generic machine's output (alphabet = runes, whitespace = `unicode.IsSpace`) -/
theorem tw_runOps_encode (ops : List (GOp Rune)) (h : ∀ op ∈ ops, ScalarOp op) :
    runOps (ops.map encOp) = encodeRunes (out isSpaceRune ops) :=
  runOps_enc ops h

/-- every byte-level operation list with valid UTF-8 writes is such an image -/
theorem tw_valid_is_encoded (ops : List WOp) (h : ValidOps ops) :
    ∃ g : List (GOp Rune), g.map encOp = ops ∧ ∀ op ∈ g, ScalarOp op :=
  validOps_lift ops h

/-- byte level, valid UTF-8: trimming deletes whitespace runes only -/
theorem tw_trim_subseq (ops : List WOp) (h : ValidOps ops) :
    WsDeletion isSpaceRune (decodeRunes (runOps (eraseTrims ops))) (decodeRunes (runOps ops)) := by
  obtain ⟨g, rfl, hs⟩ := validOps_lift ops h
  rw [eraseTrims_map_encOp, decodeRunes_runOps g hs, decodeRunes_runOps _ (scalar_eraseTrims g hs)]
  exact trim_subseq isSpaceRune g

/-- byte level, valid UTF-8: deleting every whitespace rune from the outputs with and without the
    trim operations gives the same bytes -/
theorem tw_trim_only_ws (ops : List WOp) (h : ValidOps ops) :
    stripSpaceBytes (runOps ops) = stripSpaceBytes (runOps (eraseTrims ops)) := by
  obtain ⟨g, rfl, hs⟩ := validOps_lift ops h
  unfold stripSpaceBytes
  rw [eraseTrims_map_encOp, decodeRunes_runOps g hs, decodeRunes_runOps _ (scalar_eraseTrims g hs)]
  exact congrArg encodeRunes (trim_only_ws isSpaceRune g)

/-- byte level, ALL byte strings (valid UTF-8 or not): the output is a subsequence of the untrimmed bytes. (What fails on invalid
    UTF-8 is the law about RUNES: `tw_erasure_fails_on_invalid_utf8`.) -/
theorem tw_trim_sublist_all (ops : List WOp) : (runOps ops).Sublist (runOps (eraseTrims ops)) := by
  rw [runOps_eq_twTotal, runOps_eq_twTotal (eraseTrims ops), twTotal_eraseTrims ops []]
  exact twTotal_sublist ops {}

/-- byte level, valid UTF-8: the output stays valid UTF-8; and is a subsequence of the untrimmed bytes (`tw_trim_sublist_all`: for
    that the hypothesis is not needed) -/
theorem tw_trim_valid_sublist (ops : List WOp) (h : ValidOps ops) :
    ValidUtf8 (runOps ops) ∧ (runOps ops).Sublist (runOps (eraseTrims ops)) :=
  ⟨runOps_valid ops h, tw_trim_sublist_all ops⟩

/-- byte level, ALL byte strings (valid UTF-8 or not): without trim operations the output is the
    concatenation of the writes -/
theorem tw_erased_output_is_concat (ops : List WOp) : runOps (eraseTrims ops) = wopWrites ops :=
  (runOps_eq_twTotal _).trans (twTotal_eraseTrims ops [])

/-- byte level, ALL byte strings: a template without hyphens loses nothing -/
theorem tw_no_trim_identity (ops : List WOp) (h : eraseTrims ops = ops) : runOps ops = wopWrites ops := by
  rw [← h, tw_erased_output_is_concat, h]

/-- byte level, ALL byte strings: a `TrimLeft` directly after the write of ANY text acts as the write of
    `bytes.TrimRightFunc(text, unicode.IsSpace)`, with or without a pending `TrimRight` -/
theorem tw_trimLeft_adjacent_all (pre post : List WOp) (u : Bytes) :
    runOps (pre ++ .write u :: .trimLeft :: post) = runOps (pre ++ .write (trimRightSpace u) :: post) := by
  rw [runOps_append, runOps_append, (twTotal_write_trimLeft _ u post).1]

/-- byte level, ALL byte strings: a `TrimRight` directly before the write of ANY text acts as the write
    of `bytes.TrimLeftFunc(text, unicode.IsSpace)` -/
theorem tw_trimRight_adjacent_all (pre post : List WOp) (u : Bytes) :
    runOps (pre ++ .trimRight :: .write u :: post) = runOps (pre ++ .write (trimLeftSpace u) :: post) := by
  rw [runOps_append, runOps_append, twTotal, tw_run_trimRight_write, ← twTotal]

/-- text without ink is a run of encoded white-space runes, in particular valid UTF-8: an invalid byte decodes to U+FFFD,
    which is ink -/
theorem allSpace_of_blank (u : Bytes) (hu : hasInkBytes u = false) : AllSpace u := by
  obtain ⟨l, hl, e, hns⟩ := trimLeftSpace_spec u
  by_cases ht : trimLeftSpace u = []
  · rw [e, ht, List.append_nil]; exact hl
  · -- otherwise what is left after the leading white space starts with a rune of ink, and that rune is among the decoded ones
    rw [hasInkBytes, e, decodeRunes_append_of_valid _ _ (allSpace_valid hl), hasInk_append, decodeRunes_cons _ ht] at hu
    simp [hasInk, hns] at hu

/-- blank text (ALL byte strings) is deleted entirely by either trim -/
theorem tw_trimSpace_blank (u : Bytes) (hu : hasInkBytes u = false) : trimRightSpace u = [] ∧ trimLeftSpace u = [] :=
  ⟨trimRightSpace_of_AllSpace (allSpace_of_blank u hu), trimLeftSpace_of_AllSpace (allSpace_of_blank u hu)⟩

/-- Special case of `tw_trimLeft_adjacent_all` (which needs none of the hypotheses). Byte level, valid UTF-8:
    a `TrimLeft` directly after the write of a text with ink acts as the write of
    `bytes.TrimRightFunc(text, unicode.IsSpace)` -/
theorem tw_trimLeft_adjacent (pre post : List WOp) (u : Bytes) (hpre : ValidOps pre) (hpost : ValidOps post)
    (hv : ValidUtf8 u) (_hu : hasInkBytes u = true) :
    runOps (pre ++ .write u :: .trimLeft :: post) = runOps (pre ++ .write (trimRightSpace u) :: post) :=
  tw_trimLeft_adjacent_all pre post u

/-- Special case of `tw_trimRight_adjacent_all` (which needs none of the hypotheses). Byte level, valid UTF-8:
    a `TrimRight` directly before the write of a text with ink acts as the write of
    `bytes.TrimLeftFunc(text, unicode.IsSpace)` -/
theorem tw_trimRight_adjacent (pre post : List WOp) (u : Bytes) (hpre : ValidOps pre) (hpost : ValidOps post)
    (hv : ValidUtf8 u) (_hu : hasInkBytes u = true) :
    runOps (pre ++ .trimRight :: .write u :: post) = runOps (pre ++ .write (trimLeftSpace u) :: post) :=
  tw_trimRight_adjacent_all pre post u

/-- Special case of `tw_trimLeft_adjacent_all` (which needs none of the hypotheses). Byte level, valid UTF-8:
    the same for any text (blank or empty included) when no `TrimRight` is pending -/
theorem tw_trimLeft_adjacent_noflag (pre post : List WOp) (u : Bytes) (hpre : ValidOps pre) (hpost : ValidOps post)
    (hv : ValidUtf8 u) (_hf : twFlagAfter pre = false) :
    runOps (pre ++ .write u :: .trimLeft :: post) = runOps (pre ++ .write (trimRightSpace u) :: post) :=
  tw_trimLeft_adjacent_all pre post u

/-- byte level: blank text before a `TrimLeft` is deleted and nothing else is (an empty write remains), with or
    without a pending `TrimRight`. Stated for valid UTF-8; none of the three validity hypotheses is needed (blank text is
    valid: `allSpace_of_blank`) -/
theorem tw_trimLeft_adjacent_ws (pre post : List WOp) (u : Bytes) (hpre : ValidOps pre) (hpost : ValidOps post)
    (hv : ValidUtf8 u) (hu : hasInkBytes u = false) :
    runOps (pre ++ .write u :: .trimLeft :: post) = runOps (pre ++ .write [] :: post) := by
  rw [tw_trimLeft_adjacent_all pre post u, (tw_trimSpace_blank u hu).1]

/-- Special case of `tw_trimRight_adjacent_all` (which needs none of the hypotheses). Byte level, valid UTF-8:
    `TrimRight` before any text when a `TrimRight` was already pending -/
theorem tw_trimRight_adjacent_flag (pre post : List WOp) (u : Bytes) (hpre : ValidOps pre) (hpost : ValidOps post)
    (hv : ValidUtf8 u) (_hf : twFlagAfter pre = true) :
    runOps (pre ++ .trimRight :: .write u :: post) = runOps (pre ++ .write (trimLeftSpace u) :: post) :=
  tw_trimRight_adjacent_all pre post u

/-- byte level: blank text after a `TrimRight` is deleted and nothing else is; an empty write remains. Stated for valid
    UTF-8; none of the three validity hypotheses is needed -/
theorem tw_trimRight_adjacent_ws (pre post : List WOp) (u : Bytes) (hpre : ValidOps pre) (hpost : ValidOps post)
    (hv : ValidUtf8 u) (hu : hasInkBytes u = false) :
    runOps (pre ++ .trimRight :: .write u :: post) = runOps (pre ++ .write [] :: post) := by
  rw [tw_trimRight_adjacent_all pre post u, (tw_trimSpace_blank u hu).2]

/-- byte level, ALL byte strings: `TrimRight` followed by an empty write acts as a `Flush` when no
    flag was pending (the empty write consumes the flag and flushes) -/
theorem tw_trimRight_empty_write (pre post : List WOp) (hf : twFlagAfter pre = false) :
    runOps (pre ++ .trimRight :: .write [] :: post) = runOps (pre ++ .flush :: post) := by
  rw [runOps_append, runOps_append]
  simp only [twTotal_cons, TW.step, Gen.flatten_flushCalls, List.flatten_nil, List.nil_append]
  generalize hT : TW.run {} pre = T at hf ⊢
  obtain ⟨⟨buf, trim⟩, calls⟩ := T
  have : trim = false := by simpa [twFlagAfter, hT] using hf
  subst this
  rfl

/-- byte level, ALL byte strings: a `TrimRight` persists across `TrimLeft` and `Flush` -/
theorem tw_trimRight_persists (pre post : List WOp) :
    runOps (pre ++ .trimRight :: .trimLeft :: post) = runOps (pre ++ .trimLeft :: .trimRight :: post) ∧
    runOps (pre ++ .trimRight :: .flush :: post) = runOps (pre ++ .flush :: .trimRight :: post) := by
  unfold runOps
  simp only [List.append_assoc, List.cons_append]
  rw [tw_run_append, tw_run_append {} pre, tw_run_append {} pre, tw_run_append {} pre]
  simp [TW.run, TW.step]

/-- byte level, ALL byte strings: after a write the buffer holds that write only -/
theorem tw_buffer_is_last_write (pre : List WOp) (b : Bytes) :
    (TW.run {} (pre ++ [.write b])).1 =
      { buf := if twFlagAfter pre then trimLeftSpace b else b, trim := false } := by
  rw [tw_run_append]; rfl

/-- byte level, ALL byte strings (valid UTF-8 or not) — **the repair (2593661)**: a `TrimLeft` sees
    the last write only; everything up to and including the earlier write `a` is output as if the
    list ended there, then `bytes.TrimRightFunc(b, unicode.IsSpace)`, then the output of `post` -/
theorem tw_trimLeft_sees_last_write_only (pre post : List WOp) (a b : Bytes) :
    runOps (pre ++ .write a :: .write b :: .trimLeft :: post) =
      runOps (pre ++ [.write a]) ++ trimRightSpace b ++ runOps post := by
  rw [runOps_append, runOps_append, runOps_eq_twTotal post]
  simp only [twTotal_cons, twTotal_nil, TW.step, Gen.flatten_flushCalls, List.flatten_cons, List.flatten_nil, List.append_nil,
    List.append_assoc, Bool.false_eq_true, if_false]

/-- byte level, ALL byte strings: the same with a `TrimRight` pending before `write b`; `b` is
    stripped on both sides, `a` is output in full -/
theorem tw_trimLeft_sees_last_write_only_flag (pre post : List WOp) (a b : Bytes) :
    runOps (pre ++ .write a :: .trimRight :: .write b :: .trimLeft :: post) =
      runOps (pre ++ [.write a]) ++ trimRightSpace (trimLeftSpace b) ++ runOps post := by
  rw [runOps_append, runOps_append, runOps_eq_twTotal post]
  simp only [twTotal_cons, twTotal_nil, TW.step, Gen.flatten_flushCalls, List.flatten_cons, List.flatten_nil, List.append_nil,
    List.nil_append, List.append_assoc, if_true]

/-- byte level: blank text between two hyphens costs the earlier write nothing (`hv` is not needed: blank text is valid) -/
theorem tw_trimLeft_keeps_earlier_write (pre post : List WOp) (a b : Bytes) (hv : ValidUtf8 b)
    (hb : hasInkBytes b = false) :
    runOps (pre ++ .write a :: .trimRight :: .write b :: .trimLeft :: post) =
      runOps (pre ++ [.write a]) ++ runOps post := by
  rw [tw_trimLeft_sees_last_write_only_flag, (tw_trimSpace_blank b hb).2, trimRightSpace_of_AllSpace AllSpace_nil, List.append_nil]

/-- the operation list of the counterexample: `x 0xC2`, TrimRight, `␠ 0xA0 y` -/
def twBadOps : List WOp := [.write [0x78, 0xC2], .trimRight, .write [0x20, 0xA0, 0x79]]

/-- On INVALID UTF-8 the byte-level erasure law is false, on the repaired machine too (the
    join happens in the OUTPUT, not in the buffer: `x 0xC2` is flushed, then `0xA0 y` follows it):
    stripping the ASCII space joins `0xC2` and `0xA0` into U+00A0, a whitespace rune that neither
    write contained; with the trim the stripped output is `xy`, without it `x U+FFFD U+FFFD y`. So
    `ValidOps` cannot be dropped from `tw_trim_only_ws` / `tw_trim_subseq`. -/
theorem tw_erasure_fails_on_invalid_utf8 :
    runOps twBadOps = [0x78, 0xC2, 0xA0, 0x79] ∧
    runOps (eraseTrims twBadOps) = [0x78, 0xC2, 0x20, 0xA0, 0x79] ∧
    stripSpaceBytes (runOps twBadOps) = [0x78, 0x79] ∧
    stripSpaceBytes (runOps (eraseTrims twBadOps)) = [0x78, 0xEF, 0xBF, 0xBD, 0xEF, 0xBF, 0xBD, 0x79] ∧
    stripSpaceBytes (runOps twBadOps) ≠ stripSpaceBytes (runOps (eraseTrims twBadOps)) ∧
    ¬ ValidOps twBadOps := by
  refine ⟨by decide +kernel, by decide +kernel, by decide +kernel, by decide +kernel, by decide +kernel, ?_⟩
  intro h
  have hv := h [0x78, 0xC2] (by simp [twBadOps])
  rw [← validUtf8B_iff] at hv
  revert hv; decide

/-! ### non-vacuity (bytes) -/

section examples_bytes
-- `é␠` TrimLeft TrimRight `␠U+00A0 x ␠` (NBSP = C2 A0 is whitespace for Go)
private def opsB : List WOp :=
  [.write [0xC3, 0xA9, 0x20], .trimLeft, .trimRight, .write [0x20, 0xC2, 0xA0, 0x78, 0x20]]

private theorem opsB_valid : ValidOps opsB := by
  intro b hb
  rw [← validUtf8B_iff]
  simp only [opsB, List.mem_cons, WOp.write.injEq, List.not_mem_nil, or_false, reduceCtorEq, false_or] at hb
  rcases hb with rfl | rfl <;> decide

example : runOps opsB = [0xC3, 0xA9, 0x78, 0x20] := by decide +kernel
example : runOps (eraseTrims opsB) = [0xC3, 0xA9, 0x20, 0x20, 0xC2, 0xA0, 0x78, 0x20] := by decide +kernel
example : stripSpaceBytes (runOps opsB) = [0xC3, 0xA9, 0x78] := by decide +kernel
example : stripSpaceBytes (runOps opsB) = stripSpaceBytes (runOps (eraseTrims opsB)) := tw_trim_only_ws opsB opsB_valid
example : WsDeletion isSpaceRune (decodeRunes (runOps (eraseTrims opsB))) (decodeRunes (runOps opsB)) :=
  tw_trim_subseq opsB opsB_valid
-- the bridge on a concrete rune-level list: U+00E9, space | TrimLeft | U+3000 (ideographic space), U+1F600
example : runOps ([GOp.write [0xE9, 0x20], .trimLeft, .trimRight, .write [0x3000, 0x1F600]].map encOp)
    = [0xC3, 0xA9, 0xF0, 0x9F, 0x98, 0x80] := by decide +kernel
example : ScalarOp (GOp.write [0xE9, 0x20, 0x3000, 0x1F600]) := by
  intro r hr; simp at hr; rcases hr with rfl | rfl | rfl | rfl <;> decide
-- no_trim_identity holds for invalid bytes too
example : eraseTrims [WOp.write [0xC2], .flush, .write [0x20, 0xA0]] = [WOp.write [0xC2], .flush, .write [0x20, 0xA0]]
    ∧ runOps [WOp.write [0xC2], .flush, .write [0x20, 0xA0]] = [0xC2, 0x20, 0xA0] := by decide +kernel
-- adjacency at byte level
example : hasInkBytes [0x20, 0xC2, 0xA0, 0x78, 0x20] = true ∧
    trimRightSpace [0x20, 0xC2, 0xA0, 0x78, 0x20] = [0x20, 0xC2, 0xA0, 0x78] ∧
    trimLeftSpace [0x20, 0xC2, 0xA0, 0x78, 0x20] = [0x78, 0x20] := by decide +kernel
-- blank text (space, NBSP) between a pending TrimRight and a TrimLeft: deleted, and `x␠` KEEPS its blank
-- (tw_trimLeft_adjacent_ws, tw_trimLeft_keeps_earlier_write)
example : twFlagAfter [.write [0x78, 0x20], .trimRight] = true ∧ hasInkBytes [0x20, 0xC2, 0xA0] = false ∧
    runOps ([.write [0x78, 0x20], .trimRight] ++ .write [0x20, 0xC2, 0xA0] :: .trimLeft :: [.write [0x79]])
      = [0x78, 0x20, 0x79] ∧
    runOps ([.write [0x78, 0x20], .trimRight] ++ .write [] :: [.write [0x79]]) = [0x78, 0x20, 0x79] := by decide +kernel
-- no pending flag: the blank text is deleted, `x␠` keeps its blank
example : twFlagAfter [.write [0x78, 0x20]] = false ∧
    runOps ([.write [0x78, 0x20]] ++ .write [0x20, 0xC2, 0xA0] :: .trimLeft :: [.write [0x79]])
      = [0x78, 0x20, 0x79] := by decide +kernel
-- the empty write consumed the flag (`␠y` keeps its blank) and flushed (`x␠` is out of reach of the
-- TrimLeft, as after a Flush); and a TrimRight survives a TrimLeft
example : runOps ([.write [0x78]] ++ .trimRight :: .write [] :: [.write [0x20, 0x79]]) = [0x78, 0x20, 0x79] ∧
    runOps ([.write [0x78, 0x20]] ++ .trimRight :: .write [] :: [.trimLeft, .write [0x79]]) = [0x78, 0x20, 0x79] ∧
    runOps ([.write [0x78, 0x20]] ++ .flush :: [.trimLeft, .write [0x79]]) = [0x78, 0x20, 0x79] ∧
    runOps ([.write [0x78, 0x20]] ++ .trimRight :: .trimLeft :: [.write [0x20, 0x79]]) = [0x78, 0x79] := by decide +kernel
-- tw_trimLeft_sees_last_write_only on INVALID bytes: `C2 ␠` | `A0 ␠` TrimLeft `y`
example : runOps ([] ++ .write [0xC2, 0x20] :: .write [0xA0, 0x20] :: .trimLeft :: [.write [0x79]])
      = [0xC2, 0x20, 0xA0, 0x79] ∧
    runOps ([] ++ [.write [0xC2, 0x20]]) = [0xC2, 0x20] ∧ trimRightSpace [0xA0, 0x20] = [0xA0] := by decide +kernel
-- tw_trimLeft_sees_last_write_only_flag: `é␠` -}} `␠U+00A0` {{- `y`
example : runOps ([] ++ .write [0xC3, 0xA9, 0x20] :: .trimRight :: .write [0x20, 0xC2, 0xA0] :: .trimLeft :: [.write [0x79]])
      = [0xC3, 0xA9, 0x20, 0x79] ∧ trimRightSpace (trimLeftSpace [0x20, 0xC2, 0xA0]) = [] := by decide +kernel
end examples_bytes

/-! ## Part C — the underlying write calls -/

/-- the bytes written are the concatenation of the underlying write calls -/
theorem writeCalls_flatten (ops : List WOp) : (writeCalls ops).flatten = runOps ops := rfl

/-- every trim-writer operation issues at most one call of the underlying writer (`tw_step_calls_le_one` of
    `Proofs/TwBridge.lean`) -/
theorem tw_step_at_most_one_call (t : TW) (op : WOp) : (t.step op).2.length ≤ 1 :=
  tw_step_calls_le_one t op

/-- hence an operation list (with the final flush) issues at most one call per operation -/
theorem writeCalls_length_le (ops : List WOp) : (writeCalls ops).length ≤ ops.length + 1 := by
  have := tw_run_calls_le (ops ++ [.flush]) {}
  simpa [writeCalls] using this

/-- only `TrimLeft` can issue an empty write: the calls of `Write` and `Flush` are non-empty -/
theorem tw_step_calls_nonempty (t : TW) (op : WOp) (h : op ≠ .trimLeft) : ∀ c ∈ (t.step op).2, c ≠ [] := by
  cases op with
  | trimLeft => exact absurd rfl h
  | trimRight => simp [TW.step]
  | write b =>
    simp only [TW.step]
    cases ht : t.trim <;> cases hb : t.buf <;> simp
  | flush =>
    simp only [TW.step]
    cases hb : t.buf <;> simp

/-- the calls of a run without the final flush (`TW.run`, not `writeCalls`) over `xs ++ ys` are those over
    `xs` followed by those over `ys` from the state reached -/
theorem writeCalls_append (xs ys : List WOp) :
    (TW.run {} (xs ++ ys)).2 = (TW.run {} xs).2 ++ (TW.run (TW.run {} xs).1 ys).2 := by
  rw [tw_run_append]

section examples_calls
example : writeCalls [.write [0x78, 0x20], .trimLeft, .write [0x79], .flush, .trimLeft]
    = [[0x78], [0x79], []] := by decide +kernel
example : (TW.step { buf := [0x78], trim := false } (.write [0x79])).2 = [[0x78]] := by decide +kernel
end examples_calls
