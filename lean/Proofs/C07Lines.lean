import Proofs.RenderTreeDefs
import Liquid.Nest
/-!
# The lines of a node tree and of its source; post-conditions on programs (`Post`) and on compile results (`CPost`)

`C07.lean` proves the local facts (an error keeps its innermost location; a failing object is
reported at its own line). The whole-template statement: whatever the template,
the bindings, the value layer and the writer do, an error that comes out of rendering an
include-free node tree is a located error (a SourceError) whose line is the line of *some tag,
object or text of that tree* — or 0 where none of them stands, which only happens for a writer failure reported by a node
without source location (a raw block, a trim marker, the final flush) at the top level. The same
holds for the `break`/`continue` sentinels a subtree hands to its enclosing loop.

This file has what the statement is made of — the lines of a tree (`Node.lines`) and of a parse tree (`AST.tokLines`, `TokLine`), the
post-conditions on failures and results of a program (`Post`, with `OuterOK`, `StatusOK`) and of the compiler (`CPost` with its rules,
`SErr.At`: what the files on the compiled tree state their results in). That the compiler keeps the lines, and that the lines of
a parse tree are lines of tokens (`tree_lines_are_token_lines`), is in Proofs/Marks.lean. The statement itself
(`render_error_line_in_tree`, `source_error_line_is_token_line`) is read off the trace of the tree in Proofs/TraceFin.lean.

(Templates with `include` are excluded by the decidable predicate `noIncl`: the lines of an
included file are lines of *that* file, shifted by the include tag's line.)

The predicates that say where an error or a site is located, here and in the files that build on this one:
* `IsLocated e` (Proofs/C07.lean): `e : RawErr` is `.located`;
* `SErr.lineIn L e`, lifted to `OuterOK L` on `RawErr` and `StatusOK L` on `Status`: line 0 or a line of `L` (what holds
  whatever the writer does);
* `SErr.At line e`: a compile error for the token at `line`, with the template's path;
* `ELoc L e`, lifted to `EOuter L` and `EStatus L` (Proofs/SrcLines.lean): a line of `L` and the template's path (what
  holds on a writer that does not fail);
* `SiteIn L l`, `SiteAt L l` (Proofs/TraceSites.lean), of an entry `l : Option Loc` of a trace: missing, the invalid
  location or `⟨x, true⟩` with `x ∈ L`; the last of the three only;
* `LocOK c L I l` (Proofs/TraceSites.lean), of `l : Loc`: a line of `L` with the path, or what the include handler
  reports for one of the include tags `I`;
* `Tr.Located t` (Proofs/TraceSites.lean): no entry of the trace `t` is missing;
* `Reloc path A B l` (Proofs/TraceSites.lean), of an entry `l`: a line of `A` seen through the wrapping of enclosing blocks, of which
  the four above are consequences.
-/

def CondT.lines : CondT → List Nat
  | .expr line _ => [line]
  | .notExpr line _ => [line]
  | .always => []

mutual
def Node.lines : Node → List Nat
  | .text line _ => [line]
  | .obj line _ => [line]
  | .raw _ => []
  | .trim _ => []
  | .assign line _ _ => [line]
  | .capture line _ body => line :: linesList body
  | .ifB line bs => line :: linesBranches bs
  | .caseB line _ cs => line :: linesCases cs
  | .loop line _ _ _ _ body clauses => line :: (linesList body ++ linesClauses clauses)
  | .cycle line _ _ _ => [line]
  | .brk line => [line]
  | .cont line => [line]
  | .incl line _ => [line]
def linesList : List Node → List Nat
  | [] => []
  | n :: ns => n.lines ++ linesList ns
def linesBranches : List (CondT × List Node) → List Nat
  | [] => []
  | (t, body) :: rest => t.lines ++ linesList body ++ linesBranches rest
def linesCases : List (Option (Nat × List Expr) × List Node) → List Nat
  | [] => []
  | (none, body) :: rest => linesList body ++ linesCases rest
  | (some (line, _), body) :: rest => line :: (linesList body ++ linesCases rest)
def linesClauses : List (List Node) → List Nat
  | [] => []
  | c :: cs => linesList c ++ linesClauses cs
end

/-- a post-condition on failures and results together, whatever the writer answers (`AllRet R`, Proofs/PostLemmas.lean,
    and `AllFail Q`, Proofs/C07.lean, are the cases `Post (fun _ => True) R` and `Post Q (fun _ => True)`) -/
inductive Post {α : Type} (Q : RawErr → Prop) (R : α → Prop) : Prog α → Prop where
  | ret (a) : R a → Post Q R (.ret a)
  | fail (e) : Q e → Post Q R (.fail e)
  | panic (w) : Post Q R (.panic w)
  | unmodelled (w) : Post Q R (.unmodelled w)
  | call (b k) : (∀ r, Post Q R (k r)) → Post Q R (.call b k)

theorem Post.bind {α β} {Q : RawErr → Prop} {R : α → Prop} {R' : β → Prop} {p : Prog α} {f : α → Prog β}
    (hp : Post Q R p) (hf : ∀ a, R a → Post Q R' (f a)) : Post Q R' (p.bind f) := by
  induction hp with
  | ret a ha => exact hf a ha
  | fail e he => exact .fail e he
  | panic w => exact .panic w
  | unmodelled w => exact .unmodelled w
  | call b k _ ih => exact .call _ _ (fun r => ih r)

theorem Post.mono {α} {Q Q' : RawErr → Prop} {R R' : α → Prop} {p : Prog α}
    (hp : Post Q R p) (hq : ∀ e, Q e → Q' e) (hr : ∀ a, R a → R' a) : Post Q' R' p := by
  induction hp with
  | ret a ha => exact .ret a (hr a ha)
  | fail e he => exact .fail _ (hq e he)
  | panic w => exact .panic w
  | unmodelled w => exact .unmodelled w
  | call b k _ ih => exact .call _ _ (fun r => ih r)

theorem Post.outcome {α} {Q : RawErr → Prop} {R : α → Prop} {p : Prog α} (hp : Post Q R p) :
    match p.runPure.2 with
    | .ok a => R a
    | .err e => Q e
    | _ => True := by
  induction hp with
  | ret a ha => exact ha
  | fail e he => exact he
  | panic w => trivial
  | unmodelled w => trivial
  | call b k _ ih => exact ih .ok

def SErr.lineIn (L : List Nat) (e : SErr) : Prop := e.line = 0 ∨ e.line ∈ L

/-- what leaves a node: a located error with a line of the tree -/
def OuterOK (L : List Nat) : RawErr → Prop
  | .plain _ => False
  | .located e => e.lineIn L

def StatusOK (L : List Nat) : Status → Prop
  | .done => True
  | .brk e => e.lineIn L
  | .cont e => e.lineIn L

theorem SErr.lineIn.mono {L L' : List Nat} {e : SErr} (h : e.lineIn L) (hs : ∀ x, x ∈ L → x ∈ L') : e.lineIn L' :=
  h.elim Or.inl (fun h => Or.inr (hs _ h))

theorem OuterOK.mono {L L' : List Nat} (hs : ∀ x, x ∈ L → x ∈ L') : ∀ e, OuterOK L e → OuterOK L' e
  | .plain _, h => h
  | .located _, h => SErr.lineIn.mono h hs

theorem StatusOK.mono {L L' : List Nat} (hs : ∀ x, x ∈ L → x ∈ L') : ∀ st, StatusOK L st → StatusOK L' st
  | .done, _ => True.intro
  | .brk _, h => SErr.lineIn.mono h hs
  | .cont _, h => SErr.lineIn.mono h hs

def PostM {α} (Q : RawErr → Prop) (R : α → Prop) (m : M α) : Prop := ∀ s, Post Q (fun r => R r.1) (m s)

def CPost {α} (Q : SErr → Prop) (R : α → Prop) : CRes α → Prop
  | .ok a => R a
  | .err e => Q e
  | .panic _ => True
  | .unmodelled _ => True

theorem CPost.bind {α β} {Q : SErr → Prop} {R : α → Prop} {R' : β → Prop} {x : CRes α} {f : α → CRes β}
    (hx : CPost Q R x) (hf : ∀ a, R a → CPost Q R' (f a)) : CPost Q R' (x >>= f) := by
  cases x with
  | ok a => exact hf a hx
  | err e => exact hx
  | panic w => exact True.intro
  | unmodelled w => exact True.intro

theorem CPost.pure {α} {Q : SErr → Prop} {R : α → Prop} (a : α) (h : R a) : CPost Q R (pure a : CRes α) := h

theorem CPost.ok {α} {Q : SErr → Prop} {R : α → Prop} {a : α} (h : R a) : CPost Q R (.ok a) := h
theorem CPost.err {α} {Q : SErr → Prop} {R : α → Prop} {e : SErr} (h : Q e) : CPost Q R (.err e : CRes α) := h
theorem CPost.panic {α} {Q : SErr → Prop} {R : α → Prop} {w : String} : CPost Q R (.panic w : CRes α) := True.intro
theorem CPost.unmodelled {α} {Q : SErr → Prop} {R : α → Prop} {w : String} : CPost Q R (.unmodelled w : CRes α) :=
  True.intro

theorem CPost.mono {α} {Q Q' : SErr → Prop} {R R' : α → Prop} {x : CRes α} (hx : CPost Q R x)
    (hq : ∀ e, Q e → Q' e) (hr : ∀ a, R a → R' a) : CPost Q' R' x := by
  cases x with
  | ok a => exact hr a hx
  | err e => exact hq e hx
  | panic w => exact True.intro
  | unmodelled w => exact True.intro

-- `CPost` is a match on the result: left reducible, every elaboration step that looks at a goal `CPost Q R (compile…)`
-- evaluates the compiler (down into the expression parser) in search of the constructor
attribute [local irreducible] CPost

/-- an error the compiler makes for the token at `line`: located there, with the template's path, and not one of the two
    messages of the block parser -/
def SErr.At (line : Nat) (e : SErr) : Prop := e.line = line ∧ e.pathSet = true ∧ e.msg ≠ .notInside ∧ e.msg ≠ .unterminated

theorem cpost_liftParse {α} (line : Nat) (keep : Bool) (r : Res ParseErr α) :
    CPost (SErr.At line) (fun _ => True) (liftParse line keep r) := by
  cases r with
  | ok a => exact .ok True.intro
  | err e => cases keep <;> exact .err ⟨rfl, rfl, nofun, nofun⟩
  | panic w => exact .panic
  | unmodelled w => exact .unmodelled

mutual
def AST.tokLines : AST → List Nat
  | .text t => [t.line]
  | .obj t => [t.line]
  | .tag t => [t.line]
  | .trim _ => []
  | .raw _ => []
  | .block t body clauses => t.line :: (tokLinesList body ++ tokLinesClauses clauses)
def tokLinesList : List AST → List Nat
  | [] => []
  | n :: ns => n.tokLines ++ tokLinesList ns
def tokLinesClauses : List (Token × List AST) → List Nat
  | [] => []
  | (t, body) :: cs => t.line :: (tokLinesList body ++ tokLinesClauses cs)
end

def linesCClauses : List (Token × List Node) → List Nat
  | [] => []
  | (t, body) :: cs => t.line :: (linesList body ++ linesCClauses cs)

mutual
theorem tokLines_unparse : ∀ (a : AST) (x : Nat), x ∈ a.tokLines → ∃ t ∈ a.unparse, t.line = x
  | .text t, x, hx => by simp only [AST.tokLines, List.mem_singleton] at hx; exact ⟨t, by simp [AST.unparse], hx.symm⟩
  | .obj t, x, hx => by simp only [AST.tokLines, List.mem_singleton] at hx; exact ⟨t, by simp [AST.unparse], hx.symm⟩
  | .tag t, x, hx => by simp only [AST.tokLines, List.mem_singleton] at hx; exact ⟨t, by simp [AST.unparse], hx.symm⟩
  | .trim _, x, hx => by simp [AST.tokLines] at hx
  | .raw _, x, hx => by simp [AST.tokLines] at hx
  | .block t body cls, x, hx => by
    simp only [AST.tokLines, List.mem_cons, List.mem_append] at hx
    rcases hx with hx | hx | hx
    · exact ⟨t, by simp [AST.unparse], hx.symm⟩
    · obtain ⟨t', ht', hl⟩ := tokLinesList_unparse body x hx
      exact ⟨t', by simp [AST.unparse, ht'], hl⟩
    · obtain ⟨t', ht', hl⟩ := tokLinesClauses_unparse cls x hx
      exact ⟨t', by simp [AST.unparse, ht'], hl⟩
theorem tokLinesList_unparse : ∀ (as : List AST) (x : Nat), x ∈ tokLinesList as → ∃ t ∈ unparseList as, t.line = x
  | [], x, hx => by simp [tokLinesList] at hx
  | a :: as, x, hx => by
    simp only [tokLinesList, List.mem_append] at hx
    rcases hx with hx | hx
    · obtain ⟨t, ht, hl⟩ := tokLines_unparse a x hx
      exact ⟨t, by simp [unparseList, ht], hl⟩
    · obtain ⟨t, ht, hl⟩ := tokLinesList_unparse as x hx
      exact ⟨t, by simp [unparseList, ht], hl⟩
theorem tokLinesClauses_unparse : ∀ (cs : List (Token × List AST)) (x : Nat), x ∈ tokLinesClauses cs →
    ∃ t ∈ unparseClauses cs, t.line = x
  | [], x, hx => by simp [tokLinesClauses] at hx
  | (c, body) :: cs, x, hx => by
    simp only [tokLinesClauses, List.mem_cons, List.mem_append] at hx
    rcases hx with hx | hx | hx
    · exact ⟨c, by simp [unparseClauses], hx.symm⟩
    · obtain ⟨t, ht, hl⟩ := tokLinesList_unparse body x hx
      exact ⟨t, by simp [unparseClauses, ht], hl⟩
    · obtain ⟨t, ht, hl⟩ := tokLinesClauses_unparse cs x hx
      exact ⟨t, by simp [unparseClauses, ht], hl⟩
end

def TokLine (toks : List Token) (x : Nat) : Prop := x = 0 ∨ ∃ t ∈ toks, t.line = x
