import Liquid.Heap
import Proofs.ResLemmas
/-!
# Lemmas about the slice-memory model (`Liquid/Heap.lean`); the property theorems are in `Proofs/C15Heap.lean`

1. `run_bind`, `run_frame` — the interpreter: sequencing; the LOG IS COMPLETE (a location that is not in
   the log holds what it held, no array changes its length, no array disappears).
2. `Above N p Q` — a run of `p` writes only into arrays at or above `N`, and its value satisfies `Q`; `Fresh N s` — a slice
   is nil or lies in an array at or above `N`; `Kept N st st'` — the arrays below `N` are the same in both stores. The
   slice operations the filters use, the loops, the filter bodies and a pipeline are `Above N` for every `N` (no hypothesis on
   well-formedness, which is why they are gone through here and once more for the refinement, which holds on well-formed
   stores only: `Proofs/HeapLogic.lean`, `Proofs/HeapFilters.lean`).
3. `Refines`; what the loads, `make` and a block store do on well-formed slices (`run_elems`, `run_make`,
   `run_writeRange`). The rules for Go's storing operations are in `Proofs/HeapLogic.lean`.
-/

namespace Heap

def thenRun {α β : Type} (r : Res Cause (Out α)) (f : α → Store → Res Cause (Out β)) : Res Cause (Out β) :=
  match r with
  | .ok o =>
    match f o.val o.st with
    | .ok o' => .ok ⟨o'.val, o'.st, o.log ++ o'.log⟩
    | .err c => .err c
    | .panic w => .panic w
    | .unmodelled w => .unmodelled w
  | .err c => .err c
  | .panic w => .panic w
  | .unmodelled w => .unmodelled w

theorem thenRun_logged {α β : Type} (l : Loc) (r : Res Cause (Out α)) (f : α → Store → Res Cause (Out β)) :
    thenRun (logged l r) f = logged l (thenRun r f) := by
  cases r with
  | ok o =>
    simp only [logged, thenRun]
    cases f o.val o.st <;> rfl
  | _ => rfl

theorem run_bind {α β : Type} (p : Prog α) (f : α → Prog β) (st : Store) :
    run (p.bind f) st = thenRun (run p st) (fun a st' => run (f a) st') := by
  induction p generalizing st with
  | ret a =>
    simp only [Prog.bind, run, thenRun]
    cases run (f a) st <;> simp
  | halt h => cases h <;> rfl
  | read a i k ih =>
    simp only [Prog.bind, run]
    cases readAt st a i with
    | none => rfl
    | some v => exact ih v st
  | write a i v k ih =>
    simp only [Prog.bind, run]
    cases writeAt st a i v with
    | none => rfl
    | some st' => simp only; rw [ih st', thenRun_logged]
  | alloc row k ih =>
    simp only [Prog.bind, run]
    exact ih _ _

theorem run_bind_ok {α β : Type} {p : Prog α} {f : α → Prog β} {st : Store} {o : Out β}
    (h : run (p.bind f) st = .ok o) :
    ∃ o1 o2, run p st = .ok o1 ∧ run (f o1.val) o1.st = .ok o2 ∧ o.val = o2.val ∧ o.st = o2.st ∧ o.log = o1.log ++ o2.log := by
  rw [run_bind] at h
  cases h1 : run p st with
  | ok o1 =>
    rw [h1] at h
    cases h2 : run (f o1.val) o1.st with
    | ok o2 =>
      simp only [thenRun, h2, Res.ok.injEq] at h
      exact ⟨o1, o2, rfl, h2, by rw [← h], by rw [← h], by rw [← h]⟩
    | _ => simp only [thenRun, h2] at h; cases h
  | _ => rw [h1] at h; cases h

theorem run_bind_of_ok {α β : Type} {p : Prog α} {f : α → Prog β} {st : Store} {o1 : Out α}
    (h1 : run p st = .ok o1) :
    run (p.bind f) st = thenRun (.ok o1) (fun a st' => run (f a) st') := by
  rw [run_bind, h1]

/-- a step that only loads leaves no trace in the run of what follows it -/
theorem run_load {α β : Type} {p : Prog α} {f : α → Prog β} {st : Store} {v : α} (e : run p st = .ok ⟨v, st, []⟩) :
    run (p.bind f) st = run (f v) st := by
  rw [run_bind, e]
  simp only [thenRun]
  cases run (f v) st <;> rfl

theorem lt_of_getElem?_some {α : Type} {l : List α} {i : Nat} {a : α} (h : l[i]? = some a) : i < l.length := by
  rcases Nat.lt_or_ge i l.length with hlt | hge
  · exact hlt
  · rw [List.getElem?_eq_none hge] at h; cases h

theorem writeAt_some {st st' : Store} {a i : Nat} {v : GoVal} (h : writeAt st a i v = some st') :
    ∃ row, st[a]? = some row ∧ i < row.length ∧ st' = st.set a (row.set i v) := by
  unfold writeAt at h
  cases hr : st[a]? with
  | none => rw [hr] at h; cases h
  | some row =>
    rw [hr] at h
    simp only at h
    by_cases hi : i < row.length
    · rw [if_pos hi] at h
      exact ⟨row, rfl, hi, (Option.some.inj h).symm⟩
    · rw [if_neg hi] at h; cases h

theorem run_frame {α : Type} (p : Prog α) (st : Store) (o : Out α) (h : run p st = .ok o) :
    st.length ≤ o.st.length ∧
    ∀ a row, st[a]? = some row → ∃ row', o.st[a]? = some row' ∧ row'.length = row.length ∧
      ∀ i, (a, i) ∉ o.log → row'[i]? = row[i]? := by
  induction p generalizing st o with
  | ret x =>
    simp only [run, Res.ok.injEq] at h
    subst h
    exact ⟨Nat.le_refl _, fun a row hr => ⟨row, hr, rfl, fun _ _ => rfl⟩⟩
  | halt hh => cases hh <;> cases h
  | read a i k ih =>
    simp only [run] at h
    cases hr : readAt st a i with
    | none => rw [hr] at h; cases h
    | some v => rw [hr] at h; exact ih v st o h
  | write a i v k ih =>
    simp only [run] at h
    cases hw : writeAt st a i v with
    | none => rw [hw] at h; cases h
    | some st' =>
      rw [hw] at h
      simp only at h
      cases hk : run k st' with
      | ok o' =>
        simp only [hk, logged, Res.ok.injEq] at h
        subst h
        obtain ⟨row0, hr0, _, rfl⟩ := writeAt_some hw
        obtain ⟨hlen, hrows⟩ := ih _ o' hk
        refine ⟨by simpa using hlen, fun b row hb => ?_⟩
        have hset : (st.set a (row0.set i v))[b]? = some (if a = b then row.set i v else row) := by
          rw [List.getElem?_set]
          split
          · next hab =>
            subst hab
            rw [if_pos (lt_of_getElem?_some hb), Option.some.inj (hr0.symm.trans hb)]
          · exact hb
        obtain ⟨row', h1, h2, h3⟩ := hrows b _ hset
        refine ⟨row', h1, by rw [h2]; split <;> simp, fun j hj => ?_⟩
        rw [h3 j (fun hm => hj (List.mem_cons_of_mem _ hm))]
        split
        · next hab =>
          subst hab
          exact List.getElem?_set_ne (fun he => hj (by subst he; exact List.mem_cons_self))
        · rfl
      | _ => rw [hk] at h; cases h
  | alloc row k ih =>
    simp only [run] at h
    obtain ⟨hlen, hrows⟩ := ih _ _ o h
    refine ⟨by simp at hlen; omega, fun b r hb => ?_⟩
    exact hrows b r (by rw [List.getElem?_append_left (lt_of_getElem?_some hb)]; exact hb)

theorem run_frame_array {α : Type} {p : Prog α} {st : Store} {o : Out α} (h : run p st = .ok o)
    {a : Nat} (ha : a < st.length) (hlog : ∀ l ∈ o.log, l.1 ≠ a) : o.st[a]? = st[a]? := by
  obtain ⟨_, hrows⟩ := run_frame p st o h
  have hsome : st[a]? = some st[a] := List.getElem?_eq_getElem ha
  obtain ⟨row', h1, h2, h3⟩ := hrows a _ hsome
  rw [h1, hsome]
  congr 1
  apply List.ext_getElem?
  intro i
  exact h3 i (fun hm => hlog _ hm rfl)

def Fresh (N : Nat) (s : Slice) : Prop := ∀ r, s = some r → N ≤ r.arr

theorem Fresh.none (N : Nat) : Fresh N none := fun _ h => by cases h

def Above {α : Type} (N : Nat) (p : Prog α) (Q : α → Prop) : Prop :=
  ∀ st o, N ≤ st.length → run p st = .ok o → (∀ l ∈ o.log, N ≤ l.1) ∧ Q o.val

theorem Above.ret {α : Type} {N : Nat} {a : α} {Q : α → Prop} (h : Q a) : Above N (.ret a) Q := by
  intro st o _ hr
  simp only [run, Res.ok.injEq] at hr
  subst hr
  exact ⟨fun l hl => (by cases hl), h⟩

theorem Above.halt {α : Type} {N : Nat} {h : Halt} {Q : α → Prop} : Above N (.halt h : Prog α) Q := by
  intro st o _ hr
  cases h <;> cases hr

theorem Above.liftR {α : Type} {N : Nat} {r : Res Cause α} {Q : α → Prop} (h : ∀ a, r = .ok a → Q a) :
    Above N (liftR r) Q := by
  cases r with
  | ok a => exact Above.ret (h a rfl)
  | _ => exact Above.halt

theorem Above.read {α : Type} {N a i : Nat} {k : GoVal → Prog α} {Q : α → Prop} (h : ∀ v, Above N (k v) Q) :
    Above N (.read a i k) Q := by
  intro st o hN hr
  simp only [run] at hr
  cases hv : readAt st a i with
  | none => rw [hv] at hr; cases hr
  | some v => rw [hv] at hr; exact h v st o hN hr

theorem Above.write {α : Type} {N a i : Nat} {v : GoVal} {k : Prog α} {Q : α → Prop} (ha : N ≤ a) (h : Above N k Q) :
    Above N (.write a i v k) Q := by
  intro st o hN hr
  simp only [run] at hr
  cases hw : writeAt st a i v with
  | none => rw [hw] at hr; cases hr
  | some st' =>
    rw [hw] at hr
    simp only at hr
    obtain ⟨row, _, _, rfl⟩ := writeAt_some hw
    cases hk : run k (st.set a (row.set i v)) with
    | ok o' =>
      rw [hk] at hr
      simp only [logged, Res.ok.injEq] at hr
      subst hr
      obtain ⟨h1, h2⟩ := h _ o' (by simpa using hN) hk
      refine ⟨?_, h2⟩
      intro l hl
      rcases List.mem_cons.mp hl with rfl | hl'
      · exact ha
      · exact h1 l hl'
    | _ => rw [hk] at hr; cases hr

theorem Above.alloc {α : Type} {N : Nat} {row : List GoVal} {k : Nat → Prog α} {Q : α → Prop}
    (h : ∀ a, N ≤ a → Above N (k a) Q) : Above N (.alloc row k) Q := by
  intro st o hN hr
  simp only [run] at hr
  exact h st.length hN _ o (by simp; omega) hr

theorem Above.bind {α β : Type} {N : Nat} {p : Prog α} {f : α → Prog β} {P : α → Prop} {Q : β → Prop}
    (hp : Above N p P) (hf : ∀ a, P a → Above N (f a) Q) : Above N (p.bind f) Q := by
  intro st o hN hr
  obtain ⟨o1, o2, h1, h2, hv, _, hl⟩ := run_bind_ok hr
  obtain ⟨a1, p1⟩ := hp st o1 hN h1
  have hN1 : N ≤ o1.st.length := Nat.le_trans hN (run_frame p st o1 h1).1
  obtain ⟨a2, q2⟩ := hf o1.val p1 o1.st o2 hN1 h2
  refine ⟨?_, by rw [hv]; exact q2⟩
  intro l hm
  rw [hl] at hm
  rcases List.mem_append.mp hm with hm | hm
  · exact a1 l hm
  · exact a2 l hm

theorem Above.post {α : Type} {N : Nat} {p : Prog α} {Q Q' : α → Prop} (h : Above N p Q) (hq : ∀ a, Q a → Q' a) :
    Above N p Q' := fun st o hN hr => ⟨(h st o hN hr).1, hq _ (h st o hN hr).2⟩

abbrev Any {α : Type} : α → Prop := fun _ => True

theorem Above.any {α : Type} {N : Nat} {p : Prog α} {Q : α → Prop} (h : Above N p Q) : Above N p Any :=
  h.post fun _ _ => trivial

theorem Above.pure {α β : Type} {N : Nat} {r : Res Cause α} {f : α → Prog β} {Q : β → Prop} (h : ∀ a, Above N (f a) Q) :
    Above N ((Heap.liftR r).bind f) Q :=
  Above.bind (Above.liftR (Q := Any) fun _ _ => trivial) fun a _ => h a

def Kept (N : Nat) (st st' : Store) : Prop := (∀ b, b < N → st'[b]? = st[b]?) ∧ st.length ≤ st'.length

theorem Kept.refl (N : Nat) (st : Store) : Kept N st st := ⟨fun _ _ => rfl, Nat.le_refl _⟩

theorem Kept.trans {N : Nat} {st st1 st2 : Store} (h1 : Kept N st st1) (h2 : Kept N st1 st2) : Kept N st st2 :=
  ⟨fun b hb => (h2.1 b hb).trans (h1.1 b hb), Nat.le_trans h1.2 h2.2⟩

theorem Kept.mono {N M : Nat} {st st' : Store} (h : Kept M st st') (hNM : N ≤ M) : Kept N st st' :=
  ⟨fun b hb => h.1 b (Nat.lt_of_lt_of_le hb hNM), h.2⟩

theorem Kept.alloc (st : Store) (row : List GoVal) : Kept st.length st (st ++ [row]) :=
  ⟨fun _ hb => List.getElem?_append_left hb, by simp⟩

theorem Kept.set {N : Nat} {st : Store} {a : Nat} (ha : N ≤ a) (row : List GoVal) : Kept N st (st.set a row) :=
  ⟨fun b hb => by rw [List.getElem?_set_ne (by omega)], by simp⟩

theorem Above.keeps {α : Type} {N : Nat} {p : Prog α} {Q : α → Prop} (h : Above N p Q) {st : Store} {o : Out α}
    (hN : N ≤ st.length) (hr : run p st = .ok o) : Kept N st o.st ∧ (∀ l ∈ o.log, N ≤ l.1) ∧ Q o.val := by
  obtain ⟨ha, hq⟩ := h st o hN hr
  refine ⟨⟨fun b hb => ?_, (run_frame p st o hr).1⟩, ha, hq⟩
  exact run_frame_array hr (Nat.lt_of_lt_of_le hb hN) (fun l hl he => by have := ha l hl; omega)

theorem index_above (N : Nat) (s : Slice) (i : Nat) : Above N (index s i) Any := by
  unfold index
  cases s with
  | none => exact Above.halt
  | some r =>
    simp only
    split
    · exact Above.read fun v => Above.ret trivial
    · exact Above.halt

theorem readRange_above (N a : Nat) : ∀ n off, Above N (readRange a off n) Any
  | 0, _ => Above.ret trivial
  | n + 1, off => Above.read fun _ => Above.bind (readRange_above N a n (off + 1)) fun _ _ => Above.ret trivial

theorem elems_above (N : Nat) (s : Slice) : Above N (elems s) Any := by
  cases s with
  | none => exact Above.ret trivial
  | some r => exact readRange_above N r.arr r.len r.off

theorem writeRange_above {N a : Nat} (ha : N ≤ a) : ∀ vs off, Above N (writeRange a off vs) Any
  | [], _ => Above.ret trivial
  | _ :: vs, off => Above.write ha (writeRange_above ha vs (off + 1))

theorem setIndex_above {N : Nat} {s : Slice} (hs : Fresh N s) (i : Nat) (v : GoVal) :
    Above N (setIndex s i v) Any := by
  unfold setIndex
  cases s with
  | none => exact Above.halt
  | some r =>
    simp only
    split
    · exact Above.write (hs r rfl) (Above.ret trivial)
    · exact Above.halt

theorem make_above (N len cap : Nat) : Above N (make len cap) (Fresh N) := by
  unfold make
  split
  · exact Above.alloc fun a ha => Above.ret (fun r hr => by cases hr; exact ha)
  · exact Above.halt

/-- `append` writes into `s`'s own array or into a new one: at or above `N` when `s` is -/
theorem append_above {N : Nat} {s : Slice} (hs : Fresh N s) (vs : List GoVal) : Above N (append s vs) (Fresh N) := by
  unfold append
  split
  · cases s with
    | none => exact Above.ret (Fresh.none N)
    | some r =>
      simp only
      exact Above.bind (writeRange_above (hs r rfl) vs _) fun _ _ =>
        Above.ret (fun r' hr' => by cases hr'; exact hs r rfl)
  · exact Above.bind (elems_above N s) fun _ _ =>
      Above.alloc fun a ha => Above.ret (fun r hr => by cases hr; exact ha)

theorem copy_above {N : Nat} {dst : Slice} (hd : Fresh N dst) (src : Slice) : Above N (copy dst src) Any := by
  unfold copy
  cases dst with
  | none => exact Above.ret trivial
  | some d =>
    cases src with
    | none => exact Above.ret trivial
    | some s =>
      simp only
      exact Above.bind (readRange_above N _ _ _) fun _ _ =>
        Above.bind (writeRange_above (hd d rfl) _ _) fun _ _ => Above.ret trivial

theorem overwrite_above {N : Nat} {s : Slice} (hs : Fresh N s) (ys : List GoVal) : Above N (overwrite s ys) Any := by
  cases s with
  | none => exact Above.ret trivial
  | some r => exact writeRange_above (hs r rfl) ys r.off

theorem collectFrom_above {σ : Type} (N : Nat) (a : Slice) (step : σ → GoVal → Res Cause (σ × Option GoVal)) :
    ∀ n i s res, Fresh N res → Above N (collectFrom a step n i s res) (Fresh N)
  | 0, _, _, _, hres => Above.ret hres
  | n + 1, i, s, res, hres => by
    unfold collectFrom
    refine Above.bind (index_above N a i) fun item _ => Above.pure fun p => ?_
    cases hp : p.2 with
    | none => simp only; exact collectFrom_above N a step n (i + 1) p.1 res hres
    | some v =>
      simp only
      exact Above.bind (append_above hres [v]) fun res' hres' => collectFrom_above N a step n (i + 1) p.1 res' hres'

theorem collect_above {σ : Type} (N : Nat) (a : Slice) (step : σ → GoVal → Res Cause (σ × Option GoVal)) (s0 : σ)
    {res0 : Slice} (h : Fresh N res0) : Above N (collect a step s0 res0) (Fresh N) :=
  collectFrom_above N a step _ 0 s0 res0 h

theorem appendEach_above (N : Nat) : ∀ xs res, Fresh N res → Above N (appendEach res xs) (Fresh N)
  | [], _, h => Above.ret h
  | x :: xs, _, h => Above.bind (append_above h [x]) fun res' h' => appendEach_above N xs res' h'

theorem reverseLoop_above (N : Nat) (a : Slice) {result : Slice} (hr : Fresh N result) :
    ∀ n i, Above N (reverseLoop a result n i) Any
  | 0, _ => Above.ret trivial
  | n + 1, i => Above.bind (index_above N a i) fun x _ =>
      Above.bind (setIndex_above hr _ x) fun _ _ => reverseLoop_above N a hr n (i + 1)

theorem convElemwise_above (N : Nat) (s : Slice) : Above N (convElemwise s) (Fresh N) :=
  Above.bind (make_above N 0 _) fun _ hr => collect_above N s _ () hr

theorem convSlice_above (N : Nat) (t : Ty) (s : Slice) : Above N (convSlice t s) Any := by
  unfold convSlice
  split
  · refine Above.bind (elems_above N s) fun xs _ => ?_
    split
    · exact (convElemwise_above N s).any
    · exact Above.ret trivial
  · exact (convElemwise_above N s).any

theorem freshSlice_above (N : Nat) (ys : List GoVal) : Above N (freshSlice ys) (Fresh N) :=
  Above.bind (make_above N 0 _) fun _ hr => appendEach_above N ys _ hr

theorem convertAnys_above (N : Nat) (v : HVal) : Above N (convertAnys v) Any := by
  unfold convertAnys
  split
  · exact convSlice_above N _ _
  · exact Above.ret trivial
  · split
    · exact Above.alloc fun a _ => convSlice_above N _ _
    · split
      · exact (freshSlice_above N _).any
      · exact Above.halt
      · exact Above.halt
      · exact Above.halt
      · exact Above.halt

theorem compactH_above (N : Nat) (a : Slice) : Above N (compactH a) (Fresh N) :=
  collect_above N a _ () (Fresh.none N)

theorem concatH_above (N : Nat) (a b : Slice) : Above N (concatH a b) (Fresh N) :=
  Above.bind (make_above N 0 _) fun _ h0 => Above.bind (elems_above N a) fun xs _ =>
    Above.bind (append_above h0 xs) fun _ h1 => Above.bind (elems_above N b) fun ys _ => append_above h1 ys

theorem reverseH_above (N : Nat) (a : Slice) : Above N (reverseH a) (Fresh N) :=
  Above.bind (make_above N _ _) fun _ h0 => Above.bind (reverseLoop_above N a h0 _ 0) fun _ _ => Above.ret h0

theorem firstH_above (N : Nat) (a : Slice) : Above N (firstH a) Any := by
  unfold firstH
  split
  · exact Above.ret trivial
  · exact index_above N a 0

theorem lastH_above (N : Nat) (a : Slice) : Above N (lastH a) Any := by
  unfold lastH
  split
  · exact Above.ret trivial
  · exact index_above N a _

theorem joinH_above (N : Nat) (a : Slice) (sep : Bytes) : Above N (joinH a sep) Any :=
  Above.bind (make_above N 0 _) fun _ h0 => Above.bind (collect_above N a _ () h0) fun ss _ =>
    Above.bind (elems_above N ss) fun _ _ => Above.ret trivial

theorem mapH_above (N : Nat) (a : Slice) (k : Bytes) : Above N (mapH a k) (Fresh N) :=
  collect_above N a _ () (Fresh.none N)

theorem uniqH_above (N : Nat) (a : Slice) : Above N (uniqH a) (Fresh N) :=
  collect_above N a _ [] (Fresh.none N)

theorem sortH_above (N : Nat) (strict natural : Bool) (a : Slice) (key : GoVal) : Above N (sortH strict natural a key) (Fresh N) :=
  Above.bind (make_above N _ _) fun result h0 => Above.bind (copy_above h0 a) fun _ _ =>
    Above.bind (elems_above N result) fun _ _ => Above.pure fun ys =>
      Above.bind (overwrite_above h0 ys) fun _ _ => Above.ret h0

theorem freeze_above (N : Nat) (h : HVal) : Above N (freeze h) Any := by
  cases h with
  | val v => exact Above.ret trivial
  | sl t s => exact Above.bind (elems_above N s) fun _ _ => Above.ret trivial

theorem freezeOpt_above (N : Nat) (h : Option HVal) : Above N (freezeOpt h) Any := by
  cases h with
  | none => exact Above.ret trivial
  | some h => exact Above.bind (freeze_above N h) fun _ _ => Above.ret trivial

theorem sepOf_above (N : Nat) (h : Option HVal) : Above N (sepOf h) Any := by
  cases h with
  | none => exact Above.ret trivial
  | some h =>
    refine Above.bind (freeze_above N h) fun g _ => Above.pure fun w => ?_
    split
    · exact Above.ret trivial
    · exact Above.halt

theorem strArg_above (N : Nat) (h : Option HVal) : Above N (strArg h) Any := by
  refine Above.bind (freezeOpt_above N h) fun og _ => Above.pure fun w => ?_
  split
  · exact Above.ret trivial
  · exact Above.halt

theorem anyArg_above (N : Nat) (h : Option HVal) : Above N (anyArg h) Any :=
  Above.bind (freezeOpt_above N h) fun _ _ => Above.liftR fun _ _ => trivial

theorem sizeH_above (N : Nat) (recv : HVal) : Above N (sizeH recv) Any := by
  cases recv with
  | sl t s => exact Above.ret trivial
  | val v =>
    refine Above.pure fun c => ?_
    split
    · exact Above.ret trivial
    all_goals exact Above.halt

def FreshVal (N : Nat) (v : HVal) : Prop := ∃ r, v = .sl .any r ∧ Fresh N r

/-- what filter `f` returns: a slice that is nil or lies in an array at or above `N`; a value; for `default` its
receiver or its argument, whatever that is -/
def FName.ResultIs (N : Nat) : FName → HVal → Prop
  | .compact | .concat | .map | .reverse | .sort | .sortNatural | .uniq => FreshVal N
  | .first | .last | .join | .size => fun v => ∃ w, v = .val w
  | .default => Any

theorem Above.slResult {N : Nat} {p : Prog Slice} (h : Above N p (Fresh N)) :
    Above N (p.bind fun r => .ret (.sl .any r)) (FreshVal N) :=
  Above.bind h fun r hr => Above.ret ⟨r, rfl, hr⟩

theorem Above.valResult {N : Nat} {p : Prog GoVal} (h : Above N p Any) :
    Above N (p.bind fun r => .ret (.val r)) (fun v : HVal => ∃ w, v = .val w) :=
  Above.bind h fun r _ => Above.ret ⟨r, rfl⟩

theorem bodyF_result (N : Nat) (strict : Bool) (f : FName) (recv : HVal) (args : List HVal) :
    Above N (bodyF strict f recv args) (f.ResultIs N) := by
  cases f <;> unfold bodyF
  · exact Above.bind (convertAnys_above N recv) fun a _ => (compactH_above N a).slResult
  · exact Above.bind (convertAnys_above N recv) fun a _ => Above.bind (convertAnys_above N _) fun b _ =>
      (concatH_above N a b).slResult
  · exact Above.bind (convertAnys_above N recv) fun a _ => Above.bind (sepOf_above N _) fun sep _ =>
      (joinH_above N a sep).valResult
  · exact Above.bind (convertAnys_above N recv) fun a _ => Above.bind (strArg_above N _) fun k _ =>
      (mapH_above N a k).slResult
  · exact Above.bind (convertAnys_above N recv) fun a _ => (reverseH_above N a).slResult
  · exact Above.bind (convertAnys_above N recv) fun a _ => Above.bind (anyArg_above N _) fun key _ =>
      (sortH_above N strict false a key).slResult
  · exact Above.bind (convertAnys_above N recv) fun a _ => Above.bind (anyArg_above N _) fun key _ =>
      (sortH_above N strict true a key).slResult
  · exact Above.bind (convertAnys_above N recv) fun a _ => (firstH_above N a).valResult
  · exact Above.bind (convertAnys_above N recv) fun a _ => (lastH_above N a).valResult
  · exact Above.bind (convertAnys_above N recv) fun a _ => (uniqH_above N a).slResult
  · exact (sizeH_above N recv).valResult
  · exact Above.pure fun _ =>
      Above.pure fun _ => Above.ret trivial

/-- `ValueOf(..).Interface()` on the result leaves a slice header alone and turns a value into a value -/
theorem FName.ResultIs.post {N : Nat} {f : FName} {v : HVal} (h : f.ResultIs N v) : f.ResultIs N v.post := by
  cases f <;> first
    | (obtain ⟨r, rfl, hr⟩ := h; exact ⟨r, rfl, hr⟩)
    | (obtain ⟨w, rfl⟩ := h; exact ⟨_, rfl⟩)
    | trivial

theorem stageF_result (N : Nat) (strict : Bool) (f : FName) (recv : HVal) (args : List HVal) :
    Above N (stageF strict f recv args) (f.ResultIs N) := by
  unfold stageF
  split
  · exact Above.halt
  · exact Above.bind (bodyF_result N strict f _ _) fun _ hr => Above.ret hr.post

theorem stage_above (N : Nat) (strict : Bool) (name : Bytes) (recv : HVal) (args : List HVal) :
    Above N (stage strict name recv args) Any := by
  unfold stage
  split
  · exact (stageF_result N strict _ recv args).any
  · exact Above.halt

theorem runChainF_above (N : Nat) (strict : Bool) : ∀ chain v, Above N (runChainF strict v chain) Any
  | [], _ => Above.ret trivial
  | (f, args) :: rest, v => Above.bind (stageF_result N strict f v args) fun r _ => runChainF_above N strict rest r

theorem runChain_above (N : Nat) (strict : Bool) : ∀ chain v, Above N (runChain strict v chain) Any
  | [], _ => Above.ret trivial
  | (name, args) :: rest, v => Above.bind (stage_above N strict name v args) fun r _ => runChain_above N strict rest r

/-- `r` (a run on the memory) answers as the pure computation `p` does: the same error, panic or `unmodelled`,
and when `p` succeeds with `b` the run succeeds with a value and a store related to `b` by `Q` -/
def Refines {α β : Type} (r : Res Cause (Out α)) (p : Res Cause β) (Q : α → Store → β → Prop) : Prop :=
  match p with
  | .ok b => ∃ o, r = .ok o ∧ Q o.val o.st b
  | .err c => r = .err c
  | .panic w => r = .panic w
  | .unmodelled w => r = .unmodelled w

theorem Refines.bind_ok {α β γ : Type} {p : Prog α} {f : α → Prog β} {st : Store} {o1 : Out α} {pr : Res Cause γ}
    {Q : β → Store → γ → Prop} (h1 : run p st = .ok o1) (h2 : Refines (run (f o1.val) o1.st) pr Q) :
    Refines (run (p.bind f) st) pr Q := by
  rw [run_bind, h1]
  unfold thenRun
  cases pr with
  | ok b =>
    obtain ⟨o2, e2, q2⟩ := h2
    simp only [e2]
    exact ⟨_, rfl, q2⟩
  | _ => simp only [Refines] at h2 ⊢; rw [h2]

theorem Refines.post {α β : Type} {r : Res Cause (Out α)} {p : Res Cause β} {Q Q' : α → Store → β → Prop}
    (h : Refines r p Q) (hq : ∀ a st b, Q a st b → Q' a st b) : Refines r p Q' := by
  cases p with
  | ok b => obtain ⟨o, e, q⟩ := h; exact ⟨o, e, hq _ _ _ q⟩
  | _ => exact h

theorem Refines.bind {α β γ δ : Type} {p : Prog α} {f : α → Prog β} {st : Store} {x : Res Cause γ} {g : γ → Res Cause δ}
    {Q1 : α → Store → γ → Prop} {Q2 : β → Store → δ → Prop}
    (h1 : Refines (run p st) x Q1) (h2 : ∀ v st1 b, Q1 v st1 b → Refines (run (f v) st1) (g b) Q2) :
    Refines (run (p.bind f) st) (x.bind g) Q2 := by
  cases x with
  | ok b =>
    obtain ⟨o1, e1, q1⟩ := h1
    exact Refines.bind_ok e1 (h2 _ _ _ q1)
  | _ => simp only [Refines] at h1; simp only [Res.bind, Refines]; rw [run_bind, h1]; rfl

theorem Refines.ret {α β : Type} {a : α} {st : Store} {b : β} {Q : α → Store → β → Prop} (h : Q a st b) :
    Refines (run (.ret a) st) (.ok b) Q := ⟨⟨a, st, []⟩, rfl, h⟩

theorem Refines.bind_pure {α β γ : Type} {r : Res Cause (Out α)} {x : Res Cause β} {g : β → γ}
    {Q : α → Store → β → Prop} {Q' : α → Store → γ → Prop}
    (h : Refines r x Q) (hq : ∀ v st b, Q v st b → Q' v st (g b)) : Refines r (x.bind fun b => .ok (g b)) Q' := by
  cases x with
  | ok b => obtain ⟨o, e, q⟩ := h; exact ⟨o, e, hq _ _ _ q⟩
  | _ => exact h

theorem view_some {st : Store} {r : SliceRef} {row : List GoVal} (h : st[r.arr]? = some row) :
    view st (some r) = (row.drop r.off).take r.len := by
  simp [view, h]

theorem view_getElem? {st : Store} {r : SliceRef} {row : List GoVal} (h : st[r.arr]? = some row) (j : Nat) :
    (view st (some r))[j]? = if j < r.len then row[r.off + j]? else none := by
  rw [view_some h, List.getElem?_take, List.getElem?_drop]

theorem view_length_wf {st : Store} {s : Slice} (h : Slice.wf st s) : (view st s).length = lenS s := by
  cases s with
  | none => rfl
  | some r =>
    obtain ⟨hlc, row, hr, hb⟩ := h
    rw [view_some hr, List.length_take, List.length_drop, lenS]
    omega

theorem Slice.below_of_wf {st : Store} {a : Slice} (hw : Slice.wf st a) : ∀ r, a = some r → r.arr < st.length := by
  intro r hr
  subst hr
  obtain ⟨_, row, h, _⟩ := hw
  exact lt_of_getElem?_some h

theorem Kept.slice_below {st st' : Store} {N : Nat} {a : Slice} (hk : Kept N st st') (ha : ∀ r, a = some r → r.arr < N)
    (hw : Slice.wf st a) : Slice.wf st' a ∧ view st' a = view st a := by
  cases a with
  | none => exact ⟨trivial, rfl⟩
  | some r =>
    -- header and contents of a slice depend on its own array only
    have e := hk.1 _ (ha r rfl)
    obtain ⟨h1, row, hr, hb⟩ := hw
    exact ⟨⟨h1, row, e.trans hr, hb⟩, by simp only [view, e]⟩

theorem Kept.slice {st st' : Store} {a : Slice} (hk : Kept st.length st st') (hw : Slice.wf st a) :
    Slice.wf st' a ∧ view st' a = view st a :=
  hk.slice_below (Slice.below_of_wf hw) hw

theorem run_readRange {st : Store} {a : Nat} {row : List GoVal} (hr : st[a]? = some row) :
    ∀ n off, off + n ≤ row.length → run (readRange a off n) st = .ok ⟨(row.drop off).take n, st, []⟩
  | 0, off, _ => by simp [readRange, run]
  | n + 1, off, hb => by
    have hlt : off < row.length := by omega
    have hread : readAt st a off = some row[off] := by
      simp [readAt, hr, List.getElem?_eq_getElem hlt]
    simp only [readRange, run, hread]
    rw [run_bind, run_readRange hr n (off + 1) (by omega)]
    simp only [thenRun, run, List.append_nil]
    rw [List.drop_eq_getElem_cons hlt, List.take_succ_cons]

theorem run_elems {st : Store} {s : Slice} (hw : Slice.wf st s) : run (elems s) st = .ok ⟨view st s, st, []⟩ := by
  cases s with
  | none => rfl
  | some r =>
    obtain ⟨hlc, row, hr, hb⟩ := hw
    simp only [elems]
    rw [run_readRange hr r.len r.off (by omega), view_some hr]

/-- a block store as a whole: the row before `off`, the new elements, the row behind them -/
theorem run_writeRange : ∀ (vs : List GoVal) {st : Store} {a : Nat} {row : List GoVal} (off : Nat), st[a]? = some row →
    off + vs.length ≤ row.length →
    ∃ log, run (writeRange a off vs) st = .ok ⟨(), st.set a (row.take off ++ vs ++ row.drop (off + vs.length)), log⟩
  | [], st, a, row, off, hr, _ => by
    obtain ⟨h, rfl⟩ := List.getElem?_eq_some_iff.mp hr
    refine ⟨[], ?_⟩
    simp only [writeRange, run, List.append_nil, List.length_nil, Nat.add_zero, List.take_append_drop, List.set_getElem_self h]
  | v :: vs, st, a, row, off, hr, hb => by
    simp only [List.length_cons] at hb
    have ha := lt_of_getElem?_some hr
    have hlt : off < row.length := by omega
    have hw : writeAt st a off v = some (st.set a (row.set off v)) := by simp [writeAt, hr, hlt]
    obtain ⟨log, hrun⟩ := run_writeRange vs (row := row.set off v) (off + 1) (List.getElem?_set_self ha) (by simp; omega)
    refine ⟨(a, off) :: log, ?_⟩
    simp only [writeRange, run, hw, hrun, logged, List.set_set]
    -- the row after the first store, cut at `off + 1`, is the row cut at `off` with `v` between the two parts
    rw [List.take_add_one, List.take_set_of_le (Nat.le_refl off), List.getElem?_set_self hlt, List.drop_set_of_lt (by omega)]
    simp [Nat.add_comm, Nat.add_left_comm]

theorem length_block {row vs : List GoVal} {p : Nat} (h : p + vs.length ≤ row.length) :
    (row.take p ++ vs ++ row.drop (p + vs.length)).length = row.length := by
  rw [List.length_append, List.length_append, List.length_take_of_le (Nat.le_trans (Nat.le_add_right ..) h), List.length_drop,
    Nat.add_sub_of_le h]

/-- what a slice reads after a block store behind its first `k` elements -/
theorem view_block {st : Store} {a off cap : Nat} {row : List GoVal} (hr : st[a]? = some row) (k : Nat)
    (vs : List GoVal) (hb : off + k + vs.length ≤ row.length) :
    view (st.set a (row.take (off + k) ++ vs ++ row.drop (off + k + vs.length))) (some ⟨a, off, k + vs.length, cap⟩) =
      (row.drop off).take k ++ vs := by
  have h1 : (row.take off).length = off := List.length_take_of_le (by omega)
  rw [view_some (r := ⟨a, off, k + vs.length, cap⟩) (List.getElem?_set_self (lt_of_getElem?_some hr)),
    List.take_add (i := off) (l := row), List.append_assoc, List.append_assoc, List.drop_left' h1, ← List.append_assoc]
  exact List.take_left' (by simp; omega)

theorem view_alloc (st : Store) (row : List GoVal) (n c : Nat) :
    view (st ++ [row]) (some ⟨st.length, 0, n, c⟩) = row.take n := by
  rw [view_some (r := ⟨st.length, 0, n, c⟩) List.getElem?_concat_length]
  rfl

theorem wf_alloc {st : Store} {row : List GoVal} {n c : Nat} (hn : n ≤ c) (hc : c ≤ row.length) :
    SliceRef.wf (st ++ [row]) ⟨st.length, 0, n, c⟩ :=
  ⟨hn, row, List.getElem?_concat_length, by simpa using hc⟩

theorem run_make {st : Store} {len cap : Nat} (h : len ≤ cap) :
    run (make len cap) st = .ok ⟨some ⟨st.length, 0, len, cap⟩, st ++ [List.replicate cap .nil], []⟩ := by
  simp [make, h, run]

theorem growCap_ge (old need : Nat) : need ≤ growCap old need := Nat.le_max_left _ _

end Heap
