import Proofs.ExprSpacing
import Proofs.Numerals
/-!
# Literals from their source bytes

An integer literal denotes `decVal` of its digits (`Proofs/Numerals.lean`; leading zeros allowed) and `natDec`/`intDec`
(the model of `strconv.Itoa`, `Liquid/Sprint.lean`) print it back. `parseExprSource_lit`: a source
that consists of one literal lexeme parses to that literal.
-/

theorem digits_head_ne_minus (ds : Bytes) (hne : ds ≠ []) (hd : ds.all isDigit = true) :
    ∃ d t, ds = d :: t ∧ d ≠ 45 := by
  cases ds with
  | nil => exact absurd rfl hne
  | cons d t =>
    simp only [List.all_cons, Bool.and_eq_true] at hd
    exact ⟨d, t, rfl, beq_eq_false_iff_ne.1 (digit_ne_minus d hd.1)⟩

theorem intLitValue_pos (ds : Bytes) (hne : ds ≠ []) (hd : ds.all isDigit = true) :
    intLitValue ds = if IntKind.i64.inRange (decVal ds : Int) then some (decVal ds : Int) else none := by
  obtain ⟨d, t, rfl, hd45⟩ := digits_head_ne_minus ds hne hd
  unfold intLitValue decVal
  split
  · rename_i heq
    split at heq
    · rename_i h2; cases h2; exact absurd rfl hd45
    · cases heq; simp

theorem intLitValue_neg (ds : Bytes) :
    intLitValue (45 :: ds) = if IntKind.i64.inRange (-(decVal ds : Int)) then some (-(decVal ds : Int)) else none := by
  unfold intLitValue decVal
  rfl

theorem lexeme_intDec (n : Int) : Lexeme .rInt (intDec n) := by
  unfold intDec
  split
  · exact Lexeme.int [45] (natDec n.natAbs) (Or.inr rfl) (natDec_ne_nil _) (natDec_all_digits _)
  · exact Lexeme.int [] (natDec n.natAbs) (Or.inl rfl) (natDec_ne_nil _) (natDec_all_digits _)

theorem mkTok_intDec (n : Int) (h : IntKind.i64.inRange n = true) : mkTok .rInt (intDec n) = .ok (some (.lit (.int .int n))) := by
  unfold intDec
  by_cases hn : n < 0
  · have hv : -(n.natAbs : Int) = n := by omega
    simp only [hn, if_true, mkTok, intLitValue_neg, decVal_natDec, hv, h]
  · have hv : (n.natAbs : Int) = n := by omega
    simp only [hn, if_false, mkTok, intLitValue_pos _ (natDec_ne_nil _) (natDec_all_digits _), decVal_natDec, hv, h, if_true]

theorem mkTok_string (q : UInt8) (s : Bytes) : mkTok .rString (q :: s ++ [q]) = .ok (some (.lit (.str s))) := by
  simp only [mkTok, List.cons_append, List.drop_succ_cons, List.drop_zero, List.length_cons, List.length_append,
    List.length_nil]
  have : s.length + 0 + 1 + 1 - 2 = s.length := by omega
  rw [this, List.take_left' rfl]

theorem mkTok_keyword (w : Bytes) : mkTok .rKeyword (w ++ [58]) = .ok (some (.keyword w)) := by
  rw [mkTok, List.length_append, List.length_singleton, Nat.add_sub_cancel, List.take_left' rfl]

theorem takeWhile_digits (ds rest : Bytes) (hd : ds.all isDigit = true) :
    (ds ++ 46 :: rest).takeWhile isDigit = ds := by
  induction ds with
  | nil => simp [isDigit]
  | cons d t ih =>
    simp only [List.all_cons, Bool.and_eq_true] at hd
    simp [hd.1, ih hd.2]

/-- the float a literal `ds.fs` denotes: the exact decimal rounded to `float64`
    (`none`: out of range, a syntax error) -/
def floatOfDigits (ds fs : Bytes) : Option Rat := roundF64 (decimalOfDigits ds fs)

theorem floatLitValue_pos (ds fs : Bytes) (hne : ds ≠ []) (hd : ds.all isDigit = true) :
    floatLitValue (ds ++ 46 :: fs) = (match floatOfDigits ds fs with
      | none => some none
      | some r => some (some r)) := by
  obtain ⟨d, t, rfl, hd45⟩ := digits_head_ne_minus ds hne hd
  have htw := takeWhile_digits (d :: t) fs hd
  have hdrop : List.drop ((d :: t).length + 1) (d :: t ++ 46 :: fs) = fs := by
    have : d :: t ++ 46 :: fs = (d :: t ++ [46]) ++ fs := by simp
    rw [this]; exact List.drop_left' (by simp)
  unfold floatLitValue floatOfDigits
  split
  · rename_i heq
    split at heq
    · rename_i h2; simp only [List.cons_append, List.cons.injEq] at h2; exact absurd h2.1 hd45
    · cases heq
      simp only [htw, hdrop, Bool.false_and, Bool.false_eq_true, if_false]
      rfl

theorem floatLitValue_neg (ds fs : Bytes) (hd : ds.all isDigit = true) :
    floatLitValue (45 :: (ds ++ 46 :: fs)) = (match floatOfDigits ds fs with
      | none => some none
      | some r => if r == 0 then none else some (some (-r))) := by
  have htw := takeWhile_digits ds fs hd
  have hdrop : List.drop (ds.length + 1) (ds ++ 46 :: fs) = fs := by
    have : ds ++ 46 :: fs = (ds ++ [46]) ++ fs := by simp
    rw [this]; exact List.drop_left' (by simp)
  simp only [floatLitValue, floatOfDigits, htw, hdrop, Bool.true_and, if_true]
  rfl

theorem lexRun_single (r : Rule) (l : Bytes) (hl : Lexeme r l) :
    lexRun (l ++ [59]) = consTok (mkTok r l) ([.ch 59], none) := by
  rw [lexRun_append l [59] r hl.ne_nil (lexStep_lexeme r l [59] hl (fits_break r l 59 [] hl (by decide)))]
  rfl

theorem parseTokens_lit (v : GoVal) : parseTokensE [.lit v, .ch 59] = some (.expr (.lit v)) := rfl

/-- a source that is one lexeme: its token alone in front of the closing `;` is what the grammar sees -/
theorem parseExprSource_single (r : Rule) (l : Bytes) (tok : ETok) (e : Expr) (hl : Lexeme r l) (hv : mkTok r l = .ok (some tok))
    (hp : parseTokensE [tok, .ch 59] = some (.expr e)) : parseExprSource l = .ok e := by
  unfold parseExprSource
  rw [parseSource_eq, lexRun_single r l hl, hv]
  simp only [consTok, parseOfLex, hp]

theorem parseExprSource_lit (r : Rule) (l : Bytes) (v : GoVal) (hl : Lexeme r l) (hv : mkTok r l = .ok (some (.lit v))) :
    parseExprSource l = .ok (.lit v) :=
  parseExprSource_single r l (.lit v) (.lit v) hl hv (parseTokens_lit v)

theorem parseExprSource_lit_err (r : Rule) (l : Bytes) (hl : Lexeme r l) (hv : mkTok r l = .err .syntax) :
    parseExprSource l = .err .syntax := by
  unfold parseExprSource
  rw [parseSource_eq, lexRun_single r l hl, hv]
  simp only [consTok, parseOfLex]
