import Liquid.Filters.Arr
import Liquid.Filters.Num
import Liquid.Std
import Proofs.CompareLemmas
import Proofs.InsertionSort
import Proofs.NumLemmas
import Proofs.CallLemmas
/-!
# Lemmas about the array filters (C15; `Proofs/RepEqFilters.lean` uses them for C18)

`values.Less` on a homogeneous array is the strict part of a total order of sort keys (`homog_keyOrder`), hence a
strict weak order there (`homog_swo`; `homogBy_swo` for `sort: key`). `sortF` / `sortByF` / `sortNatF` are `sortPath`
(`Proofs/InsertionSort.lean`) by `values.Less`, by the key, by the sort texts, so permutations, and sorted and equal to
`mergeSort` by "not greater" on a strict weak order; they are what the models `sortM` / `sortByM` / `sortNatM` answer
(`sortPathM_eq`). Then `uniqOn` (first occurrences), the simple bodies as list functions (`compactF_eq_filter`,
`reverseF_eq`, `lastF_eq`, …), and `impl_size`: the body the standard table holds for `size`.
-/

open Cmp (toLiq lessTL less joinKind rkind)

/-- `sortPath` over a comparator that may not answer, as the filters' models have it: beyond 12 elements they answer,
with the `mergeSort`, only where the test `c` holds. `ArrF.sortM xs` and `ArrF.sortByM key xs` unfold to it (`sortLe a b` is
`!lessB b a`, `sortByLe` likewise), which is why `sortM_eq`, `sortByM_eq` below are `sortPathM_eq` as it stands -/
def sortPathM {α : Type} (ltM : α → α → ArrF.R Bool) (c : Bool) (lt : α → α → Bool) (xs : List α) : ArrF.R (List α) :=
  if xs.length ≤ maxInsertion then insertionSortM ltM xs
  else if !c then ArrF.notSWO else .ok (xs.mergeSort fun a b => !lt b a)

theorem sortPathM_eq {α : Type} {ltM : α → α → ArrF.R Bool} {lt : α → α → Bool} {xs : List α}
    (hlt : ∀ a ∈ xs, ∀ b ∈ xs, ltM a b = .ok (lt a b)) (c : Bool) :
    (∀ ys, sortPathM ltM c lt xs = .ok ys → ys = sortPath lt xs) ∧
    (xs.length ≤ maxInsertion ∨ c = true → sortPathM ltM c lt xs = .ok (sortPath lt xs)) := by
  unfold sortPathM sortPath
  by_cases hl : xs.length ≤ maxInsertion
  · simp only [hl, if_true, insertionSortM_eq hlt, Res.ok.injEq]
    exact ⟨fun ys h => h.symm, fun _ => trivial⟩
  · simp only [hl, if_false]
    cases c
    · simp [ArrF.notSWO]
    · simp

/-- nil-first lift of a preorder of keys to optional keys -/
def optLe {κ : Type} (kle : κ → κ → Prop) : Option κ → Option κ → Prop
  | none, _ => True
  | some _, none => False
  | some a, some b => kle a b

theorem optLe_trans {κ : Type} {kle : κ → κ → Prop} (ktrans : ∀ a b c, kle a b → kle b c → kle a c) :
    ∀ a b c, optLe kle a b → optLe kle b c → optLe kle a c
  | none, _, _, _, _ => trivial
  | some _, none, _, h, _ => h.elim
  | some _, some _, none, _, h => h.elim
  | some _, some _, some _, h1, h2 => ktrans _ _ _ h1 h2

theorem optLe_total {κ : Type} {kle : κ → κ → Prop} (ktotal : ∀ a b, kle a b ∨ kle b a) :
    ∀ a b, optLe kle a b ∨ optLe kle b a
  | none, _ => .inl trivial
  | some _, none => .inr trivial
  | some a, some b => ktotal a b

namespace ArrF

def intKey (v : GoVal) : Int := match toLiq v with | .int _ n => n | _ => 0
def numKey (v : GoVal) : Rat := match toLiq v with | .int _ n => (n : Rat) | .flt _ q => q | _ => 0
def strKey (v : GoVal) : Bytes := match toLiq v with | .str s => s | _ => []
def boolKey (v : GoVal) : Bool := match toLiq v with | .bool b => b | _ => false

/-- an integer of an unsigned kind is not negative (true of every Go value) -/
def IntWF (v : GoVal) : Prop := match toLiq v with | .int k n => Cmp.intOK k n | _ => True

/-- `Less` as the sort uses it: `Scalar.lt` on the scalars the two operands yield, false when either is none -/
theorem lessB_eq (a b : GoVal) : lessB a b = Cmp.ltO (Cmp.scalar (toLiq a)) (Cmp.scalar (toLiq b)) := by
  rw [lessB, less, Cmp.lessTL_eq]

theorem lessB_int {a b : GoVal} {k k' : IntKind} {n m : Int}
    (ha : toLiq a = .int k n) (hb : toLiq b = .int k' m) (wa : Cmp.intOK k n) (wb : Cmp.intOK k' m) :
    lessB a b = decide (n < m) := by
  rw [lessB_eq, ha, hb]
  show (Cmp.cmpInt k.isSigned n k'.isSigned m == .lt) = _
  rw [Cmp.cmpInt_eq_compare wa wb, Bool.eq_iff_iff]
  simp [Int.compare_eq_lt]

theorem lessB_nil_right {a b : GoVal} (hb : toLiq b = .nil) : lessB a b = false := by
  rw [lessB_eq, hb]
  cases Cmp.scalar (toLiq a) <;> rfl

theorem less_eq_lessB (a b : GoVal) : less a b = .ok (lessB a b) := by
  rw [lessB, less, Cmp.lessTL_eq]

theorem lessByKeyM_eq (key : Bytes) (a b : GoVal) : lessByKeyM key a b = .ok (lessByKey key a b) := by
  unfold lessByKeyM lessByKey
  split <;> simp [less_eq_lessB]

theorem kclass_other_scalar {a : GoVal} (h : kclass a = .other) : Cmp.scalar (toLiq a) = none := by
  unfold kclass at h
  cases ht : toLiq a <;> simp_all [Cmp.scalar]

theorem lessB_other_right {a b : GoVal} (h : kclass b = .other) : lessB a b = false := by
  rw [lessB_eq, kclass_other_scalar h]
  cases Cmp.scalar (toLiq a) <;> rfl

theorem kclass_of_isClass {c : KClass} {a : GoVal} (h : isClass c a = true) : kclass a = c := eq_of_beq h

theorem isClass_int {a : GoVal} (h : isClass .int a = true) : ∃ k n, toLiq a = .int k n := by
  unfold isClass kclass at h
  split at h <;> first | exact ⟨_, _, ‹_›⟩ | cases h
theorem isClass_str {a : GoVal} (h : isClass .str a = true) : ∃ s, toLiq a = .str s := by
  unfold isClass kclass at h
  split at h <;> first | exact ⟨_, ‹_›⟩ | cases h
theorem isClass_bool {a : GoVal} (h : isClass .bool a = true) : ∃ b, toLiq a = .bool b := by
  unfold isClass kclass at h
  split at h <;> first | exact ⟨_, ‹_›⟩ | cases h
theorem isClass_nil {a : GoVal} (h : isClass .nil a = true) : toLiq a = .nil := by
  unfold isClass kclass at h
  split at h <;> first | assumption | cases h

theorem IntWF.intOK {a : GoVal} {k : IntKind} {n : Int} (h : IntWF a) (ea : toLiq a = .int k n) : Cmp.intOK k n := by
  simpa [IntWF, ea] using h

theorem smallNum_cases {a : GoVal} (h : smallNum a = true) :
    (∃ k n, toLiq a = .int k n ∧ n.natAbs ≤ 2 ^ 53) ∨ (∃ k q, toLiq a = .flt k q) := by
  unfold smallNum at h
  split at h
  · exact .inl ⟨_, _, ‹_›, of_decide_eq_true h⟩
  · exact .inr ⟨_, _, ‹_›⟩
  · cases h

/-- On a homogeneous list `Less` is the strict part of a total *order* of sort keys, and the
canonical key text of the `sortc` line is a function of that key. -/
theorem homog_keyOrder (ks : List GoVal) (h : homog ks = true) (hw : ∀ x ∈ ks, IntWF x) :
    ∃ (κ : Type) (key : GoVal → κ) (kle : κ → κ → Prop) (shw : κ → String),
      (∀ a b c, kle a b → kle b c → kle a c) ∧ (∀ a b, kle a b ∨ kle b a) ∧
      (∀ a b, kle a b → kle b a → a = b) ∧
      (∀ a ∈ ks, ∀ b ∈ ks, (lessB a b = true ↔ ¬ kle (key b) (key a))) ∧
      (∀ a ∈ ks, canonKey a = shw (key a)) := by
  simp only [homog, Bool.or_eq_true, List.all_eq_true] at h
  rcases h with ((((hi | hn) | hs) | hb) | hnil) | ho
  · refine ⟨Int, intKey, (· ≤ ·), (fun n => ratText n 1), fun a b c => Int.le_trans, fun a b => Int.le_total a b,
      fun a b => Int.le_antisymm, ?_, ?_⟩
    · intro a ha b hb
      obtain ⟨k, n, ea⟩ := isClass_int (hi a ha)
      obtain ⟨k', m, eb⟩ := isClass_int (hi b hb)
      rw [lessB_int ea eb ((hw a ha).intOK ea) ((hw b hb).intOK eb)]
      simp [intKey, ea, eb]
    · intro a ha
      obtain ⟨k, n, ea⟩ := isClass_int (hi a ha)
      simp [canonKey, intKey, ea]
  · refine ⟨Rat, numKey, (· ≤ ·), (fun q => ratText q.num q.den), fun _ _ _ => Rat.le_trans, fun _ _ => Rat.le_total,
      fun a b => Rat.le_antisymm, ?_, ?_⟩
    · intro a ha b hb
      rcases smallNum_cases (hn a ha) with ⟨k, n, ea, sa⟩ | ⟨k, q, ea⟩ <;>
        rcases smallNum_cases (hn b hb) with ⟨k', m, eb, sb⟩ | ⟨k', r, eb⟩
      · rw [lessB_int ea eb ((hw a ha).intOK ea) ((hw b hb).intOK eb)]
        simp [numKey, ea, eb, Rat.not_le, Rat.intCast_lt_intCast]
      · rw [lessB_eq, ea, eb]
        simp [Cmp.ltO, Cmp.scalar, Cmp.Scalar.lt, Cmp.f64OfInt_exact sa, numKey, ea, eb, Rat.not_le]
      · rw [lessB_eq, ea, eb]
        simp [Cmp.ltO, Cmp.scalar, Cmp.Scalar.lt, Cmp.f64OfInt_exact sb, numKey, ea, eb, Rat.not_le]
      · rw [lessB_eq, ea, eb]
        simp [Cmp.ltO, Cmp.scalar, Cmp.Scalar.lt, numKey, ea, eb, Rat.not_le]
    · intro a ha
      rcases smallNum_cases (hn a ha) with ⟨k, n, ea, _⟩ | ⟨k, q, ea⟩ <;> simp [canonKey, numKey, ea]
  · refine ⟨Bytes, strKey, (· ≤ ·), (fun s => "s" ++ hexEncode s), fun _ _ _ => List.le_trans, List.le_total,
      fun a b => List.le_antisymm, ?_, ?_⟩
    · intro a ha b hb
      obtain ⟨s, ea⟩ := isClass_str (hs a ha)
      obtain ⟨t, eb⟩ := isClass_str (hs b hb)
      rw [lessB_eq, ea, eb]
      simp [Cmp.ltO, Cmp.scalar, Cmp.Scalar.lt, Cmp.bytesLt, strKey, ea, eb, List.not_le]
    · intro a ha
      obtain ⟨s, ea⟩ := isClass_str (hs a ha)
      simp [canonKey, strKey, ea]
  · refine ⟨Bool, boolKey, (fun x y => x = true → y = true), (fun b => if b then "t" else "f"),
      fun a b c h1 h2 h => h2 (h1 h), ?_, ?_, ?_, ?_⟩
    · intro a b; cases a <;> cases b <;> simp
    · intro a b; cases a <;> cases b <;> simp
    · intro a ha b hb'
      obtain ⟨x, ea⟩ := isClass_bool (hb a ha)
      obtain ⟨y, eb⟩ := isClass_bool (hb b hb')
      rw [lessB_eq, ea, eb]
      cases x <;> cases y <;> simp [Cmp.ltO, Cmp.scalar, Cmp.Scalar.lt, boolKey, ea, eb]
    · intro a ha
      obtain ⟨x, ea⟩ := isClass_bool (hb a ha)
      cases x <;> simp [canonKey, boolKey, ea]
  · refine ⟨Unit, fun _ => (), fun _ _ => True, (fun _ => "n"), fun _ _ _ _ _ => trivial, fun _ _ => Or.inl trivial,
      fun _ _ _ _ => rfl, ?_, ?_⟩
    · intro a _ b hb
      simp [lessB_nil_right (isClass_nil (hnil b hb))]
    · intro a ha
      simp [canonKey, isClass_nil (hnil a ha)]
  · refine ⟨Unit, fun _ => (), fun _ _ => True, (fun _ => "?"), fun _ _ _ _ _ => trivial, fun _ _ => Or.inl trivial,
      fun _ _ _ _ => rfl, ?_, ?_⟩
    · intro a _ b hb
      simp [lessB_other_right (kclass_of_isClass (ho b hb))]
    · intro a ha
      have hk := kclass_of_isClass (ho a ha)
      unfold kclass at hk
      unfold canonKey
      cases ht : toLiq a <;> simp_all

theorem sortF_perm (xs : List GoVal) : (sortF xs).Perm xs := sortPath_perm lessB xs

theorem sortByF_perm (key : Bytes) (xs : List GoVal) : (sortByF key xs).Perm xs := sortPath_perm (lessByKey key) xs

theorem homog_swo (xs : List GoVal) (h : homog xs = true) (hw : ∀ x ∈ xs, IntWF x) : SWOn lessB xs := by
  obtain ⟨κ, key, kle, _, tr, to, _, spec, _⟩ := homog_keyOrder xs h hw
  exact swOn_of_key lessB key kle tr to xs spec

theorem sortM_eq (xs : List GoVal) :
    (∀ ys, sortM xs = .ok ys → ys = sortF xs) ∧
    (xs.length ≤ maxInsertion ∨ homog xs = true → sortM xs = .ok (sortF xs)) :=
  sortPathM_eq (fun a _ b _ => less_eq_lessB a b) (homog xs)

theorem mem_keys_of_nonNil {key : Bytes} {xs : List GoVal} {x : GoVal} (hx : x ∈ xs)
    (hn : (keyIndex key x).isNil = false) :
    keyIndex key x ∈ (xs.map (keyIndex key)).filter nonNil := by
  simp only [List.mem_filter, List.mem_map, nonNil]
  exact ⟨⟨x, hx, rfl⟩, by simp [hn]⟩

/-- `sort: key` on an array whose non-nil keys are homogeneous: `lessByKey` is the strict part of a
total preorder of optional keys, nil (none) first -/
theorem homogBy_swo (key : Bytes) (xs : List GoVal) (h : homogBy key xs = true)
    (hw : ∀ x ∈ xs, IntWF (keyIndex key x)) : SWOn (lessByKey key) xs := by
  have hw' : ∀ k ∈ (xs.map (keyIndex key)).filter nonNil, IntWF k := by
    intro k hk
    simp only [List.mem_filter, List.mem_map] at hk
    obtain ⟨⟨x, hx, rfl⟩, _⟩ := hk
    exact hw x hx
  obtain ⟨κ, kf, kle, _, tr, to, _, spec, _⟩ := homog_keyOrder _ h hw'
  let okey : GoVal → Option κ := fun x => if (keyIndex key x).isNil then none else some (kf (keyIndex key x))
  refine swOn_of_key _ okey (optLe kle) (optLe_trans tr) (optLe_total to) xs ?_
  intro a ha b hb
  cases na : (keyIndex key a).isNil <;> cases nb : (keyIndex key b).isNil <;>
    simp only [lessByKey, na, nb, okey, optLe, if_true, if_false, Bool.false_eq_true]
  · exact spec _ (mem_keys_of_nonNil ha na) _ (mem_keys_of_nonNil hb nb)
  · simp
  · simp
  · simp

theorem sortByM_eq (key : Bytes) (xs : List GoVal) :
    (∀ ys, sortByM key xs = .ok ys → ys = sortByF key xs) ∧
    (xs.length ≤ maxInsertion ∨ homogBy key xs = true → sortByM key xs = .ok (sortByF key xs)) :=
  sortPathM_eq (fun a _ b _ => lessByKeyM_eq key a b) (homogBy key xs)

theorem decorate_eq_map {f : GoVal → R Bytes} {k : GoVal → Bytes} :
    ∀ {xs : List GoVal}, (∀ x ∈ xs, f x = .ok (k x)) → decorate f xs = .ok (xs.map fun x => (k x, x))
  | [], _ => rfl
  | x :: xs, h => by
    have ih := decorate_eq_map (f := f) (k := k) (xs := xs) (fun y hy => h y (List.mem_cons_of_mem _ hy))
    simp [decorate, h x List.mem_cons_self, ih, Res.bind]

theorem decorate_snd {f : GoVal → R Bytes} :
    ∀ {xs : List GoVal} {ds : List (Bytes × GoVal)}, decorate f xs = .ok ds → ds.map (·.2) = xs
  | [], ds, h => by simp only [decorate, Res.ok.injEq] at h; subst h; rfl
  | x :: xs, ds, h => by
    simp only [decorate] at h
    obtain ⟨k, _, h⟩ := Res.bind_eq_ok h
    obtain ⟨r, hr, h⟩ := Res.bind_eq_ok h
    cases h
    simp [decorate_snd hr]

theorem natLessM_eq {f : GoVal → R Bytes} {k : GoVal → Bytes} {a b : GoVal}
    (ha : f a = .ok (k a)) (hb : f b = .ok (k b)) : natLessM f a b = .ok (Cmp.bytesLt (k a) (k b)) := by
  simp [natLessM, ha, hb, Res.bind]

theorem sortNatF_eq_sortPath (k : GoVal → Bytes) (xs : List GoVal) :
    sortNatF k xs = sortPath (fun a b => Cmp.bytesLt (k a) (k b)) xs := by
  unfold sortNatF sortPath
  rw [← List.map_mergeSort (r := fun a b => !Cmp.bytesLt (k b) (k a)) (fun _ _ _ _ => rfl), List.map_map]
  split
  · rfl
  · exact List.map_id _

theorem sortNatM_perm {strict : Bool} {f : GoVal → R Bytes} {xs ys : List GoVal}
    (h : sortNatM strict f xs = .ok ys) : ys.Perm xs := by
  unfold sortNatM at h
  split at h
  · exact insertionSortM_perm h
  · obtain ⟨ds, hd, h⟩ := Res.bind_eq_ok h
    simp only at h
    split at h
    · cases h
    · cases h
      have := (List.mergeSort_perm ds textLe).map (·.2)
      rwa [decorate_snd hd] at this

theorem sortWith_ok_perm {strict : Bool} {xs : List GoVal} {key w : GoVal}
    (h : sortWith strict [.slice .any xs, key] = .ok w) : ∃ ys, w = .slice .any ys ∧ ys.Perm xs := by
  unfold sortWith at h
  split at h
  · rename_i xs' heq
    simp only [List.cons.injEq, GoVal.slice.injEq, true_and, and_true] at heq
    obtain ⟨rfl, _⟩ := heq
    obtain ⟨ys, hys, h⟩ := Res.bind_eq_ok h
    split at h
    · cases h
    · simp only [Res.ok.injEq] at h
      refine ⟨ys, h.symm, ?_⟩
      rw [(sortM_eq xs).1 ys hys]
      exact sortF_perm xs
  · rename_i xs' key' _ heq
    simp only [List.cons.injEq, GoVal.slice.injEq, true_and, and_true] at heq
    obtain ⟨rfl, _⟩ := heq
    obtain ⟨k, _, h⟩ := Res.bind_eq_ok h
    obtain ⟨ys, hys, h⟩ := Res.bind_eq_ok h
    split at h
    · cases h
    · simp only [Res.ok.injEq] at h
      refine ⟨ys, h.symm, ?_⟩
      rw [(sortByM_eq k xs).1 ys hys]
      exact sortByF_perm k xs
  · cases h

theorem sortNaturalWith_ok_perm {strict : Bool} {xs : List GoVal} {key w : GoVal}
    (h : sortNaturalWith strict [.slice .any xs, key] = .ok w) : ∃ ys, w = .slice .any ys ∧ ys.Perm xs := by
  simp only [sortNaturalWith] at h
  obtain ⟨f, _, h⟩ := Res.bind_eq_ok h
  obtain ⟨ys, hys, h⟩ := Res.bind_eq_ok h
  simp only [Res.ok.injEq] at h
  exact ⟨ys, h.symm, sortNatM_perm hys⟩

theorem sortFn_ok_perm {strict natural : Bool} {xs : List GoVal} {key w : GoVal}
    (h : (if natural then sortNaturalWith strict [.slice .any xs, key] else sortWith strict [.slice .any xs, key]) = .ok w) :
    ∃ ys, w = .slice .any ys ∧ ys.Perm xs := by
  cases natural
  · exact sortWith_ok_perm h
  · exact sortNaturalWith_ok_perm h

section Uniq
variable {α κ : Type} [BEq κ] [LawfulBEq κ] (key : α → κ)
set_option linter.unusedSectionVars false

theorem uniqOn_sublist (seen : List κ) (xs : List α) : (uniqOn key seen xs).Sublist xs := by
  induction xs generalizing seen with
  | nil => simp [uniqOn]
  | cons x xs ih =>
    unfold uniqOn
    split
    · exact (ih seen).cons x
    · exact (ih _).cons_cons x

theorem uniqOn_not_seen (seen : List κ) (xs : List α) :
    ∀ y ∈ uniqOn key seen xs, seen.contains (key y) = false := by
  induction xs generalizing seen with
  | nil => simp [uniqOn]
  | cons x xs ih =>
    unfold uniqOn
    split
    · exact ih seen
    · rename_i hx
      intro y hy
      rcases List.mem_cons.mp hy with rfl | hy
      · simpa using hx
      · have := ih _ y hy
        simp only [List.contains_cons, Bool.or_eq_false_iff] at this
        exact this.2

theorem uniqOn_pairwise (seen : List κ) (xs : List α) :
    (uniqOn key seen xs).Pairwise (fun a b => key a ≠ key b) := by
  induction xs generalizing seen with
  | nil => simp [uniqOn]
  | cons x xs ih =>
    unfold uniqOn
    split
    · exact ih seen
    · refine List.Pairwise.cons ?_ (ih _)
      intro y hy
      have := uniqOn_not_seen key _ xs y hy
      simp only [List.contains_cons, Bool.or_eq_false_iff] at this
      intro h
      have h1 := this.1
      rw [h] at h1
      simp at h1

theorem uniqOn_support (seen : List κ) (xs : List α) :
    ∀ x ∈ xs, seen.contains (key x) = true ∨ ∃ y ∈ uniqOn key seen xs, key y = key x := by
  induction xs generalizing seen with
  | nil => simp
  | cons z xs ih =>
    intro x hx
    unfold uniqOn
    rcases List.mem_cons.mp hx with rfl | hx
    · split
      · rename_i h; exact Or.inl h
      · exact Or.inr ⟨x, List.mem_cons_self, rfl⟩
    · split
      · exact ih seen x hx
      · rcases ih (key z :: seen) x hx with h | ⟨y, hy, hk⟩
        · simp only [List.contains_cons, Bool.or_eq_true] at h
          rcases h with h | h
          · exact Or.inr ⟨z, List.mem_cons_self, (eq_of_beq h).symm⟩
          · exact Or.inl h
        · exact Or.inr ⟨y, List.mem_cons_of_mem _ hy, hk⟩

theorem uniqOn_append_singleton (seen : List κ) (xs : List α) (x : α) :
    uniqOn key seen (xs ++ [x]) =
      uniqOn key seen xs ++ (if seen.contains (key x) || (xs.map key).contains (key x) then [] else [x]) := by
  induction xs generalizing seen with
  | nil =>
    simp only [List.nil_append, uniqOn, List.map_nil, List.contains_nil, Bool.or_false]
  | cons z xs ih =>
    have hc : ((z :: xs).map key).contains (key x) = ((key x == key z) || (xs.map key).contains (key x)) := by
      rw [List.map_cons, List.contains_cons]
    rw [List.cons_append, hc]
    unfold uniqOn
    by_cases hz : seen.contains (key z) = true
    · simp only [hz, if_true]
      rw [ih seen]
      congr 1
      by_cases hx : key x = key z
      · rw [hx, hz]; simp
      · have hb : (key x == key z) = false := by simpa using hx
        rw [hb, Bool.false_or]
    · simp only [hz, if_false, Bool.false_eq_true]
      rw [ih (key z :: seen), List.contains_cons, List.cons_append]
      congr 2
      generalize (key x == key z) = p
      generalize seen.contains (key x) = q
      generalize (xs.map key).contains (key x) = r
      cases p <;> cases q <;> cases r <;> rfl

end Uniq

theorem compactF_eq_filter (xs : List GoVal) : compactF xs = xs.filter (fun x => !x.isNil) := by
  induction xs with
  | nil => rfl
  | cons x xs ih =>
    unfold compactF
    cases h : x.isNil <;> simp [h, ih]

theorem reverseF_eq (xs : List GoVal) : reverseF xs = xs.reverse := by
  rw [reverseF, List.foldl_flip_cons_eq_append', List.append_nil]

theorem lastF_eq (xs : List GoVal) : lastF xs = xs.getLast?.getD .nil := by
  induction xs with
  | nil => rfl
  | cons x xs ih =>
    cases xs with
    | nil => rfl
    | cons y r => simpa [lastF, List.getLast?_cons_cons] using ih

theorem lastF_eq_getD (xs : List GoVal) : lastF xs = xs.getD (xs.length - 1) .nil := by
  rw [lastF_eq, List.getLast?_eq_getElem?, List.getD_eq_getElem?_getD]

theorem joinBytes_eq_intercalate (sep : Bytes) (ss : List Bytes) :
    joinBytes sep ss = sep.intercalate ss := by
  induction ss with
  | nil => rfl
  | cons a rest ih =>
    cases rest with
    | nil => simp [joinBytes, List.intercalate]
    | cons b r =>
      rw [joinBytes, ih]
      simp [List.intercalate, List.intersperse]

theorem sprintNonNil_eq (xs : List GoVal) :
    sprintNonNil xs = sprintAll ((xs.filter (fun x => !x.isNil)).map GoVal.resolveDrops) := by
  induction xs with
  | nil => simp [sprintNonNil, sprintAll]
  | cons x xs ih =>
    unfold sprintNonNil
    cases h : x.isNil
    · simp [h, sprintAll, sprintR, ih]
    · simp [h, ih]

/-- the total version of `propOf`: nil where the lookup is outside the model -/
def propOfD (x : GoVal) (k : Bytes) : GoVal :=
  match GoVal.propertyValue x k with
  | .val v => v.unwrap
  | _ => .nil

theorem map_toLiquid_of_noDrop (xs : List GoVal) (h : ∀ x ∈ xs, x.toLiquid = x) :
    xs.map GoVal.toLiquid = xs :=
  (List.map_congr_left h).trans (List.map_id' xs)

theorem impl_size : lookupImpl stdFilterImpls (bn "size") = some Num.size := lookupImpl_at (i := 10) rfl

theorem arr_impls_registered : impls.all (fun p => (lookupSig p.1).isSome) = true := by
  simp only [lookupSig_is_source]
  decide +kernel

end ArrF
