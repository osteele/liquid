import Proofs.MapPermUniq
import Proofs.MapPermJson
import Proofs.SortFilters
/-!
# `sort`, `sort_natural` and the order of map entries (helper lemmas for C02)

Both filters order whole elements: by `values.Less` (or by an entry of each element, found by key) and
by the printed text. Neither sees the order of map entries (related elements are the same scalar or no scalars:
`SortRel.of_parts`; `mapFind_mp`, `sprint_mp`): `sortRel_mp`, `natKey_mp`, `natKeyBy_mp`. The filters follow from `SortRel.sortWith` and `sortNaturalWith_all2`
(`Proofs/SortFilters.lean`) at `t = true`: the tie test beyond 12 elements may send either run out of the model.
-/

open GoVal MapOrder Cmp ArrF

theorem insertionSortM_mp {less : GoVal → GoVal → Res Cause Bool}
    (hl : ∀ a a' b b', MP a a' → MP b b' → RRel true Eq (less a b) (less a' b'))
    {xs xs' : List GoVal} (h : MPL xs xs') : RRel true MPL (insertionSortM less xs) (insertionSortM less xs') :=
  (insertionSortM_all2 hl h.all2).mono fun _ _ => All2.mpl

theorem mergeSort_mp (le : GoVal → GoVal → Bool) (hle : ∀ a a' b b', MP a a' → MP b b' → le a b = le a' b')
    {xs ys : List GoVal} (h : MPL xs ys) : MPL (xs.mergeSort le) (ys.mergeSort le) :=
  (h.all2.mergeSort hle).mpl

theorem keyIndex_mp (key : Bytes) {x x' : GoVal} (h : MP x x') : MP (keyIndex key x) (keyIndex key x') := by
  unfold keyIndex
  have ht := h.toLiquid
  generalize x.toLiquid = u at ht
  generalize x'.toLiquid = u' at ht
  cases ht using MP.elim with
  | map kt vt h => cases kt <;> first | exact .refl _ | exact (mapFind_mp h _).2.2.2.getD.toLiquid
  | keyedMap hn hf => exact (lookupFields_mpf hf key).getD.toLiquid
  | _ => exact .refl _

theorem sortRel_mp : SortRel MP :=
  .of_parts (fun h => (toLiq_mp h).cases_rigid) keyIndex_mp fun key _ _ h => isNil_mp (keyIndex_mp key h)

theorem sortWith_mp (strict : Bool) {xs xs' : List GoVal} {k k' : GoVal} (hx : MPL xs xs') (hk : MP k k') :
    RRel true MP (sortWith strict [.slice .any xs, k]) (sortWith strict [.slice .any xs', k']) :=
  sortRel_mp.sortWith (fun h => MP.slice _ h.mpl) strict hx.all2 (mp_nil_iff hk) (sprintR_mp hk) (.inl rfl)

theorem sort_respectsM : ImplRespectsM [.val .anys, .val .any] (eager sort) :=
  implRespectsM_anys2 (sortWith_mp true)

theorem natKey_mp {x x' : GoVal} (h : MP x x') : RRel true Eq (natKey x) (natKey x') := by
  have hs := sprintRR_mp h
  cases h with
  | refl => exact rrel_eq_refl _
  | _ => exact RRel.bind hs (fun b b' e => by subst e; exact rrel_eq_refl _)

theorem natKeyBy_mp (name : Bytes) {m m' : GoVal} (h : MP m m') : natKeyBy name m = natKeyBy name m' := by
  unfold natKeyBy
  have key : ∀ o o' : Option GoVal, OptMP o o' →
      (match o.map GoVal.toLiquid with | some (.str s) => caseRes (StrF.downcase s) | _ => Res.ok []) =
      (match o'.map GoVal.toLiquid with | some (.str s) => caseRes (StrF.downcase s) | _ => Res.ok []) := by
    intro o o' ho
    cases o <;> cases o' <;> simp only [OptMP, OptRel] at ho
    · rfl
    · next v v' =>
      have ht := ho.toLiquid
      simp only [Option.map_some]
      generalize v.toLiquid = u at ht
      generalize v'.toLiquid = u' at ht
      cases ht <;> rfl
  cases h using MP.elim with
  | map kt vt h => cases kt <;> first | rfl | exact key _ _ (mapFind_mp h _).2.2.2
  | keyedMap hn hf => exact key _ _ (lookupFields_mpf hf name)
  | _ => rfl

theorem sortNaturalWith_mp (strict : Bool) {xs xs' : List GoVal} {k k' : GoVal} (hx : MPL xs xs') (hk : MP k k') :
    RRel true MP (sortNaturalWith strict [.slice .any xs, k]) (sortNaturalWith strict [.slice .any xs', k']) :=
  sortNaturalWith_all2 (fun h => MP.slice _ h.mpl) strict (fun _ _ => natKey_mp) (fun nm _ _ h => .of_eq (fun _ => rfl) (natKeyBy_mp nm h))
    hx.all2 (mp_nil_iff hk) (sprintR_mp hk) (.inl rfl)

theorem sortNatural_respectsM : ImplRespectsM [.val .anys, .val .any] (eager sortNatural) :=
  implRespectsM_anys2 (sortNaturalWith_mp true)

theorem goodEntryM_all : ∀ e ∈ stdFilterImpls, goodEntryM e := fun e he =>
  goodEntryM_table [] (fun _ => sort_respectsM) (fun _ => uniq_respectsM) (fun _ => sortNatural_respectsM)
    (fun _ => json_respectsM) (fun _ => inspect_respectsM) (fun _ => typeF_respectsM) e he List.not_mem_nil

theorem filterRespectsM_all (name : Bytes) : FilterRespectsM name :=
  filterRespectsM_of_impl name (fun sg f hs hf => goodEntryM_all (name, f) (lookupImpl_mem hf) sg hs)

/-- the standard comparison and filter layer does not see the order of map entries, whichever filters are registered -/
theorem stdPrimsOnly_respectsM_all (allowed : Bytes → Bool) : PrimsRespectM true (stdPrimsOnly allowed) :=
  stdPrimsOnly_respectsM_of allowed filterRespectsM_all

theorem stdPrimsOnly_respectsM (allowed : Bytes → Bool)
    (hopen : ∀ n, n ∈ openFiltersM → allowed n = true → FilterRespectsM n) :
    PrimsRespectM true (stdPrimsOnly allowed) :=
  stdPrimsOnly_respectsM_all allowed

theorem stdPrimsOnly_respectsM2 (allowed : Bytes → Bool)
    (hopen : ∀ n, n ∈ sortFiltersM → allowed n = true → FilterRespectsM n) :
    PrimsRespectM true (stdPrimsOnly allowed) :=
  stdPrimsOnly_respectsM_all allowed

theorem stdPrims_respectsM : PrimsRespectM true stdPrims := by
  rw [← stdPrimsOnly_all]
  exact stdPrimsOnly_respectsM_all _
