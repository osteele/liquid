import Liquid.Render
/-!
# `ctx.RenderFile` in two steps

`renderFileWith` finds the source of the file (`fileSource`) and, if there is one, compiles it at the line of the
include tag and renders it into a private buffer (`renderSrcWith`). `renderFileWith_cases` is the case analysis every
statement about the handler starts with: a read failure, which is a plain error, or `renderSrcWith` on the source.
-/

/-- the source `ctx.RenderFile` renders: the file on disk, else (only when it does not exist) the
    source registered in the cache -/
def fileSource (fs : FS) (f : Bytes) : Option Bytes :=
  match fs.read f with
  | .content b => some b
  | .notExist => fs.cache f
  | .otherError => none

/-- `renderFileWith` once the file has been read: compile at the line of the include tag, render into a private buffer -/
def renderSrcWith (P : Prims) (O : OutPrims) (cfg : Cfg) (inner : Nat → Bytes → Env → Prog (Status × Bytes)) (line : Nat)
    (src : Bytes) (env : Env) : Prog (Status × Bytes) :=
  match compileSource cfg.delims src line with
  | .err e => .fail (.located e)
  | .panic w => .panic w
  | .unmodelled w => .unmodelled w
  | .ok root =>
    let c : RCtx := { P := P, O := O, cfg := cfg, inc := inner }
    match (renderRoot c root env).runPure with
    | (out, .ok .done) => .ret (.done, out)
    | (_, .ok st) => .ret (st, [])
    | (_, .err e) => .fail e
    | (_, .panic w) => .panic w
    | (_, .unmodelled w) => .unmodelled w

theorem renderFileWith_eq (P : Prims) (O : OutPrims) (cfg : Cfg) (fs : FS) (inner : Nat → Bytes → Env → Prog (Status × Bytes))
    (line : Nat) (fn : Bytes) (env : Env) :
    renderFileWith P O cfg fs inner line fn env =
      match fs.read fn with
      | .content b => renderSrcWith P O cfg inner line b env
      | .notExist => (match fs.cache fn with
          | some b => renderSrcWith P O cfg inner line b env
          | none => .fail (.plain (.other "notExist")))
      | .otherError => .fail (.plain .io) := by
  unfold renderFileWith renderSrcWith
  cases fs.read fn with
  | content b => rfl
  | notExist => cases fs.cache fn <;> rfl
  | otherError => rfl

/-- What holds of a plain failure when the file has no source, and of `renderSrcWith` on the source when it has one,
    holds of the handler. Stated for two handlers on the same file (other primitives, configuration, inner handler,
    line or variables), so that it serves relations between two renders as well as properties of one. -/
theorem renderFileWith_cases {C : Prog (Status × Bytes) → Prog (Status × Bytes) → Prop} {P P' : Prims} {O O' : OutPrims}
    {cfg cfg' : Cfg} (fs : FS) {inner inner' : Nat → Bytes → Env → Prog (Status × Bytes)} {line line' : Nat} (fn : Bytes)
    {env env' : Env} (hfail : ∀ c, fileSource fs fn = none → C (.fail (.plain c)) (.fail (.plain c)))
    (hsrc : ∀ src, fileSource fs fn = some src →
      C (renderSrcWith P O cfg inner line src env) (renderSrcWith P' O' cfg' inner' line' src env')) :
    C (renderFileWith P O cfg fs inner line fn env) (renderFileWith P' O' cfg' fs inner' line' fn env') := by
  rw [renderFileWith_eq, renderFileWith_eq]
  cases h : fs.read fn with
  | content b => exact hsrc b (by simp only [fileSource, h])
  | notExist =>
    cases hc : fs.cache fn with
    | some b => exact hsrc b (by simp only [fileSource, h, hc])
    | none => exact hfail _ (by simp only [fileSource, h, hc])
  | otherError => exact hfail _ (by simp only [fileSource, h])

/-- the same for a property of one handler -/
theorem renderFileWith_ind {C : Prog (Status × Bytes) → Prop} {P : Prims} {O : OutPrims} {cfg : Cfg} (fs : FS)
    {inner : Nat → Bytes → Env → Prog (Status × Bytes)} {line : Nat} (fn : Bytes) {env : Env}
    (hfail : ∀ c, fileSource fs fn = none → C (.fail (.plain c)))
    (hsrc : ∀ src, fileSource fs fn = some src → C (renderSrcWith P O cfg inner line src env)) :
    C (renderFileWith P O cfg fs inner line fn env) :=
  renderFileWith_cases (C := fun p _ => C p) (P' := P) (O' := O) (cfg' := cfg) (inner' := inner) (line' := line) (env' := env)
    fs fn hfail hsrc

theorem renderFileWith_of_fileSource (P : Prims) (O : OutPrims) (cfg : Cfg) (fs : FS)
    (inner : Nat → Bytes → Env → Prog (Status × Bytes)) (line : Nat) (f : Bytes) (env : Env) (src : Bytes)
    (h : fileSource fs f = some src) :
    renderFileWith P O cfg fs inner line f env = renderSrcWith P O cfg inner line src env :=
  renderFileWith_ind (C := (· = renderSrcWith P O cfg inner line src env)) fs f (fun _ hn => by rw [h] at hn; cases hn)
    (fun s hs => by rw [h] at hs; cases hs; rfl)

/-- the file is found and compiles: what the handler answers is read off the run of its root -/
theorem renderFileWith_compiled (P : Prims) (O : OutPrims) (cfg : Cfg) (fs : FS)
    (inner : Nat → Bytes → Env → Prog (Status × Bytes)) (line : Nat) (f : Bytes) (env : Env) (src : Bytes) (root : List Node)
    (out : Bytes) (r : Prog.Outcome Status)
    (hsrc : fileSource fs f = some src) (hc : compileSource cfg.delims src line = .ok root)
    (hr : (renderRoot { P := P, O := O, cfg := cfg, inc := inner } root env).runPure = (out, r)) :
    renderFileWith P O cfg fs inner line f env =
      match r with
      | .ok .done => .ret (.done, out)
      | .ok st => .ret (st, [])
      | .err e => .fail e
      | .panic w => .panic w
      | .unmodelled w => .unmodelled w := by
  rw [renderFileWith_of_fileSource P O cfg fs inner line f env src hsrc]
  simp only [renderSrcWith, hc, hr]
  rcases r with (_ | _ | _) | _ | _ | _ <;> rfl
