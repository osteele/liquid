import Proofs.HyphenSource
import Proofs.HyphenLemmas
/-!
# The compiler on a syntax tree without `.trim` nodes, and the item-level side conditions
(helpers for `Proofs/C13Source.lean`)

* `compileList_stripAsts`: compiling the syntax tree without its `.trim` nodes gives `stripTrims` of the
  compiled tree, or the same error;
* `compileTokens_dropTrims`: hence for token lists;
* `RawPlain`: with `RawClosed`, the item-level condition under which no trim marker is met in raw mode
  (`tokensOf_rawTrimFree`);
* `compileTokens_dropHyphens`: the token lists of an item list and of its hyphen-free version.
-/

theorem stripTrims_append : ∀ (a b : List Node), stripTrims (a ++ b) = stripTrims a ++ stripTrims b
  | [], _ => by simp [stripTrims]
  | n :: a, b => by
    cases n with
    | trim l => simp only [List.cons_append, stripTrims, stripTrims_append a b]
    | _ => simp [stripTrims, stripTrims_append a b]

/-- the clause list of a block with the trim nodes of the bodies removed -/
def stripCl (cs : List (Token × List Node)) : List (Token × List Node) := cs.map (fun p => (p.1, stripTrims p.2))

theorem ifTests_strip : ∀ cs, compileIfClauseTests (stripCl cs) = (compileIfClauseTests cs).mapOk stripBranches
  | [] => rfl
  | (t, body) :: cs => by
    rw [show stripCl ((t, body) :: cs) = (t, stripTrims body) :: stripCl cs from rfl, compileIfClauseTests,
      compileIfClauseTests, ifTests_strip cs]
    simp only [Res.bind_eq, Res.mapOk_bind, Res.bind_mapOk]
    rfl

theorem caseClauses_strip : ∀ cs, compileCaseClauses (stripCl cs) = (compileCaseClauses cs).mapOk stripCases
  | [] => rfl
  | (t, body) :: cs => by
    rw [show stripCl ((t, body) :: cs) = (t, stripTrims body) :: stripCl cs from rfl, compileCaseClauses,
      compileCaseClauses, caseClauses_strip cs]
    simp only [Res.bind_eq, Res.mapOk_bind, Res.bind_mapOk]
    rfl

theorem stripCl_snd : ∀ (cs : List (Token × List Node)), (stripCl cs).map (·.2) = stripClauses (cs.map (·.2))
  | [] => rfl
  | (t, b) :: cs => by
    have ih := stripCl_snd cs
    simp only [stripCl] at ih
    simp [stripCl, stripClauses, ih]

/-- a tag compiles to a node that holds no body -/
theorem compileNode_tag_strip (t : Token) : compileNode (.tag t) = (compileNode (.tag t)).mapOk stripTrims := by
  rw [compileNode]
  simp only [apply_ite (Res.mapOk stripTrims), Res.bind_eq, Res.bind_mapOk]
  exact ite_congr rfl (fun _ => Res.bind_congr _ fun st => by cases st <;> rfl) fun _ => ite_congr rfl (fun _ => rfl) fun _ =>
    ite_congr rfl (fun _ => rfl) fun _ => ite_congr rfl (fun _ => rfl) fun _ =>
    ite_congr rfl (fun _ => Res.bind_congr _ fun st => by cases st <;> rfl) fun _ => rfl

mutual
theorem compileNode_strip : ∀ a : AST, a.isTrim = false → compileNode a.strip = (compileNode a).mapOk stripTrims
  | .text t, _ => rfl
  | .obj t, _ => by
    simp only [AST.strip, compileNode]
    cases parseExprSource t.args <;> rfl
  | .trim l, h => by cases h
  | .raw sl, _ => rfl
  | .tag t, _ => compileNode_tag_strip t
  | .block t body cls, _ => by
    rw [AST.strip, compileNode, compileNode, compileList_stripAsts body, compileClauses_strip cls]
    -- `mapOk` moves inside the binds on both sides; what is left to compare is the block's own part, branch by branch
    simp only [Res.bind_eq, Res.mapOk_bind, Res.bind_mapOk]
    refine Res.bind_congr _ fun b => Res.bind_congr _ fun cs => ?_
    simp only [apply_ite (Res.mapOk stripTrims), ifTests_strip, caseClauses_strip, stripCl_snd, Res.mapOk_bind, Res.bind_mapOk]
    exact ite_congr rfl (fun _ => rfl) fun _ => ite_congr rfl (fun _ => rfl) fun _ =>
      ite_congr rfl (fun _ => Res.bind_congr _ fun st => by cases st <;> rfl) fun _ => rfl
/-- **compiler.** Compiling a syntax tree without its `.trim` nodes gives the compiled tree without its
    `.trim` nodes (`stripTrims`), or the same error. -/
theorem compileList_stripAsts : ∀ as : List AST, compileList (stripAsts as) = (compileList as).mapOk stripTrims
  | [] => rfl
  | a :: as => by
    cases ha : a.isTrim with
    | true =>
      cases a with
      | trim l =>
        rw [stripAsts_cons_trim, compileList, compileList_stripAsts as]
        cases compileList as <;> rfl
      | _ => cases ha
    | false =>
      rw [stripAsts_cons_of_not_trim a as ha, compileList, compileList, compileNode_strip a ha, compileList_stripAsts as]
      simp only [Res.bind_eq, Res.mapOk_bind, Res.bind_mapOk]
      exact Res.bind_congr _ fun x => Res.bind_congr _ fun y => congrArg Res.ok (stripTrims_append x y).symm
theorem compileClauses_strip : ∀ cs : List (Token × List AST),
    compileClauses (stripAstClauses cs) = (compileClauses cs).mapOk stripCl
  | [] => rfl
  | (t, body) :: cs => by
    rw [stripAstClauses, compileClauses, compileClauses, compileList_stripAsts body, compileClauses_strip cs]
    simp only [Res.bind_eq, Res.mapOk_bind, Res.bind_mapOk]
    rfl
end

theorem firstUnmodelledObj_dropTrims : ∀ toks : List Token, firstUnmodelledObj (dropTrimToks toks) = firstUnmodelledObj toks
  | [] => rfl
  | t :: ts => by
    cases htr : t.isTrim with
    | false =>
      rw [dropTrimToks_cons_keep ts htr]
      simp only [firstUnmodelledObj, firstUnmodelledObj_dropTrims ts]
    | true =>
      rw [dropTrimToks_cons_trim ts htr, firstUnmodelledObj_dropTrims ts]
      simp only [firstUnmodelledObj, (Token.isTrim_ty htr).2.1, Bool.false_eq_true, if_false]

/-- **token lists.** When no trim marker stands between a `raw` tag and the next `endraw` tag, compiling the
    token list without its trim markers gives `stripTrims` of the compiled tree, or the same error. -/
theorem compileTokens_dropTrims (toks : List Token) (ht : rawTrimFree false toks = true) :
    compileTokens (dropTrimToks toks) = (compileTokens toks).mapOk stripTrims := by
  unfold compileTokens
  rw [firstUnmodelledObj_dropTrims, parseTokens_dropTrims stdGrammar objChk toks ht]
  cases firstUnmodelledObj toks with
  | some w => rfl
  | none =>
    cases parseTokens stdGrammar objChk toks with
    | ok ast => simp only [Res.mapOk, liftPErr, bind, Res.bind, compileList_stripAsts]
    | err e => rfl
    | panic w => rfl
    | unmodelled w => rfl

theorem Item.isTagNamed_dropHy (n : Bytes) (it : Item) : it.dropHy.isTagNamed n = it.isTagNamed n := by
  cases it <;> rfl

theorem RawClosed.dropHyphens {items : List Item} (h : RawClosed items) : RawClosed (dropHyphens items) := by
  revert h
  unfold RawClosed
  fun_induction rawClosed items with
  | case1 => exact id
  | case2 => nofun
  | case3 it h e r he ih =>
    intro hc
    rw [dropHyphens_cons, dropHyphens_cons, rawClosed.eq_def]
    simp only [Item.isTagNamed_dropHy, h, he, if_true]
    exact ih hc
  | case4 it h s e r hs ih =>
    intro hc
    rw [dropHyphens_cons, dropHyphens_cons, dropHyphens_cons, rawClosed.eq_def]
    simp only [Item.isTagNamed_dropHy, h, hs, if_true, Bool.false_eq_true, if_false, Item.dropHy.eq_1, Bool.and_eq_true] at hc ⊢
    exact ⟨hc.1, ih hc.2⟩
  | case5 => nofun
  | case6 it r h ih =>
    intro hc
    rw [dropHyphens_cons, rawClosed.eq_def]
    simp only [Item.isTagNamed_dropHy, h]
    exact ih hc

/-- no hyphen on the inner side of a raw block's tags: a tag named `raw` has no right hyphen, a tag named
    `endraw` no left hyphen. (Inside a raw block the parser keeps every token as a slice of the body; a trim
    marker there becomes an EMPTY slice, so `{% raw -%}x{% endraw %}` compiles to `raw ["", "x"]` and
    `{% raw %}x{% endraw %}` to `raw ["x"]`.) -/
def Item.rawPlain : Item → Bool
  | .tag name _ hl hr _ _ _ => (name != rawName || !hr) && (name != endrawName || !hl)
  | _ => true

def RawPlain (items : List Item) : Prop := items.all Item.rawPlain = true

instance (items : List Item) : Decidable (RawPlain items) := by unfold RawPlain; infer_instance

theorem rawTrimFree_trimL_false (ts : List Token) : rawTrimFree false (({ ty := .trimL } : Token) :: ts) = rawTrimFree false ts := rfl
theorem rawTrimFree_trimR_false (ts : List Token) : rawTrimFree false (({ ty := .trimR } : Token) :: ts) = rawTrimFree false ts := rfl

theorem Item.rawPlain_innerTrims {it : Item} (hp : it.rawPlain = true) : it.innerTrims (fun t => !t.isTrim) := by
  cases it with
  | text s => exact ⟨nofun, nofun⟩
  | obj args hl hr wl wr => exact ⟨nofun, nofun⟩
  | tag name args hl hr wl wm wr =>
    simp only [Item.rawPlain, Bool.and_eq_true, Bool.or_eq_true, bne_iff_ne, ne_eq, Bool.not_eq_true'] at hp
    exact ⟨fun hn hr1 => (hp.1.elim (absurd (beq_iff_eq.mp hn)) (fun h => by rw [h] at hr1; cases hr1)),
      fun hn hl1 => (hp.2.elim (absurd (beq_iff_eq.mp hn)) (fun h => by rw [h] at hl1; cases hl1))⟩

theorem tokensOf_rawTrimFree (d : Delims) (items : List Item) (line : Nat) (hc : RawClosed items) (hp : RawPlain items) :
    rawTrimFree false (tokensOf d items line) = true := by
  rw [rawTrimFree_eq_rawScan]
  exact tokensOf_rawScan _ (fun t ht => by simp [Token.isTrim, ht]) d items line hc
    fun it hit => Item.rawPlain_innerTrims (List.all_eq_true.mp hp it hit)

/-- the two token lists differ in the `source` fields (`tokensOf_dropHyphens`), which the compiler does not
    look at (`compileTokens_congr`) -/
theorem compileTokens_dropHyphens (d : Delims) (items : List Item) (line : Nat) (hrc : RawClosed items) (hrp : RawPlain items) :
    compileTokens (tokensOf d (dropHyphens items) line) = (compileTokens (tokensOf d items line)).mapOk stripTrims := by
  rw [← compileTokens_dropTrims _ (tokensOf_rawTrimFree d items line hrc hrp)]
  refine compileTokens_congr _ _ (tokensOf_dropHyphens d items line) ?_
  exact rawSafe_tokensOf d _ line hrc.dropHyphens
