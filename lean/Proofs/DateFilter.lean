import Proofs.DateFormatLemmas
import Proofs.StdNoPanic
/-!
# Times: the calendar, `{{ t }}`, `ParseDate` and the filter `date` (`Liquid/Time.lean`, `Liquid/Filters/Date.lean`)

Property-level statements about the part of the model that describes `time.Time` values (UTC, whole
seconds: the harness realises `GoVal.time u` as `time.Unix(u, 0).UTC()`), `values.ParseDate` on the
all-digit layouts, and `tuesday.Strftime` behind the filter `date`. The no-panic part is read off the
sweep behind C01's `run_std_noPanic` (`applyFilter_part_noPanic`, `Proofs/StdNoPanic.lean`).

* **calendar**: day number ↔ civil date are inverse bijections between all integers and all valid
  proleptic Gregorian dates (`cal_days_civil_days`, `cal_civil_days_civil`), with 1 ≤ month ≤ 12,
  1 ≤ day ≤ length of the month, 0 ≤ second of the day < 86400 (`cal_civil_ranges`, `cal_instant_fields`),
  1 ≤ day of the year ≤ 365 or 366, 1 ≤ ISO week ≤ 53 (`cal_yearday_isoweek_range`);
* **no panic** in `date` on every receiver and argument list, in the printing of a time and in the
  conversions from and to a time; `Strftime` never reports an error;
* **`date` is `Strftime`** of the broken-down UTC time; **without an argument the format is
  `%a, %b %d, %y`**;
* **`%Y-%m-%d`** of a year 0..9999 is `dddd-dd-dd` and those digits are year, month and day: `ParseDate`
  reads it as the midnight of that day; **`%Y-%m-%d %H:%M:%S`** is read back by `ParseDate` as the
  instant itself, and is what `{{ t }}` prints before ` +0000`; conversely a `dddd-dd-dd` string that `ParseDate`
  accepts is printed back unchanged by `%Y-%m-%d` (`parse_then_strftime_ymd`);
* **`%s`** is the unix time (the text `strconv.ParseInt` reads back as it; the plain decimal text
  except for 0..9, which print with a leading zero); **`%%`** prints `%`.
-/

open DateF

def dateName : Bytes := [100, 97, 116, 101]

/-- **day number → civil date → day number** is the identity on all integers (days from 1970-01-01,
    negative ones included). -/
theorem cal_days_civil_days (z : Int) :
    Cal.daysOfCivil (Cal.civilOfDays z).1 (Cal.civilOfDays z).2.1 (Cal.civilOfDays z).2.2 = z :=
  Cal.daysOfCivil_civilOfDays z

/-- **civil date → day number → civil date** is the identity on the valid dates of every year
    (proleptic Gregorian: year 0 and negative years included). -/
theorem cal_civil_days_civil (y : Int) (m d : Nat) (hm1 : 1 ≤ m) (hm : m ≤ 12) (hd1 : 1 ≤ d)
    (hd : d ≤ Cal.daysInMonth y m) : Cal.civilOfDays (Cal.daysOfCivil y m d) = (y, m, d) :=
  Cal.civilOfDays_daysOfCivil y m d hm1 hm hd1 hd

/-- **the civil date of every day number is a valid date.** -/
theorem cal_civil_ranges (z : Int) :
    1 ≤ (Cal.civilOfDays z).2.1 ∧ (Cal.civilOfDays z).2.1 ≤ 12 ∧ 1 ≤ (Cal.civilOfDays z).2.2 ∧
    (Cal.civilOfDays z).2.2 ≤ Cal.daysInMonth (Cal.civilOfDays z).1 (Cal.civilOfDays z).2.1 :=
  Cal.civil_ranges z

/-- **the fields of a broken-down instant**: a valid date, a clock time with hour < 24, minute < 60,
    second < 60 (so 0 ≤ second of the day < 86400), a weekday below 7; date and clock determine the instant. -/
theorem cal_instant_fields (u : Int) :
    1 ≤ (Cal.broken u).month ∧ (Cal.broken u).month ≤ 12 ∧ 1 ≤ (Cal.broken u).day ∧
    (Cal.broken u).day ≤ Cal.daysInMonth (Cal.broken u).year (Cal.broken u).month ∧
    (Cal.broken u).hour < 24 ∧ (Cal.broken u).min < 60 ∧ (Cal.broken u).sec < 60 ∧ (Cal.broken u).wday < 7 ∧
    Cal.secOfDay u < 86400 ∧
    u = Cal.daysOfCivil (Cal.broken u).year (Cal.broken u).month (Cal.broken u).day * 86400 +
          ((Cal.broken u).hour * 3600 + (Cal.broken u).min * 60 + (Cal.broken u).sec : Nat) := by
  obtain ⟨a, b, c, d, e⟩ := Cal.broken_date u
  obtain ⟨f, g, h, i, j⟩ := Cal.broken_clock u
  refine ⟨a, b, c, d, f, g, h, i, (Cal.secOfDay_lt u).1, ?_⟩
  rw [e]
  exact j

/-- **the day of the year** (`YearDay`, `%j`) of every instant is between 1 and 365, or 366 in a leap year, and
    **the ISO week number** (`ISOWeek`, `%V`) of every day is between 1 and 53. -/
theorem cal_yearday_isoweek_range (u z : Int) :
    1 ≤ (Cal.broken u).yday ∧ (Cal.broken u).yday ≤ (if Cal.isLeap (Cal.broken u).year then 366 else 365) ∧
    1 ≤ (Cal.isoWeek z).2 ∧ (Cal.isoWeek z).2 ≤ 53 :=
  ⟨(Cal.broken_yday u).1, (Cal.broken_yday u).2, (Cal.isoWeek_range z).1, (Cal.isoWeek_range z).2⟩

/-- **`%j` prints the day of the year** with three digits' zero padding, a number between 1 and 366. -/
theorem strftime_yday (u : Int) :
    strftime (Cal.broken u) fmtYday = .ok (fmtNum .zero 3 (Cal.broken u).yday) ∧
    1 ≤ (Cal.broken u).yday ∧ (Cal.broken u).yday ≤ 366 := by
  refine ⟨?_, (Cal.broken_yday u).1, ?_⟩
  · rw [strftime_eq_render, tokens_yday]
    simp only [render, directive_j, Res.bind, List.append_nil]
  · have := (Cal.broken_yday u).2
    split at this <;> omega

/-! Non-vacuity: 2000-02-29 12:00:00 is the instant 951825600, a Tuesday; the last second of the year −1 -/
example : Cal.broken 951825600 = { unix := 951825600, days := 11016, year := 2000, month := 2, day := 29, hour := 12, min := 0, sec := 0, wday := 2, yday := 60 } := by
  decide +kernel
example : ((Cal.broken (-62167219201)).year, (Cal.broken (-62167219201)).month, (Cal.broken (-62167219201)).day, (Cal.broken (-62167219201)).yday) = (-1, 12, 31, 365) := by
  decide +kernel
example : Cal.civilOfDays (Cal.daysOfCivil 1900 2 28 + 1) = (1900, 3, 1) ∧ Cal.civilOfDays (Cal.daysOfCivil 2000 2 28 + 1) = (2000, 2, 29) := by
  decide +kernel

/-- **`x | date: args` never panics**, whatever the receiver and the arguments are (a value that is not
    a time or a date string, too many arguments, a format that does not convert: errors). -/
theorem date_filter_noPanic (recv : GoVal) (args : List GoVal) :
    NoPanicRes (applyFilter (lookupImpl stdFilterImpls) dateName recv args) :=
  applyFilter_part_noPanic (fun _ h => h) _ _ _

/-- **printing a time and converting from and to a time never panic**: `{{ t }}`, `fmt.Sprint(t)`,
    `Convert(t, string)`, `Convert(s, time.Time)` (`ParseDate`). -/
theorem time_values_noPanic (u : Int) (s : Bytes) :
    NoPanicRes (writeObject (.time u)) ∧ NoPanicRes (sprint (.time u)) ∧
    NoPanicRes (convert (.time u) .str) ∧ NoPanicRes (convert (.str s) .time) :=
  ⟨writeObject_noPanic _, sprint_noPanic _, convert_noPanic _ _, convert_noPanic _ _⟩

/-- **`Strftime` never panics and never reports an error** (the Go function's error result is always
    nil): the model's result is a text, or the marker of a width above the model's bound. -/
theorem strftime_ok_or_unmodelled (t : Cal.Broken) (f : Bytes) :
    (∃ out, strftime t f = .ok out) ∨ (∃ w, strftime t f = .unmodelled w) :=
  (DateF.strftime_soft t f).ok_or_unmodelled

theorem date_call (g : GoVal) (args : List GoVal) (hl : ¬ (g :: args).length > 2) :
    applyFilter (lookupImpl stdFilterImpls) dateName g args =
      (convertArgs [.val .time, .fn .str] (g :: args)).bind fun cargs => applyFilter.finish dateName (DateF.date cargs) :=
  -- 47: `date` is the last entry of `stdFilterImpls` (Num ++ Str ++ Arr ++ Json ++ Date, `Liquid/Std.lean`)
  applyFilter_at (i := 47) (e := (dateName, DateF.date)) rfl rfl rfl g args hl

/-- **`t | date: f` is `tuesday.Strftime(f, t)`** on the broken-down UTC time, through
    `ApplyFilter` + `values.Call`, for a time binding and a string format. -/
theorem date_filter_eq (u : Int) (f : Bytes) (hu : Cal.timeModelled u = true) :
    applyFilter (lookupImpl stdFilterImpls) dateName (.time u) [.str f] =
      (strftime (Cal.broken u) f).bind fun out => .ok (.str out) := by
  rw [date_call (.time u) [.str f] (Nat.lt_irrefl 2)]
  have hc : convertArgs [.val .time, .fn .str] [.time u, .str f] =
      .ok [.val (.time u), .fn (some (.ok (.str f)))] := rfl
  simp only [hc, Res.bind, applyFilter.finish, DateF.date, Arg.call, hu, if_true]
  cases strftime (Cal.broken u) f <;> rfl

/-- **the default format is `%a, %b %d, %y`**: `t | date` is `t | date: "%a, %b %d, %y"`. -/
theorem date_default_format (u : Int) :
    DateF.defaultFormat = [37, 97, 44, 32, 37, 98, 32, 37, 100, 44, 32, 37, 121] ∧
    applyFilter (lookupImpl stdFilterImpls) dateName (.time u) [] =
      applyFilter (lookupImpl stdFilterImpls) dateName (.time u) [.str DateF.defaultFormat] := by
  refine ⟨rfl, ?_⟩
  rw [date_call (.time u) [] (by decide : ¬ 1 > 2), date_call (.time u) [.str DateF.defaultFormat] (Nat.lt_irrefl 2)]
  have hc0 : convertArgs [.val .time, .fn .str] [.time u] = .ok [.val (.time u), .fn none] := rfl
  have hc1 : convertArgs [.val .time, .fn .str] [.time u, .str DateF.defaultFormat] =
      .ok [.val (.time u), .fn (some (.ok (.str DateF.defaultFormat)))] := rfl
  simp only [hc0, hc1, Res.bind, DateF.date, Arg.call]

/-! Non-vacuity: the epoch through the default format is `Thu, Jan 01, 70` -/
example : (match applyFilter (lookupImpl stdFilterImpls) dateName (.time 0) [] with
    | .ok (.str s) => s == [84, 104, 117, 44, 32, 74, 97, 110, 32, 48, 49, 44, 32, 55, 48]
    | _ => false) = true := by
  rw [applyFilter_pos 47 (name := dateName) (by decide +kernel)]
  decide +kernel

/-- **`%Y-%m-%d` has the shape `dddd-dd-dd` and denotes the civil date.** For an instant in the years
    0..9999 the output is ten bytes: four ASCII digits that spell the year, a hyphen, two digits that spell
    the month, a hyphen, two digits that spell the day (`Cal.num4`/`Cal.num2` read exactly-that-many digits);
    `ParseDate` reads it back as the midnight that begins the day of the instant. -/
theorem strftime_ymd_shape (u : Int) (hy0 : 0 ≤ (Cal.broken u).year) (hy : (Cal.broken u).year ≤ 9999) :
    ∃ y1 y2 y3 y4 m1 m2 d1 d2 : UInt8,
      strftime (Cal.broken u) fmtDate = .ok [y1, y2, y3, y4, 45, m1, m2, 45, d1, d2] ∧
      (Cal.num4 y1 y2 y3 y4).map Int.ofNat = some (Cal.broken u).year ∧
      Cal.num2 m1 m2 = some (Cal.broken u).month ∧ Cal.num2 d1 d2 = some (Cal.broken u).day ∧
      Cal.parseDate [y1, y2, y3, y4, 45, m1, m2, 45, d1, d2] = .time (u / 86400 * 86400) := by
  obtain ⟨y, hyy⟩ := Int.eq_ofNat_of_zero_le hy0
  obtain ⟨hm, hd, _⟩ := broken_lt100 u
  obtain ⟨a, b, c, d, e4, n4⟩ := year4_read y (by omega)
  obtain ⟨m1, m2, em, nm⟩ := z2_read _ hm
  obtain ⟨d1, d2, ed, nd⟩ := z2_read _ hd
  refine ⟨a, b, c, d, m1, m2, d1, d2, ?_, by rw [n4, hyy]; rfl, nm, nd, ?_⟩
  · rw [strftime_fmtDate, hyy, e4, em, ed]; rfl
  · rw [parseDate_date, n4, nm, nd]
    exact (instant_of_date u hyy (by decide) (by decide) (by decide)).trans (congrArg _ (Int.add_zero _))

/-- **format, then parse.** For an instant whose year has four digits, `%Y-%m-%d %H:%M:%S` prints 19 bytes
    that `ParseDate` (layout `2006-01-02 15:04:05`) reads back as the same instant. -/
theorem strftime_dateTime_parse (u : Int) (hy0 : 0 ≤ (Cal.broken u).year) (hy : (Cal.broken u).year ≤ 9999) :
    ∃ s, strftime (Cal.broken u) fmtDateTime = .ok s ∧ s.length = 19 ∧ Cal.parseDate s = .time u := by
  obtain ⟨y, hyy⟩ := Int.eq_ofNat_of_zero_le hy0
  obtain ⟨hm, hd, hh, hmi, hs⟩ := broken_lt100 u
  obtain ⟨a, b, c, d, e4, n4⟩ := year4_read y (by omega)
  obtain ⟨m1, m2, em, nm⟩ := z2_read _ hm
  obtain ⟨d1, d2, ed, nd⟩ := z2_read _ hd
  obtain ⟨h1, h2, eh, nh⟩ := z2_read _ hh
  obtain ⟨i1, i2, ei, ni⟩ := z2_read _ hmi
  obtain ⟨s1, s2, es, ns⟩ := z2_read _ hs
  refine ⟨[a, b, c, d, 45, m1, m2, 45, d1, d2, 32, h1, h2, 58, i1, i2, 58, s1, s2], ?_, rfl, ?_⟩
  · rw [strftime_fmtDateTime, hyy, clock, e4, em, ed, eh, ei, es]; rfl
  · obtain ⟨hh, hmi, hs, _, hu⟩ := Cal.broken_clock u
    rw [parseDate_dateTime, n4, nm, nd, nh, ni, ns]
    exact (instant_of_date u hyy hh hmi hs).trans (congrArg _ hu.symm)

/-- **parse, then format.** A ten-byte string that `ParseDate` accepts (`dddd-dd-dd` with a valid date: layout
    `2006-01-02`) is printed back unchanged by `%Y-%m-%d` of the instant it denotes: on such strings
    `"s" | date: "%Y-%m-%d"` is the identity. -/
theorem parse_then_strftime_ymd (s : Bytes) (u : Int) (hl : s.length = 10) (hp : Cal.parseDate s = .time u) :
    strftime (Cal.broken u) fmtDate = .ok s := by
  obtain ⟨y1, y2, y3, y4, m1, m2, d1, d2, rfl, hf⟩ := parseDate_ten hl hp
  obtain ⟨y, mo, d, h, mi, sc, hy, hmo, hd, hh, hmi, hsc, hi⟩ := ofFields_time hf
  cases hh; cases hmi; cases hsc
  obtain ⟨a, b, c, e, _, _, _, hu⟩ := instant_eq_time_iff.1 hi
  obtain ⟨ey, em, ed, _⟩ := broken_of_civil (y : Int) mo d a b c e 0 (by decide) (Cal.broken u) (by rw [hu])
  rw [strftime_fmtDate, ey, em, ed, year4_of_num4 hy, z2_of_num2 hmo, z2_of_num2 hd]
  rfl

/-! Non-vacuity: `2024-02-29` is accepted and comes back; `2023-02-29` is rejected -/
example : Cal.parseDate [50, 48, 50, 52, 45, 48, 50, 45, 50, 57] = .time 1709164800 ∧
    Cal.parseDate [50, 48, 50, 51, 45, 48, 50, 45, 50, 57] = .reject := by decide +kernel

/-- **`{{ t }}` is `%Y-%m-%d %H:%M:%S` followed by ` +0000`** (years 0..9999; `time.Format` and `fmt`'s `%04d`
    differ on negative years: `-0001` and `-001`). -/
theorem writeObject_time_eq_strftime (u : Int) (hu : Cal.timeModelled u = true)
    (hy0 : 0 ≤ (Cal.broken u).year) (hy : (Cal.broken u).year ≤ 9999) :
    ∃ s, strftime (Cal.broken u) fmtDateTime = .ok s ∧ writeObject (.time u) = .ok (s ++ [32, 43, 48, 48, 48, 48]) := by
  refine ⟨timeDateClock (Cal.broken u), ?_, ?_⟩
  · obtain ⟨y, hyy⟩ := Int.eq_ofNat_of_zero_le hy0
    simp only [strftime_fmtDateTime, year4, z2, clock, timeDateClock, hyy, fmtNum_zero_eq_appendInt,
      List.cons_append, List.append_assoc]
  · simp only [writeObject, GoVal.toLiquid, writeObjectL, timeObjectText, hu, if_true]

/-! Non-vacuity: 1999-12-31 23:59:59 (a four-digit year) -/
example : (Cal.broken 946684799).year = 1999 := by decide +kernel
example : strftime (Cal.broken 946684799) fmtDateTime =
    .ok [49, 57, 57, 57, 45, 49, 50, 45, 51, 49, 32, 50, 51, 58, 53, 57, 58, 53, 57] := by decide +kernel

/-- **`%s` prints the unix time**: the text is `fmt.Sprintf("%02d", t.Unix())` — the decimal digits of the
    instant, a minus sign when negative, and a leading zero for 0..9 — and `strconv.ParseInt` reads it
    back as the instant. -/
theorem strftime_unix (u : Int) :
    strftime (Cal.broken u) fmtUnix = .ok (fmtNum .zero 2 u) ∧
    (u < 0 ∨ 10 ≤ u → fmtNum .zero 2 u = intDec u) ∧
    (inInt64 u = true → parseInt10 (fmtNum .zero 2 u) = some u) := by
  refine ⟨?_, fmtNum_zero2_eq_intDec u, parseInt10_fmtNum_zero 2 u⟩
  rw [strftime_eq_render, tokens_unix]
  simp only [render, directive_s, Res.bind, List.append_nil]
  rfl

/-- **`%%` prints `%`**, for every time. -/
theorem strftime_percent (t : Cal.Broken) : strftime t fmtPercent = .ok [37] := by
  rw [strftime_eq_render, tokens_percent]
  rfl

example : strftime (Cal.broken 5) fmtUnix = .ok [48, 53] ∧ strftime (Cal.broken (-5)) fmtUnix = .ok [45, 53] := by decide +kernel
