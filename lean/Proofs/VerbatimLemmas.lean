import Proofs.RunLemmas
/-!
# Helper lemmas for `Proofs/C05Verbatim.lean`: a run of verbatim writes, sequences, roots, the two trim nodes
-/

theorem writeAll_runPure_clear (env : Env) : ∀ cs : List Bytes,
    (writeAllM cs ⟨env, ⟨[], false⟩⟩).runPure = (cs.flatten, .ok ((), ⟨env, ⟨[], false⟩⟩))
  | [] => rfl
  | c :: cs => by
    simp only [writeAllM, bind, M.bind]
    rw [Prog.runPure_bind, writeVerbatim_runPure]
    simp only [writeAll_runPure_clear env cs, List.nil_append, List.flatten_cons]

/-- a non-empty run of verbatim writes, from ANY state of the trim writer: the pending text goes out
    unchanged, then every chunk unchanged — a pending right trim is dropped, not applied — and nothing
    stays pending -/
theorem writeAll_runPure (cs : List Bytes) (hne : cs ≠ []) (env : Env) (buf : Bytes) (t : Bool) :
    (writeAllM cs ⟨env, ⟨buf, t⟩⟩).runPure = (buf ++ cs.flatten, .ok ((), ⟨env, ⟨[], false⟩⟩)) := by
  cases cs with
  | nil => exact absurd rfl hne
  | cons c cs =>
    simp only [writeAllM, bind, M.bind]
    rw [Prog.runPure_bind, writeVerbatim_runPure]
    simp only [writeAll_runPure_clear env cs, List.flatten_cons, List.append_assoc]

theorem renderList_cons_apply (c : RCtx) (n : Node) (ns : List Node) (s : RS) :
    renderList c (n :: ns) s = (renderNode c n s).bind fun r =>
      match r.1 with
      | .done => renderList c ns r.2
      | st => .ret (st, r.2) := by
  simp only [renderList, bind, M.bind]
  congr 1
  funext r
  obtain ⟨st, s'⟩ := r
  cases st <;> rfl

theorem renderList_append_run (c : RCtx) (B A : List Node) (s0 s1 : RS) (outA : Bytes)
    (h : (renderList c A s0).runPure = (outA, .ok (.done, s1))) :
    (renderList c (A ++ B) s0).runPure = (outA ++ (renderList c B s1).runPure.1, (renderList c B s1).runPure.2) := by
  rw [renderList_append]
  show ((renderList c A s0).bind _).runPure = _
  rw [Prog.runPure_bind, h]

theorem renderRoot_of_prefix (c : RCtx) (X B : List Node) (env : Env) (o : Bytes) (env1 : Env)
    (h : (renderList c X ⟨env, {}⟩).runPure = (o, .ok (.done, ⟨env1, {}⟩))) :
    (renderRoot c (X ++ B) env).runPure = (o ++ (renderRoot c B env1).runPure.1, (renderRoot c B env1).runPure.2) := by
  unfold renderRoot
  rw [renderList_append]
  show (((renderList c X _).bind _).bind _).runPure = _
  rw [Prog.bind_assoc, Prog.runPure_bind, h]

theorem trimRight_node_run (c : RCtx) (env : Env) (B : Bytes) (t : Bool) :
    (renderNode c (.trim false) ⟨env, ⟨B, t⟩⟩).runPure = ([], .ok (.done, ⟨env, ⟨B, true⟩⟩)) := by
  simp [renderNode, trimRightM, bind, M.bind, pure, M.pure, Prog.bind, Prog.runPure]

theorem trimLeft_node_run (c : RCtx) (env : Env) (B : Bytes) (t : Bool) :
    (renderNode c (.trim true) ⟨env, ⟨B, t⟩⟩).runPure = (trimRightSpace B, .ok (.done, ⟨env, ⟨[], t⟩⟩)) := by
  simp [renderNode, trimLeftM, wrapFailAt, M.mapFail, bind, M.bind, pure, M.pure, Prog.bind, Prog.mapFail, Prog.runPure]

theorem final_flush_clear (path : Bytes) (env : Env) (t : Bool) :
    (wrapFailAt path invalidLoc flushM ⟨env, ⟨[], t⟩⟩).runPure = ([], .ok ((), ⟨env, ⟨[], t⟩⟩)) := by
  simp [wrapFailAt, M.mapFail, flushM, Prog.mapFail, Prog.runPure]
