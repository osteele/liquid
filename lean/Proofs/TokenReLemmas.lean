import Liquid.TokenReSrc
import Proofs.ScanLemmas
/-!
# Helper lemmas for `Proofs/TokenRe.lean`: the printer `Re.toGoP` on the shapes `tokenRe` is made of,
the evaluation of the standard `formTokenMatcher` structure (`stdTokenReSrc`), and the group numbering
of `tokenRe`
-/

theorem toGoP_chr (p : Pred) (ctx : Nat) : (Re.chr p).toGoP ctx = p.toGo := rfl
theorem toGoP_group (i : Nat) (a : Re) (ctx : Nat) : (Re.group i a).toGoP ctx = [40] ++ a.toGoP 0 ++ [41] := rfl
theorem toGoP_star (g : Bool) (a : Re) (ctx : Nat) :
    (Re.star g a).toGoP ctx = goWrap (decide (2 ≤ ctx)) (a.toGoP 2 ++ [42] ++ lazyMark g) := rfl

theorem toGoP_seq (a b : Re) (ctx : Nat) (h : ∀ g c, b ≠ .star g c) :
    (Re.seq a b).toGoP ctx = goWrap (decide (2 ≤ ctx)) (a.toGoP 1 ++ b.toGoP 1) := by
  cases b with
  | star g c => exact absurd rfl (h g c)
  | _ => rfl

theorem toGoP_alt (a b : Re) (ctx : Nat) (ha : a ≠ .eps) (hb : b ≠ .eps) :
    (Re.alt a b).toGoP ctx = goWrap (decide (1 ≤ ctx)) (a.toGoP 0 ++ [124] ++ b.toGoP 0) := by
  cases b with
  | eps => exact absurd rfl hb
  | _ =>
    cases a with
    | eps => exact absurd rfl ha
    | _ => rfl

theorem toGoP_plus (a : Re) (g : Bool) (ctx : Nat) :
    (Re.seq a (.star g a)).toGoP ctx = goWrap (decide (2 ≤ ctx)) (a.toGoP 2 ++ [43] ++ lazyMark g) := by
  simp [Re.toGoP]

theorem toGoP_opt (a : Re) (ctx : Nat) :
    (Re.opt a).toGoP ctx = goWrap (decide (2 ≤ ctx)) (a.toGoP 2 ++ [63]) := by
  cases a <;> rfl

theorem lit_ne_star (s : Bytes) (g : Bool) (c : Re) : Re.lit s ≠ .star g c := by
  cases s <;> simp [Re.lit]

theorem toGoP_lit (s : Bytes) : (Re.lit s).toGoP 1 = quoteMeta s := by
  induction s with
  | nil => rfl
  | cons b r ih =>
    show (Re.seq (.chr (.eq b)) (Re.lit r)).toGoP 1 = _
    rw [toGoP_seq _ _ _ (lit_ne_star r), ih]
    rfl

/-- an expression that prints as a concatenation: wrapped exactly as an operand of a postfix operator -/
def IsCat (x : Re) : Prop := ∃ a b, x = .seq a b ∧ ∀ g c, b ≠ .star g c

theorem IsCat.toGoP2 {x : Re} (h : IsCat x) : x.toGoP 2 = goWrap true (x.toGoP 0) := by
  obtain ⟨a, b, rfl, hb⟩ := h
  rw [toGoP_seq _ _ _ hb, toGoP_seq _ _ _ hb]; rfl

theorem IsCat.ne_eps {x : Re} (h : IsCat x) : x ≠ .eps := by
  obtain ⟨a, b, rfl, _⟩ := h; simp

theorem alts_ne_eps : ∀ (l : List Re), l ≠ [] → (∀ x ∈ l, IsCat x) → Re.alts l ≠ .eps
  | [], h, _ => absurd rfl h
  | [a], _, h => (h a (by simp)).ne_eps
  | a :: b :: r, _, _ => by simp [Re.alts]

theorem toGoP_alts0 : ∀ (l : List Re), l ≠ [] → (∀ x ∈ l, IsCat x) →
    (Re.alts l).toGoP 0 = joinBytes [124] (l.map (·.toGoP 0))
  | [], h, _ => absurd rfl h
  | [a], _, _ => rfl
  | a :: b :: r, _, h => by
    show (Re.alt a (Re.alts (b :: r))).toGoP 0 = _
    have hr : ∀ x ∈ b :: r, IsCat x := fun x hx => h x (List.mem_cons_of_mem _ hx)
    rw [toGoP_alt _ _ _ (h a (by simp)).ne_eps (alts_ne_eps _ (by simp) hr), toGoP_alts0 (b :: r) (by simp) hr]
    rfl

theorem toGoP_alt2 (a b : Re) (ha : a ≠ .eps) (hb : b ≠ .eps) : (Re.alt a b).toGoP 2 = goWrap true ((Re.alt a b).toGoP 0) := by
  rw [toGoP_alt _ _ 2 ha hb, toGoP_alt _ _ 0 ha hb]; rfl

theorem toGoP_alts2 : ∀ (l : List Re), (∀ x ∈ l, IsCat x) →
    (Re.alts l).toGoP 2 = goWrap true (joinBytes [124] (l.map (·.toGoP 0)))
  | [], _ => rfl
  | [a], h => (h a (by simp)).toGoP2
  | a :: b :: r, h => by
    have hr : ∀ x ∈ b :: r, IsCat x := fun x hx => h x (List.mem_cons_of_mem _ hx)
    rw [← toGoP_alts0 (a :: b :: r) (by simp) h]
    exact toGoP_alt2 a _ (h a (by simp)).ne_eps (alts_ne_eps _ (by simp) hr)

/-- the text of `exclAlt tr i`, as the source's loop body writes it -/
def exclText (tr : Bytes) (i : Nat) : Bytes :=
  quoteMeta (tr.take i) ++ ([91, 94] ++ (quoteMeta [tr.getD i 0] ++ [93]))

theorem exclAlt_isCat (tr : Bytes) (i : Nat) : IsCat (exclAlt tr i) :=
  ⟨_, _, rfl, by intro g c; simp⟩

theorem exclAlt_toGoP (tr : Bytes) (i : Nat) : (exclAlt tr i).toGoP 0 = exclText tr i := by
  unfold exclAlt exclText
  rw [toGoP_seq _ _ _ (by intro g c; simp), toGoP_lit]
  simp [goWrap, Re.toGoP, Pred.toGo, quoteMeta]

theorem exclusionLoop_std (ol or tl tr : Bytes) : ∀ (l : List Nat), (∀ i ∈ l, i < tr.length) →
    exclusionLoop [ol, or, tl, tr] stdTokenReSrc.exclItem tr l = some (l.map (exclText tr))
  | [], _ => rfl
  | i :: r, h => by
    have hi : i < tr.length := h i (by simp)
    have hr := exclusionLoop_std ol or tl tr r (fun j hj => h j (List.mem_cons_of_mem _ hj))
    simp only [exclusionLoop, List.getElem?_eq_getElem hi, hr]
    simp [stdTokenReSrc, StrExpr.eval, exclText, List.getD, List.getElem?_eq_getElem hi]

/-- ``-?\s*((?s:.)+?)\s*-?`` -/
def patObj : Bytes := [45, 63, 92, 115, 42, 40, 40, 63, 115, 58, 46, 41, 43, 63, 41, 92, 115, 42, 45, 63]
/-- ``-?\s*(\w+)(?:\s+((?:`` -/
def patTagL : Bytes := [45, 63, 92, 115, 42, 40, 92, 119, 43, 41, 40, 63, 58, 92, 115, 43, 40, 40, 63, 58]
/-- ``)+?))?\s*-?`` -/
def patTagR : Bytes := [41, 43, 63, 41, 41, 63, 92, 115, 42, 45, 63]

/-- `OL patObj OR | TL patTagL EXCL patTagR TR` -/
def patText (ol or tl excl tr : Bytes) : Bytes :=
  ol ++ (patObj ++ (or ++ ([124] ++ (tl ++ (patTagL ++ (excl ++ (patTagR ++ tr)))))))

theorem normalizeFormat_std :
    normalizeFormat stdTokenReSrc.format = patText [37, 115] [37, 115] [37, 115] [37, 115] [37, 115] := by
  decide +kernel

theorem sprintf_verb {r : Bytes} {a x : Bytes} {as : List Bytes} (h : sprintf r as = some x) :
    sprintf ([37, 115] ++ r) (a :: as) = some (a ++ x) := by
  simp [sprintf, h]

theorem sprintf_lits {l r x : Bytes} {as : List Bytes} (hl : l.all (· != 37) = true) (h : sprintf r as = some x) :
    sprintf (l ++ r) as = some (l ++ x) := by
  induction l with
  | nil => exact h
  | cons b l ih =>
    obtain ⟨hb, hl⟩ := Bool.and_eq_true_iff.mp (List.all_cons.symm.trans hl)
    rw [List.cons_append, sprintf.eq_def]
    simp only [hb, if_true, ih hl, Option.map_some]
    rfl

theorem sprintf_std (a0 a1 a2 a3 a4 : Bytes) :
    sprintf (normalizeFormat stdTokenReSrc.format) [a0, a1, a2, a3, a4] = some (patText a0 a1 a2 a3 a4) := by
  rw [normalizeFormat_std]
  have h4 : sprintf [37, 115] [a4] = some a4 := by simp [sprintf]
  exact sprintf_verb (sprintf_lits (by decide) (sprintf_verb (sprintf_lits (by decide) (sprintf_verb
    (sprintf_lits (by decide) (sprintf_verb (sprintf_lits (by decide) h4)))))))

theorem pattern_std (ol or tl tr : Bytes) (h : isAscii tr = true) :
    stdTokenReSrc.normalized.pattern [ol, or, tl, tr] =
      some (patText (quoteMeta ol) (quoteMeta or) (quoteMeta tl)
        (joinBytes [124] ((List.range tr.length).map (exclText tr))) (quoteMeta tr)) := by
  have hl := exclusionLoop_std ol or tl tr (List.range tr.length) (fun _ hi => List.mem_range.1 hi)
  have hargs : evalAll { delims := [ol, or, tl, tr], excl := (List.range tr.length).map (exclText tr) } stdTokenReSrc.args =
      some [quoteMeta ol, quoteMeta or, quoteMeta tl, joinBytes [124] ((List.range tr.length).map (exclText tr)), quoteMeta tr] := by
    simp [stdTokenReSrc, evalAll, StrExpr.eval]
  unfold TokenReSrc.pattern
  have h3 : ([ol, or, tl, tr] : List Bytes)[stdTokenReSrc.normalized.exclOver]? = some tr := rfl
  rw [h3]
  simp only [h, Bool.not_true, Bool.false_eq_true, if_false]
  have hi : stdTokenReSrc.normalized.exclItem = stdTokenReSrc.exclItem := rfl
  have ha : stdTokenReSrc.normalized.args = stdTokenReSrc.args := rfl
  have hf : stdTokenReSrc.normalized.format = normalizeFormat stdTokenReSrc.format := rfl
  rw [hi, hl]
  simp only [ha, hargs, hf]
  exact sprintf_std _ _ _ _ _

theorem tokenRe_toGoSyntax (d : Delims) :
    (tokenRe d).toGoSyntax = patText (quoteMeta d.ol) (quoteMeta d.or) (quoteMeta d.tl)
      (joinBytes [124] ((List.range d.tr.length).map (exclText d.tr))) (quoteMeta d.tr) := by
  have hx : (Re.alts (exclAlts d.tr)).toGoP 2 = goWrap true (joinBytes [124] ((List.range d.tr.length).map (exclText d.tr))) := by
    rw [exclAlts_eq, toGoP_alts2 _ (by intro x hx; obtain ⟨i, _, rfl⟩ := List.mem_map.1 hx; exact exclAlt_isCat _ _)]
    simp [List.map_map, Function.comp_def, exclAlt_toGoP]
  have h45 : quoteByte 45 = [45] := by decide +kernel
  unfold Re.toGoSyntax tokenRe patText patObj patTagL patTagR
  simp only [Re.plusLazy, Re.plus, hy, sp]
  simp only [ne_eq, reduceCtorEq, not_false_eq_true, toGoP_alt, goWrap, Nat.le_zero_eq, Nat.succ_ne_self,
    decide_false, Bool.false_eq_true, ↓reduceIte, implies_true, toGoP_seq, toGoP_lit, Nat.reduceLeDiff, toGoP_opt,
    toGoP_chr, Pred.toGo, h45, List.cons_append, List.nil_append,
    toGoP_star, lazyMark, List.append_nil, toGoP_group, toGoP_plus, lit_ne_star, List.append_assoc, Std.le_refl,
    decide_true, hx]

theorem groupOrder_seq (a b : Re) (h : ∀ g c, b ≠ .star g c) : (Re.seq a b).groupOrder = a.groupOrder ++ b.groupOrder := by
  cases b with
  | star g c => exact absurd rfl (h g c)
  | _ => rfl

theorem groupOrder_plus (a : Re) (g : Bool) : (Re.seq a (.star g a)).groupOrder = a.groupOrder := by
  simp [Re.groupOrder]

theorem groupOrder_lit (s : Bytes) : (Re.lit s).groupOrder = [] := by
  induction s with
  | nil => rfl
  | cons b r ih =>
    show (Re.seq (.chr (.eq b)) (Re.lit r)).groupOrder = _
    rw [groupOrder_seq _ _ (lit_ne_star r), ih]; rfl

theorem groupOrder_alts : ∀ (l : List Re), (∀ x ∈ l, x.groupOrder = []) → (Re.alts l).groupOrder = []
  | [], _ => rfl
  | [a], h => h a (by simp)
  | a :: b :: r, h => by
    show (Re.alt a (Re.alts (b :: r))).groupOrder = []
    simp only [Re.groupOrder, h a (by simp), groupOrder_alts (b :: r) (fun x hx => h x (List.mem_cons_of_mem _ hx)), List.append_nil]

theorem exclAlt_groupOrder (tr : Bytes) (i : Nat) : (exclAlt tr i).groupOrder = [] := by
  unfold exclAlt
  rw [groupOrder_seq _ _ (by intro g c; simp), groupOrder_lit]; rfl
