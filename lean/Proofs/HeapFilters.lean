import Proofs.HeapLogic
import Proofs.ArrLemmas
import Proofs.StdNoPanicLemmas
/-!
# The filter bodies and `values.Convert(·, []any)` on the slice memory refine `Filters/Arr.lean` / `Convert.lean`

Helper lemmas for `Proofs/C15Heap.lean`. A body that returns a slice has a statement of the shape
`Rd a st xs → Tri st.length st (bodyH a …) (pure body on xs) (Owned st.length)`: the run fails exactly as the pure body
fails, and when that succeeds with `ys` the run succeeds with a well-formed slice that reads `ys` in the final
store, lies in an array allocated by the run (or is nil), and no array of `st` was touched (`Tri.result` in `Proofs/C15Heap.lean`
says it with `Result st`, the form of the property statements). `first` and `last` only load (`firstH_run`, `lastH_run`), `join`
returns a value, and the conversion ends in `Rd`, not `Owned`: its result may be the caller's own slice. Each proof is one pass
over the Go text with the rules of `Proofs/HeapLogic.lean`; only `reverse` has a loop of its own, which is the list function `revFill`.
-/

namespace Heap

open ArrF

theorem collectP_compact (xs : List GoVal) : collectP compactStep () xs = .ok (compactF xs) := by
  induction xs with
  | nil => rfl
  | cons x xs ih =>
    simp only [collectP, compactStep, Res.bind, ih, compactF]
    cases x.isNil <;> rfl

/-- a loop that starts from the nil slice (`compact`, `map`, `uniq`) -/
theorem collect_none_tri {σ : Type} {step : σ → GoVal → Res Cause (σ × Option GoVal)} {s0 : σ} {st : Store} {a : Slice}
    {xs : List GoVal} (ha : Rd a st xs) {x : Res Cause (List GoVal)} (hx : collectP step s0 xs = x) :
    Tri st.length st (collect a step s0 none) x (Owned st.length) :=
  hx ▸ (collect_tri (In.of_rd ha) (Owned.none _ st)).post fun _ _ _ h => by simpa using h

theorem compactH_tri {st : Store} {a : Slice} {xs : List GoVal} (ha : Rd a st xs) :
    Tri st.length st (compactH a) (.ok (compactF xs)) (Owned st.length) :=
  collect_none_tri ha (collectP_compact _)

theorem collectP_map (k : Bytes) (xs : List GoVal) : collectP (mapStep k) () xs = mapF k xs := by
  induction xs with
  | nil => rfl
  | cons x xs ih =>
    simp only [collectP, mapStep, mapF, ih]
    cases propOf x k <;> simp only [Res.bind] <;> try (cases mapF k xs <;> rfl)

theorem mapH_tri {st : Store} {a : Slice} {xs : List GoVal} (ha : Rd a st xs) (k : Bytes) :
    Tri st.length st (mapH a k) (mapF k xs) (Owned st.length) :=
  collect_none_tri ha (collectP_map k _)

/-- the pure `uniq` on a list (`ArrF.uniq` without the wrapping) -/
def uniqP (xs : List GoVal) : Res Cause (List GoVal) :=
  if xs.any hasPtr then .unmodelled "uniq: pointer identity" else .ok (uniqF xs)

theorem collectP_uniq (xs : List GoVal) : ∀ seen : List String,
    collectP uniqStep seen xs = if xs.any hasPtr then .unmodelled "uniq: pointer identity" else .ok (uniqOn ArrF.uniqKey seen xs) := by
  induction xs with
  | nil => intro seen; rfl
  | cons x xs ih =>
    intro seen
    simp only [collectP, uniqStep, List.any_cons]
    by_cases hp : hasPtr x = true
    · simp [hp, Res.bind]
    · have hp' : hasPtr x = false := by simpa using hp
      simp only [hp', Bool.false_eq_true, if_false, Bool.false_or]
      by_cases hc : seen.contains (ArrF.uniqKey x) = true
      · simp only [hc, if_true, Res.bind, ih seen, uniqOn]
        cases xs.any hasPtr <;> simp
      · have hc' : seen.contains (ArrF.uniqKey x) = false := by simpa using hc
        simp only [hc', Bool.false_eq_true, if_false, Res.bind, ih (ArrF.uniqKey x :: seen), uniqOn]
        cases xs.any hasPtr <;> simp

theorem uniqH_tri {st : Store} {a : Slice} {xs : List GoVal} (ha : Rd a st xs) :
    Tri st.length st (uniqH a) (uniqP xs) (Owned st.length) :=
  collect_none_tri ha (collectP_uniq _ [])

theorem uniq_eq_uniqP (xs : List GoVal) : ArrF.uniq [.slice .any xs] = (uniqP xs).bind fun ys => .ok (.slice .any ys) := by
  simp only [ArrF.uniq, uniqP]
  cases xs.any hasPtr <;> simp [Res.bind]

theorem concatH_tri {st : Store} {a b : Slice} {xs ys : List GoVal} (ha : Rd a st xs) (hb : Rd b st ys) :
    Tri st.length st (concatH a b) (.ok (concatF xs ys)) (Owned st.length) :=
  have ha := In.of_rd ha
  have hb := In.of_rd hb
  Tri.step (make_tri (Nat.zero_le _)) fun _ _ k0 h0 => Tri.load (ha.kept k0).elems <|
    Tri.step (append_tri h0 _) fun _ _ k1 h1 => Tri.load ((hb.kept k0).kept k1).elems <|
      (append_tri h1 _).post fun _ _ _ h2 => h2

theorem firstH_run {st : Store} {a : Slice} {xs : List GoVal} (h : Rd a st xs) : run (firstH a) st = .ok ⟨firstF xs, st, []⟩ := by
  rw [firstH, h.length]
  cases xs with
  | nil => rfl
  | cons x xs =>
    rw [List.length_cons, if_neg (Nat.succ_ne_zero _)]
    exact h.index rfl

theorem lastH_run {st : Store} {a : Slice} {xs : List GoVal} (h : Rd a st xs) : run (lastH a) st = .ok ⟨lastF xs, st, []⟩ := by
  rw [lastH, h.length]
  by_cases h0 : xs.length = 0
  · rw [if_pos h0, List.eq_nil_of_length_eq_zero h0]
    rfl
  · obtain ⟨v, hv⟩ : ∃ v, xs[xs.length - 1]? = some v := ⟨_, List.getElem?_eq_getElem (Nat.sub_one_lt h0)⟩
    rw [if_neg h0, lastF_eq_getD, List.getD_eq_getElem?_getD, hv]
    exact h.index hv

/-- the loop of `reverse` on lists: `l` is the result array, `i` the index of the next element of the input -/
def revFill : List GoVal → Nat → List GoVal → List GoVal
  | [], _, l => l
  | x :: xs, i, l => revFill xs (i + 1) (l.set (l.length - 1 - i) x)

/-- with `acc` already in place behind `pre`, the loop turns the places of `pre` into the rest of the reversed input -/
theorem revFill_eq : ∀ (xs pre acc : List GoVal), pre.length = xs.length →
    revFill xs acc.length (pre ++ acc) = xs.reverse ++ acc
  | [], pre, acc, h => by rw [List.eq_nil_of_length_eq_zero h]; rfl
  | x :: xs, pre, acc, h => by
    obtain ⟨pre', p, rfl⟩ : ∃ pre' p, pre = pre' ++ [p] :=
      ⟨pre.dropLast, pre.getLast (by intro e; rw [e] at h; cases h), (List.dropLast_concat_getLast _).symm⟩
    have hl : pre'.length = xs.length := by simpa using h
    have hs : (pre' ++ [p] ++ acc).set ((pre' ++ [p] ++ acc).length - 1 - acc.length) x = pre' ++ x :: acc := by
      rw [List.append_assoc, List.set_append_right _ _ (by simp)]
      simp
    rw [revFill, hs]
    exact (revFill_eq xs pre' (x :: acc) hl).trans (by simp)

theorem reverseLoop_tri {N : Nat} {a res : Slice} {xs : List GoVal} (m : Nat) : ∀ {i : Nat} {st : Store} {l : List GoVal},
    In N a st xs → Owned N res st l → i + m = xs.length → l.length = xs.length →
      Tri N st (reverseLoop a res m i) (.ok ()) fun _ st' _ => Owned N res st' (revFill (xs.drop i) i l) := by
  induction m with
  | zero =>
    intro i st l _ ho him _
    rw [List.drop_eq_nil_of_le (by omega)]
    exact Tri.ret ho
  | succ m ih =>
    intro i st l ha ho him hl
    have hi : i < xs.length := by omega
    rw [List.drop_eq_getElem_cons hi, revFill, ← ho.length, reverseLoop]
    exact Tri.load (ha.index (List.getElem?_eq_getElem hi)) <| Tri.step (setIndex_tri ho (by rw [ho.length]; omega) _) fun _ _ k1 h1 =>
      ih (ha.kept k1) h1 (by omega) ((List.length_set ..).trans hl)

theorem reverseH_tri {st : Store} {a : Slice} {xs : List GoVal} (ha : Rd a st xs) :
    Tri st.length st (reverseH a) (.ok (reverseF xs)) (Owned st.length) := by
  have ha := In.of_rd ha
  have hfill : revFill (xs.drop 0) 0 (List.replicate xs.length .nil) = xs.reverse := by
    simpa using revFill_eq xs (List.replicate xs.length .nil) [] (by simp)
  rw [reverseF_eq, reverseH, ha.length]
  exact Tri.step (make_tri (Nat.le_refl _)) fun _ _ k0 h0 =>
    Tri.step (reverseLoop_tri _ (ha.kept k0) h0 (Nat.zero_add _) (List.length_replicate ..)) fun _ _ _ h1 =>
      Tri.ret (hfill ▸ h1)

theorem decorate_length (f : GoVal → R Bytes) : ∀ (xs : List GoVal) (ds : List (Bytes × GoVal)),
    decorate f xs = .ok ds → ds.length = xs.length := by
  intro xs ds h
  rw [← decorate_snd h, List.length_map]

theorem sortedList_perm {strict natural : Bool} {xs ys : List GoVal} {key : GoVal}
    (h : sortedList strict natural xs key = .ok ys) : ys.Perm xs := by
  unfold sortedList at h
  split at h
  · next heq =>
    cases h
    obtain ⟨zs, hz, hp⟩ := sortFn_ok_perm heq
    cases hz
    exact hp
  all_goals cases h

theorem sortH_tri {st : Store} {a : Slice} {xs : List GoVal} (ha : Rd a st xs) (strict natural : Bool) (key : GoVal) :
    Tri st.length st (sortH strict natural a key) (sortedList strict natural xs key) (Owned st.length) := by
  have ha := In.of_rd ha
  rw [sortH, ha.length, ← Res.bind_pure (sortedList strict natural xs key)]
  exact Tri.step (make_tri (Nat.le_refl _)) fun _ _ k0 h0 =>
    Tri.step (copy_tri h0 (ha.kept k0).toRd (List.length_replicate ..)) fun _ _ _ h1 =>
      Tri.load h1.elems <| Tri.pure rfl fun _ hys =>
        Tri.step (overwrite_tri h1 (sortedList_perm hys).length_eq) fun _ _ _ h2 => Tri.ret h2

theorem collectP_join (xs : List GoVal) :
    collectP joinStep () xs = (sprintNonNil xs).bind fun bs => .ok (bs.map GoVal.str) := by
  induction xs with
  | nil => rfl
  | cons x xs ih =>
    simp only [collectP, joinStep, sprintNonNil]
    cases hx : x.isNil with
    | true =>
      simp only [if_true, Res.bind, ih]
      cases sprintNonNil xs <;> rfl
    | false =>
      simp only [Bool.false_eq_true, if_false]
      cases sprintR x with
      | ok b =>
        simp only [Res.bind, ih]
        cases sprintNonNil xs <;> rfl
      | _ => rfl

theorem map_strOf_str (bs : List Bytes) : (bs.map GoVal.str).map strOf = bs :=
  List.map_map.trans (List.map_id' bs)

theorem joinH_tri {st : Store} {a : Slice} {xs : List GoVal} (ha : Rd a st xs) (sep : Bytes) :
    Tri st.length st (joinH a sep) (joinF xs sep) fun v _ w => v = w := by
  have ha := In.of_rd ha
  have hpure : joinF xs sep = (collectP joinStep () xs).bind fun strs => .ok (.str (joinBytes sep (strs.map strOf))) := by
    rw [collectP_join]
    unfold joinF
    cases sprintNonNil xs <;> simp only [Res.bind, map_strOf_str]
  exact hpure ▸ Tri.step (make_tri (Nat.zero_le _)) fun _ _ k0 h0 => Tri.bind (collect_tri (ha.kept k0) h0) fun _ _ _ _ h1 =>
    Tri.load h1.elems (Tri.ret rfl)

theorem isDropTok_false {x : GoVal} (h : isDropTok x = false) : x.toLiquid = x := by
  cases x with
  | drop v => simp [isDropTok] at h
  | ptr v => cases v <;> first | rfl | simp [isDropTok] at h
  | _ => rfl

theorem convElems_of_noDrop (xs : List GoVal) (h : xs.any isDropTok = false) : convElems xs = xs :=
  map_toLiquid_of_noDrop xs fun x hx => isDropTok_false (by simpa using List.any_eq_false.mp h x hx)

theorem collectP_toLiquid (xs : List GoVal) :
    collectP (fun (_ : Unit) x => .ok ((), some x.toLiquid)) () xs = .ok (convElems xs) := by
  induction xs with
  | nil => rfl
  | cons x xs ih => simp only [collectP, Res.bind, ih, convElems, List.map_cons]

theorem convElemwise_tri {N : Nat} {st : Store} {s : Slice} {xs : List GoVal} (h : In N s st xs) :
    Tri N st (convElemwise s) (.ok (convElems xs)) (Owned N) :=
  Tri.step (make_tri (Nat.zero_le _)) fun _ _ k0 h0 => collectP_toLiquid xs ▸ collect_tri (h.kept k0) h0

/-- a `[]any` without drops is handed on as it is, every other slice is copied element by element -/
theorem convSlice_tri {N : Nat} {st : Store} {s : Slice} {xs : List GoVal} (h : In N s st xs) (t : Ty) :
    Tri N st (convSlice t s) (.ok (convElems xs)) Rd := by
  have hel := (convElemwise_tri h).post fun _ _ _ o => o.toRd
  unfold convSlice
  split
  · refine Tri.load h.elems ?_
    cases hd : xs.any isDropTok with
    | true => exact hel
    | false => exact Tri.ret ⟨h.wf, h.reads.trans (convElems_of_noDrop _ hd).symm⟩
  · exact hel

theorem freshSlice_tri {N : Nat} {st : Store} (ys : List GoVal) : Tri N st (freshSlice ys) (.ok ys) (Owned N) :=
  Tri.step (make_tri (Nat.zero_le _)) fun _ _ _ h0 => (appendEach_tri ys h0).post fun _ _ _ h => h

/-- the pure conversion of a receiver (or of `concat`'s argument): nil is the empty array -/
def convAnysP (g : GoVal) : Res Cause (List GoVal) :=
  match g with
  | .nil => .ok []
  | g => (convert g .anys).bind fun
    | .slice .any ys => .ok ys
    | _ => .panic "Convert: the result is not a []any"

theorem convertAnys_val {g : GoVal} (h : g ≠ .nil) : convertAnys (.val g) =
    match g.toLiquid with
    | .slice t xs => .alloc xs fun a => convSlice t (some ⟨a, 0, xs.length, xs.length⟩)
    | _ =>
      match convert g .anys with
      | .ok (.slice .any ys) => freshSlice ys
      | .ok _ => .halt (.panic "Convert: the result is not a []any")
      | .err c => .halt (.err c)
      | .panic w => .halt (.panic w)
      | .unmodelled w => .halt (.unmodelled w) := by
  unfold convertAnys
  split
  · next heq => cases heq
  · next heq => cases heq; exact absurd rfl h
  · next heq => cases heq; rfl

theorem convAnysP_val {g : GoVal} (h : g ≠ .nil) : convAnysP g = (convert g .anys).bind fun
    | .slice .any ys => .ok ys
    | _ => .panic "Convert: the result is not a []any" := by
  unfold convAnysP
  split
  · exact absurd rfl h
  · rfl

theorem convert_of_slice {g : GoVal} {t : Ty} {xs : List GoVal} (h : g.toLiquid = .slice t xs) :
    convert g .anys = .ok (.slice .any (convElems xs)) := by
  simp [convert, h]

theorem convertAnys_tri {st : Store} {v : HVal} (hw : HVal.wf st v) :
    Tri st.length st (convertAnys v) (convAnysP (v.abs st)) Rd := by
  cases v with
  | sl t s =>
    have h := convSlice_tri (In.of_rd ⟨hw, rfl⟩) t
    simpa [convertAnys, HVal.abs, convAnysP, convert, GoVal.toLiquid, Res.bind] using h
  | val g =>
    simp only [HVal.abs]
    by_cases hn : g = .nil
    · subst hn
      exact Tri.ret ⟨trivial, rfl⟩
    · rw [convertAnys_val hn, convAnysP_val hn]
      split
      · rename_i t xs heq
        rw [convert_of_slice heq]
        -- the slice met as a value is listed as a new array, which the conversion then treats as the caller's
        have hrd : Rd (some ⟨st.length, 0, xs.length, xs.length⟩) (st ++ [xs]) xs :=
          ⟨wf_alloc (Nat.le_refl _) (Nat.le_refl xs.length), (view_alloc ..).trans (List.take_length ..)⟩
        exact Tri.alloc (Tri.lower (convSlice_tri (In.of_rd hrd) t))
      · split
        · rename_i ys heq
          rw [heq]
          exact (freshSlice_tri ys).post fun _ _ _ o => o.toRd
        · rename_i w hne heq
          obtain ⟨ys, rfl⟩ := convert_hasTy (t := .anys) heq
          exact absurd rfl (hne ys)
        all_goals (rename_i c heq; rw [heq]; exact fun _ => rfl)

end Heap
