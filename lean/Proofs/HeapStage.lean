import Proofs.HeapFilters
/-!
# One filter application and a pipeline on the slice memory refine their pure counterparts

`bodyP` / `stageP` / `chainP` are `bodyF` / `stageF` / `runChainF` of `Liquid/Heap.lean` with every slice
replaced by the list of its elements (`HVal.abs`): conversion (`convAnysP` = `Convert.convert · .anys`), then the
body of `Filters/Arr.lean`. `bodyF_tri`, `stageF_tri`, `runChainF_tri`: the run on the memory answers
as the pure function does, and its result reads, in the final store, as the pure result (`Stands`). The readers of the
arguments load and convert, so they run as the lifted pure conversion does (`sepOf_run`, `strArg_run`, `anyArg_run`, `sizeH_run`)
and enter a triple by `Tri.pure`.
-/

namespace Heap

open ArrF

/-- a value of a pipeline that is well-formed and stands for `w` -/
structure Stands (v : HVal) (st : Store) (w : GoVal) : Prop where
  wf : HVal.wf st v
  abs : v.abs st = w

theorem freeze_run {st : Store} {h : HVal} (hw : HVal.wf st h) : run (freeze h) st = .ok ⟨h.abs st, st, []⟩ := by
  cases h with
  | val v => rfl
  | sl t s => exact run_load (run_elems hw)

def optAbs (st : Store) (oh : Option HVal) : Option GoVal := oh.map (·.abs st)

def OptWf (st : Store) : Option HVal → Prop
  | none => True
  | some h => HVal.wf st h

theorem freezeOpt_run {st : Store} {oh : Option HVal} (hw : OptWf st oh) :
    run (freezeOpt oh) st = .ok ⟨optAbs st oh, st, []⟩ := by
  cases oh with
  | none => rfl
  | some h => exact run_load (freeze_run hw)

/-- `sep(" ")` on values -/
def sepP : Option GoVal → Res Cause Bytes
  | none => .ok [32]
  | some g => (convert g .str).bind fun
    | .str s => .ok s
    | _ => .panic "filter called with arguments of the wrong type"

def strArgP (og : Option GoVal) : Res Cause Bytes :=
  (convArgVal .str og).bind fun
    | .str s => .ok s
    | _ => .panic "filter called with arguments of the wrong type"

theorem sepOf_run {st : Store} {oh : Option HVal} (hw : OptWf st oh) :
    run (sepOf oh) st = run (liftR (sepP (optAbs st oh))) st := by
  cases oh with
  | none => rfl
  | some h =>
    rw [sepOf, run_load (freeze_run hw)]
    simp only [optAbs, Option.map, sepP]
    -- what `convert · .str` answers is a string: only that branch of the `match` is live
    cases hc : convert (h.abs st) .str with
    | ok w =>
      obtain ⟨s, rfl⟩ := convert_hasTy (t := .str) hc
      rfl
    | _ => rfl

theorem strArg_run {st : Store} {oh : Option HVal} (hw : OptWf st oh) :
    run (strArg oh) st = run (liftR (strArgP (optAbs st oh))) st := by
  rw [strArg, run_load (freezeOpt_run hw), strArgP]
  cases hc : convArgVal .str (optAbs st oh) with
  | ok w =>
    obtain ⟨s, rfl⟩ := (convArgVal_resTy .str _).2 w hc
    rfl
  | _ => rfl

theorem anyArg_run {st : Store} {oh : Option HVal} (hw : OptWf st oh) :
    run (anyArg oh) st = run (liftR (convArgVal .any (optAbs st oh))) st := by
  rw [anyArg, run_load (freezeOpt_run hw)]

def sizeP (g : GoVal) : Res Cause GoVal :=
  (convArgVal .any (some g)).bind fun c =>
    match Num.size [.val c] with
    | .ok (.ok r) => .ok r
    | .ok (.error e) => .err (.filterErr (bn "size") e)
    | .err c => .err c
    | .panic w => .panic w
    | .unmodelled w => .unmodelled w

theorem sizeH_run {st : Store} {recv : HVal} (hw : HVal.wf st recv) :
    run (sizeH recv) st = run (liftR (sizeP (recv.abs st))) st := by
  cases recv with
  | sl t s =>
    have : sizeP (.slice t (view st s)) = .ok (.int .int (view st s).length) := by
      simp [sizeP, convArgVal, convert, convAny, GoVal.toLiquid, Res.bind, Num.size, ret]
    rw [HVal.abs, this, view_length_wf hw]
    rfl
  | val v =>
    simp only [sizeH, sizeP, HVal.abs]
    cases convArgVal .any (some v) with
    | ok c =>
      simp only [liftR, Prog.bind, Res.bind]
      cases Num.size [.val c] with
      | ok e => cases e <;> rfl
      | _ => rfl
    | _ => rfl

theorem convAnyH_abs {st : Store} (oh : Option HVal) :
    (convAnyH oh).bind (fun h => .ok (h.abs st)) = convArgVal .any (optAbs st oh) := by
  cases oh with
  | none => rfl
  | some h =>
    cases h with
    | sl t s => simp [convAnyH, optAbs, HVal.abs, convArgVal, convert, convAny, GoVal.toLiquid, Res.bind]
    | val v => cases v <;> first | rfl | exact (Res.bind_assoc ..).trans (Res.bind_pure _)

theorem convAnyH_wf {st : Store} {oh : Option HVal} {v : HVal} (hw : OptWf st oh) (h : convAnyH oh = .ok v) : HVal.wf st v := by
  unfold convAnyH at h
  split at h
  · cases h; trivial
  · cases h; exact hw
  · cases h; trivial
  · obtain ⟨w, _, h⟩ := Res.bind_eq_ok h
    cases h
    trivial

/-- a parameter of type `any`: the value handed on is well-formed and stands for the converted argument -/
theorem convAnyH_tri {α β : Type} {N : Nat} {st : Store} {oh : Option HVal} (hw : OptWf st oh) {f : HVal → Prog α}
    {g : GoVal → Res Cause β} {Q : α → Store → β → Prop} (h : ∀ v, HVal.wf st v → Tri N st (f v) (g (v.abs st)) Q) :
    Tri N st ((liftR (convAnyH oh)).bind f) ((convArgVal .any (optAbs st oh)).bind g) Q := by
  rw [← convAnyH_abs, Res.bind_assoc]
  exact Tri.pure rfl fun v hv => h v (convAnyH_wf hw hv)

def emptyH : HVal → Bool
  | .sl _ s => lenS s == 0
  | .val .nil => true
  | .val (.bool false) => true
  | .val w => Num.isEmpty w.toLiquid

def emptyV : GoVal → Bool
  | .nil => true
  | .bool false => true
  | w => Num.isEmpty w.toLiquid

/-- the body of `default` on values (it is `Num.default`: the last case of `applyFilter_eq_bodyP`) -/
def defaultV (v d : GoVal) : GoVal := if emptyV v then d else v

theorem emptyH_abs {st : Store} {v : HVal} (hw : HVal.wf st v) : emptyH v = emptyV (v.abs st) := by
  cases v with
  | sl t s =>
    have hl := view_length_wf (s := s) hw
    show (lenS s == 0) = (view st s).isEmpty
    cases hv : view st s with
    | nil => rw [hv] at hl; simp at hl; simp [← hl]
    | cons x xs => rw [hv] at hl; simp at hl; simp [← hl]
  | val g => cases g <;> first | rfl | (rename_i b; cases b <;> rfl)

theorem defaultH_stands {st : Store} {v d : HVal} (hv : HVal.wf st v) (hd : HVal.wf st d) :
    Stands (defaultH v d) st (defaultV (v.abs st) (d.abs st)) := by
  show Stands (if emptyH v then d else v) st (if emptyV (v.abs st) then d.abs st else v.abs st)
  rw [emptyH_abs hv]
  cases emptyV (v.abs st)
  · exact ⟨hv, rfl⟩
  · exact ⟨hd, rfl⟩

def sliceOf (r : Res Cause (List GoVal)) : Res Cause GoVal := r.bind fun ys => .ok (.slice .any ys)

def bodyP (strict : Bool) : FName → GoVal → List GoVal → Res Cause GoVal
  | .compact, g, _ => (convAnysP g).bind fun xs => sliceOf (.ok (compactF xs))
  | .concat, g, args => (convAnysP g).bind fun xs => (convAnysP (args.headD .nil)).bind fun ys => sliceOf (.ok (concatF xs ys))
  | .join, g, args => (convAnysP g).bind fun xs => (sepP args.head?).bind fun sep => joinF xs sep
  | .map, g, args => (convAnysP g).bind fun xs => (strArgP args.head?).bind fun k => sliceOf (mapF k xs)
  | .reverse, g, _ => (convAnysP g).bind fun xs => sliceOf (.ok (reverseF xs))
  | .sort, g, args => (convAnysP g).bind fun xs => (convArgVal .any args.head?).bind fun key => sliceOf (sortedList strict false xs key)
  | .sortNatural, g, args => (convAnysP g).bind fun xs => (convArgVal .any args.head?).bind fun key => sliceOf (sortedList strict true xs key)
  | .first, g, _ => (convAnysP g).bind fun xs => .ok (firstF xs)
  | .last, g, _ => (convAnysP g).bind fun xs => .ok (lastF xs)
  | .uniq, g, _ => (convAnysP g).bind fun xs => sliceOf (uniqP xs)
  | .size, g, _ => sizeP g
  | .default, g, args => (convArgVal .any (some g)).bind fun v => (convArgVal .any args.head?).bind fun d => .ok (defaultV v d)

theorem HVal.kept {st st' : Store} {h : HVal} (hk : Kept st.length st st') (hw : HVal.wf st h) :
    HVal.wf st' h ∧ h.abs st' = h.abs st := by
  cases h with
  | val v => exact ⟨trivial, rfl⟩
  | sl t s =>
    obtain ⟨h1, h2⟩ := hk.slice hw
    exact ⟨h1, by simp only [HVal.abs, h2]⟩

theorem OptWf.kept {st st' : Store} {oh : Option HVal} (hk : Kept st.length st st') (hw : OptWf st oh) :
    OptWf st' oh ∧ optAbs st' oh = optAbs st oh := by
  cases oh with
  | none => exact ⟨trivial, rfl⟩
  | some h =>
    obtain ⟨h1, h2⟩ := HVal.kept hk hw
    exact ⟨h1, by simp [optAbs, h2]⟩

theorem head?_wf {st : Store} {args : List HVal} (hw : ∀ h ∈ args, HVal.wf st h) : OptWf st args.head? := by
  cases args with
  | nil => trivial
  | cons a as => exact hw a List.mem_cons_self

theorem head?_abs (st : Store) (args : List HVal) : (args.map (·.abs st)).head? = optAbs st args.head? := by
  cases args <;> rfl

theorem headD_abs (st : Store) (args : List HVal) : (args.map (·.abs st)).headD .nil = (args.headD (.val .nil)).abs st := by
  cases args <;> rfl

theorem headD_wf {st : Store} {args : List HVal} (hw : ∀ h ∈ args, HVal.wf st h) : HVal.wf st (args.headD (.val .nil)) := by
  cases args with
  | nil => trivial
  | cons a as => exact hw a List.mem_cons_self

/-- the slice a body made, handed on as the value of the stage -/
theorem Tri.slice {N : Nat} {st : Store} {p : Prog Slice} {x : Res Cause (List GoVal)}
    (h : Tri st.length st p x (Owned st.length)) : Tri N st (p.bind fun r => .ret (.sl .any r)) (sliceOf x) Stands :=
  Tri.bind (Tri.lower h) fun _ _ _ _ o => Tri.ret ⟨o.wf, congrArg _ o.reads⟩

/-- the filters that convert their receiver and then read one argument (`map`, `sort`, `sort_natural`, `join`) -/
theorem recvArg_tri {κ : Type} {st : Store} {recv : HVal} {args : List HVal} (hr : HVal.wf st recv)
    (ha : ∀ h ∈ args, HVal.wf st h) {argH : Option HVal → Prog κ} {argP : Option GoVal → Res Cause κ}
    (harg : ∀ {st1 oh}, OptWf st1 oh → run (argH oh) st1 = run (liftR (argP (optAbs st1 oh))) st1)
    {rest : Slice → κ → Prog HVal} {restP : List GoVal → κ → Res Cause GoVal}
    (hrest : ∀ {st1 a xs} k, Rd a st1 xs → Tri st.length st1 (rest a k) (restP xs k) Stands) :
    Tri st.length st ((convertAnys recv).bind fun a => (argH args.head?).bind fun k => rest a k)
      ((convAnysP (recv.abs st)).bind fun xs => (argP (optAbs st args.head?)).bind fun k => restP xs k) Stands := by
  refine Tri.bind (convertAnys_tri hr) fun a st1 xs k1 h1 => ?_
  obtain ⟨hw1, e1⟩ := OptWf.kept k1 (head?_wf ha)
  rw [← e1]
  exact Tri.pure (harg hw1) fun k _ => hrest k h1

theorem bodyF_tri {st : Store} (strict : Bool) (f : FName) {recv : HVal} {args : List HVal}
    (hr : HVal.wf st recv) (ha : ∀ h ∈ args, HVal.wf st h) :
    Tri st.length st (bodyF strict f recv args) (bodyP strict f (recv.abs st) (args.map (·.abs st))) Stands := by
  cases f with
  | compact => exact Tri.bind (convertAnys_tri hr) fun _ _ _ _ h => Tri.slice (compactH_tri h)
  | reverse => exact Tri.bind (convertAnys_tri hr) fun _ _ _ _ h => Tri.slice (reverseH_tri h)
  | uniq => exact Tri.bind (convertAnys_tri hr) fun _ _ _ _ h => Tri.slice (uniqH_tri h)
  | first => exact Tri.bind (convertAnys_tri hr) fun _ _ _ _ h => Tri.load (firstH_run h) (Tri.ret ⟨trivial, rfl⟩)
  | last => exact Tri.bind (convertAnys_tri hr) fun _ _ _ _ h => Tri.load (lastH_run h) (Tri.ret ⟨trivial, rfl⟩)
  | map =>
    simp only [bodyF, bodyP, head?_abs]
    exact recvArg_tri hr ha strArg_run fun k h => Tri.slice (mapH_tri h k)
  | sort =>
    simp only [bodyF, bodyP, head?_abs]
    exact recvArg_tri hr ha anyArg_run fun k h => Tri.slice (sortH_tri h strict false k)
  | sortNatural =>
    simp only [bodyF, bodyP, head?_abs]
    exact recvArg_tri hr ha anyArg_run fun k h => Tri.slice (sortH_tri h strict true k)
  | join =>
    simp only [bodyF, bodyP, head?_abs]
    refine recvArg_tri hr ha sepOf_run fun sep h => ?_
    rw [← Res.bind_pure (joinF _ sep)]
    exact Tri.bind (Tri.lower (joinH_tri h sep)) fun _ _ _ _ e => Tri.ret ⟨trivial, e⟩
  | concat =>
    simp only [bodyF, bodyP, headD_abs]
    -- the second conversion must keep what the first one allocated: it is proved with `st1` as the caller's store
    refine Tri.bind (convertAnys_tri hr) fun a st1 xs k1 h1 => Tri.lower ?_
    obtain ⟨hw1, e1⟩ := HVal.kept k1 (headD_wf ha)
    rw [← e1]
    exact Tri.bind (convertAnys_tri hw1) fun b st2 ys k2 h2 => Tri.slice (concatH_tri ((In.of_rd h1).kept k2).toRd h2)
  | size =>
    rw [bodyF, bodyP, ← Res.bind_pure (sizeP _)]
    exact Tri.pure (sizeH_run hr) fun _ _ => Tri.ret ⟨trivial, rfl⟩
  | default =>
    simp only [bodyF, bodyP, head?_abs]
    exact convAnyH_tri (oh := some recv) hr fun v hv => convAnyH_tri (head?_wf ha) fun d hd =>
      Tri.ret (defaultH_stands hv hd)

def stageP (strict : Bool) (f : FName) (g : GoVal) (args : List GoVal) : Res Cause GoVal :=
  if (g :: args).length > f.arity then .err (.filterErr f.name .parity) else
  (bodyP strict f (viaValue g) (args.map viaValue)).bind fun w => .ok (viaValue (bytesToString w))

def chainP (strict : Bool) : GoVal → List (FName × List GoVal) → Res Cause GoVal
  | g, [] => .ok g
  | g, (f, args) :: rest => (stageP strict f g args).bind fun w => chainP strict w rest

theorem via_stands {st : Store} {h : HVal} (hw : HVal.wf st h) : Stands h.via st (viaValue (h.abs st)) := by
  cases h <;> exact ⟨hw, rfl⟩

theorem Stands.post {st : Store} {v : HVal} {w : GoVal} (h : Stands v st w) : Stands v.post st (viaValue (bytesToString w)) := by
  cases v <;> exact ⟨h.wf, h.abs ▸ rfl⟩

theorem stageF_tri {st : Store} (strict : Bool) (f : FName) {recv : HVal} {args : List HVal}
    (hr : HVal.wf st recv) (ha : ∀ h ∈ args, HVal.wf st h) :
    Tri st.length st (stageF strict f recv args) (stageP strict f (recv.abs st) (args.map (·.abs st))) Stands := by
  unfold stageF stageP
  simp only [List.length_cons, List.length_map]
  by_cases hlen : args.length + 1 > f.arity
  · rw [if_pos hlen, if_pos hlen]
    exact fun _ => rfl
  · rw [if_neg hlen, if_neg hlen]
    have hb := bodyF_tri (st := st) strict f (via_stands hr).wf (args := args.map HVal.via)
      (by intro h hh; obtain ⟨h0, hm, rfl⟩ := List.mem_map.mp hh; exact (via_stands (ha h0 hm)).wf)
    have hargs : (args.map HVal.via).map (·.abs st) = (args.map (·.abs st)).map viaValue := by
      simp only [List.map_map]
      exact List.map_congr_left fun h hh => (via_stands (ha h hh)).abs
    rw [(via_stands hr).abs, hargs] at hb
    exact Tri.bind hb fun _ _ _ _ s => Tri.ret s.post

def absChain (st : Store) (chain : List (FName × List HVal)) : List (FName × List GoVal) :=
  chain.map fun p => (p.1, p.2.map (·.abs st))

/-- The arguments of the later stages are read in the store `st0` the pipeline started in; the invariant `Kept st0.length st0 st`
carries them to the stage that uses them. -/
theorem runChainF_tri (strict : Bool) {st0 : Store} : ∀ (chain : List (FName × List HVal)) (st : Store) (v : HVal),
    Kept st0.length st0 st → HVal.wf st v → (∀ p ∈ chain, ∀ h ∈ p.2, HVal.wf st0 h) →
    Tri st0.length st (runChainF strict v chain) (chainP strict (v.abs st) (absChain st0 chain)) Stands
  | [], _, _, _, hv, _ => Tri.ret ⟨hv, rfl⟩
  | (f, args) :: rest, st, v, k, hv, hw => by
    have ha := fun h hh => HVal.kept k (hw (f, args) List.mem_cons_self h hh)
    have hargs : args.map (·.abs st0) = args.map (·.abs st) := List.map_congr_left fun h hh => (ha h hh).2.symm
    simp only [runChainF, absChain, List.map_cons, chainP, hargs]
    exact Tri.bind (Tri.lower (stageF_tri strict f hv fun h hh => (ha h hh).1)) fun r st1 _ k1 s =>
      s.abs ▸ runChainF_tri strict rest st1 r (k.trans k1) s.wf fun q hq => hw q (List.mem_cons_of_mem _ hq)

end Heap
