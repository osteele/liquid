import Proofs.F64Lemmas
/-!
# `roundFloat` is monotone

`roundPos_mono`: rounding a positive rational is monotone, because `roundHalfEven` is and because the roundings of
two arguments with different exponents lie in different binades. For `float64` (`roundF64_mono`, with
`roundF64_neg`: rounding is odd) this gives faithfulness: with `roundF64_idem` (the result of rounding is a
value of the format), no value of the format lies strictly between the argument and its rounding. The rest is the
range: no overflow up to `maxF64`, overflow exactly from `overflowF64` on; and the float64s as grid points: a point of the grid
`2^e` inside `±2^(53+e)` is one (`OnGrid.representable`), every float64 is such a point (`representable_grid`).
-/

theorem roundPos_le (p : Nat) (hp : 1 ≤ p) (emin : Int) (q : Rat) (hq : 0 < q) :
    roundPos p emin q ≤ pow2 ((p : Int) + fexpC p emin q) := by
  rw [pow2_add, pow2_natCast_int]
  exact mul_pow2_le (Rat.intCast_le_intCast.2 (signif_le p hp emin q hq)) _

theorem le_roundPos (p : Nat) (hp : 1 ≤ p) (emin : Int) (q : Rat) (hq : 0 < q) (h : fexpC p emin q = fexp1 p q) :
    pow2 ((p : Int) - 1 + fexpC p emin q) ≤ roundPos p emin q := by
  rw [pow2_add, pow2_pred_int p hp]
  exact mul_pow2_le (Rat.intCast_le_intCast.2 (le_signif p hp emin q hq h)) _

theorem roundPos_nonneg (p : Nat) (emin : Int) (q : Rat) (hq : 0 < q) : 0 ≤ roundPos p emin q :=
  Rat.mul_nonneg (Rat.intCast_nonneg.2 (signif_nonneg p emin q hq)) (Rat.le_of_lt (pow2_pos _))

theorem roundPos_mono (p : Nat) (hp : 1 ≤ p) (emin : Int) {q q' : Rat} (hq : 0 < q) (h : q ≤ q') :
    roundPos p emin q ≤ roundPos p emin q' := by
  have hq' := Std.lt_of_lt_of_le hq h
  rcases Int.lt_or_eq_of_le (fexpC_mono p hp emin q q' hq h) with hlt | heq
  · -- different exponents: the binades do not overlap
    have := (fexpC_ge p emin q).1
    have hE' : fexpC p emin q' = fexp1 p q' := (fexpC_ge p emin q').2.2.resolve_left (by omega)
    exact Rat.le_trans (roundPos_le p hp emin q hq)
      (Rat.le_trans (pow2_le (by omega)) (le_roundPos p hp emin q' hq' hE'))
  · unfold roundPos
    rw [← heq]
    refine mul_pow2_le (Rat.intCast_le_intCast.2 (roundHalfEven_mono (div_pow2_le_iff.2 ?_))) _
    rwa [Rat.div_mul_cancel (pow2_ne_zero _)]

theorem roundFloat_neg (p : Nat) (emin emax : Int) (q : Rat) (hq : q < 0) :
    roundFloat p emin emax q = (roundFloat p emin emax (-q)).map (fun r => -r) := by
  have hpos : 0 < -q := by grind
  have h0 : (q == 0) = false := by
    simp only [beq_eq_false_iff_ne, ne_eq]; exact Rat.ne_of_lt hq
  rw [roundFloat_eq_roundPos p emin emax (-q) hpos]
  unfold roundFloat
  simp only [h0, Bool.false_eq_true, if_false, hq, if_true]
  show (if roundPos p emin (-q) ≥ pow2 emax then none else some (-(roundPos p emin (-q)))) = _
  split <;> rfl

/-- `math.MaxFloat64 = (2^53 - 1) · 2^971` -/
def maxF64 : Rat := ((2 ^ 53 - 1 : Int) : Rat) * pow2 971

/-- the overflow threshold of round-to-nearest: `2^1024 - 2^970`, half a unit above `maxF64` -/
def overflowF64 : Rat := ((2 ^ 54 - 1 : Int) : Rat) * pow2 970

theorem roundF64_pos_iff {q r : Rat} (hq : 0 < q) :
    roundF64 q = some r ↔ roundPos 53 (-1074) q = r ∧ r < pow2 1024 :=
  roundFloat_some_iff 53 (-1074) 1024 hq

theorem roundF64_neg (q : Rat) : roundF64 (-q) = (roundF64 q).map (fun r => -r) := by
  have neg : ∀ q : Rat, q < 0 → roundF64 q = (roundF64 (-q)).map (fun r => -r) := roundFloat_neg 53 (-1074) 1024
  rcases Std.lt_trichotomy q 0 with hq | rfl | hq
  · rw [neg q hq]
    cases roundF64 (-q) <;> simp
  · rfl
  · rw [neg (-q) (by grind), Rat.neg_neg]

theorem roundF64_neg_some (q r : Rat) (h : roundF64 q = some r) : roundF64 (-q) = some (-r) := by
  rw [roundF64_neg, h]
  rfl

theorem roundF64_nonneg (q r : Rat) (hq : 0 ≤ q) (h : roundF64 q = some r) : 0 ≤ r := by
  rcases Rat.le_iff_lt_or_eq.1 hq with hpos | rfl
  · obtain ⟨rfl, _⟩ := (roundF64_pos_iff hpos).1 h
    exact roundPos_nonneg 53 (-1074) q hpos
  · rw [roundF64_zero] at h; cases h; exact Rat.le_refl

theorem roundF64_mono {q q' r r' : Rat} (hqq : q ≤ q') (h : roundF64 q = some r) (h' : roundF64 q' = some r') :
    r ≤ r' := by
  have pos : ∀ {q q' r r' : Rat}, 0 < q → q ≤ q' → roundF64 q = some r → roundF64 q' = some r' → r ≤ r' := by
    intro q q' r r' hq hqq h h'
    obtain ⟨rfl, _⟩ := (roundF64_pos_iff hq).1 h
    obtain ⟨rfl, _⟩ := (roundF64_pos_iff (Std.lt_of_lt_of_le hq hqq)).1 h'
    exact roundPos_mono 53 (by decide) (-1074) hq hqq
  by_cases hq : 0 < q
  · exact pos hq hqq h h'
  · by_cases hq' : q' < 0
    · have := pos (q := -q') (q' := -q) (by grind) (by grind) (roundF64_neg_some q' r' h') (roundF64_neg_some q r h)
      grind
    · have := roundF64_nonneg q' r' (Rat.not_lt.1 hq') h'
      have := roundF64_nonneg (-q) (-r) (by grind) (roundF64_neg_some q r h)
      grind

theorem roundF64_idem (q r : Rat) (h : roundF64 q = some r) : roundF64 r = some r := by
  have pos : ∀ q r : Rat, 0 < q → roundF64 q = some r → roundF64 r = some r := by
    intro q r hq h
    rcases roundFloat_rep 53 (by decide) (-1074) 1024 q r hq h with rfl | ⟨m, e, h'⟩
    · exact roundF64_zero
    · exact roundFloat_of_rep 53 (by decide) (-1074) 1024 r m e h'
  rcases Std.lt_trichotomy q 0 with hq | rfl | hq
  · have := roundF64_neg_some _ _ (pos (-q) (-r) (by grind) (roundF64_neg_some q r h))
    rwa [Rat.neg_neg] at this
  · rw [roundF64_zero] at h; cases h; exact roundF64_zero
  · exact pos q r hq h

theorem roundF64_some_of_abs_le (q r : Rat) (hr : roundF64 r = some r) (h1 : -r ≤ q) (h2 : q ≤ r) :
    ∃ r', roundF64 q = some r' ∧ -r ≤ r' ∧ r' ≤ r := by
  -- no overflow below `r`; the bounds are monotonicity
  have pos : ∀ q : Rat, 0 < q → q ≤ r → ∃ r', roundF64 q = some r' := by
    intro q hq hle
    obtain ⟨e, hlt⟩ := (roundF64_pos_iff (Std.lt_of_lt_of_le hq hle)).1 hr
    have := roundPos_mono 53 (by decide) (-1074) hq hle
    rw [e] at this
    exact ⟨_, (roundF64_pos_iff hq).2 ⟨rfl, Std.lt_of_le_of_lt this hlt⟩⟩
  obtain ⟨r', h'⟩ : ∃ r', roundF64 q = some r' := by
    rcases Std.lt_trichotomy q 0 with hq | rfl | hq
    · obtain ⟨r', e⟩ := pos (-q) (Rat.lt_neg_iff.1 (Rat.neg_zero ▸ hq)) (Rat.neg_le_iff.1 h1)
      exact ⟨-r', Rat.neg_neg q ▸ roundF64_neg_some _ _ e⟩
    · exact ⟨0, roundF64_zero⟩
    · exact pos q hq h2
  exact ⟨r', h', roundF64_mono h1 (roundF64_neg_some r r hr) h', roundF64_mono h2 h' hr⟩

theorem maxF64_representable : roundF64 maxF64 = some maxF64 := by decide +kernel

theorem roundF64_no_overflow (q : Rat) (h1 : -maxF64 ≤ q) (h2 : q ≤ maxF64) :
    ∃ r, roundF64 q = some r ∧ -maxF64 ≤ r ∧ r ≤ maxF64 :=
  roundF64_some_of_abs_le q maxF64 maxF64_representable h1 h2

/-- overflow from `2^1024 - 2^970` on (the tie rounds to the even significand `2^53`, i.e. to `2^1024`) -/
theorem roundF64_overflow (q : Rat) (h : overflowF64 ≤ q ∨ q ≤ -overflowF64) : roundF64 q = none := by
  have h0 : (0 : Rat) < overflowF64 := by decide +kernel
  have pos : ∀ q : Rat, overflowF64 ≤ q → roundF64 q = none := by
    intro q h
    rw [roundF64, roundFloat_eq_roundPos 53 (-1074) 1024 q (Std.lt_of_lt_of_le h0 h), if_pos]
    exact Rat.le_trans (by decide +kernel : pow2 1024 ≤ roundPos 53 (-1074) overflowF64)
      (roundPos_mono 53 (by decide) (-1074) h0 h)
  rcases h with h | h
  · exact pos q h
  · have := roundF64_neg (-q)
    rwa [Rat.neg_neg, pos (-q) (by grind)] at this

theorem roundHalfEven_below_half (q : Rat) (N : Int) (h1 : (N : Rat) ≤ q) (h2 : q < (N : Rat) + 1 / 2) :
    roundHalfEven q = N := by
  have a1 : N ≤ q.floor := Rat.le_floor_iff.2 h1
  have a2 : q.floor < N + 1 := Rat.floor_lt_iff.2 (by grind)
  have hf : q.floor = N := by omega
  rcases roundHalfEven_cases q with ⟨e, _⟩ | ⟨_, hh⟩
  · rw [e, hf]
  · rw [hf] at hh; grind

theorem OnGrid.representable {e : Int} {q : Rat} (h : OnGrid e q) (he : -1074 ≤ e) (he2 : e ≤ 971)
    (h1 : -pow2 (53 + e) < q) (h2 : q < pow2 (53 + e)) : roundF64 q = some q := by
  have pos : ∀ q : Rat, OnGrid e q → 0 < q → q < pow2 (53 + e) → roundF64 q = some q := by
    intro q ⟨k, hk⟩ hq h2
    subst hk
    have hlt := Std.lt_of_lt_of_le h2 (pow2_le (show 53 + e ≤ 1024 by omega))
    rw [pow2_add] at h2
    have hk0 := (Rat.mul_lt_mul_right (pow2_pos e)).1 (Rat.zero_mul (pow2 e) ▸ hq)
    exact (roundF64_pos_iff hq).2 ⟨roundPos_of_int_mul 53 (by decide) (-1074) k e (Rat.intCast_pos.1 hk0)
      ((Rat.mul_lt_mul_right (pow2_pos e)).1 h2) he, hlt⟩
  rcases Std.lt_trichotomy q 0 with hq | rfl | hq
  · have := roundF64_neg_some _ _ (pos (-q) h.neg (by grind) (by grind))
    rwa [Rat.neg_neg] at this
  · exact roundF64_zero
  · exact pos q h hq h2

/-- a grid point `b - 2^g` below `b` that is a float64 caps the rounding of every `q` with `q + 2^g ≤ b` -/
theorem roundF64_lt_of_step {g : Int} {q b y : Rat} (hb : OnGrid g b) (hg1 : -1074 ≤ g) (hg2 : g ≤ 971)
    (hlo : -pow2 (53 + g) < b - pow2 g) (hhi : b ≤ pow2 (53 + g)) (hstep : q + pow2 g ≤ b)
    (hy : roundF64 q = some y) : y < b := by
  have := pow2_pos g
  have hw := (hb.sub (onGrid_pow2 (Int.le_refl g))).representable hg1 hg2 hlo (by grind)
  exact Std.lt_of_le_of_lt (roundF64_mono (by grind) hy hw) (by grind)

theorem representable_grid (x : Rat) (hx : roundF64 x = some x) :
    ∃ e : Int, -1074 ≤ e ∧ OnGrid e x ∧ -pow2 (53 + e) < x ∧ x < pow2 (53 + e) ∧
      (e = -1074 ∨ pow2 (52 + e) ≤ x ∨ x ≤ -pow2 (52 + e)) := by
  have pos : ∀ x : Rat, 0 < x → roundF64 x = some x →
      ∃ e : Int, -1074 ≤ e ∧ OnGrid e x ∧ x < pow2 (53 + e) ∧ (e = -1074 ∨ pow2 (52 + e) ≤ x) := by
    intro x hpos hx
    rcases roundFloat_rep 53 (by decide) (-1074) 1024 x x hpos hx with h0 | ⟨m, e, h⟩
    · exact absurd h0 (Rat.ne_of_gt hpos)
    · refine ⟨e, h.he, ⟨m, h.eq⟩, ?_, h.norm.symm.imp id fun hn => ?_⟩
      · rw [h.eq, pow2_add]; exact mul_pow2_lt h.mlt e
      · rw [h.eq, pow2_add]; exact mul_pow2_le hn e
  rcases Std.lt_trichotomy x 0 with hq | rfl | hq
  · obtain ⟨e, he, hg, hlt, hn⟩ := pos (-x) (by grind) (roundF64_neg_some x x hx)
    have := pow2_pos (53 + e)
    exact ⟨e, he, Rat.neg_neg x ▸ hg.neg, by grind, by grind, hn.imp id fun h => Or.inr (by grind)⟩
  · exact ⟨-1074, Int.le_refl _, ⟨0, by grind⟩, by decide +kernel, by decide +kernel, Or.inl rfl⟩
  · obtain ⟨e, he, hg, hlt, hn⟩ := pos x hq hx
    have := pow2_pos (53 + e)
    exact ⟨e, he, hg, by grind, hlt, hn.imp id Or.inl⟩
