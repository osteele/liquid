import Proofs.DecEq
import Proofs.RenderS
import Proofs.C13
import Proofs.HyphenLemmas2
import Proofs.HyphenFace
/-!
# C13 at template level — hyphens of a rendered template

`Proofs/C13.lean` proves the laws of whitespace control for OPERATION LISTS of the trim writer.
This file lifts them to rendered templates (`Liquid/Render.lean`). A hyphen of the source is a
`.trim` node of the compiled tree (`Node.trim true` for `{{-`/`{%-`, `Node.trim false` for
`-}}`/`-%}`); `stripTrims` removes every such node at every depth (block bodies, branches, case
clauses, loop bodies and else-clauses; an included file is a separate source and keeps its
hyphens). All statements are about every context `c` (any primitives, any output layer) whose
include handler renders into a buffer of its own (`IncQuiet`; the engine's does: `incQuiet_mkCtx`),
every tree and every variable map.

* `hyphen_ops`: the render of `nodes` performs on its trim writer the operation list of the render
  of `stripTrims nodes` with `TrimLeft`/`TrimRight` operations inserted, and ends the same way.
* `hyphen_ops_root`: the same for `Render` as a whole (output and underlying calls): the output of
  the template is `runOps ops`, that of the hyphen-free template `runOps (eraseTrims ops)` — the two
  sides of the Part A / Part B theorems of `Proofs/C13.lean`.
* `hyphen_erasure`, `hyphen_same_outcome`: the last sentence of the property for templates.
* `hyphen_free_identity`: a template without hyphens loses nothing.
* the side condition `capTrimFree` (no hyphen inside a `capture` body) and why it is needed:
  `hyphen_in_capture_changes_control_flow`.
* `hyphen_faces_text_right`, `hyphen_faces_text_left(_block)`, `hyphen_faces_text`: a hyphen that
  faces a literal text at the same level acts as the deletion of that text's adjacent whitespace,
  at every position and depth; what happens where a hyphen does NOT face text (block ends, loop
  iterations, tags that write nothing): the `hyphen_left_*`, `hyphen_right_*` examples under "Where a
  hyphen does NOT face text".

Helper lemmas: `Proofs/HyphenTrace.lean`, `Proofs/HyphenLemmas.lean`, `Proofs/HyphenLemmas2.lean`,
`Proofs/HyphenFace.lean`.
-/

open Gen

/-- **hyphen_ops.** For a tree with no hyphen inside a `capture` body: from every variable map
    there are an operation list `ops` and a result `o` (status and variables, or the error) such
    that the render of `nodes` performs exactly `ops` on its trim writer and ends with `o`, and
    the render of the hyphen-free tree performs exactly `eraseTrims ops` — the same writes and
    flushes in the same order, the `TrimLeft`/`TrimRight` operations left out — and ends with the
    same `o`. "Performs exactly" (`TracedAtL`): whatever text is pending in the trim writer and
    whatever its flag, the calls made on the underlying writer and the final trim-writer state
    are those of `TW.run` on the list. -/
theorem hyphen_ops (c : RCtx) (hc : IncQuiet c) (nodes : List Node) (hcap : capTrimFree nodes = true) (env : Env) :
    ∃ ops o, TracedAtL (renderList c nodes) env ops o ∧
      TracedAtL (renderList c (stripTrims nodes)) env (eraseTrims ops) o := by
  obtain ⟨ops, ops', o, h1, h2, r⟩ := strip_list (fun _ => True) c hc (ctxChunks_true c) nodes hcap (fun _ _ => trivial) env
  exact ⟨ops, o, h1, r.1 ▸ h2⟩

/-- `hyphen_ops` with a bound on what is written: when every chunk the context and the tree can
    contribute satisfies `V` (`CtxChunks`: chunks of printed values, text handed back by `include`,
    `tablerow` decoration, and the empty chunk — `CtxChunks.emp`: the empty `Write` of `WriteVerbatim`;
    `litChunks`: texts, raw slices, `cycle` values), every write of `ops` does. -/
theorem hyphen_ops_chunks (V : Bytes → Prop) (c : RCtx) (hc : IncQuiet c) (hx : CtxChunks V c) (nodes : List Node)
    (hcap : capTrimFree nodes = true) (hlit : ∀ b ∈ litChunks nodes, V b) (env : Env) :
    ∃ ops o, TracedAtL (renderList c nodes) env ops o ∧
      TracedAtL (renderList c (stripTrims nodes)) env (eraseTrims ops) o ∧ ∀ b, WOp.write b ∈ ops → V b := by
  obtain ⟨ops, ops', o, h1, h2, r⟩ := strip_list V c hc hx nodes hcap hlit env
  exact ⟨ops, o, h1, r.1 ▸ h2, r.2⟩

/-- **hyphen_ops for `Render`.** The whole render (`renderRoot`: the root sequence, then the final
    flush) of the template and of its hyphen-free version, on a fault-free writer, as functions of
    one operation list `ops`: output and outcome are `rootResult ops o` and
    `rootResult (eraseTrims ops) o` — after a normal end `(runOps ops, ok)` and
    `(runOps (eraseTrims ops), ok)`, the two sides of `tw_trim_only_ws`, `tw_trim_subseq`,
    `tw_no_trim_identity`, `tw_trimLeft_adjacent_all`, … — and the calls made on the writer are
    `rootCalls ops o` (`writeCalls ops` after a normal end) and `rootCalls (eraseTrims ops) o`. -/
theorem hyphen_ops_root (c : RCtx) (hc : IncQuiet c) (nodes : List Node) (hcap : capTrimFree nodes = true) (env : Env) :
    ∃ ops o,
      (renderRoot c nodes env).runPure = rootResult ops o ∧
      (renderRoot c (stripTrims nodes) env).runPure = rootResult (eraseTrims ops) o ∧
      (renderRoot c nodes env).calls = rootCalls ops o ∧
      (renderRoot c (stripTrims nodes) env).calls = rootCalls (eraseTrims ops) o := by
  obtain ⟨ops, o, h1, h2⟩ := hyphen_ops c hc nodes hcap env
  exact ⟨ops, o, renderRoot_of_traced c nodes env ops o h1.toTracedAt,
    renderRoot_of_traced c _ env _ o h2.toTracedAt, renderRoot_calls_of_traced c nodes env ops o h1,
    renderRoot_calls_of_traced c _ env _ o h2⟩

/-- **hyphen_same_outcome.** Hyphens do not change how a render ends: the template and its
    hyphen-free version end normally, with the same stray `break`/`continue`, or with the SAME error
    (or panic), under exactly the same conditions. -/
theorem hyphen_same_outcome (c : RCtx) (hc : IncQuiet c) (nodes : List Node) (hcap : capTrimFree nodes = true) (env : Env) :
    (renderRoot c nodes env).runPure.2 = (renderRoot c (stripTrims nodes) env).runPure.2 := by
  obtain ⟨ops, o, h1, h2, -, -⟩ := hyphen_ops_root c hc nodes hcap env
  rw [h1, h2]
  exact rootResult_snd _ _ o

theorem hyphen_fails_iff (c : RCtx) (hc : IncQuiet c) (nodes : List Node) (hcap : capTrimFree nodes = true) (env : Env)
    (e : RawErr) :
    (renderRoot c nodes env).runPure.2 = .err e ↔ (renderRoot c (stripTrims nodes) env).runPure.2 = .err e := by
  rw [hyphen_same_outcome c hc nodes hcap env]

/-- **hyphen_erasure** (the last sentence of C13, for templates). Let no hyphen stand inside a
    `capture` body, let the template and its hyphen-free version both end normally on a fault-free
    writer with outputs `out` and `out0` (by `hyphen_same_outcome` one does iff the other does), and
    let every call the hyphen-free render makes on its writer be valid UTF-8 (these calls are the
    chunks written, one call per non-empty chunk: `hyphen_free_identity`; on invalid UTF-8 the law
    is false already for operation lists: `tw_erasure_fails_on_invalid_utf8`). Then deleting every
    `unicode.IsSpace` rune from `out` and from `out0` gives the same bytes; `out` is obtained from
    `out0` by deleting whitespace runes only; in particular `out` is a subsequence of `out0`; and
    `out` is valid UTF-8. -/
theorem hyphen_erasure (c : RCtx) (hc : IncQuiet c) (nodes : List Node) (hcap : capTrimFree nodes = true) (env : Env)
    (out out0 : Bytes)
    (h : (renderRoot c nodes env).runPure = (out, .ok .done))
    (h0 : (renderRoot c (stripTrims nodes) env).runPure = (out0, .ok .done))
    (hv : ∀ b ∈ (renderRoot c (stripTrims nodes) env).calls, ValidUtf8 b) :
    stripSpaceBytes out = stripSpaceBytes out0 ∧
    WsDeletion isSpaceRune (decodeRunes out0) (decodeRunes out) ∧
    out.Sublist out0 ∧ ValidUtf8 out := by
  obtain ⟨ops, o, h1, h2, -, h4⟩ := hyphen_ops_root c hc nodes hcap env
  rw [h1] at h
  rw [h2] at h0
  obtain ⟨⟨env', rfl⟩, rfl⟩ := rootResult_done _ _ _ h
  obtain ⟨-, rfl⟩ := rootResult_done _ _ _ h0
  have hvo : ValidOps ops := validOps_of_calls ops (by
    intro b hb
    apply hv
    rw [h4]
    exact hb)
  exact ⟨tw_trim_only_ws ops hvo, tw_trim_subseq ops hvo, (tw_trim_valid_sublist ops hvo).2, (tw_trim_valid_sublist ops hvo).1⟩

theorem hyphen_ends_normally_iff (c : RCtx) (hc : IncQuiet c) (nodes : List Node) (hcap : capTrimFree nodes = true)
    (env : Env) :
    (∃ out, (renderRoot c nodes env).runPure = (out, .ok .done)) ↔
      (∃ out0, (renderRoot c (stripTrims nodes) env).runPure = (out0, .ok .done)) := by
  have hs := hyphen_same_outcome c hc nodes hcap env
  exact ⟨fun ⟨_, h⟩ => ⟨_, Prod.ext rfl (hs.symm.trans (by rw [h]))⟩, fun ⟨_, h⟩ => ⟨_, Prod.ext rfl (hs.trans (by rw [h]))⟩⟩

/-- **hyphen_free_identity.** A tree without `.trim` nodes performs a list of writes and flushes
    only (`eraseTrims ops = ops`), and when its render ends normally the output is the
    concatenation of the chunks written (`wopWrites ops`) — moreover every non-empty chunk reaches
    the writer as one call, unchanged and in order. Holds for all bytes, valid UTF-8 or not. -/
theorem hyphen_free_identity (c : RCtx) (hc : IncQuiet c) (nodes : List Node) (hnt : hasTrim nodes = false) (env : Env) :
    ∃ ops o, TracedAtL (renderList c nodes) env ops o ∧ eraseTrims ops = ops ∧
      ∀ out, (renderRoot c nodes env).runPure = (out, .ok .done) →
        out = wopWrites ops ∧ (renderRoot c nodes env).calls = (wopChunks ops).filter (fun b => !b.isEmpty) := by
  obtain ⟨ops1, o, -, h2⟩ := hyphen_ops c hc nodes (capTrimFree_of_noTrim nodes hnt) env
  rw [stripTrims_of_noTrim nodes hnt] at h2
  refine ⟨eraseTrims ops1, o, h2, eraseTrims_idem ops1, fun out h => ?_⟩
  have hr := renderRoot_of_traced c nodes env _ o h2.toTracedAt
  have hcalls := renderRoot_calls_of_traced c nodes env _ o h2
  rw [hr] at h
  obtain ⟨⟨env', rfl⟩, rfl⟩ := rootResult_done _ _ _ h
  refine ⟨tw_no_trim_identity _ (eraseTrims_idem ops1), ?_⟩
  rw [hcalls]
  have := calls_of_trimFree (eraseTrims ops1) []
  rw [eraseTrims_idem] at this
  simpa [rootCalls, writeCalls] using this

/-- a small context: `==` compares strings, strings print as themselves, no filters, no include -/
def hyPrims : Prims :=
  { equal := fun a b => match a, b with
      | .str x, .str y => .ok (x == y)
      | _, _ => .ok false,
    less := fun _ _ => .ok false, contains := fun _ _ => .ok false,
    equalFn := fun _ _ => .ok false, applyFilter := fun _ v _ => .ok v, hasFilter := fun _ => false }
def hyOut : OutPrims := { chunks := fun v => match v with | .str b => .ok [b] | _ => .ok [] }
def hyCtx : RCtx := { P := hyPrims, O := hyOut, cfg := {}, inc := fun _ _ _ => .unmodelled "no include" }

theorem hyCtx_quiet : IncQuiet hyCtx := fun _ _ _ => trivial

/-- `{% capture x %}␠{{- … }}{% endcapture %}{% if x == " " %}yes{% endif %}` (the object after the
    hyphen prints nothing and is left out) -/
def hyCaptureTpl : List Node :=
  [.capture 1 [120] [.text 1 [32], .trim true],
   .ifB 2 [(.expr 2 (.rel .eq (.var [120]) (.lit (.str [32]))), [.text 2 [121, 101, 115]])]]

/-- **Why `capTrimFree` is needed.** The text a `capture` block renders becomes a VALUE, which the
    template can compare; a hyphen inside the body changes that value, so it can change which
    branch runs — and then far more than whitespace. Here the hyphen-free template captures `"␠"`
    and prints `yes`; with the hyphen the captured text is empty and nothing is printed: the two
    outputs differ by more than whitespace, the erasure law fails. (All calls are valid UTF-8 and
    both renders end normally; the only hypothesis of `hyphen_erasure` that fails is `capTrimFree`.) -/
theorem hyphen_in_capture_changes_control_flow :
    capTrimFree hyCaptureTpl = false ∧
    (renderRoot hyCtx hyCaptureTpl []).runPure = ([], .ok .done) ∧
    (renderRoot hyCtx (stripTrims hyCaptureTpl) []).runPure = ([121, 101, 115], .ok .done) ∧
    stripSpaceBytes [] ≠ stripSpaceBytes [121, 101, 115] := by
  refine ⟨rfl, ?_, ?_, by decide⟩
  · rw [renderRoot_eq_S]; decide +kernel
  · rw [renderRoot_eq_S]; decide +kernel

/-- `a␠{{- v -}}␠b{% if true %}{%- … %}␠c␠{% endif %}` with a hyphen next to whitespace text on
    every side: `v` is bound to `"x"` -/
def hyDemoTpl : List Node :=
  [.text 1 [97, 32], .trim true, .obj 1 (.var [118]), .trim false, .text 1 [32, 98],
   .ifB 2 [(.always, [.trim true, .text 2 [32, 99, 32]])]]
def hyDemoEnv : Env := [([118], .str [120])]

theorem hyDemo_out : (renderRoot hyCtx hyDemoTpl hyDemoEnv).runPure = ([97, 120, 98, 32, 99, 32], .ok .done) := by
  rw [renderRoot_eq_S]; decide +kernel

theorem hyDemo_out0 :
    (renderRoot hyCtx (stripTrims hyDemoTpl) hyDemoEnv).runPure = ([97, 32, 120, 32, 98, 32, 99, 32], .ok .done) := by
  rw [renderRoot_eq_S]; decide +kernel

theorem hyDemo_calls :
    (renderRoot hyCtx (stripTrims hyDemoTpl) hyDemoEnv).calls = [[97, 32], [120], [32, 98], [32, 99, 32]] := by
  rw [renderRoot_eq_S]; decide +kernel

/-- Non-vacuity of `hyphen_erasure` (and of `hyphen_ops`, `hyphen_same_outcome`): all hypotheses
    hold for `hyDemoTpl`; the outputs are `axb␠c␠` and `a␠x␠b␠c␠`, both `axbc` without whitespace -/
example : stripSpaceBytes [97, 120, 98, 32, 99, 32] = stripSpaceBytes [97, 32, 120, 32, 98, 32, 99, 32] ∧
    WsDeletion isSpaceRune (decodeRunes [97, 32, 120, 32, 98, 32, 99, 32]) (decodeRunes [97, 120, 98, 32, 99, 32]) ∧
    ([97, 120, 98, 32, 99, 32] : Bytes).Sublist [97, 32, 120, 32, 98, 32, 99, 32] ∧ ValidUtf8 [97, 120, 98, 32, 99, 32] :=
  hyphen_erasure hyCtx hyCtx_quiet hyDemoTpl rfl hyDemoEnv _ _ hyDemo_out hyDemo_out0 (by
    rw [hyDemo_calls]
    decide)

example : stripSpaceBytes [97, 120, 98, 32, 99, 32] = [97, 120, 98, 99] := by decide

/-- Non-vacuity of `hyphen_ops` / `hyphen_ops_root`: the hypotheses hold for `hyDemoTpl` (which has a
    hyphen next to whitespace text on every side, one of them inside a block) -/
example : ∃ ops o, TracedAtL (renderList hyCtx hyDemoTpl) hyDemoEnv ops o ∧
    TracedAtL (renderList hyCtx (stripTrims hyDemoTpl)) hyDemoEnv (eraseTrims ops) o :=
  hyphen_ops hyCtx hyCtx_quiet hyDemoTpl rfl hyDemoEnv

/-- Non-vacuity of `hyphen_same_outcome` / `hyphen_fails_iff` on a FAILING render:
    `a␠{{- … }}{% cycle "b" %}` outside a loop fails at the cycle tag, and so does its hyphen-free
    version, with the same error -/
example :
    (renderRoot hyCtx [.text 1 [97, 32], .trim true, .cycle 2 [] [98] []] []).runPure.2 =
      .err (.located ⟨2, true, .none, .cycleOutside⟩) ∧
    (renderRoot hyCtx (stripTrims [.text 1 [97, 32], .trim true, .cycle 2 [] [98] []]) []).runPure.2 =
      .err (.located ⟨2, true, .none, .cycleOutside⟩) := by
  refine (fun h => ⟨h, (hyphen_fails_iff hyCtx hyCtx_quiet _ rfl [] _).1 h⟩) ?_
  rw [renderRoot_eq_S]; decide +kernel
example : capTrimFree hyDemoTpl = true ∧ hasTrim hyDemoTpl = true := ⟨rfl, rfl⟩

/-- Non-vacuity of `hyphen_free_identity`: a tree without hyphens, whitespace kept as written -/
example : hasTrim (stripTrims hyDemoTpl) = false ∧
    (renderRoot hyCtx (stripTrims hyDemoTpl) hyDemoEnv).runPure = ([97, 32] ++ [120] ++ [32, 98] ++ [32, 99, 32], .ok .done) :=
  ⟨rfl, hyDemo_out0⟩

/-- **hyphen_faces_text_right.** `-}}`/`-%}` directly followed, at the same level, by a literal
    text: the render IS the render of the sequence with the hyphen dropped and the text
    left-stripped (`bytes.TrimLeftFunc(text, unicode.IsSpace)`) — the same interaction tree, hence
    the same calls, output, errors and behaviour on a failing writer. No side condition: every
    context, every text (blank, empty, invalid UTF-8), every position (`pre`, `post` arbitrary: the
    sequence may be a root, a block body, a branch, a loop body, a capture body), every state. -/
theorem hyphen_faces_text_right (c : RCtx) (pre post : List Node) (l : Nat) (u : Bytes) :
    renderList c (pre ++ .trim false :: .text l u :: post) = renderList c (pre ++ .text l (trimLeftSpace u) :: post) := by
  rw [renderList_append, renderList_append, renderList_trimRight_text]

/-- the same for all such hyphens of a tree at once, at every depth (`faceR`) -/
theorem hyphen_faces_text_right_everywhere (c : RCtx) (nodes : List Node) :
    renderList c (faceR nodes) = renderList c nodes ∧ ∀ env, renderRoot c (faceR nodes) env = renderRoot c nodes env :=
  ⟨(render_faceR c nodes).1, fun env => renderRoot_congr c (render_faceR c nodes).1 env⟩

/-- **hyphen_faces_text_left, in a block body.** A literal text directly followed, at the same
    level, by `{{-`/`{%-`, in a block body (or root sequence) `pre ++ text :: hyphen :: post`: from
    ANY state (whatever is pending in the trim writer, flag set or not), if the body ends normally,
    the body with the hyphen dropped and the text right-stripped
    (`bytes.TrimRightFunc(text, unicode.IsSpace)`) ends normally too, has written the same bytes and
    leaves the same state. `TrimComm u` (stripping `u` on the two sides commutes, which matters when a pending
    `-}}` strips the text on the left first) holds of every byte string (`trimComm_all`); the proof does not use `hu`.

    Not claimed when the body does not end normally (error, `break`, `continue`): with the hyphen
    the stripped text has been written, without it it is still pending (same bytes in the end when
    the render goes on: `hyphen_faces_text_left`; a different partial output when the render fails:
    `hyphen_left_partial_output_differs`). -/
theorem hyphen_faces_text_left_block (c : RCtx) (hc : IncQuiet c) (pre post : List Node) (l : Nat) (u : Bytes)
    (hu : TrimComm u) (s s' : RS) (out : Bytes)
    (h : (renderBlockBody c (pre ++ .text l u :: .trim true :: post) s).runPure = (out, .ok (.done, s'))) :
    (renderBlockBody c (pre ++ .text l (trimRightSpace u) :: post) s).runPure = (out, .ok (.done, s')) :=
  faceRel_block c (gpair_faceL_site c hc pre post l u) s s' out h

/-- **hyphen_faces_text_left, whole template, every depth.** `faceL` right-strips every text that is
    directly followed at its level by `{{-`/`{%-` and drops that hyphen, at every depth (capture
    bodies included: the captured text is the same). The two templates end the same way (normally,
    or with the same error), and after a normal end with the same output. -/
theorem hyphen_faces_text_left (c : RCtx) (hc : IncQuiet c) (nodes : List Node)
    (hcomm : ∀ u ∈ litChunks nodes, TrimComm u) (env : Env) :
    (renderRoot c nodes env).runPure.2 = (renderRoot c (faceL nodes) env).runPure.2 ∧
    ∀ out, (renderRoot c nodes env).runPure = (out, .ok .done) → (renderRoot c (faceL nodes) env).runPure = (out, .ok .done) :=
  faceRel_root c (face_list c hc nodes).1 env

/-- **hyphen_faces_text.** `faceText` applies both rules at every depth. When every hyphen of the
    template faces a literal text, `faceText nodes` is hyphen-free (`hasTrim (faceText nodes) =
    false`, decidable): it is the template with the hyphens dropped and the adjacent whitespace of
    the adjacent texts deleted, which loses nothing (`hyphen_free_identity`) — and it renders the
    same output. In general the hyphens that do not face text remain in `faceText nodes`. -/
theorem hyphen_faces_text (c : RCtx) (hc : IncQuiet c) (nodes : List Node)
    (hcomm : ∀ u ∈ litChunks nodes, TrimComm u) (env : Env) :
    (renderRoot c nodes env).runPure.2 = (renderRoot c (faceText nodes) env).runPure.2 ∧
    ∀ out, (renderRoot c nodes env).runPure = (out, .ok .done) →
      (renderRoot c (faceText nodes) env).runPure = (out, .ok .done) := by
  unfold faceText
  rw [(hyphen_faces_text_right_everywhere c (faceL nodes)).2 env]
  exact hyphen_faces_text_left c hc nodes hcomm env

/-- every literal text satisfies the side condition (`trimComm_all`); `h` is not used -/
theorem trimComm_of_valid_lits (nodes : List Node) (h : ∀ u ∈ litChunks nodes, ValidUtf8 u) :
    ∀ u ∈ litChunks nodes, TrimComm u := fun u _ => trimComm_all u

/-- `a␠{{- v -}}␠b␠{%- if true -%}␠c␠{% endif %}`: every hyphen faces a literal text -/
def hyFaceTpl : List Node :=
  [.text 1 [97, 32], .trim true, .obj 1 (.var [118]), .trim false, .text 1 [32, 98, 32], .trim true,
   .ifB 2 [(.always, [.trim false, .text 2 [32, 99, 32]])]]

/-- what `faceText` makes of it: `a{{ v }}b{% if true %}c␠{% endif %}` -/
theorem hyFace_faceText :
    faceText hyFaceTpl = [.text 1 [97], .obj 1 (.var [118]), .text 1 [98], .ifB 2 [(.always, [.text 2 [99, 32]])]] := by
  decide +kernel

theorem hyFace_out : (renderRoot hyCtx hyFaceTpl hyDemoEnv).runPure = ([97, 120, 98, 99, 32], .ok .done) := by
  rw [renderRoot_eq_S]; decide +kernel

/-- Non-vacuity of `hyphen_faces_text` (and of the left and right rules it is made of): every hyphen
    of `hyFaceTpl` faces text, the hyphen-free `faceText hyFaceTpl` renders the same `axbc␠` -/
example : hasTrim (faceText hyFaceTpl) = false ∧
    (renderRoot hyCtx (faceText hyFaceTpl) hyDemoEnv).runPure = ([97, 120, 98, 99, 32], .ok .done) :=
  ⟨by rw [hyFace_faceText]; rfl,
   (hyphen_faces_text hyCtx hyCtx_quiet hyFaceTpl (by decide) hyDemoEnv).2 _ hyFace_out⟩

/-- Non-vacuity of `hyphen_faces_text_right`: `x -}}␠b` inside a sequence, state arbitrary -/
example (s : RS) :
    renderList hyCtx ([.obj 1 (.var [118])] ++ .trim false :: .text 1 [32, 98] :: [.text 1 [99]]) s =
      renderList hyCtx ([.obj 1 (.var [118])] ++ .text 1 (trimLeftSpace [32, 98]) :: [.text 1 [99]]) s := by
  rw [hyphen_faces_text_right]

/-- Non-vacuity of `hyphen_faces_text_left_block`: body `a␠{{- v }}` from a state with pending text
    `x␠` and the flag set: `x␠` and `a` are written, `x` (the value of `v`) is pending -/
example :
    (renderBlockBody hyCtx ([] ++ .text 1 [32, 97, 32] :: .trim true :: [.obj 1 (.var [118])])
      ⟨hyDemoEnv, { buf := [120, 32], trim := true }⟩).runPure =
      ([120, 32, 97, 120], .ok (.done, ⟨hyDemoEnv, { buf := [], trim := false }⟩)) ∧
    TrimComm [32, 97, 32] ∧
    (renderBlockBody hyCtx ([] ++ .text 1 (trimRightSpace [32, 97, 32]) :: [.obj 1 (.var [118])])
      ⟨hyDemoEnv, { buf := [120, 32], trim := true }⟩).runPure =
      ([120, 32, 97, 120], .ok (.done, ⟨hyDemoEnv, { buf := [], trim := false }⟩)) := by
  refine (fun h => ⟨h, by decide, hyphen_faces_text_left_block hyCtx hyCtx_quiet [] _ 1 _ (by decide) _ _ _ h⟩) ?_
  rw [renderBlockBody_eq, renderList_eq_S]; decide +kernel

/-! ### Where a hyphen does NOT face text: what the trim writer does there

These are facts about the model (which the `hyphens` stream compares with the real engine on
every run), recorded because they delimit the rules above. A `{{-` reaches only the text that is
still pending: the last write, provided no flush came after it; the flush at the end of a block
body or of a loop iteration puts the text out of reach. A `-}}` stays armed until the next write:
across tags that write nothing, across block ends and from one loop iteration to the next. -/

/-- `{% if true %}a␠{% endif %}{{- … }}b`: the hyphen faces the `endif` tag; the text `a␠` was
    flushed when its block ended and is NOT stripped -/
theorem hyphen_left_after_block_end :
    (renderRoot hyCtx [.ifB 1 [(.always, [.text 1 [97, 32]])], .trim true, .text 2 [98]] []).runPure =
      ([97, 32, 98], .ok .done) := by
  rw [renderRoot_eq_S]; decide +kernel

/-- `a␠{% if true %}{{- … }}b{% endif %}`: the hyphen faces the `if` tag, but the text before the
    block is still pending when the block starts and IS stripped -/
theorem hyphen_left_reaches_before_block :
    (renderRoot hyCtx [.text 1 [97, 32], .ifB 1 [(.always, [.trim true, .text 2 [98]])]] []).runPure =
      ([97, 98], .ok .done) := by
  rw [renderRoot_eq_S]; decide +kernel

/-- the items of the demo loops: two nils -/
def hyTwo : Expr := .lit (.slice .any [.nil, .nil])

/-- `{% for i in two %}{{- … }}a␠{% endfor %}`: at the start of the second iteration the hyphen does
    not reach the `a␠` of the first one (flushed at the end of the iteration): `a␠a␠` -/
theorem hyphen_left_at_iteration_start :
    (renderRoot hyCtx [.loop 1 false [105] hyTwo {} [.trim true, .text 1 [97, 32]] []] []).runPure =
      ([97, 32, 97, 32], .ok .done) := by
  rw [renderRoot_eq_S]; decide +kernel

/-- `{% for i in two %}␠a{{ … -}}{% endfor %}␠b`: the `-}}` at the end of the body faces the
    `endfor` tag; it stays armed, strips the `␠a` of the NEXT iteration and, after the loop, the
    text `␠b`: `␠aab` (the texts it strips are not adjacent to it) -/
theorem hyphen_right_persists_over_iterations :
    (renderRoot hyCtx [.loop 1 false [105] hyTwo {} [.text 1 [32, 97], .trim false] [], .text 2 [32, 98]] []).runPure =
      ([32, 97, 97, 98], .ok .done) := by
  rw [renderRoot_eq_S]; decide +kernel

/-- `{{ … -}}{% assign x = 1 %}␠b`: a tag that writes nothing does not use the flag up; the text
    after it is stripped although the hyphen faces the tag -/
theorem hyphen_right_persists_over_silent_tag :
    (renderRoot hyCtx [.text 1 [97], .trim false, .assign 1 [120] (.lit (.int .int 1)), .text 1 [32, 98]] []).runPure =
      ([97, 98], .ok .done) := by
  rw [renderRoot_eq_S]; decide +kernel

/-- **Why the left rule asks for a normal end.** `a␠{{- … }}{% cycle "b" %}` outside a loop fails
    at the cycle tag. With the hyphen `a` has been written before the failure; in the template
    with the text stripped and the hyphen dropped, `a` is still pending and is lost. Same error,
    different partial output. -/
theorem hyphen_left_partial_output_differs :
    (renderRoot hyCtx [.text 1 [97, 32], .trim true, .cycle 2 [] [98] []] []).runPure.1 = [97] ∧
    (renderRoot hyCtx [.text 1 (trimRightSpace [97, 32]), .cycle 2 [] [98] []] []).runPure.1 = [] ∧
    (renderRoot hyCtx [.text 1 [97, 32], .trim true, .cycle 2 [] [98] []] []).runPure.2 =
      (renderRoot hyCtx [.text 1 (trimRightSpace [97, 32]), .cycle 2 [] [98] []] []).runPure.2 := by
  have h0 : trimRightSpace [97, 32] = [97] := by decide
  rw [h0]
  simp only [renderRoot_eq_S]; decide +kernel

/-- `hyphen_erasure` and `hyphen_same_outcome` for the engine's context (`mkCtx`: any primitives and
    output layer, any configuration, file system and include fuel): `IncQuiet` is discharged -/
theorem hyphen_erasure_engine (P : Prims) (O : OutPrims) (cfg : Cfg) (fs : FS) (fuel : Nat) (nodes : List Node)
    (hcap : capTrimFree nodes = true) (env : Env) (out out0 : Bytes)
    (h : (renderRoot (mkCtx P O cfg fs fuel) nodes env).runPure = (out, .ok .done))
    (h0 : (renderRoot (mkCtx P O cfg fs fuel) (stripTrims nodes) env).runPure = (out0, .ok .done))
    (hv : ∀ b ∈ (renderRoot (mkCtx P O cfg fs fuel) (stripTrims nodes) env).calls, ValidUtf8 b) :
    stripSpaceBytes out = stripSpaceBytes out0 ∧
    WsDeletion isSpaceRune (decodeRunes out0) (decodeRunes out) ∧
    out.Sublist out0 ∧ ValidUtf8 out :=
  hyphen_erasure _ (incQuiet_mkCtx P O cfg fs fuel) nodes hcap env out out0 h h0 hv

theorem hyphen_same_outcome_engine (P : Prims) (O : OutPrims) (cfg : Cfg) (fs : FS) (fuel : Nat) (nodes : List Node)
    (hcap : capTrimFree nodes = true) (env : Env) :
    (renderRoot (mkCtx P O cfg fs fuel) nodes env).runPure.2 =
      (renderRoot (mkCtx P O cfg fs fuel) (stripTrims nodes) env).runPure.2 :=
  hyphen_same_outcome _ (incQuiet_mkCtx P O cfg fs fuel) nodes hcap env
