import Liquid.Generated.TokenRe
import Proofs.TokenReLemmas
/-!
# Obligation of translator T4: the model's token expression is the pattern the source builds

`translate/tokenre` (go/ast, nothing executed) writes `genTokenReSrc`: the string-building expressions of
`parser.formTokenMatcher` — the `fmt.Sprintf` format literal (its `%v` written `%s`: T4 writes one verb), its arguments, the `range` loop that fills
the exclusion alternatives — as data. `TokenReSrc.pattern` evaluates them for a delimiter list: the text
`regexp.MustCompile` receives. `Re.toGoSyntax` writes the model's `tokenRe` (`Liquid/Scan.lean`) in Go
syntax, in the normal form documented in `Liquid/TokenReSrc.lean`; the source differs from that normal
form in one spelling, `(?s:.+?)` for `(?s:.)+?` (scope of the flag `s`), which `TokenReSrc.normalized`
rewrites in the format literal before evaluation.

* `token_re_is_source` — THE OBLIGATION, re-checked by kernel evaluation on every run: for the default
  delimiters `{{ }} {% %}` the text built by the extracted expressions is the printed model expression.
* `token_re_src_is_standard` — re-checked on every run: the extracted structure is `stdTokenReSrc`.
* `token_re_is_source_all` — for EVERY delimiter quadruple whose tag-right delimiter is ASCII (the loop
  of the source ranges over runes; `pattern` is `none` otherwise) the same equality, by proof about the
  printer (no evaluation); `token_re_of_scan_delims` instantiates it to the list `Scan` passes after its
  defaulting.
* `tokenRe_groupOrder` — for every quadruple the model's groups 1, 2, 3 are, in this order, the opening
  parentheses of the printed text: `m[2:4]`, `m[4:6]`, `m[6:8]` of `Scan` are the model's captures 1, 2, 3.

What this does not say: that Go's `regexp` reads the printed text as the model's matcher reads the
expression. That is the business of the correspondence streams: `rex` (Go's `regexp` on the printed text
against the model's matcher) and `scan`, `delims` (`Scan` itself on both sides).
-/

/-- **T4, structure.** `formTokenMatcher` as extracted is the structure the theorems below are proved
for: this format literal, these five `Sprintf` arguments, the loop over `delims[3]` appending
`QuoteMeta(delims[3][0:idx]) + "[^" + QuoteMeta(string(val)) + "]"`. -/
theorem token_re_src_is_standard : genTokenReSrc = stdTokenReSrc := by decide +kernel

/-- **T4 obligation.** For the default delimiters, the text the source hands to `regexp.MustCompile`
(flag scope normalised) is the model's `tokenRe` printed in Go syntax:
``\{\{-?\s*((?s:.)+?)\s*-?\}\}|\{%-?\s*(\w+)(?:\s+((?:[^%]|%[^\}])+?))?\s*-?%\}``. -/
theorem token_re_is_source :
    genTokenReSrc.normalized.pattern Delims.default.toList = some (tokenRe Delims.default).toGoSyntax := by decide +kernel

/-- the normalisation rewrites one place of the format literal: `(?s:.+?)` becomes `(?s:.)+?` between an
unchanged prefix ``%s-?\s*(`` and an unchanged rest -/
theorem token_re_normalisation_is_flag_scope :
    ∃ pre post : Bytes,
      genTokenReSrc.format = pre ++ [40, 63, 115, 58, 46, 43, 63, 41] ++ post ∧
      genTokenReSrc.normalized.format = pre ++ [40, 63, 115, 58, 46, 41, 43, 63] ++ post :=
  ⟨[37, 115, 45, 63, 92, 115, 42, 40],
   [41, 92, 115, 42, 45, 63, 37, 115, 124, 37, 115, 45, 63, 92, 115, 42, 40, 92, 119, 43, 41, 40, 63, 58, 92, 115, 43, 40,
    40, 63, 58, 37, 115, 41, 43, 63, 41, 41, 63, 92, 115, 42, 45, 63, 37, 115], by decide +kernel, by decide +kernel⟩

/-- **T4, all delimiters.** For every delimiter quadruple with an ASCII tag-right delimiter, the text
`formTokenMatcher` builds (flag scope normalised) is the printed `tokenRe`.

Satisfiable and non-trivial: see the examples below (`<`, `>`, `[`, `]`; `<<`, `>>`, `(%`, `%)]`). -/
theorem token_re_is_source_all (d : Delims) (h : isAscii d.tr = true) :
    genTokenReSrc.normalized.pattern d.toList = some (tokenRe d).toGoSyntax := by
  rw [token_re_src_is_standard, tokenRe_toGoSyntax]
  exact pattern_std d.ol d.or d.tl d.tr h

/-- the same for the delimiters `Scan` uses for ANY configured list (after its defaulting of a list that
is not four entries, and of empty entries) -/
theorem token_re_of_scan_delims (l : List Bytes) (h : isAscii (Delims.ofList l).tr = true) :
    genTokenReSrc.normalized.pattern (Delims.ofList l).toList = some (tokenRe (Delims.ofList l)).toGoSyntax :=
  token_re_is_source_all _ h

/-- outside the fragment the source side answers `none` rather than a wrong text: a non-ASCII tag-right
delimiter (the `range` loop of the source then iterates over runes, not bytes) -/
theorem token_re_pattern_none_of_nonAscii (d : Delims) (h : isAscii d.tr = false) :
    genTokenReSrc.normalized.pattern d.toList = none := by
  rw [token_re_src_is_standard]
  unfold TokenReSrc.pattern
  have h3 : (d.toList)[stdTokenReSrc.normalized.exclOver]? = some d.tr := rfl
  rw [h3]; simp [h]

/-- the capture groups of the printed text are the model's groups 1, 2, 3, in this order, whatever the
delimiters: object arguments, tag name, tag arguments -/
theorem tokenRe_groupOrder (d : Delims) : (tokenRe d).groupOrder = [1, 2, 3] := by
  have hx : (Re.alts (exclAlts d.tr)).groupOrder = [] := by
    rw [exclAlts_eq]
    exact groupOrder_alts _ (by intro x hx; obtain ⟨i, _, rfl⟩ := List.mem_map.1 hx; exact exclAlt_groupOrder _ _)
  unfold tokenRe
  simp only [Re.plusLazy, Re.plus, hy, sp, Re.opt]
  simp [groupOrder_seq, groupOrder_lit, lit_ne_star, hx, Re.groupOrder]

/-- one-byte delimiters `<` `>` `[` `]`: ``<-?\s*((?s:.)+?)\s*-?>|\[-?\s*(\w+)(?:\s+((?:[^\]])+?))?\s*-?\]`` —
the single alternative keeps the source's redundant group -/
example : genTokenReSrc.normalized.pattern [[60], [62], [91], [93]] = some
    [60, 45, 63, 92, 115, 42, 40, 40, 63, 115, 58, 46, 41, 43, 63, 41, 92, 115, 42, 45, 63, 62, 124,
     92, 91, 45, 63, 92, 115, 42, 40, 92, 119, 43, 41, 40, 63, 58, 92, 115, 43, 40, 40, 63, 58, 91, 94, 92, 93, 93, 41,
     43, 63, 41, 41, 63, 92, 115, 42, 45, 63, 92, 93] := by decide +kernel
example : (tokenRe ⟨[60], [62], [91], [93]⟩).toGoSyntax =
    [60, 45, 63, 92, 115, 42, 40, 40, 63, 115, 58, 46, 41, 43, 63, 41, 92, 115, 42, 45, 63, 62, 124,
     92, 91, 45, 63, 92, 115, 42, 40, 92, 119, 43, 41, 40, 63, 58, 92, 115, 43, 40, 40, 63, 58, 91, 94, 92, 93, 93, 41,
     43, 63, 41, 41, 63, 92, 115, 42, 45, 63, 92, 93] := by decide +kernel

/-- the hypothesis of `token_re_is_source_all` holds for `<<` `>>` `(%` `%)]` (three exclusion alternatives,
every delimiter needs quoting somewhere) and the conclusion is a genuine text -/
example : isAscii (Delims.mk [60, 60] [62, 62] [40, 37] [37, 41, 93]).tr = true := by decide +kernel
example : (genTokenReSrc.normalized.pattern (Delims.mk [60, 60] [62, 62] [40, 37] [37, 41, 93]).toList).isSome = true := by decide +kernel

/-- `Scan`'s defaulting: `Delims("", "", "[[", "")` keeps `%}` as tag-right delimiter -/
example : isAscii (Delims.ofList [[], [], [91, 91], []]).tr = true := by decide +kernel

/-- a non-ASCII tag-right delimiter (`»`, C2 BB) is outside the fragment -/
example : genTokenReSrc.normalized.pattern [[123, 123], [125, 125], [123, 37], [194, 187]] = none := by decide +kernel

/-- the printer on small expressions: `a|b` is wrapped under concatenation and under `*`; `a?`, `a+?`, `(a)` -/
example : (Re.seq (.alt (.chr (.eq 97)) (.chr (.eq 98))) (.chr (.eq 99))).toGoSyntax = [40, 63, 58, 97, 124, 98, 41, 99] := by decide +kernel
example : (Re.star true (.alt (.chr (.eq 97)) (.chr (.eq 98)))).toGoSyntax = [40, 63, 58, 97, 124, 98, 41, 42] := by decide +kernel
example : (Re.opt (.chr (.eq 97))).toGoSyntax = [97, 63] := by decide +kernel
example : (Re.plusLazy (.chr (.eq 46))).toGoSyntax = [92, 46, 43, 63] := by decide +kernel
example : (Re.group 1 (.chr .anyNoNL)).toGoSyntax = [40, 46, 41] := by decide +kernel
