import Liquid.Nest
/-!
# Lemmas about the nesting grammar itself (no machine): `Derives` vs `WellNested`, `canon`,
`unparse`, `wf`. Imported by `Proofs/ParseLemmas.lean`; the property theorems are in `Proofs/C06.lean`.
-/

section classes
variable {g : Grammar}

theorem isCommentOpen_iff {t : Token} :
    g.isCommentOpen t = true ↔ t.ty = .tag ∧ t.name = commentName ∧ g.known commentName = true := by
  simp only [Grammar.isCommentOpen, Bool.and_eq_true, beq_iff_eq, and_assoc]

theorem isRawOpen_iff {t : Token} : g.isRawOpen t = true ↔ t.ty = .tag ∧ t.name = rawName ∧ g.known rawName = true := by
  simp only [Grammar.isRawOpen, Bool.and_eq_true, beq_iff_eq, and_assoc]

theorem isOpen_iff {t : Token} :
    g.isOpen t = true ↔ t.ty = .tag ∧ g.isBlock t.name = true ∧ t.name ≠ commentName ∧ t.name ≠ rawName := by
  simp only [Grammar.isOpen, Bool.and_eq_true, beq_iff_eq, bne_iff_ne, ne_eq, and_assoc]

theorem isClauseOf_iff {o c : Token} :
    g.isClauseOf o c = true ↔ c.ty = .tag ∧ g.admits o.name c.name = true ∧ c.name ≠ commentName ∧ c.name ≠ rawName := by
  simp only [Grammar.isClauseOf, Bool.and_eq_true, beq_iff_eq, bne_iff_ne, ne_eq, and_assoc]

theorem isEndOf_iff {o e : Token} : isEndOf o e = true ↔ e.ty = .tag ∧ e.name = endPrefix ++ o.name := by
  simp only [isEndOf, Bool.and_eq_true, beq_iff_eq]

theorem isEndComment_iff {t : Token} : isEndComment t = true ↔ t.ty = .tag ∧ t.name = endcommentName := by
  simp only [isEndComment, Bool.and_eq_true, beq_iff_eq]

theorem isEndRaw_iff {t : Token} : isEndRaw t = true ↔ t.ty = .tag ∧ t.name = endrawName := by
  simp only [isEndRaw, Bool.and_eq_true, beq_iff_eq]

theorem isPlain_iff {t : Token} : g.isPlain t = true ↔ t.ty = .tag ∧ g.known t.name = false := by
  simp only [Grammar.isPlain, Bool.and_eq_true, beq_iff_eq, Bool.not_eq_true']

theorem rawName_ne_commentName : (rawName == commentName) = false := by decide

theorem isRawOpen_not_comment {o : Token} (ho : g.isRawOpen o = true) : g.isCommentOpen o = false :=
  Bool.eq_false_iff.mpr fun hc => absurd ((isRawOpen_iff.mp ho).2.1.symm.trans (isCommentOpen_iff.mp hc).2.1) (by decide)

theorem end_ne_comment (n : Bytes) : endPrefix ++ n ≠ commentName := by simp [endPrefix, commentName]
theorem end_ne_raw (n : Bytes) : endPrefix ++ n ≠ rawName := by simp [endPrefix, rawName]

theorem not_special_of_name {t : Token} (hc : t.name ≠ commentName) (hr : t.name ≠ rawName) :
    g.isCommentOpen t = false ∧ g.isRawOpen t = false := by
  simp [Grammar.isCommentOpen, Grammar.isRawOpen, hc, hr]

theorem isOpen_not_special {t : Token} (h : g.isOpen t = true) : g.isCommentOpen t = false ∧ g.isRawOpen t = false :=
  not_special_of_name (isOpen_iff.mp h).2.2.1 (isOpen_iff.mp h).2.2.2

theorem isClauseOf_not_special {o t : Token} (h : g.isClauseOf o t = true) :
    g.isCommentOpen t = false ∧ g.isRawOpen t = false :=
  not_special_of_name (isClauseOf_iff.mp h).2.2.1 (isClauseOf_iff.mp h).2.2.2

theorem isEndOf_not_special {o t : Token} (h : isEndOf o t = true) :
    g.isCommentOpen t = false ∧ g.isRawOpen t = false := by
  apply not_special_of_name <;> rw [(isEndOf_iff.mp h).2]
  · exact end_ne_comment _
  · exact end_ne_raw _

theorem isLeaf_of_ty {t : Token} (h : t.ty ≠ .tag) : g.isLeaf t = true := by
  simp [Grammar.isLeaf, h]

theorem isLeaf_of_plain {t : Token} (h : g.isPlain t = true) : g.isLeaf t = true := by
  simp [Grammar.isLeaf, (isPlain_iff.mp h).2]

/-- a leaf is not the known tag named `n` -/
theorem isLeaf_not_named {t : Token} (n : Bytes) (h : g.isLeaf t = true) : (t.ty == .tag && t.name == n && g.known n) = false := by
  refine Bool.eq_false_iff.mpr fun hc => ?_
  simp only [Bool.and_eq_true, beq_iff_eq] at hc
  obtain ⟨⟨h1, h2⟩, h3⟩ := hc
  rw [Grammar.isLeaf, h1, h2, h3] at h
  cases h

theorem isLeaf_not_special {t : Token} (h : g.isLeaf t = true) : g.isCommentOpen t = false ∧ g.isRawOpen t = false :=
  ⟨isLeaf_not_named commentName h, isLeaf_not_named rawName h⟩

theorem clauseToks_append (a b : List (Token × List Token)) : clauseToks (a ++ b) = clauseToks a ++ clauseToks b := by
  induction a with
  | nil => rfl
  | cons x xs ih => obtain ⟨c, ts⟩ := x; simp [clauseToks, ih]

theorem OK_end {b : Bytes} (ok : g.OK = true) (hb : g.isBlock b = true) :
    g.isBlock (endPrefix ++ b) = false := by
  simp only [Grammar.OK, Bool.and_eq_true, List.all_eq_true] at ok
  unfold Grammar.isBlock at hb
  rw [List.any_eq_true] at hb
  obtain ⟨d, hd, hd2⟩ := hb
  have := ok.1 d hd
  rw [beq_iff_eq] at hd2
  rw [← hd2]
  simpa using this

theorem OK_clause {b c : Bytes} (ok : g.OK = true) (h : g.admits b c = true) :
    g.isBlock c = false ∧ g.isEnd c = false := by
  simp only [Grammar.OK, Bool.and_eq_true, List.all_eq_true] at ok
  unfold Grammar.admits at h
  simp only [List.any_eq_true, Bool.and_eq_true] at h
  obtain ⟨d, hd, _, hd2⟩ := h
  have := ok.2 d hd c (by simpa using hd2)
  simpa using this

theorem isBlock_isEnd {b : Bytes} (h : g.isBlock b = true) : g.isEnd (endPrefix ++ b) = true := by
  unfold Grammar.isBlock at h
  unfold Grammar.isEnd
  rw [List.any_eq_true] at h ⊢
  obtain ⟨d, hd, hd2⟩ := h
  rw [beq_iff_eq] at hd2
  exact ⟨d, hd, by rw [hd2]; exact beq_self_eq_true _⟩
end classes

section canon
variable {g : Grammar}

theorem canonM_cons_other {t : Token} (ts : List Token) (h : g.isCommentOpen t = false ∧ g.isRawOpen t = false) :
    canonM g .normal (t :: ts) = canonTok g t :: canonM g .normal ts := by
  simp only [canonM, h.1, h.2, Bool.false_eq_true, if_false]

theorem canonM_comment (k interior : List Token) (h : ∀ t ∈ interior, isEndComment t = false) :
    canonM g .comment (interior ++ k) = canonM g .comment k := by
  induction interior with
  | nil => rfl
  | cons t ts ih =>
    obtain ⟨h1, h2⟩ := List.forall_mem_cons.mp h
    rw [List.cons_append, canonM, h1, if_neg Bool.false_ne_true, ih h2]

theorem canonM_raw (k interior : List Token) (h : ∀ t ∈ interior, isEndRaw t = false) :
    canonM g .raw (interior ++ k) = interior.map (fun t => rawText t.source) ++ canonM g .raw k := by
  induction interior with
  | nil => rfl
  | cons t ts ih =>
    obtain ⟨h1, h2⟩ := List.forall_mem_cons.mp h
    rw [List.cons_append, canonM, h1, if_neg Bool.false_ne_true, ih h2]
    rfl

theorem canon_commentBlock {o c : Token} {interior rest : List Token} (ho : g.isCommentOpen o = true)
    (hi : ∀ t ∈ interior, isEndComment t = false) (hc : isEndComment c = true) :
    canonM g .normal (o :: (interior ++ c :: rest)) = canonM g .normal rest := by
  simp only [canonM, ho, if_true]
  rw [canonM_comment _ _ hi]
  simp only [canonM, hc, if_true]

theorem canon_rawBlock {o c : Token} {interior rest : List Token} (ho : g.isRawOpen o = true)
    (hi : ∀ t ∈ interior, isEndRaw t = false) (hc : isEndRaw c = true) :
    canonM g .normal (o :: (interior ++ c :: rest)) =
      bareTag rawName :: (interior.map (fun t => rawText t.source) ++ bareTag endrawName :: canonM g .normal rest) := by
  simp only [canonM, isRawOpen_not_comment ho, ho, if_true, Bool.false_eq_true, if_false]
  rw [canonM_raw _ _ hi]
  simp only [canonM, hc, if_true]

theorem canonM_append {a : List Token} (h : WellNested g a) :
    ∀ b, canonM g .normal (a ++ b) = canonM g .normal a ++ canonM g .normal b := by
  induction h with
  | nil => intro b; rfl
  | leaf t rest hl _ ih =>
    intro b
    have hs := isLeaf_not_special hl
    rw [List.cons_append, canonM_cons_other _ hs, canonM_cons_other _ hs, ih, List.cons_append]
  | comment o c interior rest ho hi hc _ ih =>
    intro b
    have : (o :: (interior ++ c :: rest)) ++ b = o :: (interior ++ c :: (rest ++ b)) := by simp
    rw [this, canon_commentBlock ho hi hc, canon_commentBlock ho hi hc, ih]
  | raw o c interior rest ho hi hc _ ih =>
    intro b
    have : (o :: (interior ++ c :: rest)) ++ b = o :: (interior ++ c :: (rest ++ b)) := by simp
    rw [this, canon_rawBlock ho hi hc, canon_rawBlock ho hi hc, ih]
    simp
  | block o e body cls rest ho _ hcl hsw he _ ihb ihs ihr =>
    intro b
    have hso := isOpen_not_special ho
    have hse := isEndOf_not_special (g := g) he
    have hcls : ∀ x, canonM g .normal (clauseToks cls ++ x) = canonM g .normal (clauseToks cls) ++ canonM g .normal x := by
      induction cls with
      | nil => intro; rfl
      | cons sg r ihc =>
        intro x
        obtain ⟨c, ts⟩ := sg
        obtain ⟨hc1, hc2⟩ := List.forall_mem_cons.mp hcl
        obtain ⟨hs1, hs2⟩ := List.forall_mem_cons.mp ihs
        have hsc := isClauseOf_not_special hc1
        rw [clauseToks, List.cons_append, List.append_assoc, canonM_cons_other _ hsc, canonM_cons_other _ hsc,
          hs1, hs1, ihc hc2 (List.forall_mem_cons.mp hsw).2 hs2, List.cons_append,
          List.append_assoc]
    have e : (o :: (body ++ (clauseToks cls ++ e :: rest))) ++ b = o :: (body ++ (clauseToks cls ++ e :: (rest ++ b))) := by simp
    rw [e, canonM_cons_other _ hso, canonM_cons_other _ hso, ihb, ihb, hcls, hcls,
      canonM_cons_other _ hse, canonM_cons_other _ hse, ihr]
    simp
end canon

section derives
variable {g : Grammar} {chk : Bytes → Option Cause}

def segClauses (segs : List Seg) : List (Token × List Token) := segs.map fun sg => (sg.1, sg.2.1)

theorem clauseToks_segClauses (segs : List Seg) : clauseToks (segClauses segs) = segToks segs := by
  induction segs with
  | nil => rfl
  | cons x xs ih => rw [segToks, ← ih]; rfl

theorem segToks_append (a b : List Seg) : segToks (a ++ b) = segToks a ++ segToks b := by
  induction a with
  | nil => rfl
  | cons x xs ih => obtain ⟨c, ts, ns⟩ := x; simp [segToks, ih]

theorem segASTs_append (a b : List Seg) : segASTs (a ++ b) = segASTs a ++ segASTs b := by
  induction a with
  | nil => rfl
  | cons x xs ih => obtain ⟨c, ts, ns⟩ := x; simp [segASTs, ih]

theorem Derives.wellNested {toks : List Token} {ns : List AST} (h : Derives g chk toks ns) : WellNested g toks := by
  induction h with
  | nil => exact .nil
  | text t rest ns ht _ ih | trimL t rest ns ht _ ih | trimR t rest ns ht _ ih | obj t rest ns ht _ _ ih =>
    exact .leaf t rest (isLeaf_of_ty (by rw [ht]; nofun)) ih
  | tag t rest ns ht _ ih => exact .leaf t rest (isLeaf_of_plain ht) ih
  | comment o c interior rest ns ho hi hc _ ih => exact .comment o c interior rest ho hi hc ih
  | raw o c interior rest ns ho hi hc _ ih => exact .raw o c interior rest ho hi hc ih
  | block o e body bns segs rest ns ho _ hcl _ he _ ihb ihs ihr =>
    have := WellNested.block o e body (segClauses segs) rest ho ihb
      (List.forall_mem_map.mpr hcl) (List.forall_mem_map.mpr ihs) he ihr
    rw [clauseToks_segClauses] at this
    exact this

theorem canonTok_ty_obj {t : Token} (h : (canonTok g t).ty = .obj) : canonTok g t = t := by
  cases ht : t.ty with
  | obj => simp only [canonTok, ht]
  | text => simp only [canonTok, ht]
  | trimL => simp only [canonTok, ht] at h; cases h
  | trimR => simp only [canonTok, ht] at h; cases h
  | tag =>
    simp only [canonTok, ht] at h
    split at h
    · cases h
    · rw [ht] at h; cases h

theorem objsOk_nil : ObjsOk g chk [] := nofun

theorem objsOk_append {a b : List Token} (h : WellNested g a) : ObjsOk g chk (a ++ b) ↔ ObjsOk g chk a ∧ ObjsOk g chk b := by
  unfold ObjsOk canon
  rw [canonM_append h]
  exact List.forall_mem_append

theorem objsOk_cons_other {t : Token} {ts : List Token} (h : g.isCommentOpen t = false ∧ g.isRawOpen t = false) :
    ObjsOk g chk (t :: ts) ↔ (t.ty = .obj → chk t.args = none) ∧ ObjsOk g chk ts := by
  unfold ObjsOk canon
  rw [canonM_cons_other _ h, List.forall_mem_cons]
  refine and_congr_left fun _ => ⟨fun hh ht => ?_, fun ha hty => ?_⟩
  · have e : canonTok g t = t := by unfold canonTok; rw [ht]
    rw [e] at hh
    exact hh ht
  · have e := canonTok_ty_obj hty
    rw [e] at hty ⊢
    exact ha hty

theorem objsOk_cons_tag {t : Token} {ts : List Token} (ht : t.ty = .tag)
    (h : g.isCommentOpen t = false ∧ g.isRawOpen t = false) : ObjsOk g chk (t :: ts) ↔ ObjsOk g chk ts :=
  (objsOk_cons_other h).trans (and_iff_right fun hty => by rw [ht] at hty; cases hty)

theorem objsOk_commentBlock {o c : Token} {interior rest : List Token} (ho : g.isCommentOpen o = true)
    (hi : ∀ t ∈ interior, isEndComment t = false) (hc : isEndComment c = true) :
    ObjsOk g chk (o :: (interior ++ c :: rest)) ↔ ObjsOk g chk rest := by
  unfold ObjsOk canon
  rw [canon_commentBlock ho hi hc]

theorem objsOk_rawBlock {o c : Token} {interior rest : List Token} (ho : g.isRawOpen o = true)
    (hi : ∀ t ∈ interior, isEndRaw t = false) (hc : isEndRaw c = true) :
    ObjsOk g chk (o :: (interior ++ c :: rest)) ↔ ObjsOk g chk rest := by
  unfold ObjsOk canon
  rw [canon_rawBlock ho hi hc, List.forall_mem_cons, List.forall_mem_append, List.forall_mem_cons]
  refine ⟨fun hh => hh.2.2.2, fun hh => ⟨nofun, fun t ht hty => ?_, nofun, hh⟩⟩
  obtain ⟨x, _, rfl⟩ := List.mem_map.mp ht
  cases hty

theorem objsOk_clauseToks {o : Token} (cls : List (Token × List Token))
    (hc : ∀ sg ∈ cls, g.isClauseOf o sg.1 = true) (hw : ∀ sg ∈ cls, WellNested g sg.2) (x : List Token) :
    ObjsOk g chk (clauseToks cls ++ x) ↔ (∀ sg ∈ cls, ObjsOk g chk sg.2) ∧ ObjsOk g chk x := by
  induction cls with
  | nil => exact (and_iff_right nofun).symm
  | cons sg r ih =>
    obtain ⟨c, ts⟩ := sg
    obtain ⟨hc1, hc2⟩ := List.forall_mem_cons.mp hc
    obtain ⟨hw1, hw2⟩ := List.forall_mem_cons.mp hw
    rw [clauseToks, List.cons_append, List.append_assoc, objsOk_cons_tag (isClauseOf_iff.mp hc1).1 (isClauseOf_not_special hc1),
      objsOk_append hw1, ih hc2 hw2, List.forall_mem_cons, and_assoc]

theorem Derives.objsOk {toks : List Token} {ns : List AST} (h : Derives g chk toks ns) : ObjsOk g chk toks := by
  induction h with
  | nil => exact objsOk_nil
  | text t rest ns ht _ ih | trimL t rest ns ht _ ih | trimR t rest ns ht _ ih =>
    exact (objsOk_cons_other (isLeaf_not_special (isLeaf_of_ty (by rw [ht]; nofun)))).mpr ⟨(fun h => by rw [ht] at h; cases h), ih⟩
  | obj t rest ns ht hc _ ih =>
    exact (objsOk_cons_other (isLeaf_not_special (isLeaf_of_ty (by rw [ht]; nofun)))).mpr ⟨fun _ => hc, ih⟩
  | tag t rest ns ht _ ih => exact (objsOk_cons_tag (isPlain_iff.mp ht).1 (isLeaf_not_special (isLeaf_of_plain ht))).mpr ih
  | comment o c interior rest ns ho hi hc _ ih => exact (objsOk_commentBlock ho hi hc).mpr ih
  | raw o c interior rest ns ho hi hc _ ih => exact (objsOk_rawBlock ho hi hc).mpr ih
  | block o e body bns segs rest ns ho hbd hcl hsd he _ ihb ihs ihr =>
    rw [objsOk_cons_tag (isOpen_iff.mp ho).1 (isOpen_not_special ho), objsOk_append hbd.wellNested, ← clauseToks_segClauses,
      objsOk_clauseToks (o := o) (segClauses segs) (List.forall_mem_map.mpr hcl)
        (List.forall_mem_map.mpr fun sg h => (hsd sg h).wellNested),
      objsOk_cons_tag (isEndOf_iff.mp he).1 (isEndOf_not_special he)]
    exact ⟨ihb, List.forall_mem_map.mpr ihs, ihr⟩

theorem Derives.weaken {toks : List Token} {ns : List AST}
    (h : Derives g chk toks ns) : Derives g (fun _ => none) toks ns := by
  induction h with
  | nil => exact .nil
  | text t rest ns ht _ ih => exact .text t rest ns ht ih
  | obj t rest ns ht _ _ ih => exact .obj t rest ns ht rfl ih
  | trimL t rest ns ht _ ih => exact .trimL t rest ns ht ih
  | trimR t rest ns ht _ ih => exact .trimR t rest ns ht ih
  | tag t rest ns ht _ ih => exact .tag t rest ns ht ih
  | comment o c interior rest ns ho hi hc _ ih => exact .comment o c interior rest ns ho hi hc ih
  | raw o c interior rest ns ho hi hc _ ih => exact .raw o c interior rest ns ho hi hc ih
  | block o e body bns segs rest ns ho _ hcl _ he _ ihb ihs ihr =>
    exact .block o e body bns segs rest ns ho ihb hcl ihs he ihr
end derives

section canonUnparse
variable {g : Grammar} {chk : Bytes → Option Cause}

theorem canonTok_open {o : Token} (h : g.isOpen o = true) : canonTok g o = o := by
  obtain ⟨ht, hb, _⟩ := isOpen_iff.mp h
  simp [canonTok, ht, hb]

theorem canonTok_clause (ok : g.OK = true) {o c : Token} (h : g.isClauseOf o c = true) : canonTok g c = c := by
  obtain ⟨ht, ha, _⟩ := isClauseOf_iff.mp h
  simp [canonTok, ht, (OK_clause ok ha).2]

theorem canonTok_end (ok : g.OK = true) {o e : Token} (ho : g.isOpen o = true) (h : isEndOf o e = true) :
    canonTok g e = bareTag (endPrefix ++ o.name) := by
  obtain ⟨ht, hn⟩ := isEndOf_iff.mp h
  have hb := (isOpen_iff.mp ho).2.1
  simp [canonTok, ht, hn, OK_end ok hb, isBlock_isEnd hb]

theorem canonTok_plain {t : Token} (h : g.isPlain t = true) : canonTok g t = t := by
  simp only [Grammar.isPlain, Bool.and_eq_true, beq_iff_eq, Bool.not_eq_true', Grammar.known, Bool.or_eq_false_iff] at h
  simp [canonTok, h.1, h.2.1.2]

theorem canon_segs (ok : g.OK = true) {o : Token} (segs : List Seg) (hc : ∀ sg ∈ segs, g.isClauseOf o sg.1 = true)
    (hd : ∀ sg ∈ segs, Derives g chk sg.2.1 sg.2.2) (hu : ∀ sg ∈ segs, unparseList sg.2.2 = canon g sg.2.1)
    (x : List Token) : canonM g .normal (segToks segs ++ x) = unparseClauses (segASTs segs) ++ canonM g .normal x := by
  induction segs with
  | nil => rfl
  | cons sg r ih =>
    obtain ⟨c, ts, ns⟩ := sg
    obtain ⟨hc1, hc2⟩ := List.forall_mem_cons.mp hc
    obtain ⟨hd1, hd2⟩ := List.forall_mem_cons.mp hd
    obtain ⟨hu1, hu2⟩ := List.forall_mem_cons.mp hu
    rw [segToks, segASTs, unparseClauses, List.cons_append, List.append_assoc, canonM_cons_other _ (isClauseOf_not_special hc1),
      canonTok_clause ok hc1, canonM_append hd1.wellNested, ih hc2 hd2 hu2, hu1, List.cons_append, List.append_assoc]
    rfl

theorem Derives.unparse_canon (ok : g.OK = true) {toks : List Token} {ns : List AST} (h : Derives g chk toks ns) :
    unparse ns = canon g toks := by
  unfold unparse canon
  induction h with
  | nil => rfl
  | text t rest ns ht _ ih | obj t rest ns ht _ _ ih | trimL t rest ns ht _ ih | trimR t rest ns ht _ ih =>
    rw [canonM_cons_other _ (isLeaf_not_special (isLeaf_of_ty (by rw [ht]; nofun))), ← ih]
    simp [unparseList, AST.unparse, canonTok, ht]
  | tag t rest ns ht _ ih =>
    rw [canonM_cons_other _ (isLeaf_not_special (isLeaf_of_plain ht)), ← ih, canonTok_plain ht]
    simp [unparseList, AST.unparse]
  | comment o c interior rest ns ho hi hc _ ih => rw [canon_commentBlock ho hi hc, ih]
  | raw o c interior rest ns ho hi hc _ ih =>
    rw [canon_rawBlock ho hi hc, ← ih]
    simp [unparseList, AST.unparse, List.map_map, Function.comp_def]
  | block o e body bns segs rest ns ho hbd hcl hsd he _ ihb ihs ihr =>
    rw [canonM_cons_other _ (isOpen_not_special ho), canonTok_open ho, canonM_append hbd.wellNested,
      canon_segs ok segs hcl hsd ihs, canonM_cons_other _ (isEndOf_not_special he), canonTok_end ok ho he, ← ihb, ← ihr]
    simp [unparseList, AST.unparse]
end canonUnparse

section wn
variable {g : Grammar} {chk : Bytes → Option Cause}

theorem segs_of_clauses {o : Token} (cls : List (Token × List Token))
    (hc : ∀ sg ∈ cls, g.isClauseOf o sg.1 = true) (hd : ∀ sg ∈ cls, ∃ ns, Derives g chk sg.2 ns) :
    ∃ segs : List Seg, segToks segs = clauseToks cls ∧ (∀ sg ∈ segs, g.isClauseOf o sg.1 = true) ∧
      (∀ sg ∈ segs, Derives g chk sg.2.1 sg.2.2) := by
  induction cls with
  | nil => exact ⟨[], rfl, nofun, nofun⟩
  | cons x r ih =>
    obtain ⟨c, ts⟩ := x
    obtain ⟨hc1, hc2⟩ := List.forall_mem_cons.mp hc
    obtain ⟨⟨ns, hns⟩, hd2⟩ := List.forall_mem_cons.mp hd
    obtain ⟨segs, h1, h2, h3⟩ := ih hc2 hd2
    exact ⟨(c, ts, ns) :: segs, by rw [segToks, clauseToks, h1], List.forall_mem_cons.mpr ⟨hc1, h2⟩,
      List.forall_mem_cons.mpr ⟨hns, h3⟩⟩

theorem WellNested.derives {toks : List Token} (h : WellNested g toks) :
    ObjsOk g chk toks → ∃ ns, Derives g chk toks ns := by
  induction h with
  | nil => intro _; exact ⟨[], .nil⟩
  | leaf t rest hl _ ih =>
    intro ho
    rw [objsOk_cons_other (isLeaf_not_special hl)] at ho
    obtain ⟨ns, hns⟩ := ih ho.2
    cases ht : t.ty with
    | text => exact ⟨_, .text t rest ns ht hns⟩
    | obj => exact ⟨_, .obj t rest ns ht (ho.1 ht) hns⟩
    | trimL => exact ⟨_, .trimL t rest ns ht hns⟩
    | trimR => exact ⟨_, .trimR t rest ns ht hns⟩
    | tag =>
      refine ⟨_, .tag t rest ns (isPlain_iff.mpr ⟨ht, ?_⟩) hns⟩
      simpa [Grammar.isLeaf, ht] using hl
  | comment o c interior rest ho hi hc _ ih =>
    intro hok
    rw [objsOk_commentBlock ho hi hc] at hok
    obtain ⟨ns, hns⟩ := ih hok
    exact ⟨_, .comment o c interior rest ns ho hi hc hns⟩
  | raw o c interior rest ho hi hc _ ih =>
    intro hok
    rw [objsOk_rawBlock ho hi hc] at hok
    obtain ⟨ns, hns⟩ := ih hok
    exact ⟨_, .raw o c interior rest ns ho hi hc hns⟩
  | block o e body cls rest ho hbd hcl hsd he _ ihb ihs ihr =>
    intro hok
    rw [objsOk_cons_tag (isOpen_iff.mp ho).1 (isOpen_not_special ho), objsOk_append hbd, objsOk_clauseToks cls hcl hsd,
      objsOk_cons_tag (isEndOf_iff.mp he).1 (isEndOf_not_special he)] at hok
    obtain ⟨hb, hs, hr⟩ := hok
    obtain ⟨bns, hbns⟩ := ihb hb
    obtain ⟨ns, hns⟩ := ihr hr
    obtain ⟨segs, h1, h2, h3⟩ := segs_of_clauses (chk := chk) cls hcl (fun sg h => ihs sg h (hs sg h))
    rw [← h1]
    exact ⟨_, .block o e body bns segs rest ns ho hbns h2 h3 he hns⟩

theorem wfClauses_segASTs {o : Token} (segs : List Seg) (hc : ∀ sg ∈ segs, g.isClauseOf o sg.1 = true)
    (hw : ∀ sg ∈ segs, wfList g chk sg.2.2 = true) : wfClauses g chk o (segASTs segs) = true := by
  induction segs with
  | nil => rfl
  | cons x r ih =>
    obtain ⟨c, ts, ns⟩ := x
    obtain ⟨hc1, hc2⟩ := List.forall_mem_cons.mp hc
    obtain ⟨hw1, hw2⟩ := List.forall_mem_cons.mp hw
    rw [segASTs, wfClauses, hc1, hw1, ih hc2 hw2]
    rfl

theorem Derives.wf {toks : List Token} {ns : List AST} (h : Derives g chk toks ns) : wfList g chk ns = true := by
  induction h with
  | nil => rfl
  | text t rest ns ht _ ih => rw [wfList, AST.wf, ht, ih]; rfl
  | obj t rest ns ht hc _ ih => rw [wfList, AST.wf, ht, hc, ih]; rfl
  | trimL t rest ns ht _ ih | trimR t rest ns ht _ ih => rw [wfList, AST.wf, ih]; rfl
  | tag t rest ns ht _ ih => rw [wfList, AST.wf, ht, ih]; rfl
  | comment o c interior rest ns ho hi hc _ ih => exact ih
  | raw o c interior rest ns ho hi hc _ ih =>
    rw [wfList, AST.wf, (isRawOpen_iff.mp ho).2.2, ih]; rfl
  | block o e body bns segs rest ns ho _ hcl _ he _ ihb ihs ihr =>
    simp only [wfList, AST.wf, Bool.and_eq_true]
    exact ⟨⟨⟨ho, ihb⟩, wfClauses_segASTs segs hcl ihs⟩, ihr⟩

mutual
theorem derives_unparse_node : ∀ (n : AST), n.wf g chk = true →
    ∀ (rest : List Token) (ms : List AST), Derives g chk rest ms → Derives g chk (n.unparse ++ rest) (n :: ms)
  | .text t, h, rest, ms, hr => by
    simp only [AST.wf, beq_iff_eq] at h
    exact .text t rest ms h hr
  | .obj t, h, rest, ms, hr => by
    simp only [AST.wf, Bool.and_eq_true, beq_iff_eq, Option.isNone_iff_eq_none] at h
    exact .obj t rest ms h.1 h.2 hr
  | .tag t, h, rest, ms, hr => by
    simp only [AST.wf] at h
    exact .tag t rest ms h hr
  | .trim true, _, rest, ms, hr => .trimL (trimTok true) rest ms rfl hr
  | .trim false, _, rest, ms, hr => .trimR (trimTok false) rest ms rfl hr
  | .raw sl, h, rest, ms, hr => by
    rw [AST.wf] at h
    have := Derives.raw (g := g) (chk := chk) (bareTag rawName) (bareTag endrawName) (sl.map rawText) rest ms
      (isRawOpen_iff.mpr ⟨rfl, rfl, h⟩) (fun t ht => by obtain ⟨s, _, rfl⟩ := List.mem_map.mp ht; rfl) rfl hr
    rw [List.map_map, show (fun t : Token => t.source) ∘ rawText = id from rfl, List.map_id] at this
    rw [AST.unparse, List.cons_append, List.append_assoc]
    exact this
  | .block o body cls, h, rest, ms, hr => by
    simp only [AST.wf, Bool.and_eq_true] at h
    obtain ⟨segs, h1, h2, h3, h4⟩ := derives_unparse_clauses o cls h.2
    have := Derives.block o (bareTag (endPrefix ++ o.name)) (unparseList body) body segs rest ms h.1.1
      (derives_unparse_list body h.1.2) h3 h4 (isEndOf_iff.mpr ⟨rfl, rfl⟩) hr
    rw [h1, h2] at this
    rw [AST.unparse, List.cons_append, List.append_assoc, List.append_assoc]
    exact this
theorem derives_unparse_list : ∀ (ns : List AST), wfList g chk ns = true → Derives g chk (unparseList ns) ns
  | [], _ => .nil
  | n :: ns, h => by
    simp only [wfList, Bool.and_eq_true] at h
    exact derives_unparse_node n h.1 _ _ (derives_unparse_list ns h.2)
theorem derives_unparse_clauses : ∀ (o : Token) (cs : List (Token × List AST)), wfClauses g chk o cs = true →
    ∃ segs : List Seg, segToks segs = unparseClauses cs ∧ segASTs segs = cs ∧
      (∀ sg ∈ segs, g.isClauseOf o sg.1 = true) ∧ (∀ sg ∈ segs, Derives g chk sg.2.1 sg.2.2)
  | _, [], _ => ⟨[], rfl, rfl, nofun, nofun⟩
  | o, (c, body) :: cs, h => by
    simp only [wfClauses, Bool.and_eq_true] at h
    obtain ⟨segs, h1, h2, h3, h4⟩ := derives_unparse_clauses o cs h.2
    exact ⟨(c, unparseList body, body) :: segs, by rw [segToks, unparseClauses, h1], by rw [segASTs, h2],
      List.forall_mem_cons.mpr ⟨h.1.1, h3⟩, List.forall_mem_cons.mpr ⟨derives_unparse_list body h.1.2, h4⟩⟩
end
end wn
