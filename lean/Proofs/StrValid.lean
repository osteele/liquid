import Proofs.StrReplSplit
import Proofs.StrWords
import Proofs.StrEscUrl
import Proofs.TrimLemmas
/-!
# "valid UTF-8 in ⇒ valid UTF-8 out" for `escape`, `strip_html`, the two trims and the replacement, split/join and `unescape` models
-/

theorem u8_ne_of_high {b k : UInt8} (h : 0x80 ≤ b) (hk : k < 0x80) : b ≠ k :=
  fun e => absurd (e ▸ h) (UInt8.not_le.2 hk)

theorem escapeByte_high (b : UInt8) (h : 0x80 ≤ b) : StrF.escapeByte b = [b] := by
  have ne (k : UInt8) (hk : k < 0x80) : ¬ b = k := u8_ne_of_high h hk
  simp only [StrF.escapeByte, beq_iff_eq, ne 38 (by decide), ne 39 (by decide), ne 60 (by decide),
    ne 62 (by decide), ne 34 (by decide), if_false]

theorem escapeByte_ascii (b : UInt8) (h : b < 0x80) : ∀ c ∈ StrF.escapeByte b, c < 0x80 := by
  rcases escapeByte_cases b with ⟨tl, e, htl, _⟩ | ⟨_, _, _, _, _, e⟩
  · rw [e]; exact List.forall_mem_cons.2 ⟨by decide, fun x hx => (htl x hx).1⟩
  · rw [e]; exact List.forall_mem_cons.2 ⟨h, nofun⟩

theorem escape_valid (s : Bytes) (h : ValidUtf8 s) : ValidUtf8 (StrF.escape s) := by
  rw [escape_eq_flatMap]
  exact validUtf8_flatMap _ escapeByte_high escapeByte_ascii s h

/-- validity, generalised over the text `pre` already passed (so that a multi-byte rune may be
    split between `pre` and `s`) -/
theorem stripHtml_valid (s : Bytes) : ∀ pre, ValidUtf8 (pre ++ s) → ValidUtf8 (pre ++ StrF.stripHtml s) := by
  refine stripHtmlAux_induct (P := fun s o => ∀ pre, ValidUtf8 (pre ++ s) → ValidUtf8 (pre ++ o)) (fun _ h => h) ?_ ?_
    _ s (Nat.le_refl _)
  · intro rest after out hf ih pre h
    obtain ⟨mid, rfl, _, _⟩ := findClose_some _ _ hf
    have h2 : ValidUtf8 ((pre ++ 60 :: mid) ++ 62 :: after) := by simpa using h
    exact ih pre (validUtf8_append (validUtf8_of_append_ascii pre 60 _ (by decide) h).1
      (validUtf8_of_append_ascii _ 62 after (by decide) h2).2)
  · intro b rest out _ ih pre h
    have := ih (pre ++ [b]) (by simpa using h)
    simpa using this

theorem trimLeftSpace_valid (s : Bytes) (h : ValidUtf8 s) : ValidUtf8 (trimLeftSpace s) := by
  obtain ⟨l, hl, hs, _⟩ := trimLeftSpace_spec s
  rw [hs] at h
  exact validUtf8_cancel_left l _ (allSpace_valid hl) h

theorem trimRightSpace_valid (s : Bytes) (h : ValidUtf8 s) : ValidUtf8 (trimRightSpace s) := by
  obtain ⟨r, hr, hs, _⟩ := trimRightSpace_spec s
  rw [hs] at h
  exact validUtf8_cancel_right _ r (allSpace_valid hr) h

theorem runeChunksAux_valid (n : Nat) (s : Bytes) (hs : ValidUtf8 s) : ∀ p ∈ StrF.runeChunksAux n s, ValidUtf8 p := by
  fun_induction StrF.runeChunksAux n s with
  | case1 => nofun
  | case2 => nofun
  | case3 n b rest w ih =>
    have hw : w = (decodeRune (b :: rest)).2 := Nat.max_eq_left (decodeRune_width_pos (b :: rest) (List.cons_ne_nil b rest))
    rw [hw] at ih ⊢
    exact List.forall_mem_cons.2 ⟨validUtf8_take_rune _ hs, ih (validUtf8_drop_rune _ hs)⟩

theorem runeChunks_valid (s : Bytes) (h : ValidUtf8 s) : ∀ p ∈ StrF.runeChunks s, ValidUtf8 p :=
  runeChunksAux_valid _ s h

theorem flatten_valid : ∀ (ps : List Bytes), (∀ p ∈ ps, ValidUtf8 p) → ValidUtf8 ps.flatten
  | [], _ => by simpa using validUtf8_nil
  | p :: ps, h => by
    obtain ⟨hp, hps⟩ := List.forall_mem_cons.1 h
    rw [List.flatten_cons]
    exact validUtf8_append hp (flatten_valid ps hps)

theorem insertAround_valid (new s : Bytes) (hs : ValidUtf8 s) (hn : ValidUtf8 new) :
    ValidUtf8 (StrF.insertAround new s) := by
  unfold StrF.insertAround
  apply validUtf8_append hn
  apply flatten_valid
  intro p hp
  obtain ⟨q, hq, rfl⟩ := List.mem_map.1 hp
  exact validUtf8_append (runeChunks_valid s hs q hq) hn

theorem indexOf_cut_valid {old s : Bytes} {i : Nat} (ho : ValidUtf8 old) (hne : old ≠ [])
    (hi : StrF.indexOf old s = some i) (hs : ValidUtf8 s) :
    ValidUtf8 (s.take i) ∧ ValidUtf8 (s.drop (i + old.length)) := by
  rw [(indexOf_some old s i hi).2.1] at hs
  exact validUtf8_cut_around _ old _ ho hne hs

theorem replaceNE_valid (old new : Bytes) (ho : ValidUtf8 old) (hne : old ≠ []) (hn : ValidUtf8 new)
    (n : Nat) (s : Bytes) (hs : ValidUtf8 s) : ValidUtf8 (StrF.replaceNE old new n s) := by
  fun_induction StrF.replaceNE old new n s with
  | case1 => exact hs
  | case2 => exact hs
  | case3 f s i hi ih =>
    obtain ⟨h1, h2⟩ := indexOf_cut_valid ho hne hi hs
    exact validUtf8_append (validUtf8_append h1 hn) (ih h2)

theorem splitNE_valid (sep : Bytes) (ho : ValidUtf8 sep) (hne : sep ≠ []) (n : Nat) (s : Bytes) (hs : ValidUtf8 s) :
    ∀ p ∈ StrF.splitNE sep n s, ValidUtf8 p := by
  fun_induction StrF.splitNE sep n s with
  | case1 => exact List.forall_mem_singleton.2 hs
  | case2 => exact List.forall_mem_singleton.2 hs
  | case3 f s i hi ih =>
    obtain ⟨h1, h2⟩ := indexOf_cut_valid ho hne hi hs
    exact List.forall_mem_cons.2 ⟨h1, ih h2⟩

theorem isAsciiSpace_ascii (b : UInt8) (h : StrF.isAsciiSpace b = true) : b < 0x80 := by
  simp only [StrF.isAsciiSpace, Bool.or_eq_true, beq_iff_eq, Bool.and_eq_true, decide_eq_true_eq] at h
  rcases h with rfl | ⟨_, h2⟩
  · decide
  · exact UInt8.lt_of_le_of_lt h2 (by decide)

theorem isWordSpace_ascii (b : UInt8) (h : StrF.isWordSpace b = true) : b < 0x80 := by
  simp only [StrF.isWordSpace, Bool.or_eq_true, beq_iff_eq] at h
  rcases h with (((rfl | rfl) | rfl) | rfl) | rfl <;> decide

theorem splitWSGo_valid (inRun : Bool) (cur rest : Bytes) (h : ValidUtf8 (cur.reverse ++ rest)) :
    ∀ p ∈ StrF.splitWSGo inRun cur rest, ValidUtf8 p := by
  fun_induction StrF.splitWSGo inRun cur rest with
  | case1 inRun cur => exact List.forall_mem_singleton.2 (by rwa [List.append_nil] at h)
  | case2 cur b rest hb ih =>
    obtain ⟨h1, h3⟩ := validUtf8_of_append_ascii _ b rest (isAsciiSpace_ascii b hb) h
    exact ih (validUtf8_append h1 h3)
  | case3 inRun cur b rest hb _ ih =>
    obtain ⟨h1, h3⟩ := validUtf8_of_append_ascii _ b rest (isAsciiSpace_ascii b hb) h
    exact List.forall_mem_cons.2 ⟨h1, ih h3⟩
  | case4 inRun cur b rest _ ih => exact ih (by rwa [List.reverse_cons, List.append_assoc])

theorem mem_dropTrailingEmpty (ps : List Bytes) (p : Bytes) (h : p ∈ StrF.dropTrailingEmpty ps) :
    p ∈ ps := by
  unfold StrF.dropTrailingEmpty at h
  rw [List.mem_reverse] at h
  have := (List.dropWhile_sublist (fun x : Bytes => x.isEmpty) (l := ps.reverse)).subset h
  exact List.mem_reverse.1 this

theorem splitRaw_valid (s sep : Bytes) (hs : ValidUtf8 s) (hsep : ValidUtf8 sep) :
    ∀ p ∈ StrF.splitRaw s sep, ValidUtf8 p := by
  intro p hp
  by_cases hsp : sep = [32]
  · rw [StrF.splitRaw, if_pos hsp] at hp
    exact splitWSGo_valid false [] s hs p hp
  by_cases hne : sep = []
  · subst hne; exact runeChunks_valid s hs p hp
  · rw [splitRaw_of_ne s hsp hne] at hp
    exact splitNE_valid sep hsep hne _ s hs p hp

theorem replace_valid (s old new : Bytes) (hs : ValidUtf8 s) (ho : ValidUtf8 old) (hn : ValidUtf8 new) :
    ValidUtf8 (StrF.replace s old new) := by
  by_cases hon : old = new
  · rw [StrF.replace, if_pos hon]; exact hs
  by_cases hne : old = []
  · subst hne; rw [StrF.replace, if_neg hon]; exact insertAround_valid new s hs hn
  · rw [replace_of_ne s hon hne]; exact replaceNE_valid old new ho hne hn _ s hs

theorem replaceFirst_valid (s old new : Bytes) (hs : ValidUtf8 s) (ho : ValidUtf8 old) (hn : ValidUtf8 new) :
    ValidUtf8 (StrF.replaceFirst s old new) := by
  unfold StrF.replaceFirst
  split
  · exact hs
  · cases hi : StrF.indexOf old s with
    | none => exact hs
    | some i =>
      simp only
      by_cases hne : old = []
      · subst hne
        rw [indexOf_nil_pat] at hi
        cases hi
        simpa using validUtf8_append hn hs
      · obtain ⟨h1, h2⟩ := indexOf_cut_valid ho hne hi hs
        exact validUtf8_append (validUtf8_append h1 hn) h2

theorem split_valid (s sep : Bytes) (hs : ValidUtf8 s) (hsep : ValidUtf8 sep) :
    ∀ p ∈ StrF.split s sep, ValidUtf8 p := fun p hp =>
  splitRaw_valid s sep hs hsep p (mem_dropTrailingEmpty _ p hp)

theorem join_valid (sep : Bytes) (ps : List Bytes) (hsep : ValidUtf8 sep) (hps : ∀ p ∈ ps, ValidUtf8 p) :
    ValidUtf8 (StrF.join sep ps) := by
  induction ps with
  | nil => simpa [StrF.join] using validUtf8_nil
  | cons p ps ih =>
    obtain ⟨hp, hps⟩ := List.forall_mem_cons.1 hps
    cases ps with
    | nil => exact hp
    | cons q ps => exact validUtf8_append (validUtf8_append hp hsep) (ih hps)

theorem digitOf_ascii (hex : Bool) (c : UInt8) (d : Int) (h : StrF.digitOf hex c = some d) : c < 0x80 := by
  simp only [StrF.digitOf, Bool.and_eq_true, decide_eq_true_eq] at h
  split at h
  · next h1 => exact UInt8.lt_of_le_of_lt h1.2 (by decide)
  split at h
  · next h1 => exact UInt8.lt_of_le_of_lt h1.2 (by decide)
  split at h
  · next h1 => exact UInt8.lt_of_le_of_lt h1.2 (by decide)
  · cases h

theorem isAlnum_ascii (c : UInt8) (h : StrF.isAlnum c = true) : c < 0x80 := by
  simp only [StrF.isAlnum, Bool.or_eq_true, Bool.and_eq_true, decide_eq_true_eq] at h
  rcases h with (h | h) | h
  · exact UInt8.lt_of_le_of_lt h.2 (by decide)
  · exact UInt8.lt_of_le_of_lt h.2 (by decide)
  · exact UInt8.lt_of_le_of_lt h.2 (by decide)

/-- the digit loop, started behind the ASCII bytes `pre` of an entity (index `pre.length + 1`: the `&` counts),
    stops at an index up to which the entity is ASCII -/
theorem scanNum_ascii (hex : Bool) : ∀ (cs pre : Bytes) (x : Int), (∀ b ∈ pre, b < 0x80) →
    ∀ b ∈ (pre ++ cs).take ((StrF.scanNum hex x (pre.length + 1) cs).2 - 1), b < 0x80 := by
  intro cs
  induction cs with
  | nil => intro pre x hp b hb; exact hp b (List.mem_of_mem_take (by simpa using hb))
  | cons c cs ih =>
    intro pre x hp
    simp only [StrF.scanNum]
    cases hd : StrF.digitOf hex c with
    | some d =>
      have := ih (pre ++ [c]) (StrF.wrap32 ((if hex then 16 else 10) * x + d))
        (List.forall_mem_append.2 ⟨hp, List.forall_mem_singleton.2 (digitOf_ascii hex c d hd)⟩)
      simpa using this
    | none =>
      simp only
      split
      · next hc =>
        obtain rfl : c = 59 := by simpa using hc
        rw [Nat.add_sub_cancel, List.take_length_add_append]
        exact List.forall_mem_append.2 ⟨hp, List.forall_mem_singleton.2 (by decide)⟩
      · rw [Nat.add_sub_cancel, List.take_left]
        exact hp

theorem scanName_spec (cs : Bytes) : StrF.scanName cs <+: cs ∧ ∀ b ∈ StrF.scanName cs, b < 0x80 := by
  fun_induction StrF.scanName cs with
  | case1 => exact ⟨List.prefix_refl _, nofun⟩
  | case2 c cs hc ih => exact ⟨(List.cons_prefix_cons.2 ⟨rfl, ih.1⟩), List.forall_mem_cons.2 ⟨isAlnum_ascii c hc, ih.2⟩⟩
  | case3 c cs _ hc =>
    rw [beq_iff_eq.1 hc]
    exact ⟨List.cons_prefix_cons.2 ⟨rfl, List.nil_prefix⟩, by decide⟩
  | case4 => exact ⟨List.nil_prefix, nofun⟩

theorem unescapeEntity_spec (rest out : Bytes) (k : Nat) (h : StrF.unescapeEntity rest = some (out, k)) :
    ValidUtf8 out ∧ ∀ b ∈ rest.take (k - 1), b < 0x80 := by
  have triv : ∀ {rest : Bytes}, some (([38] : Bytes), 1) = some (out, k) →
      ValidUtf8 out ∧ ∀ b ∈ rest.take (k - 1), b < 0x80 := by
    intro rest h
    cases h
    exact ⟨validUtf8_of_all_ascii _ (by decide), by simp⟩
  unfold StrF.unescapeEntity at h
  split at h
  · exact triv h
  · rename_i r2
    split at h
    · exact triv h
    · split at h
      · exact triv h
      · rename_i c r3 _
        simp only at h
        split at h
        · rename_i hc
          split at h
          · exact triv h
          · cases h
            have hasc : ∀ b ∈ [35, c], b < 0x80 := by
              simp only [Bool.or_eq_true, beq_iff_eq] at hc
              rcases hc with rfl | rfl <;> decide
            exact ⟨validUtf8_encodeRune _, scanNum_ascii true r3 [35, c] 0 hasc⟩
        · split at h
          · exact triv h
          · cases h
            exact ⟨validUtf8_encodeRune _, scanNum_ascii false (c :: r3) [35] 0 (by decide)⟩
  · rename_i c r _
    simp only at h
    obtain ⟨hp, ha⟩ := scanName_spec (c :: r)
    have htake : ∀ b ∈ (c :: r).take (1 + (StrF.scanName (c :: r)).length - 1), b < 0x80 := by
      rw [Nat.add_sub_cancel_left, ← List.prefix_iff_eq_take.1 hp]
      exact ha
    split at h
    · exact triv h
    · split at h
      · cases h
        exact ⟨validUtf8_encodeRune _, htake⟩
      · split at h
        · cases h
          exact ⟨validUtf8_of_all_ascii _ (List.forall_mem_cons.2 ⟨by decide, ha⟩), htake⟩
        · cases h

theorem unescapeAux_valid (n : Nat) (s : Bytes) : ∀ pre u : Bytes, s.length ≤ n → ValidUtf8 (pre ++ s) →
    StrF.unescapeAux n s = some u → ValidUtf8 (pre ++ u) := by
  fun_induction StrF.unescapeAux n s with
  | case1 s =>
    intro pre u hl hv h
    rwa [← Option.some.inj h, ← List.eq_nil_of_length_eq_zero (Nat.le_zero.mp hl)]
  | case2 => intro pre u _ hv h; rwa [← Option.some.inj h]
  | case3 => intro _ _ _ _ h; cases h
  | case4 n b rest hb out k hE ih =>
    intro pre u hl hv h
    obtain rfl : b = 38 := beq_iff_eq.1 hb
    obtain ⟨hpre, hrest⟩ := validUtf8_of_append_ascii pre 38 rest (by decide) hv
    obtain ⟨ho, ha⟩ := unescapeEntity_spec rest out k hE
    obtain ⟨u', hu, rfl⟩ := Option.map_eq_some_iff.1 h
    have := ih (pre ++ out) u' (by rw [List.length_drop]; exact Nat.le_trans (Nat.sub_le _ _) (Nat.le_of_succ_le_succ hl))
      (validUtf8_append (validUtf8_append hpre ho) (validUtf8_drop_ascii _ rest hrest ha)) hu
    rwa [List.append_assoc] at this
  | case5 n b rest hb ih =>
    intro pre u hl hv h
    obtain ⟨u', hu, rfl⟩ := Option.map_eq_some_iff.1 h
    have := ih (pre ++ [b]) u' (Nat.le_of_succ_le_succ hl) (by rwa [List.append_assoc]) hu
    rwa [List.append_assoc] at this

theorem unescape_valid (s u : Bytes) (hs : ValidUtf8 s) (h : StrF.unescape s = some u) : ValidUtf8 u := by
  have := unescapeAux_valid s.length s [] u (Nat.le_refl _) (by simpa using hs) h
  simpa using this
