import Proofs.Numerals
/-!
# The float formatter of `Liquid/Sprint.lean` on whole numbers

Every stage of `shortestDigits` keeps "digits only, none after the point" (`WholeShape`), for C17 `whole_prints_int`.
-/

/-- the printed text, if any (for `decide`: the equality of `Res` is in `Proofs/DecEq.lean`, not imported here) -/
def okBytes : Res Cause Bytes → Option Bytes
  | .ok b => some b
  | _ => none

theorem stripTrailingZeros_sublist (ds : Bytes) : (stripTrailingZeros ds).Sublist ds := by
  have := (List.dropWhile_sublist (· == (48 : UInt8)) (l := ds.reverse)).reverse
  rwa [List.reverse_reverse] at this

theorem stripTrailingZeros_append_zeros (ds : Bytes) (n : Nat) :
    stripTrailingZeros (ds ++ zeros n) = stripTrailingZeros ds := by
  unfold stripTrailingZeros zeros
  rw [List.reverse_append, List.reverse_replicate, List.dropWhile_append, List.dropWhile_replicate]
  rfl

def incStep (d : UInt8) (acc : Bytes × Bool) : Bytes × Bool :=
  if acc.2 then (if d == 57 then (48 :: acc.1, true) else ((d + 1) :: acc.1, false)) else (d :: acc.1, false)

theorem incDigits_eq (ds : Bytes) :
    incDigits ds = (let r := ds.foldr incStep ([], true); if r.2 then (49 :: r.1, true) else (r.1, false)) := rfl

theorem succ_digit {d : UInt8} (h : 48 ≤ d.toNat ∧ d.toNat ≤ 57) (h9 : ¬ (d == 57) = true) :
    48 ≤ (d + 1).toNat ∧ (d + 1).toNat ≤ 57 := by
  have hne : d.toNat ≠ 57 := by
    intro h57
    apply h9
    have : d = 57 := UInt8.toNat_inj.mp (by simpa using h57)
    simp [this]
  have : (d + 1).toNat = d.toNat + 1 := by
    rw [UInt8.toNat_add]
    simp
    omega
  omega

theorem foldr_incStep (ds : Bytes) (h : allDigits ds) :
    (ds.foldr incStep ([], true)).1.length = ds.length ∧ allDigits (ds.foldr incStep ([], true)).1 := by
  induction ds with
  | nil => exact ⟨rfl, allDigits_nil⟩
  | cons d rest ih =>
    have hd := h d (List.mem_cons_self)
    have hrest : allDigits rest := fun c hc => h c (List.mem_cons_of_mem _ hc)
    have ⟨il, ia⟩ := ih hrest
    simp only [List.foldr_cons, incStep]
    split
    · split
      · exact ⟨by simp [il], allDigits_cons (by decide) ia⟩
      · rename_i h9; exact ⟨by simp [il], allDigits_cons (succ_digit hd h9) ia⟩
    · exact ⟨by simp [il], allDigits_cons hd ia⟩

theorem incDigits_props (ds : Bytes) (h : allDigits ds) :
    allDigits (incDigits ds).1 ∧ ((incDigits ds).2 = false → (incDigits ds).1.length = ds.length) := by
  have ⟨il, ia⟩ := foldr_incStep ds h
  rw [incDigits_eq]
  simp only
  split
  · exact ⟨allDigits_cons (by decide) ia, by intro h; cases h⟩
  · exact ⟨ia, fun _ => il⟩

/-- what `whole_prints_int` needs of a digit string with its decimal point position -/
def WholeShape (c : Bytes × Int) : Prop := allDigits c.1 ∧ ((stripTrailingZeros c.1).length : Int) ≤ c.2

/-- the list of candidates as `nDigitCandidates` builds it, whatever decides between its three shapes: the second candidate
    is there only when the first test fails -/
theorem mem_candidates {α : Type} {lo hi c : α} {p : Prop} [Decidable p] (o : Ordering) (b : Bool)
    (h : c ∈ (if p then [lo] else
      match o with
      | .lt => [lo, hi]
      | .gt => [hi, lo]
      | .eq => if b then [lo, hi] else [hi, lo])) : c = lo ∨ ¬ p ∧ c = hi := by
  have pair : ∀ {x y : α}, c ∈ [x, y] → c = x ∨ c = y := fun h => by
    simpa only [List.mem_cons, List.not_mem_nil, or_false] using h
  split at h
  · exact Or.inl (List.mem_singleton.mp h)
  · next hp =>
    refine Or.imp_right (And.intro hp) ?_
    cases o with
    | lt => exact pair h
    | gt => exact (pair h).symm
    | eq =>
      cases b with
      | true => exact pair h
      | false => exact (pair h).symm

theorem nDigitCandidates_whole (ds : Bytes) (dp : Int) (n : Nat) (hd : allDigits ds) (hlen : (ds.length : Int) ≤ dp) :
    ∀ c ∈ nDigitCandidates ds dp n, WholeShape c := by
  intro c hc
  unfold nDigitCandidates at hc
  simp only at hc
  -- the head: `n` digits, and not longer than `ds` once its trailing zeros are stripped
  have hhd : allDigits (ds.take n ++ zeros (n - (ds.take n).length)) :=
    allDigits_append (allDigits_of_subset (List.take_subset _ _) hd) (allDigits_zeros _)
  have hhdlen : (ds.take n ++ zeros (n - (ds.take n).length)).length = n := by
    simp [zeros, List.length_take]; omega
  have hstrip : (stripTrailingZeros (ds.take n ++ zeros (n - (ds.take n).length))).length ≤ ds.length := by
    rcases Nat.le_total n ds.length with h | h
    · have := (stripTrailingZeros_sublist (ds.take n ++ zeros (n - (ds.take n).length))).length_le
      omega
    · rw [List.take_of_length_le h, stripTrailingZeros_append_zeros]
      exact (stripTrailingZeros_sublist ds).length_le
  generalize ds.take n ++ zeros (n - (ds.take n).length) = h at hc hhd hhdlen hstrip
  have hlo : WholeShape (h, dp) := ⟨hhd, by simp only; omega⟩
  rcases mem_candidates _ _ hc with rfl | ⟨hnz, rfl⟩
  · exact hlo
  · -- the successor of the head, cut back to `n` digits when the carry lengthened it
    have hn : n < ds.length := by
      apply Nat.lt_of_not_le
      intro hge
      apply hnz
      rw [List.drop_of_length_le hge]; rfl
    have ⟨ia, il⟩ := incDigits_props h hhd
    split
    · refine ⟨allDigits_of_subset (List.take_subset _ _) ia, ?_⟩
      have h1 := (stripTrailingZeros_sublist ((incDigits h).1.take n)).length_le
      have h2 := List.length_take_le n (incDigits h).1
      simp only at h1 h2 ⊢
      omega
    · next hc' =>
      refine ⟨ia, ?_⟩
      have h1 := (stripTrailingZeros_sublist (incDigits h).1).length_le
      have h2 := il (by simpa using hc')
      simp only at h1 ⊢
      omega

theorem shortestAux_whole (rnd : Rat → Option Rat) (q : Rat) (ds : Bytes) (dp : Int)
    (hd : allDigits ds) (hlen : (ds.length : Int) ≤ dp) (fuel n : Nat) (d : Bytes) (p : Int)
    (h : shortestAux rnd q ds dp fuel n = some (d, p)) : allDigits d ∧ (d.length : Int) ≤ p := by
  induction fuel generalizing n with
  | zero => simp [shortestAux] at h
  | succ f ih =>
    simp only [shortestAux] at h
    split at h
    · rename_i c hc
      have hmem := List.mem_of_find?_eq_some hc
      have ⟨ha, hl⟩ := nDigitCandidates_whole ds dp n hd hlen c hmem
      simp only [Option.some.injEq, Prod.mk.injEq] at h
      obtain ⟨h1, h2⟩ := h
      subst h1; subst h2
      exact ⟨allDigits_of_subset (stripTrailingZeros_sublist _).subset ha, hl⟩
    · exact ih _ h

theorem shortestDigits_whole (rnd : Rat → Option Rat) (m : Nat) (q : Rat) (hden : q.den = 1)
    (neg : Bool) (d : Bytes) (p : Int) (h : shortestDigits rnd m q = some (neg, d, p)) :
    allDigits d ∧ (d.length : Int) ≤ p := by
  -- the exact digits of a whole number: only digits, none after the point
  obtain ⟨sg, ds', dp', hdec, hdig, hlen⟩ : ∃ sg ds' dp', decimalOf q = some (sg, ds', dp') ∧ allDigits ds' ∧
      (ds'.length : Int) ≤ dp' := by
    have hl : log2Exact 1 = some 0 := by decide
    by_cases h0 : q.num.natAbs = 0
    · exact ⟨false, [], 0, by simp [decimalOf, hden, hl, h0], allDigits_nil, Int.le_refl _⟩
    · refine ⟨_, _, _, by simp [decimalOf, hden, hl, h0]; exact ⟨rfl, rfl, rfl⟩,
        allDigits_of_subset (stripTrailingZeros_sublist _).subset (natDec_digits _), ?_⟩
      have := (stripTrailingZeros_sublist (natDec q.num.natAbs)).length_le
      omega
  unfold shortestDigits at h
  rw [hdec] at h
  cases ds' with
  | nil =>
    simp only [Option.some.injEq, Prod.mk.injEq] at h
    obtain ⟨_, h2, h3⟩ := h
    subst h2; subst h3
    exact ⟨allDigits_nil, by simp⟩
  | cons x xs =>
    simp only at h
    split at h
    · simp at h
    · simp only [Option.map_eq_some_iff] at h
      obtain ⟨⟨d', p'⟩, hs, he⟩ := h
      simp only [Prod.mk.injEq] at he
      obtain ⟨_, h2, h3⟩ := he
      subst h2; subst h3
      exact shortestAux_whole rnd _ (x :: xs) dp' hdig hlen _ _ _ _ hs

theorem fmtF_whole (d : Bytes) (p : Int) (hd : allDigits d) (hne : d ≠ []) (hl : (d.length : Int) ≤ p) :
    allDigits (fmtF d p) := by
  have hpos : 0 < d.length := List.length_pos_iff.mpr hne
  have h1 : ¬ p ≤ 0 := by omega
  have h2 : p.toNat ≥ d.length := by omega
  simp only [fmtF, h1, ↓reduceIte, h2]
  exact allDigits_append hd (allDigits_zeros _)
