import Proofs.ProgLemmas
import Proofs.RenderLogic
/-!
# Every render stops on a writer failure
-/

def StopsM {α} (m : M α) : Prop := ∀ s, Stops (m s)

theorem captureM_noCalls {α} (m : M α) (s : RS) : NoCalls (captureM m s) := by
  rw [captureM_eq]
  split <;> trivial

theorem stopsM_closed : RenderClosed (fun _ => True) StopsM (fun _ => True) :=
  RenderCore.closed (hW := fun _ => trivial) {
    pure _ := .ret _
    bind := fun hm hf s => Stops.bind (hm s) fun ⟨a, s'⟩ => hf a s'
    fail _ _ := .fail _
    plain _ := trivial
    getEnv _ := .ret _
    getVar _ := .ret _
    panic _ _ := .panic _
    unmodelled _ := .unmodelled _
    wrapFailAt hm s := Stops.mapFail _ (fun e he => isIo_wrapError _ e _ he) (hm s)
    setVar _ _ := .ret _
    op o s := by
      unfold opM
      split
      · exact .ret _
      · exact .call _ _ (fun n => ⟨.plain .io, rfl, rfl⟩) (.ret _)
    capture _ s := Stops.ofNoCalls (captureM_noCalls _ s)
    loopItems _ _ := trivial
    parseArgs _ := trivial }

/-- the include handler stops on a writer failure (the engine's makes no call at all: `noCalls_renderFileWith`, Proofs/RunLemmas.lean) -/
def IncOk (c : RCtx) : Prop := ∀ line f env, Stops (c.inc line f env)

theorem stopsM_ctx {c : RCtx} (hc : IncOk c) : CtxClosed StopsM (fun _ => True) c where
  evaluate _ _ := trivial
  equalFn _ _ := trivial
  chunks _ := trivial
  inc line f env _ := Stops.bind (hc line f env) fun _ => .ret _

theorem stops_renderNode (c : RCtx) (hc : IncOk c) : ∀ n : Node, StopsM (renderNode c n) :=
  fun n => stopsM_closed.renderNode (stopsM_ctx hc) n fun _ _ => trivial
theorem stops_renderBlockBody (c : RCtx) (hc : IncOk c) (body : List Node) : StopsM (renderBlockBody c body) :=
  stopsM_closed.renderBlockBody (stopsM_ctx hc) body fun _ _ => trivial
theorem stops_renderBranches (c : RCtx) (hc : IncOk c) : ∀ bs : List (CondT × List Node), StopsM (renderBranches c bs) :=
  fun bs => stopsM_closed.renderBranches (stopsM_ctx hc) bs fun _ _ => trivial
theorem stops_renderCases (c : RCtx) (hc : IncOk c) (sel : GoVal) :
    ∀ cs : List (Option (Nat × List Expr) × List Node), StopsM (renderCases c sel cs) :=
  fun cs => stopsM_closed.renderCases (stopsM_ctx hc) sel cs fun _ _ => trivial
