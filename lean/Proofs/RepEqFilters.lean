import Proofs.RepEqCmp
import Proofs.FilterLogic
import Proofs.ArrLemmas
import Proofs.RepEqStd
import Proofs.SortFilters
/-!
# The standard filters and representation equivalence (helper lemmas for C18; `d`: with drops nested in containers)

`values.Call` converts the receiver and the arguments to the parameter types of the filter.
For the scalar parameter types (`bool`, `int`, `float64`, `string`, `time.Time`) the converted
value of two representation-equivalent inputs is *the same* (a value with parts is at most printed there:
`convert_scalar_of_parts`, shared with `Proofs/MapPermFilters.lean`), so every filter whose parameters are
all scalar respects the equivalence whatever its body does (`filterRespects_of_scalar`). A `[]any`
parameter receives the elements through `ToLiquid` (related element by element: `View.convAnysL`, for any relation with views,
like `HasView.mapF` for the lookups of `map`), an `any`
parameter the value itself: the bodies with such a parameter are treated one by one (`ArrF.*_respects`,
`Num.*_respects`) and the registry is swept once (`goodEntry_table`, `filterRespects_std`). `stdPrimsOnly allowed` is
the standard layer of an engine on which only some filters are registered: the standard-configuration theorems of
C18 and C02 are stated on it.
-/

open GoVal

/-- the elements of a converted `[]any` argument went through `ToLiquid`: none is a drop -/
def NoDrops (ys : List GoVal) : Prop := ∀ y ∈ ys, noDrop y = true

theorem NoDrops.nil : NoDrops [] := fun _ h => by cases h
theorem NoDrops.head {y : GoVal} {ys : List GoVal} (h : NoDrops (y :: ys)) : noDrop y = true := h y (List.mem_cons_self ..)
theorem NoDrops.tail {y : GoVal} {ys : List GoVal} (h : NoDrops (y :: ys)) : NoDrops ys := fun z hz => h z (List.mem_cons_of_mem _ hz)

theorem toLiquid_noDrop (v : GoVal) : noDrop v.toLiquid = true := noDrop_of_not_dropLike (toLiquid_not_dropLike v)

theorem NoDrops.map {α} {f : α → GoVal} (hf : ∀ a, noDrop (f a) = true) (l : List α) : NoDrops (l.map f) := by
  intro y hy
  obtain ⟨a, _, rfl⟩ := List.mem_map.mp hy
  exact hf a

theorem convElems_noDrops (xs : List GoVal) : NoDrops (convElems xs) :=
  NoDrops.map toLiquid_noDrop xs

theorem toLiquid_of_isContainer {c : GoVal} (h : isContainer c = true) : c.toLiquid = c := by
  rcases isContainer_cases h with ⟨t, xs, rfl⟩ | ⟨t, xs, rfl⟩ | ⟨kt, vt, kvs, rfl⟩ <;> rfl

theorem norm_toLiquid (d : Bool) : ∀ x : GoVal, x.toLiquid.norm d = (x.norm d).toLiquid.norm d
  | .drop v => by
    rw [toLiquid_drop, norm]
    split
    · rw [toLiquid_drop]
    · exact norm_toLiquid d v
  | .nil | .bool _ | .int _ _ | .flt _ _ | .str _ | .bytes _ | .slice _ _ | .array _ _ | .map _ _ _
  | .mapSlice _ | .keyedMap _ | .range _ _ | .ptr _ | .nilPtr | .struct _ | .time _ =>
    norm_comm_noDrop (fun _ => toLiquid_of_isContainer) rfl

theorem toLiquid_repEq {d : Bool} {x x' : GoVal} (h : RepEq d x x') : RepEq d x.toLiquid x'.toLiquid := by
  unfold RepEq at *
  rw [norm_toLiquid d x, norm_toLiquid d x', h]

theorem unw_toLiquid {v : GoVal} (h : Unw v) : v.toLiquid = v :=
  toLiquid_of_not_dropLike (h ▸ unwrap_not_dropLike v)

/-- converted arguments of two related inputs, by parameter type -/
def ArgValRel (d : Bool) : ParamTy → GoVal → GoVal → Prop
  | .anys, c, c' => ∃ ys ys', c = .slice .any ys ∧ c' = .slice .any ys' ∧ normList d ys = normList d ys' ∧
      NoDrops ys ∧ NoDrops ys'
  | .any, c, c' => URel d c c'
  | _, c, c' => c = c'

theorem ArgValRel.scalar {d : Bool} {t : ParamTy} (ht : t.isScalar = true) {c c' : GoVal} (h : ArgValRel d t c c') : c = c' := by
  cases t <;> first | exact h | cases ht

theorem sprint_repEq_false {a a' : GoVal} (h : RepEq false a a') : sprint a = sprint a' :=
  h.congr sprint_norm

theorem sprintR_repEq {d : Bool} {a a' : GoVal} (h : RepEq d a a') : sprintR a = sprintR a' :=
  h.congr (sprintR_norm d)

/-- `Convert` sees its argument through `ToLiquid` only -/
theorem convert_congr_toLiquid {a a' : GoVal} (h : a.toLiquid = a'.toLiquid) (t : ParamTy) : convert a t = convert a' t := by
  unfold convert convAny
  rw [h]

/-- at a scalar parameter type `Convert` looks into a value with parts (an array, a map, a struct, a pointer) only to
    print it -/
theorem convert_scalar_of_parts {t : ParamTy} (ht : t.isScalar = true) {c : GoVal} (hc : rigidM c.toLiquid = false) :
    convert c t = match (generalizing := false) t with
      | .bool => .ok (.bool true)
      | .str => (sprintR c.toLiquid).bind fun b => .ok (.str b)
      | _ => .err .typeErr := by
  unfold convert
  generalize c.toLiquid = u at hc
  cases u <;> first | exact Bool.noConfusion hc | (cases t <;> first | exact Bool.noConfusion ht | rfl)

theorem convert_scalar_rel {d : Bool} {t : ParamTy} (ht : t.isScalar = true) {a a' : GoVal} (h : URel d a a') :
    convert a t = convert a' t := by
  rcases h.view.cases_rigid with rfl | ⟨hc, hc'⟩
  · rfl
  · have e := unw_toLiquid h.1
    have e' := unw_toLiquid h.2.1
    rw [convert_scalar_of_parts ht (e.symm ▸ hc.1), convert_scalar_of_parts ht (e'.symm ▸ hc'.1), e, e', sprintR_repEq h.2.2]

/-- the `[]any` case of `Convert`, on the value after its `ToLiquid` step -/
def convAnysL (v : GoVal) : Res Cause GoVal :=
  match v with
  | .mapSlice kvs => .ok (.slice .any (convElems (kvs.map (·.2))))
  | .range a b =>
    if b - a + 1 > 10000000 then .err .typeErr
    else if b - a > 1000000 then .unmodelled "range of more than a million items"
    else .ok (.slice .any (rangeInts a b))
  | .slice _ xs => .ok (.slice .any (convElems xs))
  | .array _ xs => .ok (.slice .any (convElems xs))
  | .bytes s => .ok (.slice .any (s.map fun b => .int .u8 b.toNat))
  | .map _ _ kvs => (MapOrder.sortedMapEntries kvs).bind fun es => .ok (.slice .any (convElems (es.map (·.2))))
  | .keyedMap kvs => .ok (.slice .any (convElems ((MapOrder.sortedFields kvs).map (·.2))))
  | _ => .err .typeErr

theorem convert_anys_eq (a : GoVal) : convert a .anys = convAnysL a.toLiquid := by
  unfold convert convAnysL
  rfl

/-- converted `[]any` arguments of two related inputs: generic slices of elements related one by one, none a drop -/
def AnysRel (R : GoVal → GoVal → Prop) (c c' : GoVal) : Prop :=
  ∃ ys ys', c = .slice .any ys ∧ c' = .slice .any ys' ∧ All2 R ys ys' ∧ NoDrops ys ∧ NoDrops ys'

theorem convAnysL_shape {u c : GoVal} (h : convAnysL u = .ok c) : ∃ ys, c = .slice .any ys ∧ NoDrops ys := by
  unfold convAnysL at h
  split at h
  · cases h; exact ⟨_, rfl, convElems_noDrops _⟩
  · split at h
    · cases h
    · split at h
      · cases h
      · cases h; exact ⟨_, rfl, NoDrops.map (fun _ => rfl) _⟩
  · cases h; exact ⟨_, rfl, convElems_noDrops _⟩
  · cases h; exact ⟨_, rfl, convElems_noDrops _⟩
  · cases h; exact ⟨_, rfl, NoDrops.map (fun _ => rfl) _⟩
  · next kvs =>
    rcases MapOrder.sortedMapEntries_cases (ε := Cause) kvs with ⟨_, h1⟩ | ⟨_, w, h1⟩ <;> rw [h1] at h <;> cases h
    exact ⟨_, rfl, convElems_noDrops _⟩
  · cases h; exact ⟨_, rfl, convElems_noDrops _⟩
  · cases h

theorem convAnysL_seq {u : GoVal} {xs : List GoVal} (h : Cmp.seqElems u = some xs) :
    convAnysL u = .ok (.slice .any (convElems xs)) := by
  rcases Cmp.seqElems_cases h with ⟨t, rfl⟩ | ⟨t, rfl⟩ <;> rfl

/-- the array an array filter receives from two values with related views: the elements, or the values of the entries
    in the order of `SortedMapKeys`, after `ToLiquid` -/
theorem View.convAnysL {R : GoVal → GoVal → Prop} (hr : ∀ v, R v v) (hT : ∀ v v', R v v' → R v.toLiquid v'.toLiquid)
    {u u' : GoVal} (h : View R u u') : RRel false (AnysRel R) (convAnysL u) (convAnysL u') := by
  have conv : ∀ {xs xs' : List GoVal}, All2 R xs xs' → AnysRel R (.slice .any (convElems xs)) (.slice .any (convElems xs')) :=
    fun h => ⟨_, _, rfl, rfl, h.map hT, convElems_noDrops _, convElems_noDrops _⟩
  cases h with
  | same =>
    refine rrel_refl_of _ fun c hc => ?_
    obtain ⟨ys, rfl, hy⟩ := convAnysL_shape hc
    exact ⟨ys, ys, rfl, rfl, All2.refl hr ys, hy, hy⟩
  | seq hs hs' hl => rw [convAnysL_seq hs, convAnysL_seq hs']; exact conv hl
  | map kt he =>
    show RRel false _ ((MapOrder.sortedMapEntries _).bind _) ((MapOrder.sortedMapEntries _).bind _)
    exact RRel.bind he.sorted fun _ _ h => conv (h.vals fun _ _ h => h)
  | mapSlice hm => exact conv (hm.vals fun _ _ h => h.1)
  | keyedMap hf => exact conv ((hf.insertionSort_key fun a b => decide (a < b)).vals fun _ _ h => h)
  | struct | ptrStruct => rfl

/-- `map`'s lookup, `PropertyValue(key).Interface()`, on two related elements; `hu`: the parts' relation survives `Interface()` -/
theorem HasView.propOf {t : Bool} {W R : GoVal → GoVal → Prop} (H : HasView W R) (hu : ∀ v v', R v v' → R v.unwrap v'.unwrap)
    {x x' : GoVal} (h : R x x') (k : Bytes) : RRel t R (ArrF.propOf x k) (ArrF.propOf x' k) := by
  have := H.propertyValue (H.ofPart h) k
  unfold ArrF.propOf
  cases h1 : x.propertyValue k <;> cases h2 : x'.propertyValue k <;> rw [h1, h2] at this
  · exact hu _ _ this
  · exact this.elim
  · exact this.elim
  · exact .inr this

theorem HasView.mapF {t : Bool} {W R : GoVal → GoVal → Prop} (H : HasView W R) (hu : ∀ v v', R v v' → R v.unwrap v'.unwrap) (k : Bytes) :
    ∀ {ys ys' : List GoVal}, All2 R ys ys' → RRel t (All2 R) (ArrF.mapF k ys) (ArrF.mapF k ys')
  | _, _, .nil => All2.nil
  | _, _, .cons h hs => by
    simp only [ArrF.mapF]
    exact (H.propOf hu h k).bind fun _ _ hv => (H.mapF hu k hs).bind fun _ _ hvs => All2.cons hv hvs

theorem convert_anys_rel {d : Bool} {a a' : GoVal} (h : URel d a a') :
    RRel false (ArgValRel d .anys) (convert a .anys) (convert a' .anys) := by
  rw [convert_anys_eq, convert_anys_eq, unw_toLiquid h.1, unw_toLiquid h.2.1]
  exact (h.view.convAnysL RepEq.refl fun _ _ => toLiquid_repEq).mono fun _ _ ⟨ys, ys', e, e', hl, hy, hy'⟩ =>
    ⟨ys, ys', e, e', normList_of_all2 hl, hy, hy'⟩

theorem urel_nil_iff {d : Bool} {a a' : GoVal} (h : URel d a a') : a = .nil ↔ a' = .nil := by
  constructor
  · rintro rfl; exact norm_inv_rigid rfl rfl h.2.1.noDrop h.2.2
  · rintro rfl; exact norm_inv_rigid rfl rfl h.1.noDrop h.2.2.symm

theorem convAny_of_unw {u : GoVal} (hu : Unw u) (hn : u ≠ .nil) : convAny u = .ok u := by
  unfold convAny
  rw [unw_toLiquid hu]
  split
  · exact absurd rfl hn
  · rfl

theorem convert_any_rel {d : Bool} {a a' : GoVal} (h : URel d a a') :
    RRel false (ArgValRel d .any) (convert a .any) (convert a' .any) := by
  show RRel false (URel d) (convAny a) (convAny a')
  by_cases hn : a = .nil
  · cases hn
    cases (urel_nil_iff h).mp rfl
    exact rrel_refl_of _ (fun c hc => by cases hc)
  · rw [convAny_of_unw h.1 hn, convAny_of_unw h.2.1 (fun e => hn ((urel_nil_iff h).mpr e))]
    exact h

theorem convert_rel {d : Bool} (t : ParamTy) {a a' : GoVal} (h : URel d a a') :
    RRel false (ArgValRel d t) (convert a t) (convert a' t) := by
  cases t with
  | any => exact convert_any_rel h
  | anys => exact convert_anys_rel h
  | _ =>
    rw [convert_scalar_rel rfl h]
    exact rrel_refl_of _ (fun c _ => rfl)

def ArgRel (d : Bool) : Param → Arg → Arg → Prop
  | .val t, .val c, .val c' => ArgValRel d t c c'
  | .fn _, .fn none, .fn none => True
  | .fn t, .fn (some r), .fn (some r') => RRel false (ArgValRel d t) r r'
  | _, _, _ => False

def ArgsRel (d : Bool) : List Param → List Arg → List Arg → Prop
  | [], [], [] => True
  | p :: ps, a :: as, a' :: as' => ArgRel d p a a' ∧ ArgsRel d ps as as'
  | _, _, _ => False

theorem zero_argValRel (d : Bool) (t : ParamTy) : ArgValRel d t t.zero t.zero := by
  cases t with
  | any => exact URel.refl_unw rfl
  | anys => exact ⟨[], [], rfl, rfl, rfl, NoDrops.nil, NoDrops.nil⟩
  | _ => exact rfl

theorem argsRel_iff {d : Bool} : ∀ {ps : List Param} {cs cs' : List Arg},
    ArgsRel d ps cs cs' ↔ ArgsRelG false (ArgValRel d) ps cs cs'
  | [], [], [] | [], [], _ :: _ | [], _ :: _, _ | _ :: _, [], _ | _ :: _, _ :: _, [] => Iff.rfl
  | _ :: _, _ :: _, _ :: _ => and_congr_right fun _ => argsRel_iff

theorem convRel_repEq (d : Bool) : ConvRel false (URel d) (ArgValRel d) where
  convert t := convert_rel t
  nil_iff := urel_nil_iff
  zero := zero_argValRel d

/-- results of a filter body, as `ApplyFilter` hands them on (a `[]byte` result is a string) -/
def ExRel (d : Bool) : Except Cause GoVal → Except Cause GoVal → Prop
  | .ok v, .ok v' => VRel d (bytesToString v) (bytesToString v')
  | .error c, .error c' => c = c'
  | _, _ => False

theorem bytesToString_of_isContainer {c : GoVal} (h : isContainer c = true) : bytesToString c = c := by
  rcases isContainer_cases h with ⟨t, xs, rfl⟩ | ⟨t, xs, rfl⟩ | ⟨kt, vt, kvs, rfl⟩ <;> rfl

/-- related results that are no drops (every filter body returns an element that went through `ToLiquid`, or a
    value it built) -/
theorem bytesToString_rel_noDrop {d : Bool} {v v' : GoVal} (h : RepEq d v v') (hv : noDrop v = true) (hv' : noDrop v' = true) :
    VRel d (bytesToString v) (bytesToString v') := by
  rcases repEq_noDrop_cases hv hv' h with rfl | ⟨hc, hc'⟩
  · exact VRel.refl _
  · rw [bytesToString_of_isContainer hc, bytesToString_of_isContainer hc']
    exact h.vrel

def ImplRespects (t d : Bool) (ps : List Param) (f : FilterImpl) : Prop :=
  ∀ cs cs', ArgsRel d ps cs cs' → RRel t (ExRel d) (f cs) (f cs')

/-- a standard filter respects the equivalence (receiver and arguments unwrapped, as they reach it) -/
def FilterRespects (t d : Bool) (name : Bytes) : Prop :=
  ∀ r r' as as', URel d r r' → All2 (URel d) as as' →
    RRel t (VRel d) (stdPrims.applyFilter name r as) (stdPrims.applyFilter name r' as')

theorem filterRespects_of_impl {t d : Bool} (name : Bytes)
    (h : ∀ sg f, lookupSig name = some sg → lookupImpl stdFilterImpls name = some f → ImplRespects t d sg.params f) :
    FilterRespects t d name :=
  (convRel_repEq d).filterRespects nofun (fun _ _ h => h) name
    fun sg f hs hf cs cs' hcs => h sg f hs hf cs cs' (argsRel_iff.mpr hcs)

theorem scalarParams_eq : ∀ ps : List Param, scalarParams ps = paramsAll ParamTy.isScalar true ps
  | [] => rfl
  | .val t :: ps => congrArg (t.isScalar && ·) (scalarParams_eq ps)
  | .fn t :: ps => by rw [scalarParams, paramsAll, scalarParams_eq ps, Bool.true_and]

theorem argsRel_scalar_eq {d : Bool} {ps : List Param} {cs cs' : List Arg} (hp : scalarParams ps = true)
    (h : ArgsRelG false (ArgValRel d) ps cs cs') : cs = cs' :=
  argsRelG_eq (fun _ _ _ ht => ArgValRel.scalar ht) (scalarParams_eq ps ▸ hp) h

theorem exrel_refl (t : Bool) {d : Bool} (r : Res Cause (Except Cause GoVal)) : RRel t (ExRel d) r r :=
  exRelG_refl (W := fun v v' => VRel d (bytesToString v) (bytesToString v')) (fun _ => VRel.refl _) r

theorem implRespects_of_scalar (t d : Bool) {ps : List Param} (h : scalarParams ps = true) (f : FilterImpl) :
    ImplRespects t d ps f := by
  intro cs cs' hcs
  rw [argsRel_scalar_eq h (argsRel_iff.mp hcs)]
  exact exrel_refl t _

theorem filterRespects_of_scalar (t d : Bool) (name : Bytes)
    (h : ∀ sg, lookupSig name = some sg → scalarParams sg.params = true) : FilterRespects t d name :=
  filterRespects_of_impl name (fun sg f hs _ => implRespects_of_scalar t d (h sg hs) f)

theorem filterRespects_of_noImpl (t d : Bool) (name : Bytes) (h : lookupImpl stdFilterImpls name = none) :
    FilterRespects t d name :=
  filterRespects_of_impl name (fun sg f _ hf => by rw [h] at hf; cases hf)

theorem head_noDrop {ys : List GoVal} (h : NoDrops ys) : noDrop (ys.head?.getD .nil) = true := by
  cases ys with
  | nil => rfl
  | cons y ys => exact h.head

theorem getLast_noDrop {ys : List GoVal} (h : NoDrops ys) : noDrop (ys.getLast?.getD .nil) = true := by
  cases hl : ys.getLast? with
  | none => rfl
  | some y => exact h y (List.mem_of_getLast? hl)

theorem normList_cons {d : Bool} {x x' : GoVal} {xs xs' : List GoVal} (hx : RepEq d x x') (h : normList d xs = normList d xs') :
    normList d (x :: xs) = normList d (x' :: xs') := by
  rw [normList, normList, show x.norm d = x'.norm d from hx, h]

namespace ArrF

theorem eager_val_cons (f : List GoVal → R GoVal) (a : GoVal) (as : List Arg) :
    eager f (.val a :: as) = eager (fun vs => f (a :: vs)) as := by
  simp only [eager, FilterImpl.ofEager, FilterImpl.ofEager.collect]
  cases FilterImpl.ofEager.collect as <;> rfl

/-- related results that are no drops (an element that went through `ToLiquid`, or an array the body built) -/
def SR (d : Bool) (v v' : GoVal) : Prop := RepEq d v v' ∧ noDrop v = true ∧ noDrop v' = true

theorem wrapSR_rel {t d : Bool} {r r' : R GoVal} (h : RRel t (SR d) r r') : RRel t (ExRel d) (eagerRes r) (eagerRes r') := by
  cases r <;> cases r' <;> first | exact bytesToString_rel_noDrop h.1 h.2.1 h.2.2 | exact h

theorem slice_any_rel {d : Bool} {ys ys' : List GoVal} (h : normList d ys = normList d ys') :
    RepEq d (.slice .any ys) (.slice .any ys') := by
  simp only [RepEq, norm, h]

theorem sr_slice {d : Bool} {ys ys' : List GoVal} (h : normList d ys = normList d ys') :
    SR d (.slice .any ys) (.slice .any ys') :=
  ⟨slice_any_rel h, rfl, rfl⟩

theorem firstF_head (xs : List GoVal) : firstF xs = xs.head?.getD .nil := by cases xs <;> rfl

theorem implRespects_anys {t d : Bool} {f : List GoVal → R GoVal}
    (h : ∀ {ys ys' : List GoVal}, normList d ys = normList d ys' → NoDrops ys → NoDrops ys' →
      RRel t (SR d) (f [.slice .any ys]) (f [.slice .any ys'])) : ImplRespects t d [.val .anys] (eager f) := by
  intro cs cs' hc
  obtain ⟨_, _, rfl, rfl, ys, ys', rfl, rfl, hn, hy, hy'⟩ := argsRelG_val1 (argsRel_iff.mp hc)
  rw [eager_val1, eager_val1]
  exact wrapSR_rel (h hn hy hy')

theorem implRespects_anys2 {t d : Bool} {u : ParamTy} {f : List GoVal → R GoVal}
    (h : ∀ {xs xs' : List GoVal} {k k' : GoVal}, normList d xs = normList d xs' → NoDrops xs → NoDrops xs' → ArgValRel d u k k' →
      RRel t (SR d) (f [.slice .any xs, k]) (f [.slice .any xs', k'])) : ImplRespects t d [.val .anys, .val u] (eager f) := by
  intro cs cs' hc
  obtain ⟨_, _, k, k', rfl, rfl, ⟨xs, xs', rfl, rfl, hx, nx, nx'⟩, hk⟩ := argsRelG_val2 (argsRel_iff.mp hc)
  rw [eager_val2, eager_val2]
  exact wrapSR_rel (h hx nx nx' hk)

theorem first_respects (t d : Bool) : ImplRespects t d [.val .anys] (eager first) :=
  implRespects_anys fun {ys ys'} hn hy hy' => by
    show SR d (firstF ys) (firstF ys')
    rw [firstF_head, firstF_head]
    exact ⟨(all2_of_normList hn).head (RepEq.refl _), head_noDrop hy, head_noDrop hy'⟩

theorem last_respects (t d : Bool) : ImplRespects t d [.val .anys] (eager last) :=
  implRespects_anys fun {ys ys'} hn hy hy' => by
    show SR d (lastF ys) (lastF ys')
    rw [lastF_eq, lastF_eq]
    exact ⟨(all2_of_normList hn).getLast (RepEq.refl _), getLast_noDrop hy, getLast_noDrop hy'⟩

theorem reverse_respects (t d : Bool) : ImplRespects t d [.val .anys] (eager reverse) :=
  implRespects_anys fun hn _ _ => by
    refine sr_slice ?_
    simp only [reverseF_eq, normList_eq_map, List.map_reverse] at hn ⊢
    rw [hn]

/-- `item != nil` on elements that went through `ToLiquid` (a drop that yields nil IS nil there) -/
theorem compactF_rel {d : Bool} : ∀ {ys ys' : List GoVal}, All2 (RepEq d) ys ys' → NoDrops ys → NoDrops ys' →
    normList d (compactF ys) = normList d (compactF ys')
  | _, _, .nil, _, _ => rfl
  | _, _, .cons h hs, hy, hy' => by
    have ih := compactF_rel hs hy.tail hy'.tail
    simp only [compactF, isNil_repEq_noDrop hy.head hy'.head h]
    split
    · exact ih
    · exact normList_cons h ih

theorem compact_respects (t d : Bool) : ImplRespects t d [.val .anys] (eager compact) :=
  implRespects_anys fun hn hy hy' => sr_slice (compactF_rel (all2_of_normList hn) hy hy')

/-! ### `uniq` (after `fixes/nested-drops-resolved`: elements are compared by what they hold) -/

theorem hasPtr_norm_all (d : Bool) : (∀ v, hasPtr (v.norm d) = hasPtr v) ∧
    (∀ kvs, hasPtr.hasPtrKVs (normKVs d kvs) = hasPtr.hasPtrKVs kvs) ∧ ∀ xs, hasPtr.hasPtrList (normList d xs) = hasPtr.hasPtrList xs :=
  norm_invariant d (fun _ _ => by simp only [hasPtr]) (fun _ _ _ h => by simp only [hasPtr, h, and_self])
    (fun _ _ _ _ h => by simp only [hasPtr, h]) (fun _ _ _ _ h hs => by simp only [hasPtr.hasPtrList, h, hs])
    (fun _ _ _ _ _ h hs => by simp only [hasPtr.hasPtrKVs, h, hs])

theorem hasPtrList_norm (d : Bool) : ∀ xs : List GoVal, hasPtr.hasPtrList (normList d xs) = hasPtr.hasPtrList xs :=
  (hasPtr_norm_all d).2.2
theorem hasPtrKVs_norm (d : Bool) : ∀ kvs : List (GoVal × GoVal), hasPtr.hasPtrKVs (normKVs d kvs) = hasPtr.hasPtrKVs kvs :=
  (hasPtr_norm_all d).2.1

theorem uniqForm_norm_all (d : Bool) : (∀ v, uniqForm (v.norm d) = uniqForm v) ∧
    (∀ kvs, uniqFormVals (normKVs d kvs) = uniqFormVals kvs) ∧ ∀ xs, uniqFormList (normList d xs) = uniqFormList xs :=
  norm_invariant d (fun _ _ => by simp only [uniqForm]) (fun _ _ _ h => by simp only [uniqForm, h, and_self])
    (fun _ _ _ _ h => by simp only [uniqForm, h]) (fun _ _ _ _ h hs => by simp only [uniqFormList, h, hs])
    (fun _ _ _ _ _ h hs => by simp only [uniqFormVals, h, hs])

theorem uniqFormList_norm (d : Bool) : ∀ xs : List GoVal, uniqFormList (normList d xs) = uniqFormList xs :=
  (uniqForm_norm_all d).2.2
theorem uniqFormVals_norm (d : Bool) : ∀ kvs : List (GoVal × GoVal), uniqFormVals (normKVs d kvs) = uniqFormVals kvs :=
  (uniqForm_norm_all d).2.1

theorem uniqKey_repEq {d : Bool} {x x' : GoVal} (h : RepEq d x x') : uniqKey x = uniqKey x' :=
  congrArg MapOrder.canonEnc (h.congr (uniqForm_norm_all d).1)

theorem hasPtr_repEq {d : Bool} {x x' : GoVal} (h : RepEq d x x') : hasPtr x = hasPtr x' :=
  h.congr (hasPtr_norm_all d).1

theorem uniqOn_rel {d : Bool} : ∀ {ys ys' : List GoVal}, normList d ys = normList d ys' → ∀ seen : List String,
    normList d (uniqOn uniqKey seen ys) = normList d (uniqOn uniqKey seen ys') :=
  fun h seen => normList_of_all2 ((all2_of_normList h).uniqOn (fun _ _ hx => uniqKey_repEq hx) seen)

/-- `uniq` respects representation equivalence: `eqItems` (`uniqForm` in the model) compares nested containers by
    what they hold, whatever Go type holds it -/
theorem uniq_respects (t d : Bool) : ImplRespects t d [.val .anys] (eager uniq) :=
  implRespects_anys fun hn _ _ => by
    simp only [uniq, All2.any_eq (R := RepEq d) (fun _ _ => hasPtr_repEq) (all2_of_normList hn)]
    split
    · exact .inr rfl
    · exact sr_slice (uniqOn_rel hn [])

theorem concat_respects (t d : Bool) : ImplRespects t d [.val .anys, .val .anys] (eager concat) :=
  implRespects_anys2 fun hx _ _ hk => by
    obtain ⟨ys, ys', rfl, rfl, hn, _, _⟩ := hk
    refine sr_slice ?_
    simp only [concatF, normList_eq_map, List.map_append] at hn hx ⊢
    rw [hn, hx]

theorem sprintNonNil_rel {d : Bool} : ∀ {ys ys' : List GoVal}, All2 (RepEq d) ys ys' → NoDrops ys → NoDrops ys' →
    sprintNonNil ys = sprintNonNil ys'
  | _, _, .nil, _, _ => rfl
  | _, _, .cons h hs, hy, hy' => by
    simp only [sprintNonNil, isNil_repEq_noDrop hy.head hy'.head h, sprintR_repEq h, sprintNonNil_rel hs hy.tail hy'.tail]

theorem join_congr {xs xs' : List GoVal} (h : sprintNonNil xs = sprintNonNil xs') (vs : List GoVal) :
    join (.slice .any xs :: vs) = join (.slice .any xs' :: vs) := by
  cases vs with
  | nil => simp only [join, joinF, h]
  | cons v ws =>
    cases ws with
    | nil => cases v <;> first | rfl | simp only [join, joinF, h]
    | cons w ws => cases v <;> rfl

theorem join_respects (t d : Bool) : ImplRespects t d [.val .anys, .fn .str] (eager join) := by
  intro cs cs' h
  obtain ⟨a, as, a', as', rfl, rfl, h1, h2⟩ := argsRelG_cons (argsRel_iff.mp h)
  cases argsRel_scalar_eq (ps := [.fn .str]) rfl h2
  obtain ⟨c, c', rfl, rfl, xs, xs', rfl, rfl, hx, hxn, hxn'⟩ := argRelG_val h1
  rw [eager_val_cons, eager_val_cons, funext (join_congr (sprintNonNil_rel (all2_of_normList hx) hxn hxn'))]
  exact exrel_refl t _

theorem map_respects (t d : Bool) : ImplRespects t d [.val .anys, .val .str] (eager map) :=
  implRespects_anys2 fun {_ _ k k'} hx _ _ hk => by
    cases (show k = k' from hk)
    cases k with
    | str s =>
      exact RRel.bind (hasView_repEq.mapF (fun _ _ => RepEq.unwrap) s (all2_of_normList hx)) fun vs vs' hvs =>
        sr_slice (normList_of_all2 hvs)
    | _ => exact rfl

end ArrF

namespace Num

theorem size_seq {v : GoVal} {xs : List GoVal} (h : Cmp.seqElems v = some xs) : size [.val v] = ret (.int .int xs.length) := by
  rcases Cmp.seqElems_cases h with ⟨t, rfl⟩ | ⟨t, rfl⟩ <;> rfl

theorem size_respects (t d : Bool) : ImplRespects t d [.val .any] size := by
  intro cs cs' h
  obtain ⟨v, v', rfl, rfl, hv⟩ := argsRelG_val1 (argsRel_iff.mp h)
  rcases repEq_noDrop_inv hv.1.noDrop hv.2.1.noDrop hv.2.2 with rfl | ⟨xs, xs', hs, hs', hn⟩ | ⟨kt, vt, vt', kvs, kvs', rfl, rfl, _⟩
  · exact exrel_refl t _
  · rw [size_seq hs, size_seq hs', normList_length hn]
    exact exrel_refl t _
  · exact exrel_refl t (ret (.int .int 0))

theorem isEmpty_len {α β} {xs : List α} {ys : List β} (h : xs.length = ys.length) : xs.isEmpty = ys.isEmpty := by
  cases xs <;> cases ys <;> simp_all

theorem isEmpty_seq {v : GoVal} {xs : List GoVal} (h : Cmp.seqElems v = some xs) : isEmpty v = xs.isEmpty := by
  rcases Cmp.seqElems_cases h with ⟨t, rfl⟩ | ⟨t, rfl⟩ <;> rfl

theorem isEmpty_rel {d : Bool} {v v' : GoVal} (hv : URel d v v') : isEmpty v = isEmpty v' := by
  rcases repEq_noDrop_inv hv.1.noDrop hv.2.1.noDrop hv.2.2 with rfl | ⟨xs, xs', hs, hs', hn⟩ | ⟨kt, vt, vt', kvs, kvs', rfl, rfl, hn⟩
  · rfl
  · rw [isEmpty_seq hs, isEmpty_seq hs']
    exact isEmpty_len (normList_length hn)
  · exact isEmpty_len (normKVs_length hn)

theorem default_of_isContainer {v : GoVal} (h : isContainer v = true) (dv : GoVal) :
    default [.val v, .val dv] = ret (if isEmpty v then dv else v) := by
  rcases isContainer_cases h with ⟨t, xs, rfl⟩ | ⟨t, xs, rfl⟩ | ⟨kt, vt, kvs, rfl⟩ <;> rfl

theorem default_respects (t d : Bool) : ImplRespects t d [.val .any, .val .any] default := by
  intro cs cs' h
  obtain ⟨v, v', dv, dv', rfl, rfl, hv, hd⟩ := argsRelG_val2 (argsRel_iff.mp h)
  have hv : URel d v v' := hv
  have hdd : RRel t (ExRel d) (ret dv) (ret dv') := bytesToString_rel_noDrop hd.2.2 hd.1.noDrop hd.2.1.noDrop
  have hvv : RRel t (ExRel d) (ret v) (ret v') := bytesToString_rel_noDrop hv.2.2 hv.1.noDrop hv.2.1.noDrop
  -- either way the same test picks the default or the receiver on both sides
  have key : ∀ c : Bool, RRel t (ExRel d) (ret (if c then dv else v)) (ret (if c then dv' else v')) := by
    intro c
    cases c
    · exact hvv
    · exact hdd
  rcases repEq_noDrop_cases hv.1.noDrop hv.2.1.noDrop hv.2.2 with rfl | ⟨hc, hc'⟩
  · exact key _
  · rw [default_of_isContainer hc, default_of_isContainer hc', isEmpty_rel hv]
    exact key _

theorem dividedBy_respects (t d : Bool) : ImplRespects t d [.val .f64, .val .any] dividedBy := fun cs cs' h =>
  dividedBy_respectsG (W := fun v v' => VRel d (bytesToString v) (bytesToString v')) (fun _ => VRel.refl _) (fun _ _ h => h)
    (fun _ _ h => (URel.view h).cases_rigid.imp_right fun h => ⟨h.1.1, h.2.1⟩) cs cs' (argsRel_iff.mp h)

end Num

/-- the filters that *observe the Go representation* and therefore do not respect the equivalence:
    `type` prints the Go type (`[]int` against `[]interface {}`); `json` and `inspect` marshal the Go value
    (a `[]uint8` is base64 text, a `map[any]any` is rejected, where the generic slice / the string-keyed map
    print their elements). Counterexamples in `Proofs/C18.lean`. -/
def reprFilters : List Bytes := [JsonF.bn "json", JsonF.bn "inspect", JsonF.bn "type"]

/-- the filters that do not respect the equivalence exactly: `reprFilters` do not at all; `sort` and `sort_natural` do
    up to 12 elements, and up to the `unmodelled` tie test beyond (`Proofs/RepEqSort.lean`) -/
def openFilters : List Bytes := [ArrF.bn "sort", ArrF.bn "sort_natural",
  JsonF.bn "json", JsonF.bn "inspect", JsonF.bn "type"]

def goodEntry (t d : Bool) (e : Bytes × FilterImpl) : Prop :=
  ∀ sg, lookupSig e.1 = some sg → ImplRespects t d sg.params e.2

/-- every entry of the table is good, except the excluded names; the five open entries are good
    when they are not excluded and shown good -/
theorem goodEntry_table (t d : Bool) (excl : List Bytes)
    (hs : ArrF.bn "sort" ∉ excl → ImplRespects t d [.val .anys, .val .any] (ArrF.eager ArrF.sort))
    (hnat : ArrF.bn "sort_natural" ∉ excl → ImplRespects t d [.val .anys, .val .any] (ArrF.eager ArrF.sortNatural))
    (hjson : JsonF.bn "json" ∉ excl → ImplRespects t d [.val .any] JsonF.json)
    (hinsp : JsonF.bn "inspect" ∉ excl → ImplRespects t d [.val .any] JsonF.inspect)
    (htype : JsonF.bn "type" ∉ excl → ImplRespects t d [.val .any] JsonF.typeF) :
    ∀ e ∈ stdFilterImpls, e.1 ∉ excl → goodEntry t d e :=
  have hsc : ∀ {n ps f}, scalarParams ps = true → n ∉ excl → ImplRespects t d ps f := fun h _ => implRespects_of_scalar t d h _
  -- the bodies in the order of `std_sweep`: abs ceil floor plus minus times modulo, the string filters, divided_by round default
  -- size, compact concat join map reverse sort first last uniq sort_natural, json inspect type, date
  fun e he hn sg hsg => std_sweep (Good := fun n ps f => n ∉ excl → ImplRespects t d ps f)
    (hsc rfl) (hsc rfl) (hsc rfl) (hsc rfl) (hsc rfl) (hsc rfl) (hsc rfl) (fun _ _ => hsc) (fun _ => Num.dividedBy_respects t d) (hsc rfl)
    (fun _ => Num.default_respects t d) (fun _ => Num.size_respects t d) (fun _ => ArrF.compact_respects t d)
    (fun _ => ArrF.concat_respects t d) (fun _ => ArrF.join_respects t d) (fun _ => ArrF.map_respects t d)
    (fun _ => ArrF.reverse_respects t d) hs (fun _ => ArrF.first_respects t d) (fun _ => ArrF.last_respects t d)
    (fun _ => ArrF.uniq_respects t d) hnat hjson hinsp htype (hsc rfl) e he sg hsg hn

theorem goodEntry_std (t d : Bool) : ∀ e ∈ stdFilterImpls, e.1 ∉ openFilters → goodEntry t d e :=
  goodEntry_table t d openFilters (fun h => absurd (by simp [openFilters]) h)
    (fun h => absurd (by simp [openFilters]) h) (fun h => absurd (by simp [openFilters]) h)
    (fun h => absurd (by simp [openFilters]) h) (fun h => absurd (by simp [openFilters]) h)

/-- every standard filter other than `sort`, `sort_natural`, `json`, `inspect`, `type` respects representation
    equivalence — for every `d`: also with drops nested in the receiver and the arguments (`d = true`) —, for every
    name (registered or not) -/
theorem filterRespects_std (t d : Bool) (name : Bytes) (h : name ∉ openFilters) : FilterRespects t d name :=
  filterRespects_of_impl name (fun sg f hs hf => goodEntry_std t d (name, f) (lookupImpl_mem hf) h sg hs)

/-- the standard comparison and filter layer of an engine on which only the filters satisfying
    `allowed` are registered (any other name is an undefined filter, as on the real engine) -/
def stdPrimsOnly (allowed : Bytes → Bool) : Prims :=
  { stdPrims with
    hasFilter := fun n => stdPrims.hasFilter n && allowed n,
    applyFilter := fun n r as => if allowed n then stdPrims.applyFilter n r as else .err (.undefinedFilter n) }

theorem stdPrimsOnly_all : stdPrimsOnly (fun _ => true) = stdPrims := by
  simp [stdPrimsOnly]

/-- the standard comparisons respect the equivalence, and so does every allowed filter, given
    that the allowed ones among `sort`, `sort_natural` (and `json`, `inspect`, `type`) do -/
theorem stdPrimsOnly_respects {d : Bool} (allowed : Bytes → Bool)
    (hopen : ∀ n, n ∈ openFilters → allowed n = true → FilterRespects true d n) :
    PrimsRespect true d (stdPrimsOnly allowed) where
  -- the projections of `stdPrimsOnly` are unfolded first: left to the unifier, the comparisons are unfolded instead
  equal a a' b b' ha hb := by
    simp only [stdPrimsOnly, stdPrims]
    exact RRel.of_eq (fun _ => rfl) (Cmp.opEq_prep_vrel ha hb)
  less a a' b b' ha hb := by
    simp only [stdPrimsOnly, stdPrims]
    exact RRel.of_eq (fun _ => rfl) (Cmp.opLt_prep_vrel ha hb)
  contains a a' b b' ha hb := by
    simp only [stdPrimsOnly, stdPrims]
    exact Cmp.opContains_prep_vrel ha hb
  equalFn a a' b b' ha hb := by
    simp only [stdPrimsOnly, stdPrims]
    exact RRel.of_eq (fun _ => rfl) (Cmp.equal_prep_repEq ha.2.2 hb.2.2)
  applyFilter name r r' as as' hr has := by
    simp only [stdPrimsOnly]
    cases ha : allowed name with
    | false => exact rfl
    | true =>
      by_cases hn : name ∈ openFilters
      · exact hopen name hn ha r r' as as' hr has
      · exact filterRespects_std true d name hn r r' as as' hr has

/-- the engine without `sort` and `sort_natural` (and `json`, `inspect`, `type`) -/
def coreFilters (n : Bytes) : Bool := !openFilters.contains n

/-- the engine without the filters that observe the Go representation (`json`, `inspect`, `type`) -/
def withoutRepr (n : Bytes) : Bool := !reprFilters.contains n

/-- the length of an array result (for the examples of `Proofs/C18.lean`) -/
def lenOfRes : Res Cause GoVal → Nat
  | .ok (.slice _ xs) => xs.length
  | _ => 0

/-- the text of a string result (for the examples of `Proofs/C18.lean`) -/
def strOfRes : Res Cause GoVal → Bytes
  | .ok (.str s) => s
  | _ => []
