import Proofs.RunLemmas
/-!
# The write calls of an operation list without trims (helpers for C13 at template level)

The calls of a render without hyphens (`TracedAtL`, `Proofs/RunLemmas.lean`) are the chunks it writes, one
call per non-empty chunk (`calls_of_trimFree`), which makes "every chunk written is valid UTF-8" a statement
about the observable calls.
-/

/-- the chunks an operation list writes -/
def wopChunks : List WOp → List Bytes
  | [] => []
  | .write b :: ops => b :: wopChunks ops
  | _ :: ops => wopChunks ops

theorem mem_wopChunks {ops : List WOp} {b : Bytes} : b ∈ wopChunks ops ↔ WOp.write b ∈ ops := by
  induction ops with
  | nil => simp [wopChunks]
  | cons op ops ih => cases op <;> simp [wopChunks, ih]

theorem calls_of_trimFree (ops : List WOp) : ∀ buf : Bytes,
    (TW.run { buf := buf, trim := false } (eraseTrims ops ++ [.flush])).2 =
      (buf :: wopChunks ops).filter (fun b => !b.isEmpty) := by
  unfold eraseTrims
  induction ops with
  | nil => intro buf; cases buf <;> simp [TW.run, TW.step, wopChunks]
  | cons op ops ih =>
    intro buf
    cases op with
    | write u => cases buf <;> simp [TW.run, TW.step, ih, wopChunks]
    | flush => cases buf <;> simp [TW.run, TW.step, ih, wopChunks]
    | _ => exact ih buf

theorem validOps_of_calls (ops : List WOp)
    (h : ∀ b ∈ (TW.run {} (eraseTrims ops ++ [.flush])).2, ValidUtf8 b) : ValidOps ops := by
  intro b hb
  cases b with
  | nil => exact validUtf8_nil
  | cons x xs =>
    apply h
    rw [show (TW.run {} (eraseTrims ops ++ [.flush])).2 = _ from calls_of_trimFree ops [], List.mem_filter]
    exact ⟨List.mem_cons_of_mem _ (mem_wopChunks.2 hb), rfl⟩
