import Proofs.HyphenLemmas2
import Proofs.TrimLemmas
/-!
# Hyphens that face literal text (helpers for C13 at template level)

* `faceR`: every `-}}`/`-%}` directly followed, at the same level, by a text is dropped and the
  text left-stripped. The render is the SAME interaction tree (`render_faceR`).
* `faceL`: every text directly followed, at the same level, by `{{-`/`{%-` is right-stripped and
  the hyphen dropped. The operations differ (`[write u, trimLeft]` becomes `[write (rstrip u)]`:
  the stripped text stays pending instead of being written at once), the bytes that reach the
  writer by the next flush do not (`FaceRel`, `faceRel_total`; `gpair_faceL_site` for one site of a sequence, `face_list` for all of a tree).
* `refl_list`: `GPair R` is reflexive on every render once `R` relates each single operation to
  itself, because every render has a trace with calls (`tracedL_closed`, `Proofs/RunLemmas.lean`).
* `faceRel_root`, `faceRel_block`: what a `GPair FaceRel` gives for `Render` and for a block body
  from any state; `TrimComm u` is the side condition of a fusion (true of every `u`: `trimComm_all`).
* `faceText = faceR ∘ faceL` (last definition of the file).
-/

theorem writeM_after_trimRight (u : Bytes) (s : RS) :
    writeM u { s with tw := { s.tw with trim := true } } = writeM (trimLeftSpace u) s := by
  unfold writeM
  have h : (if s.tw.trim then trimLeftSpace (trimLeftSpace u) else trimLeftSpace u) = trimLeftSpace u := by
    cases s.tw.trim <;> simp [trimLeftSpace_idem]
  simp only [if_true, h]

theorem renderList_trimRight_text (c : RCtx) (l : Nat) (u : Bytes) (post : List Node) :
    renderList c (.trim false :: .text l u :: post) = renderList c (.text l (trimLeftSpace u) :: post) := by
  funext s
  rw [renderList, renderList, renderList]
  simp only [renderNode, bind, M.bind, trimRightM, pure, M.pure, Prog.bind, wrapFailAt, M.mapFail]
  rw [writeM_after_trimRight]

theorem renderList_cons_congr (c : RCtx) {n n' : Node} {ns ns' : List Node} (hn : renderNode c n = renderNode c n')
    (hns : renderList c ns = renderList c ns') : renderList c (n :: ns) = renderList c (n' :: ns') := by
  rw [renderList, renderList, hn, hns]

theorem renderBlockBody_congr (c : RCtx) {a b : List Node} (h : renderList c a = renderList c b) :
    renderBlockBody c a = renderBlockBody c b := by
  unfold renderBlockBody; rw [h]

theorem renderRoot_congr (c : RCtx) {a b : List Node} (h : renderList c a = renderList c b) (env : Env) :
    renderRoot c a env = renderRoot c b env := by
  unfold renderRoot; rw [h]

mutual
def faceRNode : Node → Node
  | .text l s => .text l s
  | .obj l e => .obj l e
  | .raw sl => .raw sl
  | .trim b => .trim b
  | .assign l x e => .assign l x e
  | .capture l x body => .capture l x (faceR body)
  | .ifB l bs => .ifB l (faceRBranches bs)
  | .caseB l s cs => .caseB l s (faceRCases cs)
  | .loop l t v e m body cls => .loop l t v e m (faceR body) (faceRClauses cls)
  | .cycle l g v0 r => .cycle l g v0 r
  | .brk l => .brk l
  | .cont l => .cont l
  | .incl l a => .incl l a
/-- drop every `.trim false` that directly precedes a text at the same level, and left-strip that text -/
def faceR : List Node → List Node
  | [] => []
  | .trim false :: .text l u :: ns => .text l (trimLeftSpace u) :: faceR ns
  | n :: ns => faceRNode n :: faceR ns
def faceRBranches : List (CondT × List Node) → List (CondT × List Node)
  | [] => []
  | (t, body) :: rest => (t, faceR body) :: faceRBranches rest
def faceRCases : List (Option (Nat × List Expr) × List Node) → List (Option (Nat × List Expr) × List Node)
  | [] => []
  | (w, body) :: rest => (w, faceR body) :: faceRCases rest
def faceRClauses : List (List Node) → List (List Node)
  | [] => []
  | body :: rest => faceR body :: faceRClauses rest
end

theorem faceR_fuse (l : Nat) (u : Bytes) (ns : List Node) :
    faceR (.trim false :: .text l u :: ns) = .text l (trimLeftSpace u) :: faceR ns := rfl

theorem faceR_trimRight_cons (n : Node) (ns : List Node) (h : ∀ l u, n ≠ .text l u) :
    faceR (.trim false :: n :: ns) = .trim false :: faceR (n :: ns) := by
  cases n with
  | text l u => exact absurd rfl (h l u)
  | trim b => cases b <;> rfl
  | _ => rfl

theorem faceR_cons_of_ne (n : Node) (ns : List Node) (h : n ≠ .trim false) :
    faceR (n :: ns) = faceRNode n :: faceR ns := by
  cases n with
  | trim b =>
    cases b with
    | false => exact absurd rfl h
    | true => rfl
  | _ => rfl

section faceR
variable (c : RCtx)

mutual
theorem render_faceRNode : ∀ n : Node, renderNode c (faceRNode n) = renderNode c n
  | .text .. | .obj .. | .raw _ | .trim _ | .assign .. | .cycle .. | .brk _ | .cont _ | .incl .. => rfl
  | .capture l x body => by
    show renderNode c (.capture l x (faceR body)) = _
    unfold renderNode
    rw [(render_faceR body).1]
  | .ifB l bs => by
    show renderNode c (.ifB l (faceRBranches bs)) = _
    unfold renderNode
    rw [render_faceRBranches bs]
  | .caseB l s cs => by
    show renderNode c (.caseB l s (faceRCases cs)) = _
    unfold renderNode
    simp only [render_faceRCases _ cs]
  | .loop l t v e m body [] => by
    show renderNode c (.loop l t v e m (faceR body) []) = _
    unfold renderNode
    dsimp only
    rw [renderBlockBody_congr c (render_faceR body).1]
  | .loop l t v e m body [els] => by
    show renderNode c (.loop l t v e m (faceR body) [faceR els]) = _
    unfold renderNode
    dsimp only
    rw [renderBlockBody_congr c (render_faceR body).1, renderBlockBody_congr c (render_faceR els).1]
  | .loop l t v e m body (c1 :: c2 :: r) => by
    show renderNode c (.loop l t v e m (faceR body) (faceR c1 :: faceR c2 :: faceRClauses r)) = _
    unfold renderNode
    dsimp only
    rw [renderBlockBody_congr c (render_faceR body).1]
theorem render_faceR : ∀ ns : List Node, renderList c (faceR ns) = renderList c ns ∧
    renderList c (faceR (.trim false :: ns)) = renderList c (.trim false :: ns)
  -- `faceR` matches on two nodes at once, so the recursion on the tail also needs the tail behind a right hyphen: the second
  -- conjunct (likewise the tail behind a text in `face_list`)
  | [] => ⟨rfl, rfl⟩
  | n :: ns => by
    have ih := render_faceR ns
    have hn := render_faceRNode n
    have h1 : renderList c (faceR (n :: ns)) = renderList c (n :: ns) := by
      by_cases h : n = .trim false
      · subst h; exact ih.2
      · rw [faceR_cons_of_ne n ns h]; exact renderList_cons_congr c hn ih.1
    refine ⟨h1, ?_⟩
    rcases n.text_or_ne with ⟨l, u, rfl⟩ | hnt
    · rw [faceR_fuse, renderList_trimRight_text]
      exact renderList_cons_congr c rfl ih.1
    · rw [faceR_trimRight_cons _ _ hnt]
      exact renderList_cons_congr c rfl h1
theorem render_faceRBranches : ∀ bs : List (CondT × List Node), renderBranches c (faceRBranches bs) = renderBranches c bs
  | [] => rfl
  | (t, body) :: rest => by
    show renderBranches c ((t, faceR body) :: faceRBranches rest) = _
    unfold renderBranches
    rw [renderBlockBody_congr c (render_faceR body).1, render_faceRBranches rest]
theorem render_faceRCases (sel : GoVal) : ∀ cs : List (Option (Nat × List Expr) × List Node),
    renderCases c sel (faceRCases cs) = renderCases c sel cs
  | [] => rfl
  | (none, body) :: rest => by
    show renderCases c sel ((none, faceR body) :: faceRCases rest) = _
    unfold renderCases
    rw [renderBlockBody_congr c (render_faceR body).1]
  | (some (line, es), body) :: rest => by
    show renderCases c sel ((some (line, es), faceR body) :: faceRCases rest) = _
    unfold renderCases
    rw [renderBlockBody_congr c (render_faceR body).1, render_faceRCases sel rest]
end

end faceR

mutual
def faceLNode : Node → Node
  | .text l s => .text l s
  | .obj l e => .obj l e
  | .raw sl => .raw sl
  | .trim b => .trim b
  | .assign l x e => .assign l x e
  | .capture l x body => .capture l x (faceL body)
  | .ifB l bs => .ifB l (faceLBranches bs)
  | .caseB l s cs => .caseB l s (faceLCases cs)
  | .loop l t v e m body cls => .loop l t v e m (faceL body) (faceLClauses cls)
  | .cycle l g v0 r => .cycle l g v0 r
  | .brk l => .brk l
  | .cont l => .cont l
  | .incl l a => .incl l a
/-- right-strip every text that directly precedes a `.trim true` at the same level, and drop that hyphen -/
def faceL : List Node → List Node
  | [] => []
  | .text l u :: .trim true :: ns => .text l (trimRightSpace u) :: faceL ns
  | n :: ns => faceLNode n :: faceL ns
def faceLBranches : List (CondT × List Node) → List (CondT × List Node)
  | [] => []
  | (t, body) :: rest => (t, faceL body) :: faceLBranches rest
def faceLCases : List (Option (Nat × List Expr) × List Node) → List (Option (Nat × List Expr) × List Node)
  | [] => []
  | (w, body) :: rest => (w, faceL body) :: faceLCases rest
def faceLClauses : List (List Node) → List (List Node)
  | [] => []
  | body :: rest => faceL body :: faceLClauses rest
end

theorem faceL_fuse (l : Nat) (u : Bytes) (ns : List Node) :
    faceL (.text l u :: .trim true :: ns) = .text l (trimRightSpace u) :: faceL ns := rfl
theorem faceL_text_nil (l : Nat) (u : Bytes) : faceL [.text l u] = [.text l u] := rfl
theorem faceL_text_cons (l : Nat) (u : Bytes) (n : Node) (ns : List Node) (h : n ≠ .trim true) :
    faceL (.text l u :: n :: ns) = .text l u :: faceL (n :: ns) := by
  cases n with
  | trim b =>
    cases b with
    | true => exact absurd rfl h
    | false => rfl
  | _ => rfl
theorem faceL_cons_of_ne (n : Node) (ns : List Node) (h : ∀ l u, n ≠ .text l u) :
    faceL (n :: ns) = faceLNode n :: faceL ns := by
  cases n with
  | text l u => exact absurd rfl (h l u)
  | _ => rfl

/-- `ops'` is `ops` with some occurrences of `write u, TrimLeft` replaced by `write (rstrip u)` -/
inductive FaceRel : List WOp → List WOp → Prop
  | nil : FaceRel [] []
  | keep (op : WOp) {a a' : List WOp} : FaceRel a a' → FaceRel (op :: a) (op :: a')
  | fuse (u : Bytes) {a a' : List WOp} : TrimComm u → FaceRel a a' →
      FaceRel (.write u :: .trimLeft :: a) (.write (trimRightSpace u) :: a')

theorem faceRel_refl : ∀ a : List WOp, FaceRel a a
  | [] => .nil
  | op :: a => .keep op (faceRel_refl a)

theorem faceRel_append {a a' b b' : List WOp} (h1 : FaceRel a a') (h2 : FaceRel b b') : FaceRel (a ++ b) (a' ++ b') := by
  induction h1 with
  | nil => exact h2
  | keep op _ ih => exact .keep op ih
  | fuse u hu _ ih => exact .fuse u hu ih

theorem faceRel_ok : RelOK (fun _ => True) FaceRel where
  nil := .nil
  app := faceRel_append
  write := fun _ _ => faceRel_refl _
  flush := faceRel_refl _

theorem faceRel_total {ops ops' : List WOp} (h : FaceRel ops ops') : ∀ t : TW,
    twTotal t ops = twTotal t ops' ∧ (TW.run t ops).1.trim = (TW.run t ops').1.trim := by
  induction h with
  | nil => intro t; exact ⟨rfl, rfl⟩
  | keep op _ ih => intro t; rw [twTotal_cons, twTotal_cons]; simp only [TW.run]; rw [(ih _).1, (ih _).2]; exact ⟨rfl, rfl⟩
  | @fuse u a a' hu _ ih =>
    intro t
    have h1 := twTotal_write_trimLeft t u a
    rw [h1.1, h1.2, twTotal_cons, twTotal_cons]
    simp only [TW.run]
    rw [(ih _).1, (ih _).2]; exact ⟨rfl, rfl⟩

theorem gpair_face_fuse (c : RCtx) (l : Nat) (u : Bytes) {ns ns' : List Node}
    (h : GPair FaceRel (renderList c ns) (renderList c ns')) :
    GPair FaceRel (renderList c (.text l u :: .trim true :: ns)) (renderList c (.text l (trimRightSpace u) :: ns')) := by
  intro env
  obtain ⟨ops, ops', o, h1, h2, r⟩ := h env
  refine ⟨[.write u] ++ ([.trimLeft] ++ ops), [.write (trimRightSpace u)] ++ ops', o, ?_, ?_, .fuse u (trimComm_all u) r⟩
  · rw [renderList]
    refine tracedAtL_bind_ok (tracedAtL_textNode c l u env) ?_
    rw [renderList]
    exact tracedAtL_bind_ok (tracedAtL_trimNode c true env) h1
  · rw [renderList]
    exact tracedAtL_bind_ok (tracedAtL_textNode c l _ env) h2

theorem RelOK.refl {W : Bytes → Prop} {R : List WOp → List WOp → Prop} (hR : RelOK W R) (hop : ∀ op, R [op] [op]) :
    ∀ ops, R ops ops
  | [] => hR.nil
  | op :: ops => hR.app (hop op) (hR.refl hop ops)

/-- a render that has a trace is paired with itself by every reflexive relation -/
theorem TracedL.gpair {α} {R : List WOp → List WOp → Prop} {m : M α} (h : TracedL m) (hr : ∀ ops, R ops ops) : GPair R m m :=
  fun env =>
    let ⟨ops, o, ho⟩ := h env
    ⟨ops, ops, o, ho, ho, hr ops⟩

section refl
variable {R : List WOp → List WOp → Prop} (hR : RelOK (fun _ => True) R) (hop : ∀ op, R [op] [op])
  (c : RCtx) (hc : IncQuiet c)
include hR hop hc

theorem refl_node (n : Node) : GPair R (renderNode c n) (renderNode c n) :=
  (tracedL_closed.renderNode (tracedL_ctx hc) n fun _ _ => trivial).gpair (hR.refl hop)
theorem refl_list (ns : List Node) : GPair R (renderList c ns) (renderList c ns) :=
  (tracedL_closed.renderList (tracedL_ctx hc) ns fun _ _ => trivial).gpair (hR.refl hop)
theorem refl_branches : ∀ bs : List (CondT × List Node), GPair R (renderBranches c bs) (renderBranches c bs) :=
  fun bs => (tracedL_closed.renderBranches (tracedL_ctx hc) bs fun _ _ => trivial).gpair (hR.refl hop)
theorem refl_cases (sel : GoVal) : ∀ cs : List (Option (Nat × List Expr) × List Node),
    GPair R (renderCases c sel cs) (renderCases c sel cs) :=
  fun cs => (tracedL_closed.renderCases (tracedL_ctx hc) sel cs fun _ _ => trivial).gpair (hR.refl hop)

end refl

theorem gpair_faceL_site (c : RCtx) (hc : IncQuiet c) (pre post : List Node) (l : Nat) (u : Bytes) :
    GPair FaceRel (renderList c (pre ++ .text l u :: .trim true :: post))
      (renderList c (pre ++ .text l (trimRightSpace u) :: post)) :=
  gpair_list_append faceRel_ok (refl_list faceRel_ok (fun op => faceRel_refl [op]) c hc pre)
    (gpair_face_fuse c l u (refl_list faceRel_ok (fun op => faceRel_refl [op]) c hc post))

section faceL
variable (c : RCtx) (hc : IncQuiet c)
include hc
set_option linter.unusedSectionVars false

mutual
theorem face_node : ∀ n : Node, (∀ u ∈ litNode n, TrimComm u) → GPair FaceRel (renderNode c n) (renderNode c (faceLNode n))
  | .capture _ _ body => fun _ =>
    gpair_node_capture faceRel_ok (gpair_capture faceRel_ok (fun _ _ r => (faceRel_total r {}).1) (face_list body).1)
  | .ifB _ bs => fun _ => gpair_node_ifB faceRel_ok (face_branches bs fun _ _ => trimComm_all _)
  | .caseB _ _ cs => fun _ => gpair_node_caseB faceRel_ok (fun sel => face_cases sel cs fun _ _ => trimComm_all _)
  | .loop _ _ _ _ _ body [] => fun _ =>
    gpair_node_loop_noElse faceRel_ok (fun _ _ => trivial) (gpair_blockBody faceRel_ok (face_list body).1)
  | .loop _ _ _ _ _ body [els] => fun _ =>
    gpair_node_loop_else faceRel_ok (fun _ _ => trivial)
      (gpair_blockBody faceRel_ok (face_list body).1)
      (gpair_blockBody faceRel_ok (face_list els).1)
  | .loop _ _ _ _ _ body (_ :: _ :: _) => fun _ =>
    gpair_node_loop_manyClauses faceRel_ok (fun _ _ => trivial) (gpair_blockBody faceRel_ok (face_list body).1)
  -- a node without bodies is its own face
  | .text .. | .obj .. | .raw _ | .trim _ | .assign .. | .cycle .. | .brk _ | .cont _ | .incl .. => fun _ =>
    refl_node faceRel_ok (fun op => faceRel_refl [op]) c hc _
theorem face_list : ∀ ns : List Node,
    GPair FaceRel (renderList c ns) (renderList c (faceL ns)) ∧
    ∀ l u, GPair FaceRel (renderList c (.text l u :: ns)) (renderList c (faceL (.text l u :: ns)))
  | [] => by
    refine ⟨gpair_list_nil faceRel_ok, fun l u => ?_⟩
    rw [faceL_text_nil]
    exact gpair_list_cons faceRel_ok (gpair_node_text faceRel_ok trivial) (gpair_list_nil faceRel_ok)
  | n :: ns => by
    have ih := face_list ns
    have h1 : GPair FaceRel (renderList c (n :: ns)) (renderList c (faceL (n :: ns))) := by
      rcases n.text_or_ne with ⟨l, u, rfl⟩ | hnt
      · exact ih.2 l u
      · rw [faceL_cons_of_ne _ _ hnt]
        exact gpair_list_cons faceRel_ok (face_node n fun _ _ => trimComm_all _) ih.1
    refine ⟨h1, fun l u => ?_⟩
    by_cases ht : n = .trim true
    · subst ht
      rw [faceL_fuse]
      exact gpair_face_fuse c l u ih.1
    · rw [faceL_text_cons l u n ns ht]
      exact gpair_list_cons faceRel_ok (gpair_node_text faceRel_ok trivial) h1
theorem face_branches : ∀ bs : List (CondT × List Node), (∀ u ∈ litBranches bs, TrimComm u) →
    GPair FaceRel (renderBranches c bs) (renderBranches c (faceLBranches bs))
  | [] => fun _ => gpair_branches_nil faceRel_ok
  | (_, body) :: rest => fun _ =>
    gpair_branches_cons faceRel_ok (gpair_blockBody faceRel_ok (face_list body).1)
      (face_branches rest fun _ _ => trimComm_all _)
theorem face_cases (sel : GoVal) : ∀ cs : List (Option (Nat × List Expr) × List Node), (∀ u ∈ litCases cs, TrimComm u) →
    GPair FaceRel (renderCases c sel cs) (renderCases c sel (faceLCases cs))
  | [] => fun _ => gpair_cases_nil faceRel_ok
  | (none, body) :: _ => fun _ =>
    gpair_cases_else (gpair_blockBody faceRel_ok (face_list body).1)
  | (some (_, _), body) :: rest => fun _ =>
    gpair_cases_when faceRel_ok (gpair_blockBody faceRel_ok (face_list body).1)
      (face_cases sel rest fun _ _ => trimComm_all _)
end

end faceL

theorem faceRel_runOps {ops ops' : List WOp} (h : FaceRel ops ops') : runOps ops = runOps ops' := by
  rw [runOps_eq_twTotal, runOps_eq_twTotal, (faceRel_total h {}).1]

/-- `Render` of two root sequences with related traces: the same outcome, and after a normal end
    the same output -/
theorem faceRel_root (c : RCtx) {a b : List Node} (h : GPair FaceRel (renderList c a) (renderList c b)) (env : Env) :
    (renderRoot c a env).runPure.2 = (renderRoot c b env).runPure.2 ∧
    ∀ out, (renderRoot c a env).runPure = (out, .ok .done) → (renderRoot c b env).runPure = (out, .ok .done) := by
  obtain ⟨ops, ops', o, h1, h2, r⟩ := h env
  rw [renderRoot_of_traced c a env ops o h1.toTracedAt, renderRoot_of_traced c b env ops' o h2.toTracedAt]
  refine ⟨rootResult_snd _ _ o, fun out ho => ?_⟩
  obtain ⟨⟨env', rfl⟩, rfl⟩ := rootResult_done _ _ _ ho
  simp only [rootResult, faceRel_runOps r]

/-- a block body (sequence, then flush) with related traces, from ANY state: when the first ends
    normally so does the second, having written the same bytes and leaving the same state -/
theorem faceRel_block (c : RCtx) {a b : List Node} (h : GPair FaceRel (renderList c a) (renderList c b)) (s s' : RS)
    (out : Bytes) (hd : (renderBlockBody c a s).runPure = (out, .ok (.done, s'))) :
    (renderBlockBody c b s).runPure = (out, .ok (.done, s')) := by
  obtain ⟨env, tw⟩ := s
  obtain ⟨ops, ops', o, h1, h2, r⟩ := h env
  cases o with
  | ok st env' =>
    cases st with
    | done =>
      rw [tracedAt_blockBody_done c a env env' ops h1.toTracedAt tw] at hd
      rw [tracedAt_blockBody_done c b env env' ops' h2.toTracedAt tw]
      rw [twTotal_flush, tw_run_flush_state] at hd ⊢
      rw [← (faceRel_total r tw).1, ← (faceRel_total r tw).2]
      exact hd
    | _ =>
      rw [tracedAt_blockBody_other c a env ops _ h1.toTracedAt (by intro _ h; cases h) tw] at hd
      simp [EOut.withTw] at hd
  | _ =>
    rw [tracedAt_blockBody_other c a env ops _ h1.toTracedAt (by intro _ h; cases h) tw] at hd
    simp [EOut.withTw] at hd

/-- the two kinds of fusion together: first texts before `{{-`, then `-}}` before texts -/
def faceText (nodes : List Node) : List Node := faceR (faceL nodes)
