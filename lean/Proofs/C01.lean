import Proofs.NoPanic
import Proofs.StdNoPanic
import Proofs.RenderFile
import Proofs.C06
/-!
# C01 — parsing and rendering never panic: the result is output or a located error

`run` is the model of `ParseTemplateLocation` + `Render`. For every configuration, source,
start line, environment, file system and fuel, it never ends in `panic` — provided the value
layer (`Prims`: comparison and filters; `OutPrims`: printing) never panics, which is proved
separately for the standard configuration layer by layer (C09 `ops_no_panic` for the
comparison operators; see `std_noPanic` (`Proofs/StdNoPanic.lean`) for what is assembled here).
Termination: every definition of the model is accepted by Lean's structural/well-founded
checker (no `partial`), `include` recursion is bounded by explicit fuel.
-/

/-- the tokenizer is total: it is a plain function to token lists (no failure mode at all) -/
theorem scan_total (delims : List Bytes) (src : Bytes) (line : Nat) : ∃ toks, scan delims src line = toks := ⟨_, rfl⟩

theorem parseStep_noPanic (g : Grammar) (chk : Bytes → Option Cause) (s : PState) (tok : Token) :
    NoPanicRes (parseStep g chk s tok) :=
  NoPanicRes.of_isPanic (step_no_panic s tok)

/-- **C01 (block parser).** Every stack pop is preceded by a guard that makes the stack non-empty. -/
theorem parseTokens_noPanic (g : Grammar) (chk : Bytes → Option Cause) (toks : List Token) :
    NoPanicRes (parseTokens g chk toks) :=
  NoPanicRes.of_isPanic (parseTokens_no_panic g chk toks)

theorem liftParse_noPanic {α} (line : Nat) (k : Bool) (r : Res ParseErr α) (h : NoPanicRes r) :
    NoPanicRes (liftParse line k r) := by
  cases r <;> simp_all [liftParse, NoPanicRes]

theorem compileStmt_noPanic {α} (line : Nat) (k : Bool) (kw args : Bytes) (f : Stmt → CRes α)
    (hf : ∀ st, NoPanicRes (f st)) : NoPanicRes ((liftParse line k (parseStatement kw args)).bind f) :=
  NoPanicRes.bind (liftParse_noPanic _ _ _ (parseSource_noPanic _)) hf

theorem compileIfClauseTests_noPanic : ∀ cs, NoPanicRes (compileIfClauseTests cs)
  | [] => trivial
  | (t, body) :: cs => by
    unfold compileIfClauseTests
    refine NoPanicRes.bind ?_ (fun _ => (compileIfClauseTests_noPanic cs).bind_ok)
    split
    · exact (liftParse_noPanic _ _ _ (parseExprSource_noPanic _)).bind_ok
    · trivial

theorem compileCaseClauses_noPanic : ∀ cs, NoPanicRes (compileCaseClauses cs)
  | [] => trivial
  | (t, body) :: cs => by
    unfold compileCaseClauses
    refine NoPanicRes.bind (.ite (compileStmt_noPanic _ _ _ _ _ fun st => ?_) trivial)
      (fun _ => (compileCaseClauses_noPanic cs).bind_ok)
    split <;> trivial

mutual
theorem compileNode_noPanic : ∀ n : AST, NoPanicRes (compileNode n)
  | .text t => by unfold compileNode; trivial
  | .obj t => by
    unfold compileNode
    have := parseExprSource_noPanic t.args
    cases h : parseExprSource t.args <;> simp_all [NoPanicRes]
  | .trim l => by unfold compileNode; trivial
  | .raw sl => by unfold compileNode; trivial
  | .tag t => by
    unfold compileNode
    exact .ite (compileStmt_noPanic _ _ _ _ _ fun st => by split <;> trivial)
      (.ite trivial (.ite trivial (.ite trivial
        (.ite (compileStmt_noPanic _ _ _ _ _ fun st => by split <;> trivial) trivial))))
  | .block t body clauses => by
    unfold compileNode
    refine NoPanicRes.bind (compileList_noPanic body) (fun b => NoPanicRes.bind (compileClauses_noPanic clauses) (fun cs => ?_))
    exact .ite (NoPanicRes.bind (liftParse_noPanic _ _ _ (parseExprSource_noPanic _)) (fun e =>
        (compileIfClauseTests_noPanic cs).bind_ok))
      (.ite (NoPanicRes.bind (liftParse_noPanic _ _ _ (parseExprSource_noPanic _)) (fun e =>
          (compileCaseClauses_noPanic cs).bind_ok))
        (.ite (compileStmt_noPanic _ _ _ _ _ fun st => by split <;> trivial) (.ite trivial trivial)))
theorem compileList_noPanic : ∀ ns : List AST, NoPanicRes (compileList ns)
  | [] => by unfold compileList; trivial
  | n :: ns => by
    unfold compileList
    exact NoPanicRes.bind (compileNode_noPanic n) (fun _ => (compileList_noPanic ns).bind_ok)
theorem compileClauses_noPanic : ∀ cs : List (Token × List AST), NoPanicRes (compileClauses cs)
  | [] => by unfold compileClauses; trivial
  | (t, body) :: cs => by
    unfold compileClauses
    exact NoPanicRes.bind (compileList_noPanic body) (fun _ => (compileClauses_noPanic cs).bind_ok)
end

/-- **C01 (parsing).** Compiling any byte string, with any delimiters and start line, never panics:
    the result is a tree, a located error, or `unmodelled` (a literal outside the lexer model). -/
theorem compileSource_noPanic (delims : List Bytes) (src : Bytes) (line : Nat) :
    NoPanicRes (compileSource delims src line) := by
  unfold compileSource
  simp only
  split
  · trivial
  · refine NoPanicRes.bind ?_ (fun ast => compileList_noPanic ast)
    have := parseTokens_noPanic stdGrammar objChk (scan delims src line)
    cases h : parseTokens stdGrammar objChk (scan delims src line) <;> simp_all [liftPErr, NoPanicRes]

theorem renderRoot_noPanic (c : RCtx) (h : PrimsNoPanic c.P c.O) (hc : IncNoPanic c) (root : List Node) (env : Env) :
    NoPanicProg (renderRoot c root env) := by
  rw [renderRoot_eq_blockBody]
  exact NoPanicProg.bind (np_renderBlockBody c h hc root _) fun _ => .ret _

theorem incFuel_noPanic (P : Prims) (O : OutPrims) (h : PrimsNoPanic P O) (cfg : Cfg) (fs : FS) :
    ∀ fuel, IncNoPanic (mkCtx P O cfg fs fuel) := by
  intro fuel
  induction fuel with
  | zero => intro line f env; exact .fail _
  | succ n ih =>
    intro line f env
    show NoPanicProg (renderFileWith P O cfg fs (incFuel P O cfg fs n) line f env)
    refine renderFileWith_ind fs f (fun _ _ => .fail _) fun src _ => ?_
    unfold renderSrcWith
    have hcs := compileSource_noPanic cfg.delims src line
    split
    · exact .fail _
    · next w heq => exact absurd heq (hcs.ne_panic w)
    · exact .unmodelled _
    · next root heq =>
      have hr : NoPanicProg (renderRoot { P := P, O := O, cfg := cfg, inc := incFuel P O cfg fs n } root env) :=
        renderRoot_noPanic _ h ih root env
      simp only
      split
      · exact .ret _
      · exact .ret _
      · exact .fail _
      · next w heq2 => exact (runPure_noPanic hr w (congrArg Prod.snd heq2)).elim
      · exact .unmodelled _

/-- **C01 (rendering).** `FRender` never panics, whatever the writer answers. -/
theorem frender_noPanic (P : Prims) (O : OutPrims) (h : PrimsNoPanic P O) (cfg : Cfg) (fs : FS) (fuel : Nat)
    (root : List Node) (env : Env) : NoPanicProg (frender P O cfg fs fuel root env) := by
  unfold frender
  refine NoPanicProg.bind (renderRoot_noPanic _ h (incFuel_noPanic P O h cfg fs fuel) root env) (fun st => ?_)
  cases st <;> simp [statusToProg] <;> first | exact .ret _ | exact .fail _

/-- **C01 (main theorem).** Parsing and rendering any source with any environment, configuration,
    file system and include fuel gives output or a located error (or leaves the model's scope):
    never a panic. -/
theorem run_noPanic (P : Prims) (O : OutPrims) (h : PrimsNoPanic P O) (cfg : Cfg) (fs : FS) (fuel : Nat)
    (src : Bytes) (line : Nat) (env : Env) : ∀ w, run P O cfg fs fuel src line env ≠ .panic w := by
  intro w
  unfold run
  have hc := compileSource_noPanic cfg.delims src line
  split
  · simp
  · next w' heq => exact absurd heq (hc.ne_panic w')
  · simp
  · next root heq =>
    have hr := frender_noPanic P O h cfg fs fuel root env
    split <;> try simp
    next w' heq2 => exact (runPure_noPanic hr w' (congrArg Prod.snd heq2)).elim

/-- the result of `run` is output, an error value or `unmodelled`: the case split over `RunResult` with `panic`
    excluded by `run_noPanic` (that the error is located at a construct: `run_fails_at_firstFailure`, C07) -/
theorem run_result (P : Prims) (O : OutPrims) (h : PrimsNoPanic P O) (cfg : Cfg) (fs : FS) (fuel : Nat)
    (src : Bytes) (line : Nat) (env : Env) :
    (∃ out, run P O cfg fs fuel src line env = .ok out) ∨ (∃ e, run P O cfg fs fuel src line env = .err e) ∨
    (∃ w, run P O cfg fs fuel src line env = .unmodelled w) := by
  cases hr : run P O cfg fs fuel src line env with
  | ok out => exact Or.inl ⟨out, rfl⟩
  | err e => exact Or.inr (Or.inl ⟨e, rfl⟩)
  | panic w => exact absurd hr (run_noPanic P O h cfg fs fuel src line env w)
  | unmodelled w => exact Or.inr (Or.inr ⟨w, rfl⟩)

/-- **C01 for the standard configuration.** With the standard value layer (`stdPrims`: comparison,
    `values.Call`, every modelled filter body; `stdOut`: `writeObject`) the hypothesis of
    `run_noPanic` is a theorem (`std_noPanic`, `Proofs/StdNoPanic.lean`): parsing and rendering
    never panic, unconditionally. -/
theorem run_std_noPanic (cfg : Cfg) (fs : FS) (fuel : Nat) (src : Bytes) (line : Nat) (env : Env) :
    ∀ w, run stdPrims stdOut cfg fs fuel src line env ≠ .panic w :=
  run_noPanic stdPrims stdOut std_noPanic cfg fs fuel src line env

/-- **The value filters `json`, `inspect`, `type` never panic** (`Liquid/Filters/Json.lean`): for every
    receiver and every argument list, `x | json: …`, `x | inspect: …` and `x | type: …` evaluated through
    `ApplyFilter` + `values.Call` end in a value, an error (wrong argument count, a drop yielding
    nil) or the explicit `unmodelled` marker — the model of `json.Marshal` (floats, strings, base64,
    sorted maps, structs, pointers, times) and of `%T` has no reachable panic site
    (`applyFilter_part_noPanic` on `jsonImpls_part`: the three bodies are a part of the table of `std_noPanic`, hence of `run_std_noPanic`). -/
theorem json_inspect_type_noPanic (name : Bytes) (hn : name ∈ [JsonF.bn "json", JsonF.bn "inspect", JsonF.bn "type"])
    (recv : GoVal) (args : List GoVal) :
    ∀ w, applyFilter (lookupImpl JsonF.impls) name recv args ≠ .panic w ∧ stdPrims.applyFilter name recv args ≠ .panic w :=
  fun w => ⟨(applyFilter_part_noPanic jsonImpls_part name recv args).ne_panic w,
    (applyFilter_part_noPanic (t := stdFilterImpls) (fun _ h => h) name recv args).ne_panic w⟩

-- the theorem is about calls that reach the bodies: `[1.5, "<"] | json` marshals, `nil | type` prints `<nil>`
example : (applyFilter (lookupImpl JsonF.impls) (JsonF.bn "json") (.slice .any [.flt .f64 (3/2), .str [60]]) []).isOk = true := by
  rw [applyFilter_sigAt _ 1 (name := JsonF.bn "json") (by decide +kernel)]
  decide +kernel
example : (applyFilter (lookupImpl JsonF.impls) (JsonF.bn "type") .nil []).isOk = true := by
  rw [applyFilter_sigAt _ 47 (name := JsonF.bn "type") (by decide +kernel)]
  decide +kernel

/-- **The filter `date` never panics** (`Liquid/Filters/Date.lean`): for every receiver (a time, a date
    string, nil, anything else) and every argument list, `x | date: …` evaluated through `ApplyFilter` +
    `values.Call` ends in a text, an error (a receiver that is no time, too many arguments, a format that
    does not convert) or the explicit `unmodelled` marker — the model of `tuesday.Strftime` (regexp,
    conversions, flags, widths), of the calendar and of `ParseDate` has no reachable panic site
    (`applyFilter_part_noPanic` on `dateImpls_part`: the body is a part of the table of `std_noPanic`, hence of `run_std_noPanic`). -/
theorem date_noPanic (recv : GoVal) (args : List GoVal) :
    ∀ w, applyFilter (lookupImpl DateF.impls) [100, 97, 116, 101] recv args ≠ .panic w ∧
      stdPrims.applyFilter [100, 97, 116, 101] recv args ≠ .panic w :=
  fun w => ⟨(applyFilter_part_noPanic dateImpls_part _ recv args).ne_panic w,
    (applyFilter_part_noPanic (t := stdFilterImpls) (fun _ h => h) _ recv args).ne_panic w⟩

-- the theorem is about calls that reach the body: `"2020-01-02" | date: "%s"` prints the unix time
example : (match applyFilter (lookupImpl DateF.impls) [100, 97, 116, 101] (.str [50, 48, 50, 48, 45, 48, 49, 45, 48, 50]) [.str [37, 115]] with
    | .ok (.str s) => s == [49, 53, 55, 55, 57, 50, 51, 50, 48, 48]
    | _ => false) = true := by
  rw [applyFilter_sigAt _ 11 (name := [100, 97, 116, 101]) (by decide +kernel)]
  decide +kernel

/-- **every registered filter has a modelled body**: the table `stdFilterImpls` the no-panic theorem
    covers has an entry for each of the 48 names of the registry `stdFilters` (= the table translator T2
    extracts from `filters.AddStandardFilters`, `filter_sigs_are_standard`), so `applyFilter` never answers
    "filter body not modelled". -/
theorem every_registered_filter_modelled :
    stdFilters.length = 48 ∧ ∀ sg ∈ stdFilters, (lookupImpl stdFilterImpls sg.name).isSome = true :=
  ⟨by decide +kernel, fun _ hsg =>
    lookupImpl_isSome_of_mem (stdFilterImpls_names_perm.mem_iff.mpr (List.mem_map_of_mem hsg))⟩
