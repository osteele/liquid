import Proofs.SrcRelRender
import Proofs.SrcShiftSource
import Proofs.RenderFile
/-!
# Rendering does not depend on the line numbers of the nodes, `include` tags included

The included file is compiled with the line of the include tag as its start line, so its nodes move with the tag.
`IncRel inc` (Proofs/SrcRelRender.lean): the include handler answers alike — same output, same status and failures up to the
line of a located error — for two lines of the tag that are zero together. It holds for the engine's handler at every fuel
(`incRel_incFuel`), because compiling a source text at another start line moves its lines and nothing else
(`compileSource_shift`), and then the render of the moved tree is related by `relM_renderNode` (induction on the fuel).
-/

theorem lineRelI_renderNode (c : RCtx) (hinc : IncRel c.inc) {g g' : Nat → Nat} (hz : ∀ x, g x = 0 ↔ g' x = 0) :
    ∀ n : Node, LineMRel StatusRel (renderNode c (n.rel g)) (renderNode c (n.rel g')) :=
  fun n => relM_renderNode c hz n (.inl hinc)

theorem lineRelI_renderBranches (c : RCtx) (hinc : IncRel c.inc) {g g' : Nat → Nat} (hz : ∀ x, g x = 0 ↔ g' x = 0) :
    ∀ bs : List (CondT × List Node),
      LineMRel StatusRel (renderBranches c (relBranches g bs)) (renderBranches c (relBranches g' bs)) :=
  fun bs => relM_renderBranches c hz bs (.inl hinc)

theorem lineRelI_renderCases (c : RCtx) (hinc : IncRel c.inc) {g g' : Nat → Nat} (hz : ∀ x, g x = 0 ↔ g' x = 0) (sel : GoVal) :
    ∀ cs : List (Option (Nat × List Expr) × List Node),
      LineMRel StatusRel (renderCases c sel (relCases g cs)) (renderCases c sel (relCases g' cs)) :=
  fun cs => relM_renderCases c hz sel cs (.inl hinc)

theorem rel_renderSrcWith (P : Prims) (O : OutPrims) (cfg : Cfg) (inner : Nat → Bytes → Env → Prog (Status × Bytes))
    (hin : IncRel inner) (l l' : Nat) (hll : l = 0 ↔ l' = 0) (src : Bytes) (env : Env) :
    ProgRel (fun r r' : Status × Bytes => StatusRel r.1 r'.1 ∧ r.2 = r'.2)
      (renderSrcWith P O cfg inner l src env) (renderSrcWith P O cfg inner l' src env) := by
  unfold renderSrcWith
  have hs : ∀ k, compileSource cfg.delims src k = CRes.rel (· + k) (relNodes (· + k)) (compileSource cfg.delims src 0) := fun k => by
    have := compileSource_shift cfg.delims src 0 k
    rwa [Nat.zero_add] at this
  rw [hs l, hs l']
  cases compileSource cfg.delims src 0 with
  | err e =>
    refine .fail _ _ ⟨rfl, rfl, rfl, ?_⟩
    show e.line + l = 0 ↔ e.line + l' = 0
    omega
  | panic w => exact .panic w
  | unmodelled w => exact .unmodelled w
  | ok root =>
    simp only [CRes.rel]
    have hz : ∀ x : Nat, x + l = 0 ↔ x + l' = 0 := fun x => by omega
    have hroot := relM_renderRoot { P := P, O := O, cfg := cfg, inc := inner } hz root (.inl hin) env
    refine hroot.sim.runPure_elim (fun out st st' h2 => ?_) (fun _ _ _ he => .fail _ _ he) (fun _ _ => .panic _) (fun _ _ => .unmodelled _)
      nofun nofun (fun _ _ _ he => he.elim)
    cases st <;> cases st' <;> first
      | exact False.elim h2
      | exact .ret _ _ ⟨True.intro, rfl⟩
      | exact .ret _ _ ⟨h2, rfl⟩

theorem incRel_renderFileWith (P : Prims) (O : OutPrims) (cfg : Cfg) (fs : FS)
    (inner : Nat → Bytes → Env → Prog (Status × Bytes)) (hin : IncRel inner) : IncRel (renderFileWith P O cfg fs inner) := by
  intro l l' fn env hll
  exact renderFileWith_cases fs fn (fun _ _ => .fail (.plain _) (.plain _) rfl)
    fun src _ => rel_renderSrcWith P O cfg inner hin l l' hll src env

theorem incRel_incFuel (P : Prims) (O : OutPrims) (cfg : Cfg) (fs : FS) : ∀ fuel : Nat, IncRel (incFuel P O cfg fs fuel)
  | 0 => fun _ _ _ _ _ => .fail (.plain _) (.plain _) rfl
  | n+1 => incRel_renderFileWith P O cfg fs _ (incRel_incFuel P O cfg fs n)

theorem incRel_mkCtx (P : Prims) (O : OutPrims) (cfg : Cfg) (fs : FS) (fuel : Nat) : IncRel (mkCtx P O cfg fs fuel).inc :=
  incRel_incFuel P O cfg fs fuel

/-- **rendering depends on the line numbers of the nodes only in the line of an error**, for every compiled tree of the
    engine's own context — `include` tags at any depth included -/
theorem lineRel_renderBlockBody_engine (P : Prims) (O : OutPrims) (cfg : Cfg) (fs : FS) (fuel : Nat) {g g' : Nat → Nat}
    (hz : ∀ x, g x = 0 ↔ g' x = 0) (body : List Node) :
    LineMRel StatusRel (renderBlockBody (mkCtx P O cfg fs fuel) (relNodes g body))
      (renderBlockBody (mkCtx P O cfg fs fuel) (relNodes g' body)) :=
  relM_renderBlockBody _ hz body (.inl (incRel_mkCtx P O cfg fs fuel))
