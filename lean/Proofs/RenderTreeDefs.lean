import Liquid.Render
/-!
# Small definitions about lists, statuses and node trees that several inductions over the render tree share

`All2 R` relates two lists element by element (with what holds of it for every relation: the list operations, `map`,
the two sides as one list of pairs, membership, `all`/`any`); `Status.kind` forgets the error a loop sentinel carries; `Node.rel g` renumbers
the lines of a compiled tree; `Node.noIncl` says that a tree has no `include` node; `Node.trim_or_ne`, `Node.text_or_ne` split on one node form.
-/

inductive All2 {α : Type} (R : α → α → Prop) : List α → List α → Prop where
  | nil : All2 R [] []
  | cons {a a' : α} {as as' : List α} : R a a' → All2 R as as' → All2 R (a :: as) (a' :: as')

theorem All2.append {α} {R : α → α → Prop} {xs xs' ys ys' : List α} (h : All2 R xs xs') (h' : All2 R ys ys') :
    All2 R (xs ++ ys) (xs' ++ ys') := by
  induction h with
  | nil => exact h'
  | cons hx _ ih => exact .cons hx ih

theorem All2.reverse {α} {R : α → α → Prop} {xs xs' : List α} (h : All2 R xs xs') : All2 R xs.reverse xs'.reverse := by
  induction h with
  | nil => exact .nil
  | cons hx _ ih => rw [List.reverse_cons, List.reverse_cons]; exact ih.append (.cons hx .nil)

theorem All2.take {α} {R : α → α → Prop} : ∀ (n : Nat) {xs xs' : List α}, All2 R xs xs' → All2 R (xs.take n) (xs'.take n)
  | 0, _, _, _ => .nil
  | _ + 1, _, _, .nil => .nil
  | n + 1, _, _, .cons hx h => .cons hx (All2.take n h)

theorem All2.drop {α} {R : α → α → Prop} : ∀ (n : Nat) {xs xs' : List α}, All2 R xs xs' → All2 R (xs.drop n) (xs'.drop n)
  | 0, _, _, h => h
  | _ + 1, _, _, .nil => .nil
  | n + 1, _, _, .cons _ h => All2.drop n h

theorem All2.ite {α} {R : α → α → Prop} {c : Prop} [Decidable c] {xs xs' ys ys' : List α} (h : All2 R xs xs') (h' : All2 R ys ys') :
    All2 R (if c then xs else ys) (if c then xs' else ys') := by
  split
  · exact h
  · exact h'

theorem All2.selectItems {R : GoVal → GoVal → Prop} {xs xs' : List GoVal} (h : All2 R xs xs') (rev : Bool) (off lim : Option Int) :
    All2 R (selectItems rev off lim xs) (selectItems rev off lim xs') := by
  have ha : All2 R (if rev then xs.reverse else xs) (if rev then xs'.reverse else xs') := .ite h.reverse h
  cases off <;> cases lim
  · exact ha
  · exact .ite (ha.take _) ha
  · exact .ite (ha.drop _) ha
  · exact .ite ((All2.ite (ha.drop _) ha).take _) (.ite (ha.drop _) ha)

theorem All2.length_eq {α} {R : α → α → Prop} {xs xs' : List α} (h : All2 R xs xs') : xs.length = xs'.length := by
  induction h with
  | nil => rfl
  | cons _ _ ih => simp [ih]

theorem All2.refl {α} {R : α → α → Prop} (hR : ∀ a, R a a) : ∀ xs : List α, All2 R xs xs
  | [] => .nil
  | x :: xs => .cons (hR x) (All2.refl hR xs)

theorem All2.imp {α : Type} {S T : α → α → Prop} (hST : ∀ a b, S a b → T a b) {xs ys : List α} (h : All2 S xs ys) : All2 T xs ys := by
  induction h with
  | nil => exact .nil
  | cons hx _ ih => exact .cons (hST _ _ hx) ih

theorem All2.map {α β : Type} {S : α → α → Prop} {T : β → β → Prop} {f g : α → β} (hf : ∀ a b, S a b → T (f a) (g b))
    {xs ys : List α} (h : All2 S xs ys) : All2 T (xs.map f) (ys.map g) := by
  induction h with
  | nil => exact .nil
  | cons hx _ ih => exact .cons (hf _ _ hx) ih

theorem All2.flip {α : Type} {S : α → α → Prop} {xs ys : List α} (h : All2 S xs ys) : All2 (fun a b => S b a) ys xs := by
  induction h with
  | nil => exact .nil
  | cons hx _ ih => exact .cons hx ih

theorem All2.mem_left {α : Type} {S : α → α → Prop} {xs ys : List α} (h : All2 S xs ys) : ∀ a ∈ xs, ∃ b ∈ ys, S a b := by
  induction h with
  | nil => exact nofun
  | cons hx _ ih =>
    intro a ha
    rcases List.mem_cons.mp ha with rfl | ha'
    · exact ⟨_, List.mem_cons_self, hx⟩
    · exact (ih a ha').imp fun b h => ⟨List.mem_cons_of_mem _ h.1, h.2⟩

theorem All2.mem_right {α : Type} {S : α → α → Prop} {xs ys : List α} (h : All2 S xs ys) : ∀ b ∈ ys, ∃ a ∈ xs, S a b :=
  h.flip.mem_left

theorem All2.zip {α} {R : α → α → Prop} : ∀ {xs xs' : List α}, All2 R xs xs' →
    ∃ l : List (α × α), l.map (·.1) = xs ∧ l.map (·.2) = xs' ∧ ∀ p ∈ l, R p.1 p.2
  | _, _, .nil => ⟨[], rfl, rfl, fun _ h => by cases h⟩
  | _, _, .cons (a := x) (a' := x') hx h => by
    obtain ⟨l, h1, h2, h3⟩ := h.zip
    refine ⟨(x, x') :: l, by simp [h1], by simp [h2], fun p hp => ?_⟩
    rcases List.mem_cons.mp hp with rfl | hp
    · exact hx
    · exact h3 p hp

theorem All2.of_zip {α} {R : α → α → Prop} : ∀ l : List (α × α), (∀ p ∈ l, R p.1 p.2) → All2 R (l.map (·.1)) (l.map (·.2))
  | [], _ => .nil
  | p :: l, h => .cons (h p List.mem_cons_self) (All2.of_zip l fun q hq => h q (List.mem_cons_of_mem _ hq))

theorem All2.all_eq {α} {R : α → α → Prop} {p : α → Bool} (hp : ∀ x x', R x x' → p x = p x') :
    ∀ {xs xs' : List α}, All2 R xs xs' → xs.all p = xs'.all p
  | _, _, .nil => rfl
  | _, _, .cons h hs => by simp only [List.all_cons, hp _ _ h, All2.all_eq hp hs]

theorem All2.any_eq {α} {R : α → α → Prop} {p : α → Bool} (hp : ∀ x x', R x x' → p x = p x') :
    ∀ {xs xs' : List α}, All2 R xs xs' → xs.any p = xs'.any p
  | _, _, .nil => rfl
  | _, _, .cons h hs => by simp only [List.any_cons, hp _ _ h, All2.any_eq hp hs]

/-- how a fragment ended: normally, with `break`, with `continue` -/
inductive SK where
  | done | brk | cont
  deriving DecidableEq, Repr

def Status.kind : Status → SK
  | .done => .done
  | .brk _ => .brk
  | .cont _ => .cont

theorem Status.kind_wrap (path : Bytes) (loc : Loc) (st : Status) : (st.wrap path loc).kind = st.kind := by
  cases st <;> rfl

def CondT.rel (g : Nat → Nat) : CondT → CondT
  | .expr l e => .expr (g l) e
  | .notExpr l e => .notExpr (g l) e
  | .always => .always

mutual
def Node.rel (g : Nat → Nat) : Node → Node
  | .text line src => .text (g line) src
  | .obj line e => .obj (g line) e
  | .raw sl => .raw sl
  | .trim l => .trim l
  | .assign line x e => .assign (g line) x e
  | .capture line x body => .capture (g line) x (relNodes g body)
  | .ifB line bs => .ifB (g line) (relBranches g bs)
  | .caseB line subj cs => .caseB (g line) subj (relCases g cs)
  | .loop line tr var e mods body clauses => .loop (g line) tr var e mods (relNodes g body) (relNClauses g clauses)
  | .cycle line gr v0 rest => .cycle (g line) gr v0 rest
  | .brk line => .brk (g line)
  | .cont line => .cont (g line)
  | .incl line args => .incl (g line) args
def relNodes (g : Nat → Nat) : List Node → List Node
  | [] => []
  | n :: ns => n.rel g :: relNodes g ns
def relBranches (g : Nat → Nat) : List (CondT × List Node) → List (CondT × List Node)
  | [] => []
  | (t, body) :: rest => (t.rel g, relNodes g body) :: relBranches g rest
def relCases (g : Nat → Nat) : List (Option (Nat × List Expr) × List Node) → List (Option (Nat × List Expr) × List Node)
  | [] => []
  | (none, body) :: rest => (none, relNodes g body) :: relCases g rest
  | (some (l, es), body) :: rest => (some (g l, es), relNodes g body) :: relCases g rest
def relNClauses (g : Nat → Nat) : List (List Node) → List (List Node)
  | [] => []
  | c :: cs => relNodes g c :: relNClauses g cs
end

mutual
theorem Node.rel_id : ∀ n : Node, n.rel id = n
  | .text .. | .obj .. | .raw _ | .trim _ | .assign .. | .cycle .. | .brk _ | .cont _ | .incl .. => rfl
  | .capture l x b => by rw [Node.rel, relNodes_id b]; rfl
  | .ifB l bs => by rw [Node.rel, relBranches_id bs]; rfl
  | .caseB l s cs => by rw [Node.rel, relCases_id cs]; rfl
  | .loop l tr v e m b cl => by rw [Node.rel, relNodes_id b, relNClauses_id cl]; rfl
theorem relNodes_id : ∀ ns : List Node, relNodes id ns = ns
  | [] => rfl
  | n :: ns => by rw [relNodes, Node.rel_id n, relNodes_id ns]
theorem relBranches_id : ∀ bs : List (CondT × List Node), relBranches id bs = bs
  | [] => rfl
  | (t, b) :: r => by rw [relBranches, relNodes_id b, relBranches_id r]; cases t <;> rfl
theorem relCases_id : ∀ cs : List (Option (Nat × List Expr) × List Node), relCases id cs = cs
  | [] => rfl
  | (none, b) :: r => by rw [relCases, relNodes_id b, relCases_id r]
  | (some (l, es), b) :: r => by rw [relCases, relNodes_id b, relCases_id r]; rfl
theorem relNClauses_id : ∀ cs : List (List Node), relNClauses id cs = cs
  | [] => rfl
  | c :: r => by rw [relNClauses, relNodes_id c, relNClauses_id r]
end

theorem relNodes_append (g : Nat → Nat) : ∀ (a b : List Node), relNodes g (a ++ b) = relNodes g a ++ relNodes g b
  | [], _ => rfl
  | n :: ns, b => by simp [relNodes, relNodes_append g ns b]

mutual
def Node.noIncl : Node → Bool
  | .incl _ _ => false
  | .capture _ _ body => noInclList body
  | .ifB _ bs => noInclBranches bs
  | .caseB _ _ cs => noInclCases cs
  | .loop _ _ _ _ _ body clauses => noInclList body && noInclClauses clauses
  | _ => true
def noInclList : List Node → Bool
  | [] => true
  | n :: ns => n.noIncl && noInclList ns
def noInclBranches : List (CondT × List Node) → Bool
  | [] => true
  | (_, body) :: rest => noInclList body && noInclBranches rest
def noInclCases : List (Option (Nat × List Expr) × List Node) → Bool
  | [] => true
  | (_, body) :: rest => noInclList body && noInclCases rest
def noInclClauses : List (List Node) → Bool
  | [] => true
  | c :: cs => noInclList c && noInclClauses cs
end

/-! An induction over the tree that needs a hypothesis `p` for include nodes only asks `p ∨ noIncl` of each subtree; these
take the alternative apart along the conjunctions of `noIncl`. -/

theorem orAnd_left {p : Prop} {a b : Bool} (h : p ∨ (a && b) = true) : p ∨ a = true :=
  h.imp_right fun hn => (Bool.and_eq_true_iff.mp hn).1

theorem orAnd_right {p : Prop} {a b : Bool} (h : p ∨ (a && b) = true) : p ∨ b = true :=
  h.imp_right fun hn => (Bool.and_eq_true_iff.mp hn).2

theorem Node.trim_or_ne (n : Node) : (∃ b, n = .trim b) ∨ ∀ b, n ≠ .trim b := by
  cases n with
  | trim b => exact .inl ⟨b, rfl⟩
  | _ => exact .inr (fun _ h => nomatch h)

theorem Node.text_or_ne (n : Node) : (∃ l u, n = .text l u) ∨ ∀ l u, n ≠ .text l u := by
  cases n with
  | text l u => exact .inl ⟨l, u, rfl⟩
  | _ => exact .inr (fun _ _ h => nomatch h)

