import Proofs.MapPermEqual
import Proofs.RepEqFilters
import Proofs.MapPermStd
/-!
# The standard filters and the order of map entries (helper lemmas for C02)

A filter is applied to its receiver and arguments after `values.Call` converted them to the parameter
types. `Convert(·, []any)` of a map sorts the entries (`SortedMapKeys`), `Convert(·, string)` prints
with `fmt.Sprint`, which sorts them too: related inputs become related (or equal) arguments
(`convert_mp`; `convRel_mp` is what the call layer of `Proofs/FilterLogic.lean` needs), and each body maps related
arguments to related results (`ImplRespectsM`).
-/

open GoVal MapOrder Cmp

def ArgValRelM : ParamTy → GoVal → GoVal → Prop
  | .anys, c, c' => ∃ ys ys', c = .slice .any ys ∧ c' = .slice .any ys' ∧ MPL ys ys'
  | .any, c, c' => MP c c'
  | _, c, c' => c = c'

theorem ArgValRelM.mp {t : ParamTy} {c c' : GoVal} (h : ArgValRelM t c c') : MP c c' := by
  cases t <;> simp only [ArgValRelM] at h <;> first
    | exact h
    | (subst h; exact .refl _)
    | (obtain ⟨ys, ys', rfl, rfl, hl⟩ := h; exact .slice _ hl)

theorem ArgValRelM.scalar {t : ParamTy} (ht : t.isScalar = true) {c c' : GoVal} (h : ArgValRelM t c c') : c = c' := by
  cases t <;> simp_all [ParamTy.isScalar, ArgValRelM]

theorem ArgValRelM.of_eq_scalar {t : ParamTy} (ht : t.isScalar = true) (c : GoVal) : ArgValRelM t c c := by
  cases t <;> simp_all [ParamTy.isScalar, ArgValRelM]

theorem MPF.append : ∀ {xs ys xs' ys' : List (Bytes × GoVal)}, MPF xs ys → MPF xs' ys' → MPF (xs ++ xs') (ys ++ ys')
  | _, _, _, _, .nil, h => h
  | _, _, _, _, .cons k hx h, h' => .cons k hx (MPF.append h h')

theorem MPF.reverse : ∀ {xs ys : List (Bytes × GoVal)}, MPF xs ys → MPF xs.reverse ys.reverse
  | _, _, .nil => .nil
  | _, _, .cons k hx h => by
    simp only [List.reverse_cons]
    exact MPF.append (MPF.reverse h) (.cons k hx .nil)

theorem convAnysL_mp {u u' : GoVal} (h : MP u u') : RRel true (ArgValRelM .anys) (convAnysL u) (convAnysL u') := by
  have key : ∀ {w w' : GoVal}, View MP w w' → RRel true (ArgValRelM .anys) (convAnysL w) (convAnysL w') := fun hw =>
    ((hw.convAnysL MP.refl fun _ _ h => h.toLiquid).mono fun _ _ ⟨ys, ys', e, e', hl, _, _⟩ => ⟨ys, ys', e, e', hl.mpl⟩).weaken
  have hv := h.view
  -- `Convert` rejects a pointer and a drop; every other value is its own `unwrap`
  cases h using MP.elim with
  | ptr | drop => rfl
  | refl u => exact key (.same u)
  | _ => exact key hv

theorem convert_anys_mp {a a' : GoVal} (h : MP a a') :
    RRel true (ArgValRelM .anys) (convert a .anys) (convert a' .anys) := by
  rw [convert_anys_eq, convert_anys_eq]
  exact convAnysL_mp h.toLiquid

theorem convert_scalar_mp {t : ParamTy} (ht : t.isScalar = true) {a a' : GoVal} (h : MP a a') :
    RRel true (ArgValRelM t) (convert a t) (convert a' t) := by
  have key : RRel true Eq (convert a t) (convert a' t) := by
    rcases h.toLiquid.cases_rigid with e | ⟨hr, hr'⟩
    · rw [convert_congr_toLiquid e t]
      exact rrel_eq_refl _
    · -- two values with parts: only `Convert(·, string)` looks inside, and prints them
      rw [convert_scalar_of_parts ht hr, convert_scalar_of_parts ht hr']
      cases t <;> first
        | exact rrel_eq_refl _
        | exact rrel_true_bind_soft (sprintRR_mp h.toLiquid) (fun _ => rrel_eq_refl _)
  cases t <;> first | exact key | exact Bool.noConfusion ht

theorem convert_any_mp {a a' : GoVal} (h : MP a a') : RRel true (ArgValRelM .any) (convert a .any) (convert a' .any) := by
  show RRel true MP (convAny a) (convAny a')
  unfold convAny
  have ht := h.toLiquid
  generalize a.toLiquid = u, a'.toLiquid = u' at ht
  have h0 := ht
  cases ht with
  | refl => exact RRel.of_eq MP.refl rfl
  | _ => exact h0

theorem convert_mp (t : ParamTy) {a a' : GoVal} (h : MP a a') : RRel true (ArgValRelM t) (convert a t) (convert a' t) := by
  cases ht : t.isScalar with
  | true => exact convert_scalar_mp ht h
  | false =>
    cases t <;> simp [ParamTy.isScalar] at ht
    · exact convert_any_mp h
    · exact convert_anys_mp h

theorem zero_argValRelM (t : ParamTy) : ArgValRelM t t.zero t.zero := by
  cases t <;> simp [ArgValRelM, ParamTy.zero, MP.refl]
  exact .nil

theorem mp_nil_iff {a a' : GoVal} (h : MP a a') : a = .nil ↔ a' = .nil := by
  constructor
  · rintro rfl; exact h.eq_of_rigid_left rfl
  · rintro rfl; exact h.eq_of_rigid_right rfl

theorem convRel_mp : ConvRel true MP ArgValRelM where
  convert t := convert_mp t
  nil_iff := mp_nil_iff
  zero := zero_argValRelM

def ExRelM : Except Cause GoVal → Except Cause GoVal → Prop
  | .ok v, .ok v' => MP v v'
  | .error c, .error c' => c = c'
  | _, _ => False

theorem bytesToString_mp {v v' : GoVal} (h : MP v v') : MP (bytesToString v) (bytesToString v') := by
  have h0 := h
  cases h with
  | refl => exact .refl _
  | _ => exact h0

abbrev ArgRelM : Param → Arg → Arg → Prop := ArgRelG true ArgValRelM

abbrev ArgsRelM : List Param → List Arg → List Arg → Prop := ArgsRelG true ArgValRelM

abbrev ImplRespectsM (ps : List Param) (f : FilterImpl) : Prop := ImplRespectsG true true ArgValRelM MP ps f

def FilterRespectsM (name : Bytes) : Prop :=
  ∀ r r' as as', MP r r' → All2 MP as as' →
    RRel true MP (stdPrims.applyFilter name r as) (stdPrims.applyFilter name r' as')

theorem filterRespectsM_of_impl (name : Bytes)
    (h : ∀ sg f, lookupSig name = some sg → lookupImpl stdFilterImpls name = some f → ImplRespectsM sg.params f) :
    FilterRespectsM name :=
  convRel_mp.filterRespects id (fun _ _ => bytesToString_mp) name h

theorem exrelM_refl (r : Res Cause (Except Cause GoVal)) : RRel true ExRelM r r := exRelG_refl MP.refl r

theorem exrelM_ok {v v' : GoVal} (h : MP v v') : RRel true ExRelM (.ok (.ok v)) (.ok (.ok v')) := h

theorem argsRelM_cons {p : Param} {ps : List Param} {cs cs' : List Arg} (h : ArgsRelM (p :: ps) cs cs') :
    ∃ a as a' as', cs = a :: as ∧ cs' = a' :: as' ∧ ArgRelM p a a' ∧ ArgsRelM ps as as' :=
  argsRelG_cons h

theorem argRelM_val {t : ParamTy} {a a' : Arg} (h : ArgRelM (.val t) a a') : ∃ c c', a = .val c ∧ a' = .val c' ∧ ArgValRelM t c c' :=
  argRelG_val h

/-- a filter all of whose parameters are plain scalars gets the same arguments from related inputs -/
theorem implRespectsM_of_valScalar {ps : List Param} (h : paramsAll ParamTy.isScalar false ps = true) (f : FilterImpl) : ImplRespectsM ps f :=
  implRespectsG_of_eq (s := true) (q := ParamTy.isScalar) (fun _ _ _ ht => ArgValRelM.scalar ht) MP.refl h f

/-! ### The string filters (`StrGlue.impl`: the arguments are collected left to right, then the body runs) -/

theorem all_shape_rel (p : Arg → Bool) (hp1 : ∀ c c', p (.val c) = p (.val c')) (hp2 : ∀ r r', p (.fn (some r)) = p (.fn (some r'))) :
    ∀ {ps : List Param} {cs cs' : List Arg}, ArgsRelM ps cs cs' → cs.all p = cs'.all p
  | [], _, _, h => by obtain ⟨rfl, rfl⟩ := argsRelG_nil h; rfl
  | .val t :: ps, _, _, h => by
    obtain ⟨a, as, a', as', rfl, rfl, h1, h2⟩ := argsRelM_cons h
    obtain ⟨c, c', rfl, rfl, _⟩ := argRelM_val h1
    simp only [List.all_cons, hp1 c c', all_shape_rel p hp1 hp2 h2]
  | .fn t :: ps, _, _, h => by
    obtain ⟨a, as, a', as', rfl, rfl, h1, h2⟩ := argsRelM_cons h
    rcases argRelG_fn h1 with ⟨rfl, rfl⟩ | ⟨r, r', rfl, rfl, _⟩
    · simp only [List.all_cons, all_shape_rel p hp1 hp2 h2]
    · simp only [List.all_cons, hp2 r r', all_shape_rel p hp1 hp2 h2]

theorem strCollect_mp : ∀ {ps : List Param} {cs cs' : List Arg}, scalarParams ps = true → ArgsRelM ps cs cs' →
    RRel true Eq (StrGlue.collect cs) (StrGlue.collect cs')
  | [], _, _, _, h => by obtain ⟨rfl, rfl⟩ := argsRelG_nil h; exact rrel_eq_refl _
  | .val t :: ps, _, _, hp, h => by
    simp only [scalarParams, Bool.and_eq_true] at hp
    obtain ⟨a, as, a', as', rfl, rfl, h1, h2⟩ := argsRelM_cons h
    obtain ⟨c, c', rfl, rfl, hc⟩ := argRelM_val h1
    rw [ArgValRelM.scalar hp.1 hc]
    simp only [StrGlue.collect]
    exact RRel.bind (strCollect_mp hp.2 h2) (fun r r' e => by subst e; exact rrel_eq_refl _)
  | .fn t :: ps, _, _, hp, h => by
    simp only [scalarParams, Bool.and_eq_true] at hp
    obtain ⟨a, as, a', as', rfl, rfl, h1, h2⟩ := argsRelM_cons h
    rcases argRelG_fn h1 with ⟨rfl, rfl⟩ | ⟨r, r', rfl, rfl, hr⟩
    · simp only [StrGlue.collect]
      rw [all_shape_rel _ (fun _ _ => rfl) (fun _ _ => rfl) h2]
      exact rrel_eq_refl _
    · simp only [StrGlue.collect]
      refine RRel.bind hr (fun v v' hv => ?_)
      rw [ArgValRelM.scalar hp.1 hv]
      exact RRel.bind (strCollect_mp hp.2 h2) (fun r r' e => by subst e; exact rrel_eq_refl _)

theorem sliceEarly_rel (name : String) {ps : List Param} {cs cs' : List Arg} (hp : scalarParams ps = true) (h : ArgsRelM ps cs cs') :
    StrGlue.sliceEarly name cs = StrGlue.sliceEarly name cs' := by
  cases ps with
  | nil => obtain ⟨rfl, rfl⟩ := argsRelG_nil h; rfl
  | cons p ps =>
    obtain ⟨a, as, a', as', rfl, rfl, h1, h2⟩ := argsRelM_cons h
    cases p with
    | val t =>
      simp only [scalarParams, Bool.and_eq_true] at hp
      obtain ⟨c, c', rfl, rfl, hc⟩ := argRelM_val h1
      rw [ArgValRelM.scalar hp.1 hc]
      unfold StrGlue.sliceEarly
      congr 1
      cases c' with
      | str s => cases s <;> rfl
      | _ => rfl
    | fn t =>
      rcases argRelG_fn h1 with ⟨rfl, rfl⟩ | ⟨r, r', rfl, rfl, _⟩ <;> simp [StrGlue.sliceEarly]

theorem strGlue_respectsM (name : String) {ps : List Param} (hp : scalarParams ps = true) : ImplRespectsM ps (StrGlue.impl name) := by
  intro cs cs' h
  unfold StrGlue.impl
  rw [sliceEarly_rel name hp h]
  split
  · exact exrelM_refl _
  · exact RRel.bind (strCollect_mp hp h) (fun r r' e => by subst e; exact exrelM_refl _)

theorem argsRelM_anys1 {cs cs' : List Arg} (h : ArgsRelM [.val .anys] cs cs') :
    ∃ ys ys', cs = [.val (.slice .any ys)] ∧ cs' = [.val (.slice .any ys')] ∧ MPL ys ys' := by
  obtain ⟨_, _, rfl, rfl, ys, ys', rfl, rfl, hn⟩ := argsRelG_val1 h
  exact ⟨ys, ys', rfl, rfl, hn⟩

namespace ArrF

theorem eager_ok_mp {f : List GoVal → R GoVal} {cs cs' : List Arg} {vs vs' : List GoVal}
    (hc : FilterImpl.ofEager.collect cs = .ok vs) (hc' : FilterImpl.ofEager.collect cs' = .ok vs')
    (h : RRel true MP (f vs) (f vs')) : RRel true ExRelM (eager f cs) (eager f cs') := by
  rw [eager_of_collect hc, eager_of_collect hc']
  generalize f vs = r, f vs' = r' at h ⊢
  cases r <;> cases r' <;> exact h

theorem implRespectsM_anys {f : List GoVal → R GoVal}
    (h : ∀ {ys ys' : List GoVal}, MPL ys ys' → RRel true MP (f [.slice .any ys]) (f [.slice .any ys'])) :
    ImplRespectsM [.val .anys] (eager f) := by
  intro cs cs' hc
  obtain ⟨ys, ys', rfl, rfl, hn⟩ := argsRelM_anys1 hc
  exact eager_ok_mp rfl rfl (h hn)

theorem implRespectsM_anys2 {u : ParamTy} {f : List GoVal → R GoVal}
    (h : ∀ {xs xs' : List GoVal} {k k' : GoVal}, MPL xs xs' → ArgValRelM u k k' →
      RRel true MP (f [.slice .any xs, k]) (f [.slice .any xs', k'])) : ImplRespectsM [.val .anys, .val u] (eager f) := by
  intro cs cs' hc
  obtain ⟨_, _, k, k', rfl, rfl, ⟨xs, xs', rfl, rfl, hx⟩, hk⟩ := argsRelG_val2 hc
  exact eager_ok_mp rfl rfl (h hx hk)

theorem first_respectsM : ImplRespectsM [.val .anys] (eager first) :=
  implRespectsM_anys fun hn => by
    rw [first, first, firstF_head, firstF_head]
    exact hn.head

theorem last_respectsM : ImplRespectsM [.val .anys] (eager last) :=
  implRespectsM_anys fun hn => by
    rw [last, last, lastF_eq, lastF_eq]
    exact hn.getLast

theorem reverse_respectsM : ImplRespectsM [.val .anys] (eager reverse) :=
  implRespectsM_anys fun hn => by
    rw [reverse, reverse, reverseF_eq, reverseF_eq]
    exact MP.slice _ hn.reverse

theorem compactF_mp : ∀ {ys ys' : List GoVal}, MPL ys ys' → MPL (compactF ys) (compactF ys')
  | _, _, .nil => .nil
  | _, _, .cons hx h => by
    simp only [compactF, isNil_mp hx]
    split
    · exact compactF_mp h
    · exact .cons hx (compactF_mp h)

theorem compact_respectsM : ImplRespectsM [.val .anys] (eager compact) :=
  implRespectsM_anys fun hn => MP.slice _ (compactF_mp hn)

theorem concat_respectsM : ImplRespectsM [.val .anys, .val .anys] (eager concat) :=
  implRespectsM_anys2 fun hx ⟨_, _, e, e', hn⟩ => by
    subst e e'
    exact MP.slice _ (hx.append hn)

theorem sprintNonNil_mp : ∀ {ys ys' : List GoVal}, MPL ys ys' → RRel true Eq (sprintNonNil ys) (sprintNonNil ys')
  | _, _, .nil => rrel_eq_refl _
  | _, _, .cons hx h => by
    simp only [sprintNonNil, isNil_mp hx]
    split
    · exact sprintNonNil_mp h
    · exact rrel_true_bind_soft (sprintRR_mp hx) (fun _ => rrel_true_bind_soft (sprintNonNil_mp h) (fun _ => rrel_eq_refl _))

theorem joinF_mp {xs xs' : List GoVal} (hx : MPL xs xs') (sep : Bytes) : RRel true MP (joinF xs sep) (joinF xs' sep) := by
  unfold joinF
  exact RRel.bind (sprintNonNil_mp hx) (fun ss ss' e => by subst e; exact MP.refl _)

theorem wrapOk_mp {r r' : R GoVal} (h : RRel true MP r r') :
    RRel true ExRelM (match r with | .ok v => ret v | .err c => Res.err c | .panic w => .panic w | .unmodelled w => .unmodelled w)
      (match r' with | .ok v => ret v | .err c => Res.err c | .panic w => .panic w | .unmodelled w => .unmodelled w) := by
  cases r <;> cases r' <;> exact h

theorem eager_val_fn_some (f : List GoVal → R GoVal) (c : GoVal) (r : Res Cause GoVal) :
    eager f [.val c, .fn (some r)] = r.bind fun v => eager f [.val c, .val v] := by
  cases r <;> rfl

theorem join_respectsM : ImplRespectsM [.val .anys, .fn .str] (eager join) := by
  intro cs cs' h
  obtain ⟨_, _, a, a', rfl, rfl, ⟨xs, xs', rfl, rfl, hx⟩, ha⟩ := argsRelG_val_fn h
  rcases argRelG_fn ha with ⟨rfl, rfl⟩ | ⟨r, r', rfl, rfl, hr⟩
  · exact eager_ok_mp rfl rfl (joinF_mp hx [32])
  · rw [eager_val_fn_some, eager_val_fn_some]
    refine RRel.bind hr (fun v v' e => ?_)
    obtain rfl : v = v' := e
    -- a separator that is no string: the body rejects its arguments, whatever the array holds
    cases v with
    | str sep => exact eager_ok_mp rfl rfl (joinF_mp hx sep)
    | _ => exact exrelM_refl _

theorem map_respectsM : ImplRespectsM [.val .anys, .val .str] (eager map) :=
  implRespectsM_anys2 fun {_ _ k k'} hx hk => by
    obtain rfl : k = k' := hk
    cases k with
    | str s => exact RRel.bind (hasView_mp.mapF (fun _ _ => MP.unwrap) s hx.all2) fun vs vs' hvs => MP.slice _ hvs.mpl
    | _ => exact rfl

end ArrF

theorem call_bind_mp {t : ParamTy} (ht : t.isScalar = true) {a a' : Arg} (h : ArgRelM (.fn t) a a') (d : GoVal)
    (k : GoVal → Res Cause (Except Cause GoVal)) :
    RRel true ExRelM ((a.call d).bind k) ((a'.call d).bind k) := by
  rcases argRelG_fn h with ⟨rfl, rfl⟩ | ⟨r, r', rfl, rfl, hr⟩
  · exact exrelM_refl _
  · simp only [Arg.call]
    exact RRel.bind hr (fun v v' e => by rw [ArgValRelM.scalar ht e]; exact exrelM_refl _)

namespace Num

theorem argsRelM_any1 {cs cs' : List Arg} (h : ArgsRelM [.val .any] cs cs') :
    ∃ v v', cs = [.val v] ∧ cs' = [.val v'] ∧ MP v v' :=
  argsRelG_val1 h

theorem size_respectsM : ImplRespectsM [.val .any] size := by
  intro cs cs' h
  obtain ⟨v, v', rfl, rfl, hv⟩ := argsRelM_any1 h
  simp only [size]
  have ht := hv.toLiquid
  generalize v.toLiquid = u at ht ⊢
  generalize v'.toLiquid = u' at ht ⊢
  cases ht with
  | refl => exact exrelM_refl _
  | slice t hl => simp only [hl.length_eq]; exact exrelM_refl _
  | array t hl => simp only [hl.length_eq]; exact exrelM_refl _
  | mapSlice hm => simp only [hm.length_eq]; exact exrelM_refl _
  | _ => exact exrelM_refl _

theorem isEmpty_mp {v v' : GoVal} (h : MP v v') : isEmpty v = isEmpty v' := by
  cases h using MP.elim with
  | slice t hl => exact isEmpty_len hl.length_eq
  | array t hl => exact isEmpty_len hl.length_eq
  | map kt vt h => exact isEmpty_len (mapFind_mp h .nil).2.2.1
  | mapSlice hm => exact isEmpty_len hm.length_eq
  | keyedMap hn hf => exact isEmpty_len hf.length_eq
  | _ => rfl

theorem default_respectsM : ImplRespectsM [.val .any, .val .any] default := by
  intro cs cs' h
  obtain ⟨v, v', dv, dv', rfl, rfl, hv, hd⟩ := argsRelG_val2 h
  have key : ∀ c : Bool, RRel true ExRelM (.ok (.ok (if c = true then dv else v))) (.ok (.ok (if c = true then dv' else v'))) := by
    intro c
    cases c
    · exact exrelM_ok hv
    · exact exrelM_ok hd
  have hi := isEmpty_mp (MP.toLiquid hv)
  have hv0 : MP v v' := hv
  simp only [default, ret]
  cases hv0 with
  | refl => exact key _
  | _ => simp only [hi]; exact key _

theorem dividedBy_respectsM : ImplRespectsM [.val .f64, .val .any] dividedBy :=
  dividedBy_respectsG MP.refl (fun _ _ h => h) fun _ _ => MP.cases_rigid

theorem round_respectsM : ImplRespectsM [.val .f64, .fn .int] round := by
  intro cs cs' h
  obtain ⟨v, v', a, a', rfl, rfl, hv, ha⟩ := argsRelG_val_fn h
  obtain rfl : v = v' := hv
  cases v with
  | flt k q =>
    cases k with
    | f64 => simp only [round]; exact call_bind_mp rfl ha _ _
    | f32 => exact exrelM_refl _
  | _ => exact exrelM_refl _

end Num

theorem date_respectsM : ImplRespectsM [.val .time, .fn .str] DateF.date := by
  intro cs cs' h
  obtain ⟨v, v', a, a', rfl, rfl, hv, ha⟩ := argsRelG_val_fn h
  obtain rfl : v = v' := hv
  cases v with
  | time u => simp only [DateF.date]; exact call_bind_mp rfl ha _ _
  | _ => exact exrelM_refl _

def goodEntryM (e : Bytes × FilterImpl) : Prop :=
  ∀ sg, lookupSig e.1 = some sg → ImplRespectsM sg.params e.2

theorem goodEntryM_of_sig {name : Bytes} {f : FilterImpl} (sg0 : FilterSig) (hs0 : lookupSig name = some sg0)
    (h : ImplRespectsM sg0.params f) : goodEntryM (name, f) :=
  fun _ hs => Option.some.inj (hs0.symm.trans hs) ▸ h

/-- the filters whose bodies are treated in `MapPermUniq.lean`, `MapPermJson.lean` and `MapPermSort.lean`:
    the two sorts and `uniq` (which compare and identify whole elements) and the value printers `json`,
    `inspect`, `type` -/
def openFiltersM : List Bytes := [ArrF.bn "sort", ArrF.bn "uniq", ArrF.bn "sort_natural",
  JsonF.bn "json", JsonF.bn "inspect", JsonF.bn "type"]

theorem goodEntryM_table (excl : List Bytes)
    (hs : ArrF.bn "sort" ∉ excl → ImplRespectsM [.val .anys, .val .any] (ArrF.eager ArrF.sort))
    (hu : ArrF.bn "uniq" ∉ excl → ImplRespectsM [.val .anys] (ArrF.eager ArrF.uniq))
    (hnat : ArrF.bn "sort_natural" ∉ excl → ImplRespectsM [.val .anys, .val .any] (ArrF.eager ArrF.sortNatural))
    (hjson : JsonF.bn "json" ∉ excl → ImplRespectsM [.val .any] JsonF.json)
    (hinsp : JsonF.bn "inspect" ∉ excl → ImplRespectsM [.val .any] JsonF.inspect)
    (htype : JsonF.bn "type" ∉ excl → ImplRespectsM [.val .any] JsonF.typeF) :
    ∀ e ∈ stdFilterImpls, e.1 ∉ excl → goodEntryM e :=
  fun e he hn sg hsg => std_sweep (Good := fun n ps f => n ∉ excl → ImplRespectsM ps f)
    (fun _ => implRespectsM_of_valScalar rfl _) (fun _ => implRespectsM_of_valScalar rfl _) (fun _ => implRespectsM_of_valScalar rfl _)
    (fun _ => implRespectsM_of_valScalar rfl _) (fun _ => implRespectsM_of_valScalar rfl _) (fun _ => implRespectsM_of_valScalar rfl _)
    (fun _ => implRespectsM_of_valScalar rfl _) (fun n _ h _ => strGlue_respectsM n h)
    (fun _ => Num.dividedBy_respectsM) (fun _ => Num.round_respectsM) (fun _ => Num.default_respectsM)
    (fun _ => Num.size_respectsM) (fun _ => ArrF.compact_respectsM) (fun _ => ArrF.concat_respectsM)
    (fun _ => ArrF.join_respectsM) (fun _ => ArrF.map_respectsM) (fun _ => ArrF.reverse_respectsM) hs
    (fun _ => ArrF.first_respectsM) (fun _ => ArrF.last_respectsM) hu hnat hjson hinsp htype (fun _ => date_respectsM)
    e he sg hsg hn

theorem stdPrimsOnly_respectsM_of (allowed : Bytes → Bool) (hf : ∀ n, FilterRespectsM n) :
    PrimsRespectM true (stdPrimsOnly allowed) :=
  -- the projections of `stdPrimsOnly` are unfolded first: left to the unifier, the comparisons are unfolded instead
  { equal := fun a a' b b' ha hb => by
      simp only [stdPrimsOnly, stdPrims]
      exact opEq_prep_mp ha hb
    less := fun a a' b b' ha hb => by
      simp only [stdPrimsOnly, stdPrims]
      exact RRel.of_eq (fun _ => rfl) (opLt_prep_mp ha hb)
    contains := fun a a' b b' ha hb => by
      simp only [stdPrimsOnly, stdPrims]
      exact opContains_prep_mp ha hb
    equalFn := fun a a' b b' ha hb => by
      simp only [stdPrimsOnly, stdPrims]
      exact equal_mp (prep_mp ha.2.2) (prep_mp hb.2.2)
    applyFilter := fun name r r' as as' hr has => by
      have has' : All2 MP as as' := has.imp fun _ _ h => h.2.2
      simp only [stdPrimsOnly]
      cases allowed name with
      | false => exact rfl
      | true => exact hf name r r' as as' hr.2.2 has' }

def coreFiltersM (n : Bytes) : Bool := !openFiltersM.contains n
