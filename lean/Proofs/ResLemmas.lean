import Liquid.Basic
/-!
# `Res.bind`: a successful bind has two successful parts; binds re-associate and `.ok` is their unit; a bind panics only if a part does

`Soft r`: the result is an answer or `unmodelled` (no error, no panic); it is what the printing functions of the model satisfy,
and it implies every weaker class of results. `travM f`: run `f` over a list and collect the answers (`travM_ok_iff`: the answers, through `Zip2`); the hand-written
traversals of the model (`sprintKVs`, `marshalKVs`, `marshalNamed`) are instances, proved equal where the lemmas are needed.
Last, for the tables and maps that are searched by key: in a list without repeated keys a member is what its key finds
(`List.find?_key_of_nodup`).
-/

theorem Res.bind_eq_ok {ε α β : Type} {x : Res ε α} {f : α → Res ε β} {b : β} (h : x.bind f = .ok b) :
    ∃ a, x = .ok a ∧ f a = .ok b := by
  cases x with
  | ok a => exact ⟨a, rfl, h⟩
  | _ => cases h

theorem Res.exists_ok {ε α : Type} {r : Res ε α} (h : r.isOk = true) : ∃ a, r = .ok a := by
  cases r <;> first | exact ⟨_, rfl⟩ | cases h

/-- a concrete result is this error: decided on the error, which (unlike a tree) has decidable equality -/
theorem Res.err_of_decide {ε α} [DecidableEq ε] {r : Res ε α} {e : ε}
    (h : (match r with | .err e' => decide (e' = e) | _ => false) = true) : r = .err e := by
  cases r with
  | err e' => exact congrArg _ (of_decide_eq_true h)
  | ok _ => cases h
  | panic _ => cases h
  | unmodelled _ => cases h

theorem Res.bind_assoc {ε α β γ : Type} (x : Res ε α) (f : α → Res ε β) (g : β → Res ε γ) :
    (x.bind f).bind g = x.bind fun a => (f a).bind g := by
  cases x <;> rfl

theorem Res.bind_congr {ε α β : Type} (x : Res ε α) {f f' : α → Res ε β} (h : ∀ a, f a = f' a) : x.bind f = x.bind f' := by
  rw [funext h]

theorem Res.bind_pure {ε α : Type} (x : Res ε α) : (x.bind fun a => .ok a) = x := by
  cases x <;> rfl

theorem Res.isPanic_bind {ε α β : Type} {x : Res ε α} {f : α → Res ε β} (hx : x.isPanic = false)
    (hf : ∀ a, x = .ok a → (f a).isPanic = false) : (x.bind f).isPanic = false := by
  cases x with
  | ok a => exact hf a rfl
  | panic w => exact hx
  | _ => rfl

def Soft {α : Type} : Res Cause α → Prop
  | .ok _ => True
  | .unmodelled _ => True
  | _ => False

theorem Soft.bind {α β : Type} {r : Res Cause α} {f : α → Res Cause β} (hr : Soft r) (hf : ∀ a, Soft (f a)) : Soft (r.bind f) := by
  cases r <;> first | exact hf _ | exact hr

theorem Soft.ite {α : Type} {c : Prop} [Decidable c] {a b : Res Cause α} (ha : Soft a) (hb : Soft b) : Soft (if c then a else b) := by
  split <;> assumption

theorem Soft.isPanic {α : Type} {r : Res Cause α} (h : Soft r) : r.isPanic = false := by
  cases r <;> first | rfl | exact h.elim

theorem Soft.ok_or_unmodelled {α : Type} {r : Res Cause α} (h : Soft r) : (∃ a, r = .ok a) ∨ (∃ w, r = .unmodelled w) := by
  cases r with
  | ok a => exact .inl ⟨a, rfl⟩
  | unmodelled w => exact .inr ⟨w, rfl⟩
  | _ => exact h.elim

section Trav
variable {α β : Type}

inductive Zip2 (R : α → β → Prop) : List α → List β → Prop where
  | nil : Zip2 R [] []
  | cons {a : α} {b : β} {as : List α} {bs : List β} : R a b → Zip2 R as bs → Zip2 R (a :: as) (b :: bs)

def travM (f : α → Res Cause β) : List α → Res Cause (List β)
  | [] => .ok []
  | x :: xs => (f x).bind fun b => (travM f xs).bind fun bs => .ok (b :: bs)

theorem travM_soft {f : α → Res Cause β} : ∀ {l : List α}, (∀ x ∈ l, Soft (f x)) → Soft (travM f l)
  | [], _ => trivial
  | x :: _, h => Soft.bind (h x List.mem_cons_self) (fun _ =>
      Soft.bind (travM_soft (fun y hy => h y (List.mem_cons_of_mem _ hy))) (fun _ => trivial))

theorem travM_ok_iff {f : α → Res Cause β} : ∀ {l : List α} {bs : List β},
    travM f l = .ok bs ↔ Zip2 (fun x b => f x = .ok b) l bs
  | [], bs => by
    simp only [travM]
    constructor
    · intro h; injection h with h; subst h; exact .nil
    · intro h; cases h; rfl
  | x :: xs, bs => by
    simp only [travM]
    constructor
    · intro h
      obtain ⟨b, hx, h⟩ := Res.bind_eq_ok h
      obtain ⟨bs', hxs, h⟩ := Res.bind_eq_ok h
      cases h
      exact .cons hx (travM_ok_iff.mp hxs)
    · intro h
      cases h with
      | cons hx hxs =>
        rw [hx, travM_ok_iff.mpr hxs]
        rfl

theorem Zip2.perm {R : α → β → Prop} {l l' : List α} (h : l.Perm l') :
    ∀ {m : List β}, Zip2 R l m → ∃ m', Zip2 R l' m' ∧ m.Perm m' := by
  induction h with
  | nil => exact fun hz => ⟨_, hz, .refl _⟩
  | cons x _ ih =>
    intro m hz
    cases hz with
    | cons hx hr =>
      obtain ⟨m', hz', hp⟩ := ih hr
      exact ⟨_, .cons hx hz', hp.cons _⟩
  | swap x y l =>
    intro m hz
    cases hz with
    | cons hy hr =>
      cases hr with
      | cons hx hr => exact ⟨_, .cons hx (.cons hy hr), .swap _ _ _⟩
  | trans _ _ ih1 ih2 =>
    intro m hz
    obtain ⟨m1, hz1, hp1⟩ := ih1 hz
    obtain ⟨m2, hz2, hp2⟩ := ih2 hz1
    exact ⟨m2, hz2, hp1.trans hp2⟩

theorem travM_perm {f : α → Res Cause β} {l l' : List α} (h : l.Perm l') :
    (∃ bs bs', travM f l = .ok bs ∧ travM f l' = .ok bs' ∧ bs.Perm bs') ∨
    ((∀ bs, travM f l ≠ .ok bs) ∧ (∀ bs, travM f l' ≠ .ok bs)) := by
  by_cases hok : ∃ bs, travM f l = .ok bs
  · obtain ⟨bs, hb⟩ := hok
    obtain ⟨bs', hz, hp⟩ := Zip2.perm h (travM_ok_iff.mp hb)
    exact .inl ⟨bs, bs', hb, travM_ok_iff.mpr hz, hp⟩
  · refine .inr ⟨fun bs hb => hok ⟨bs, hb⟩, fun bs hb => ?_⟩
    obtain ⟨bs', hz, _⟩ := Zip2.perm h.symm (travM_ok_iff.mp hb)
    exact hok ⟨bs', travM_ok_iff.mpr hz⟩

/-- every result of a traversal that answers comes from an element -/
theorem Zip2.mem_right {R : α → β → Prop} : ∀ {l : List α} {m : List β}, Zip2 R l m → ∀ b ∈ m, ∃ a ∈ l, R a b
  | _, _, .nil, b, hb => by cases hb
  | _, _, .cons (a := a) h hr, b, hb => by
    rcases List.mem_cons.mp hb with rfl | hb
    · exact ⟨a, List.mem_cons_self, h⟩
    · obtain ⟨a', ha', h'⟩ := hr.mem_right b hb
      exact ⟨a', List.mem_cons_of_mem _ ha', h'⟩

end Trav

/-- in a list without repeated keys, looking the key of a member up finds that member -/
theorem List.find?_key_of_nodup {α κ : Type} [BEq κ] [LawfulBEq κ] (key : α → κ) : ∀ {l : List α}, (l.map key).Nodup →
    ∀ {x : α}, x ∈ l → l.find? (key · == key x) = some x
  | y :: l, hd, x, hx => by
    rw [List.map_cons, List.nodup_cons] at hd
    rw [List.find?_cons]
    rcases List.mem_cons.mp hx with rfl | hx
    · rw [beq_self_eq_true]
    · rw [beq_eq_false_iff_ne.mpr fun e : key y = key x => hd.1 (e ▸ List.mem_map_of_mem hx)]
      exact List.find?_key_of_nodup key hd.2 hx
