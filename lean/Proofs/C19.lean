import Proofs.C05
/-!
# C19 — which delimiters `Delims.ofList` selects, hyphen detection relative to their lengths, and the C05 tokenizer
theorems under custom delimiters (the equivalence with the defaults: `Proofs/C19E2E.lean`)
-/

/-- **C19 (empty selects the default).** `Delims("", "", "", "")` selects the four defaults… -/
theorem delims_all_empty : Delims.ofList [[], [], [], []] = Delims.default := by decide +kernel

/-- …position by position: an empty entry stands for the default of its position and a
    non-empty entry is taken as given. -/
theorem delims_default_per_position (a b c d : Bytes) :
    Delims.ofList [a, b, c, d] =
      ⟨if a = [] then Delims.default.ol else a, if b = [] then Delims.default.or else b,
       if c = [] then Delims.default.tl else c, if d = [] then Delims.default.tr else d⟩ := by
  cases a <;> cases b <;> cases c <;> cases d <;> simp [Delims.ofList]

/-- the empty list selects the defaults (the instance `Delims()` of `delims_wrong_arity`) -/
theorem delims_wrong_arity_nil : Delims.ofList [] = Delims.default := rfl

/-- **C19 (wrong arity).** EVERY list that does not have exactly four entries — none, one, two,
    three, five or more — selects the four defaults (`Scan`: `if len(delims) != 4 { delims = defaults }`). -/
theorem delims_wrong_arity (l : List Bytes) (h : l.length ≠ 4) : Delims.ofList l = Delims.default := by
  match l, h with
  | [], _ => rfl
  | [_], _ => rfl
  | [_, _], _ => rfl
  | [_, _, _], _ => rfl
  | [_, _, _, _], h => exact absurd rfl h
  | _ :: _ :: _ :: _ :: _ :: _, _ => rfl

example : Delims.ofList [[60], [62], [91]] = Delims.default := delims_wrong_arity _ (by decide +kernel)
example : Delims.ofList [[60], [62], [91], [93], [33]] = Delims.default := delims_wrong_arity _ (by decide +kernel)

/-- the delimiters actually used are never empty -/
theorem delims_nonempty (l : List Bytes) :
    (Delims.ofList l).ol ≠ [] ∧ (Delims.ofList l).or ≠ [] ∧ (Delims.ofList l).tl ≠ [] ∧ (Delims.ofList l).tr ≠ [] := by
  unfold Delims.ofList
  split
  · next a b c d =>
    refine ⟨?_, ?_, ?_, ?_⟩ <;> simp only <;> split <;> simp_all [Delims.default, List.isEmpty_iff]
  · simp [Delims.default]

/-- **C19 (hyphen detection is relative to the configured delimiter lengths).** For an object
    token, a left trim marker is emitted exactly when the byte just after the opening delimiter is
    a hyphen, and a right marker exactly when the byte just before the closing delimiter is —
    whatever the lengths of the delimiters. -/
theorem hyphen_detection_obj (d : Delims) (src : Bytes) (ts : Nat) (caps : Caps) (line : Nat)
    (h : isPrefixOfB d.ol src = true) :
    ((tokensOfMatch d src ts caps line).head?.map (·.ty) = some .trimL ↔ src[d.ol.length]? = some 45) ∧
    ((tokensOfMatch d src ts caps line).getLast?.map (·.ty) = some .trimR ↔ src[src.length - d.or.length - 1]? = some 45) := by
  rcases tokensOfMatch_eq d src ts caps with ⟨h0, _⟩ | ⟨o, c, t, ⟨_, rfl, rfl⟩ | ⟨h0, _⟩, _, ht, he⟩
  · rw [h] at h0; cases h0
  · rw [he, ← isHyphenAt_iff, ← isHyphenAt_iff]; exact trimmed_ends _ _ _ ht
  · rw [h] at h0; cases h0

theorem hyphen_detection_tag (d : Delims) (src : Bytes) (ts : Nat) (caps : Caps) (line : Nat)
    (h0 : isPrefixOfB d.ol src = false) (h : isPrefixOfB d.tl src = true) :
    ((tokensOfMatch d src ts caps line).head?.map (·.ty) = some .trimL ↔ src[d.tl.length]? = some 45) ∧
    ((tokensOfMatch d src ts caps line).getLast?.map (·.ty) = some .trimR ↔ src[src.length - d.tr.length - 1]? = some 45) := by
  rcases tokensOfMatch_eq d src ts caps with ⟨_, h1, _⟩ | ⟨o, c, t, ⟨h1, _⟩ | ⟨_, _, rfl, rfl⟩, _, ht, he⟩
  · rw [h] at h1; cases h1
  · rw [h0] at h1; cases h1
  · rw [he, ← isHyphenAt_iff, ← isHyphenAt_iff]; exact trimmed_ends _ _ _ ht

/-- **C19 (the C05 partition and line theorems under custom delimiters).** `scan_partition` and `scan_lines`
    (Proofs/C05.lean) are stated for an arbitrary delimiter list; this is their conjunction -/
theorem custom_delims_partition (delims : List Bytes) (src : Bytes) (line : Nat) :
    ((scan delims src line).map Token.source).flatten = src ∧ linesOk line (scan delims src line) = true :=
  ⟨scan_partition delims src line, scan_lines delims src line⟩

/-- **C19 (the default delimiters become ordinary text).** Under custom delimiters a source that
    contains none of the *configured* opening delimiters is one text token — in particular a source
    made of default-delimiter tags (`scan_no_open_delim`, Proofs/C05.lean, restated). -/
theorem default_delims_are_text (delims : List Bytes) (src : Bytes) (line : Nat)
    (hol : ¬ (Delims.ofList delims).ol <:+: src) (htl : ¬ (Delims.ofList delims).tl <:+: src) :
    scan delims src line = if src.isEmpty then [] else [{ ty := .text, line := line, source := src }] :=
  scan_no_open_delim delims src line hol htl

/-! Non-vacuity: `<`, `>`, `[`, `]` as delimiters: "[- if x ]a< y ->{{z}}" -/
example : (scan [[60], [62], [91], [93]] [91, 45, 32, 105, 102, 32, 120, 32, 93, 97, 60, 32, 121, 32, 45, 62, 123, 123, 122, 125, 125] 1).map (·.ty)
    = [.trimL, .tag, .text, .obj, .trimR, .text] := by decide +kernel
