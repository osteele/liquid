import Proofs.HyphenSourceCompile
import Proofs.HyphenLemmas2
import Proofs.DecEq
/-!
# `run` on a source and on its hyphen-free version (helpers for `Proofs/C13Source.lean`)

`HyphenClean`, `SrcCapTrimFree` (the hypotheses, decidable); `runCalls` (the `Write` calls of a run);
`run_of_compiled` (`run` read off `renderRoot`: `resOfRoot`, Proofs/SrcItems.lean); `hasTrim_stripTrims`; `compileSource_dropHyphens`,
`run_pair_dropHyphens`: the two runs are the renders of a tree and of `stripTrims` of it, or one compile-time
failure.
-/

/-- the hypotheses under which deleting the hyphens of the SOURCE deletes the `.trim` nodes of the compiled TREE
    (all decidable): good delimiters; the items and the hyphen-free items are what the tokenizer reads back from
    their spellings (`Clean`; the second does not follow from the first: `{{--1}}`, `{{ x}-}}`); raw blocks are
    closed (`RawClosed`: otherwise the raw body is the token sources as spelled, hyphens included) and carry no
    hyphen on the inner side of their tags (`RawPlain`: such a hyphen is kept as an empty slice of the body). -/
def HyphenClean (d : Delims) (items : List Item) : Prop :=
  GoodDelims d ∧ Clean d items ∧ Clean d (dropHyphens items) ∧ RawClosed items ∧ RawPlain items

instance (d : Delims) (items : List Item) : Decidable (HyphenClean d items) := by unfold HyphenClean; infer_instance

/-- no hyphen inside a `capture` body of the template a source compiles to (nothing is asked of a source that
    does not compile) -/
def SrcCapTrimFree (delims : List Bytes) (src : Bytes) (line : Nat) : Prop :=
  ∀ nodes, compileSource delims src line = .ok nodes → capTrimFree nodes = true

instance (delims : List Bytes) (src : Bytes) (line : Nat) : Decidable (SrcCapTrimFree delims src line) := by
  unfold SrcCapTrimFree
  cases h : compileSource delims src line with
  | ok nodes =>
    by_cases hc : capTrimFree nodes = true
    · exact isTrue (fun n hn => by cases hn; exact hc)
    · exact isFalse (fun hall => hc (hall nodes rfl))
  | err e => exact isTrue (fun n hn => by cases hn)
  | panic w => exact isTrue (fun n hn => by cases hn)
  | unmodelled w => exact isTrue (fun n hn => by cases hn)

theorem srcCapTrimFree_of_compiled {delims : List Bytes} {src : Bytes} {line : Nat} {root : List Node}
    (h : compileSource delims src line = .ok root) (hc : capTrimFree root = true) : SrcCapTrimFree delims src line :=
  fun _ h' => by
    rw [h] at h'
    cases h'
    exact hc

/-- the `Write` calls that the fault-free render of a source makes on its writer, in order (none when the source
    does not compile) -/
def runCalls (P : Prims) (O : OutPrims) (cfg : Cfg) (fs : FS) (fuel : Nat) (src : Bytes) (line : Nat) (env : Env) : List Bytes :=
  match compileSource cfg.delims src line with
  | .ok root => (renderRoot (mkCtx P O cfg fs fuel) root env).calls
  | _ => []

theorem run_of_compiled (P : Prims) (O : OutPrims) (cfg : Cfg) (fs : FS) (fuel : Nat) (src : Bytes) (line : Nat) (env : Env)
    {root : List Node} (h : compileSource cfg.delims src line = .ok root) :
    run P O cfg fs fuel src line env = resOfRoot (renderRoot (mkCtx P O cfg fs fuel) root env).runPure := by
  rw [run_eq_runCompiled, h]
  exact runRoot_eq_resOfRoot ..

theorem runCalls_of_compiled (P : Prims) (O : OutPrims) (cfg : Cfg) (fs : FS) (fuel : Nat) (src : Bytes) (line : Nat) (env : Env)
    {root : List Node} (h : compileSource cfg.delims src line = .ok root) :
    runCalls P O cfg fs fuel src line env = (renderRoot (mkCtx P O cfg fs fuel) root env).calls := by
  simp only [runCalls, h]

theorem rootResult_ok_done (ops : List WOp) (env' : Env) : rootResult ops (.ok .done env') = (runOps ops, .ok .done) := rfl

theorem rootResult_snd_done (ops : List WOp) (o : EOut Status) (h : (rootResult ops o).2 = .ok .done) : ∃ env', o = .ok .done env' :=
  (rootResult_done ops o _ (Prod.ext rfl h)).1

mutual
theorem hasTrimNode_stripNode : ∀ n : Node, (∀ b, n ≠ .trim b) → hasTrimNode (stripNode n) = false
  | .text .., _ | .obj .., _ | .raw _, _ | .assign .., _ | .cycle .., _ | .brk _, _ | .cont _, _ | .incl .., _ => rfl
  | .trim b, h => absurd rfl (h b)
  | .capture _ _ body, _ => hasTrim_stripTrims body
  | .ifB _ bs, _ => hasTrimBranches_strip bs
  | .caseB _ _ cs, _ => hasTrimCases_strip cs
  | .loop _ _ _ _ _ body cls, _ => by
    simp only [stripNode, hasTrimNode, hasTrim_stripTrims body, hasTrimClauses_strip cls, Bool.or_self]
theorem hasTrim_stripTrims : ∀ ns : List Node, hasTrim (stripTrims ns) = false
  | [] => rfl
  | n :: ns => by
    rcases n.trim_or_ne with ⟨b, rfl⟩ | hn
    · rw [stripTrims]
      exact hasTrim_stripTrims ns
    · rw [stripTrims_cons_of_ne n ns hn, hasTrim, hasTrimNode_stripNode n hn, hasTrim_stripTrims ns]
      rfl
theorem hasTrimBranches_strip : ∀ bs : List (CondT × List Node), hasTrimBranches (stripBranches bs) = false
  | [] => rfl
  | (t, body) :: rest => by
    simp only [stripBranches, hasTrimBranches, hasTrim_stripTrims body, hasTrimBranches_strip rest, Bool.or_self]
theorem hasTrimCases_strip : ∀ cs : List (Option (Nat × List Expr) × List Node), hasTrimCases (stripCases cs) = false
  | [] => rfl
  | (w, body) :: rest => by
    simp only [stripCases, hasTrimCases, hasTrim_stripTrims body, hasTrimCases_strip rest, Bool.or_self]
theorem hasTrimClauses_strip : ∀ cls : List (List Node), hasTrimClauses (stripClauses cls) = false
  | [] => rfl
  | body :: rest => by
    simp only [stripClauses, hasTrimClauses, hasTrim_stripTrims body, hasTrimClauses_strip rest, Bool.or_self]
end

/-- `compile_dropHyphens` of `Proofs/C13Source.lean` is this theorem -/
theorem compileSource_dropHyphens (delims : List Bytes) (items : List Item) (line : Nat)
    (h : HyphenClean (Delims.ofList delims) items) :
    compileSource delims (spell (Delims.ofList delims) (dropHyphens items)) line =
      (compileSource delims (spell (Delims.ofList delims) items) line).mapOk stripTrims := by
  obtain ⟨hg, hc, hc0, hrc, hrp⟩ := h
  rw [compileSource_spell delims _ line hg hc0, compileSource_spell delims _ line hg hc]
  exact compileTokens_dropHyphens _ items line hrc hrp

/-- the two runs of a template and of its hyphen-free version: the renders of a tree and of `stripTrims` of it, or
    a common compile-time failure -/
theorem run_pair_dropHyphens (P : Prims) (O : OutPrims) (cfg : Cfg) (fs : FS) (fuel : Nat) (items : List Item) (line : Nat)
    (env : Env) (h : HyphenClean (Delims.ofList cfg.delims) items) :
    (∃ nodes, compileSource cfg.delims (spell (Delims.ofList cfg.delims) items) line = .ok nodes ∧
      compileSource cfg.delims (spell (Delims.ofList cfg.delims) (dropHyphens items)) line = .ok (stripTrims nodes) ∧
      run P O cfg fs fuel (spell (Delims.ofList cfg.delims) items) line env =
        resOfRoot (renderRoot (mkCtx P O cfg fs fuel) nodes env).runPure ∧
      run P O cfg fs fuel (spell (Delims.ofList cfg.delims) (dropHyphens items)) line env =
        resOfRoot (renderRoot (mkCtx P O cfg fs fuel) (stripTrims nodes) env).runPure) ∨
    ((∀ out, run P O cfg fs fuel (spell (Delims.ofList cfg.delims) items) line env ≠ .ok out) ∧
      run P O cfg fs fuel (spell (Delims.ofList cfg.delims) items) line env =
        run P O cfg fs fuel (spell (Delims.ofList cfg.delims) (dropHyphens items)) line env) := by
  have hcomp := compileSource_dropHyphens cfg.delims items line h
  cases hc : compileSource cfg.delims (spell (Delims.ofList cfg.delims) items) line with
  | ok nodes =>
    rw [hc] at hcomp
    exact .inl ⟨nodes, rfl, hcomp, run_of_compiled _ _ _ _ _ _ _ _ hc, run_of_compiled _ _ _ _ _ _ _ _ hcomp⟩
  | err e | panic w | unmodelled w =>
    rw [hc] at hcomp
    rw [run_eq_runCompiled, run_eq_runCompiled, hc, hcomp]
    exact .inr ⟨nofun, rfl⟩
