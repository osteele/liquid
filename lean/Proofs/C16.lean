import Proofs.TrimLemmas
import Proofs.StrReplSplit
import Proofs.StrEscUrl
import Proofs.StrWords
import Proofs.StrValid
import Proofs.StrAscii
/-!
# C16 — string filters implement their documented functions on every string

Strings are `Bytes`; "characters" are the runes of `decodeRunes` (Go's `[]rune(s)`: every invalid
byte is one U+FFFD). `runeLen s = (decodeRunes s).length`, `ValidUtf8 s` = `s` is the UTF-8 encoding
of a list of scalar values, `AllSpace l` (`Proofs/TrimLemmas.lean`) = `l` is the encoding of white-space runes
(`unicode.IsSpace`). The models are those of `Liquid/Filters/Str.lean` (namespace `StrF`),
tied to `filters/standard_filters.go` by the `strf` stream. All theorems are for ALL byte strings
(no length bound), invalid UTF-8 included unless a hypothesis says otherwise.

Theorems named `…_partial` are about filters whose model is partial (`Option`): named HTML entities
outside `StrF.entityLookup` give `none` (the driver prints `unmodelled`); on those inputs nothing is
proved and only the run-time oracle checks the real code. The case filters are total although their
models have type `Option` (they are written with `StrF.mapRunesM`, whose step function may fail): every rune is looked up in the tables translator T6 regenerates from the toolchain (`upcase_total`,
`downcase_total`, `capitalize_total`).
-/

theorem append_spec (s x : Bytes) : StrF.append s x = s ++ x := rfl
theorem prepend_spec (s x : Bytes) : StrF.prepend s x = x ++ s := rfl

example : StrF.append [97] [195, 169] = [97, 195, 169] := by decide +kernel
example : StrF.prepend [97] [195, 169] = [195, 169, 97] := by decide +kernel

/-! ## upcase, downcase, capitalize: every string

The rune mapping is `unicode.ToUpper` / `unicode.ToLower` of the toolchain, as range tables regenerated on every run
(translator T6, `Liquid/Generated/CaseTables.lean`); what is used of the tables is computed over the ranges in
`Proofs/CaseTables.lean` (obligations `case_tables_wellformed`, `case_tables_idempotent`, `case_tables_round_trip`). -/

/-- the case filters answer on every byte string: there is no rune outside the model -/
theorem upcase_total (s : Bytes) : StrF.upcase s = some (StrF.upcaseT s) :=
  congrArg (Option.map encodeRunes) (mapRunesM_total toUpperRune (decodeRunes s))
theorem downcase_total (s : Bytes) : StrF.downcase s = some (StrF.downcaseT s) :=
  congrArg (Option.map encodeRunes) (mapRunesM_total toLowerRune (decodeRunes s))

/-- `capitalize` answers on every byte string: the upper-cased first rune, then the rest of the bytes -/
theorem capitalize_total (s : Bytes) (hs : s ≠ []) :
    StrF.capitalize s = some (encodeRune (toUpperRune (decodeRune s).1) ++ s.drop (decodeRune s).2) := by
  cases s with
  | nil => exact absurd rfl hs
  | cons b rest => rfl

/-- upper-casing twice is upper-casing once, for every byte string (Greek, Cyrillic, the runes whose image has another
    UTF-8 length, invalid bytes: all of them) -/
theorem upcase_idem (s : Bytes) : StrF.upcaseT (StrF.upcaseT s) = StrF.upcaseT s :=
  runeMap_idem toUpperRune_scalar toUpperRune_idem s

theorem downcase_idem (s : Bytes) : StrF.downcaseT (StrF.downcaseT s) = StrF.downcaseT s :=
  runeMap_idem toLowerRune_scalar toLowerRune_idem s

/-- the same in the `Option` form the filter models are written in (its hypothesis holds for every `s`,
    `upcase_total`) -/
theorem upcase_idem_opt (s t : Bytes) (h : StrF.upcase s = some t) : StrF.upcase t = some t := by
  obtain rfl := Option.some.inj ((upcase_total s).symm.trans h)
  rw [upcase_total, upcase_idem]

theorem downcase_idem_opt (s t : Bytes) (h : StrF.downcase s = some t) : StrF.downcase t = some t := by
  obtain rfl := Option.some.inj ((downcase_total s).symm.trans h)
  rw [downcase_total, downcase_idem]

/-- changing case keeps the number of characters (Go maps rune to rune), for every byte string -/
theorem case_len (s : Bytes) : runeLen (StrF.upcaseT s) = runeLen s ∧ runeLen (StrF.downcaseT s) = runeLen s :=
  ⟨runeMap_runeLen toUpperRune s, runeMap_runeLen toLowerRune s⟩

theorem case_len_opt (s t : Bytes) (h : StrF.upcase s = some t ∨ StrF.downcase s = some t) :
    runeLen t = runeLen s := by
  rcases h with h | h
  · exact Option.some.inj ((upcase_total s).symm.trans h) ▸ (case_len s).1
  · exact Option.some.inj ((downcase_total s).symm.trans h) ▸ (case_len s).2

/-- … but not the number of bytes: Ⱥ (U+023A, two bytes) lower-cases to ⱥ (U+2C65, three bytes) and back; the dotless ı
    (two bytes) upper-cases to the ASCII letter I, the Kelvin sign K (three bytes) lower-cases to the ASCII letter k -/
theorem case_changes_byte_length :
    StrF.downcase [0xC8, 0xBA] = some [0xE2, 0xB1, 0xA5] ∧ StrF.upcase [0xE2, 0xB1, 0xA5] = some [0xC8, 0xBA] ∧
    StrF.upcase [0xC4, 0xB1] = some [0x49] ∧ StrF.downcase [0xE2, 0x84, 0xAA] = some [0x6B] := by decide +kernel

/-- the runes of the result are the images of the runes of the input, one by one -/
theorem upcase_runes (s : Bytes) : decodeRunes (StrF.upcaseT s) = (decodeRunes s).map toUpperRune ∧
    decodeRunes (StrF.downcaseT s) = (decodeRunes s).map toLowerRune :=
  ⟨decodeRunes_encodeRunes_map toUpperRune_scalar s, decodeRunes_encodeRunes_map toLowerRune_scalar s⟩

theorem upcase_runes_opt (s t : Bytes) (h : StrF.upcase s = some t) :
    StrF.mapRunesM upperRune (decodeRunes s) = some (decodeRunes t) := by
  rw [upcase_total] at h
  rw [← Option.some.inj h, (upcase_runes s).1]
  exact mapRunesM_total toUpperRune _

/-- `upcase ∘ downcase ∘ upcase = upcase` rune-wise — for every rune but the six upper-case runes of
    `upperLowerUpperExceptions` (U+0130 İ, U+03F4 ϴ, U+1E9E ẞ, U+2126 Ω, U+212A K, U+212B Å), whose lower-case partner
    (i, θ, ß, ω, k, å) upper-cases to another rune (I, Θ, ß, Ω, K, Å). The list is regenerated with the tables and
    checked to be exact (`case_tables_round_trip`). -/
theorem upper_lower_upper_except {r u l : Nat} (h : upperRune r = some u) (hl : lowerRune u = some l)
    (hx : u ∉ upperLowerUpperExceptions) : upperRune l = some u := by
  obtain rfl := Option.some.inj h
  obtain rfl := Option.some.inj hl
  exact congrArg some (toUpper_toLower_of_upper (toUpperRune_idem r) hx)

/-- … and on each of the six the law fails -/
theorem upper_lower_upper_fails : ∀ u ∈ upperLowerUpperExceptions,
    upperRune u = some u ∧ ∃ l, lowerRune u = some l ∧ upperRune l ≠ some u := by
  intro u hu
  have h := List.all_eq_true.mp case_tables_round_trip.2 u hu
  simp only [Bool.and_eq_true, Nat.beq_eq, Bool.not_eq_true'] at h
  refine ⟨by rw [upperRune_total, h.1], toLowerRune u, rfl, ?_⟩
  rw [upperRune_total]
  intro e
  have h2 := h.2
  rw [Option.some.inj e] at h2
  simp at h2

/-- `capitalize` upper-cases the first character (not the first *byte*: D16, DESIGN A.8) and leaves the rest of the bytes alone,
    for every non-empty byte string. Upper case, not title case: ǆ (U+01C6) becomes Ǆ (U+01C4),
    not ǅ (U+01C5) — that is `strings.ToUpper` on the first rune, what the code does. -/
theorem capitalize_spec (s t : Bytes) (hs : s ≠ []) (h : StrF.capitalize s = some t) :
    ∃ u, upperRune (decodeRune s).1 = some u ∧ t = encodeRune u ++ s.drop (decodeRune s).2 ∧
      decodeRunes s = (decodeRune s).1 :: decodeRunes (s.drop (decodeRune s).2) ∧
      decodeRunes t = u :: decodeRunes (s.drop (decodeRune s).2) := by
  obtain rfl := Option.some.inj ((capitalize_total s hs).symm.trans h)
  refine ⟨_, rfl, rfl, ?_, ?_⟩
  · have hw := decodeRune_width_pos s hs
    have := decodeRunes_cons s hs
    rwa [Nat.max_eq_left hw] at this
  · rw [decodeRunes_encodeRune_append _ (toUpperRune_scalar (decodeRune_isScalar s))]

theorem capitalize_nil : StrF.capitalize [] = some [] := rfl

/-- on ASCII strings the case filters are the byte loops `asciiUpper` / `asciiLower` -/
theorem upcase_ascii (s : Bytes) (h : ∀ b ∈ s, b < 0x80) : StrF.upcase s = some (s.map asciiUpper) :=
  (upcase_total s).trans (congrArg some (runeMap_ascii asciiUpper s h toUpperRune_byte))
theorem downcase_ascii (s : Bytes) (h : ∀ b ∈ s, b < 0x80) : StrF.downcase s = some (s.map asciiLower) :=
  (downcase_total s).trans (congrArg some (runeMap_ascii asciiLower s h toLowerRune_byte))
theorem capitalize_ascii (b : UInt8) (t : Bytes) (hb : b < 0x80) :
    StrF.capitalize (b :: t) = some (asciiUpper b :: t) := by
  rw [capitalize_total _ (List.cons_ne_nil b t), decodeRune_ascii b t hb, (toUpperRune_byte b hb).1,
    encodeRune_ascii _ (toUpperRune_byte b hb).2]
  rfl

example : StrF.upcase [97, 195, 169, 240, 159, 152, 128] = some [65, 195, 137, 240, 159, 152, 128] := by decide +kernel
example : StrF.capitalize [195, 169, 108] = some [195, 137, 108] := by decide +kernel   -- "él" ⇒ "Él"
example : StrF.upcase [195, 159] = some [195, 159] := by decide +kernel            -- ß has no simple upper-case form: it stays
example : StrF.upcase [0xCE, 0xB1, 0xCF, 0x82] = some [0xCE, 0x91, 0xCE, 0xA3] := by decide +kernel   -- "ας" ⇒ "ΑΣ"
example : StrF.downcase [0xD0, 0x96, 0xE1, 0xBA, 0x9E] = some [0xD0, 0xB6, 0xC3, 0x9F] := by decide +kernel   -- "Жẞ" ⇒ "жß"
example : StrF.capitalize [0xC7, 0x86, 97] = some [0xC7, 0x84, 97] := by decide +kernel   -- "ǆa" ⇒ "Ǆa" (upper, not title case)
example : StrF.capitalize [0xFF, 97] = some [0xEF, 0xBF, 0xBD, 97] := by decide +kernel   -- an invalid first byte ⇒ U+FFFD
example : (0x130 : Nat) ∈ upperLowerUpperExceptions ∧ upperRune 0x130 = some 0x130 ∧ lowerRune 0x130 = some 0x69 ∧
    upperRune 0x69 = some 0x49 := by decide +kernel
example : StrF.downcase [255, 65] = some [239, 191, 189, 97] := by decide +kernel   -- invalid byte ⇒ U+FFFD

/-- `strip` removes exactly a prefix and a suffix made of white-space characters
    (`unicode.IsSpace`) and leaves no white space at either end -/
theorem strip_spec (s : Bytes) : ∃ l r, AllSpace l ∧ AllSpace r ∧ s = l ++ StrF.strip s ++ r ∧
    isSpaceRune (decodeRune (StrF.strip s)).1 = false ∧
    isSpaceRune (decodeLastRuneRev (StrF.strip s).reverse).1 = false := trimSpace_spec s

theorem lstrip_spec (s : Bytes) : ∃ l, AllSpace l ∧ s = l ++ StrF.lstrip s ∧
    isSpaceRune (decodeRune (StrF.lstrip s)).1 = false := trimLeftSpace_spec s

theorem rstrip_spec (s : Bytes) : ∃ r, AllSpace r ∧ s = StrF.rstrip s ++ r ∧
    isSpaceRune (decodeLastRuneRev (StrF.rstrip s).reverse).1 = false := trimRightSpace_spec s

/-- the decomposition determines the result: `strip` is the only function with `strip_spec` -/
theorem strip_unique (s m : Bytes) : StrF.strip s = m ↔
    ∃ l r, AllSpace l ∧ AllSpace r ∧ s = l ++ m ++ r ∧ isSpaceRune (decodeRune m).1 = false ∧
      isSpaceRune (decodeLastRuneRev m.reverse).1 = false := by
  constructor
  · rintro rfl; exact trimSpace_spec s
  · rintro ⟨l, r, hl, hr, rfl, h1, h2⟩; exact trimSpace_unique hl hr h1 h2

theorem strip_idem (s : Bytes) : StrF.strip (StrF.strip s) = StrF.strip s := by
  obtain ⟨_, _, _, _, _, h1, h2⟩ := trimSpace_spec s
  exact trimSpace_of_not_space _ h1 h2
theorem strip_len_le (s : Bytes) : (StrF.strip s).length ≤ s.length :=
  Nat.le_trans (trimRightSpace_prefix _).length_le (trimLeftSpace_suffix s).length_le

example : StrF.strip [32, 194, 160, 97, 32, 98, 10, 227, 128, 128] = [97, 32, 98] := by decide +kernel
example : AllSpace [32, 194, 160] := ⟨[0x20, 0xA0], by decide, by decide⟩

theorem replace_self (s p : Bytes) : StrF.replace s p p = s := by
  simp [StrF.replace]
theorem replace_first_self (s p : Bytes) : StrF.replaceFirst s p p = s := by
  simp [StrF.replaceFirst]

theorem remove_spec (s p : Bytes) : StrF.remove s p = StrF.replace s p [] ∧
    StrF.removeFirst s p = StrF.replaceFirst s p [] := ⟨rfl, rfl⟩

theorem remove_no_growth (s p : Bytes) : (StrF.remove s p).length ≤ s.length ∧
    (StrF.removeFirst s p).length ≤ s.length := by
  by_cases hp : p = []
  · simp [StrF.remove, StrF.replace, StrF.removeFirst, StrF.replaceFirst, hp]
  · refine ⟨by rw [StrF.remove, replace_of_ne s hp hp]; exact replaceNE_length_le p s.length s, ?_⟩
    rw [StrF.removeFirst, StrF.replaceFirst, if_neg hp]
    cases StrF.indexOf p s with
    | none => simp
    | some i => simp; omega

/-- left-to-right, non-overlapping: nothing to replace ⇒ unchanged; otherwise the text before the
    first occurrence, the replacement, and the replacement of what follows the occurrence -/
theorem replace_spec (s old new : Bytes) (hold : old ≠ []) (hne : old ≠ new) :
    (StrF.indexOf old s = none → StrF.replace s old new = s) ∧
    (∀ i, StrF.indexOf old s = some i →
      s = s.take i ++ old ++ s.drop (i + old.length) ∧ (∀ j, j < i → ¬ old <+: s.drop j) ∧
      StrF.replace s old new = s.take i ++ new ++ StrF.replace (s.drop (i + old.length)) old new) := by
  refine ⟨replace_absent s old new, ?_⟩
  intro i hi
  obtain ⟨hlen, hs, hfirst⟩ := indexOf_some old s i hi
  refine ⟨hs, hfirst, ?_⟩
  have hi' : StrF.indexOf old (s.take i ++ old ++ s.drop (i + old.length)) = some (s.take i).length := by
    rw [← hs, hi, List.length_take, Nat.min_eq_left (by omega)]
  have := replace_step (s.take i) (s.drop (i + old.length)) old new hold hne hi'
  rwa [← hs] at this

/-- Go's empty-pattern rule: the replacement goes before every UTF-8 sequence and at the end -/
theorem replace_empty_spec (s new : Bytes) (hne : new ≠ []) :
    StrF.replace s [] new = new ++ ((StrF.runeChunks s).map (· ++ new)).flatten := by
  unfold StrF.replace
  rw [if_neg (fun h => hne h.symm)]
  rfl

theorem replace_first_spec (s old new : Bytes) (hne : old ≠ new) :
    (StrF.indexOf old s = none → StrF.replaceFirst s old new = s) ∧
    (∀ i, StrF.indexOf old s = some i →
      StrF.replaceFirst s old new = s.take i ++ new ++ s.drop (i + old.length)) := by
  constructor
  · intro h; simp [StrF.replaceFirst, hne, h]
  · intro i h; simp [StrF.replaceFirst, hne, h]

example : StrF.replace [97, 97, 97] [97, 97] [98] = [98, 97] := by decide +kernel          -- non-overlapping
example : StrF.replace [195, 169, 98] [] [45] = [45, 195, 169, 45, 98, 45] := by decide +kernel
example : StrF.remove [97, 98, 97] [97] = [98] := by decide +kernel

/-- `split` inverts `join` on non-empty pieces that share no byte with the separator -/
theorem split_join (sep : Bytes) (ps : List Bytes) (hsep : sep ≠ []) (hsp : sep ≠ [32])
    (hps : ∀ p ∈ ps, p ≠ [] ∧ ∀ b ∈ p, b ∉ sep) (hne : ps ≠ []) :
    StrF.split (StrF.join sep ps) sep = ps := by
  rw [StrF.split, splitRaw_of_ne _ hsp hsep, splitNE_join sep ps hsep (fun p hp => (hps p hp).2) hne _ (Nat.le_refl _)]
  exact dropTrailingEmpty_eq ps (getLast?_ne_of_all_ne ps (fun p hp => (hps p hp).1))

/-- the separator `" "` splits on runs of `[ \t\n\v\f\r]`: pieces must be free of all of them -/
theorem split_join_space (ps : List Bytes)
    (hps : ∀ p ∈ ps, p ≠ [] ∧ ∀ b ∈ p, StrF.isAsciiSpace b = false) (hne : ps ≠ []) :
    StrF.split (StrF.join [32] ps) [32] = ps := by
  unfold StrF.split StrF.splitRaw StrF.splitWS
  rw [if_pos rfl, splitWS_join ps hne hps]
  exact dropTrailingEmpty_eq ps (getLast?_ne_of_all_ne ps (fun p hp => (hps p hp).1))

/-- `join` inverts `split` when the text does not end in the separator (the filter drops
    trailing empty pieces) and the separator is not the white-space special case -/
theorem join_split (s sep : Bytes) (hsp : sep ≠ [32]) (hend : sep = [] ∨ ¬ sep <:+ s) :
    StrF.join sep (StrF.split s sep) = s := by
  unfold StrF.split
  by_cases hsep : sep = []
  · subst hsep
    obtain ⟨h1, h2⟩ := runeChunksAux_spec s.length s (Nat.le_refl _)
    rw [splitRaw_nil, StrF.runeChunks, dropTrailingEmpty_eq _ (getLast?_ne_of_all_ne _ h2), join_nil_sep, h1]
  · have hns : ¬ sep <:+ s := hend.resolve_left hsep
    rw [splitRaw_of_ne s hsp hsep]
    by_cases hs : s = []
    · subst hs
      simp [StrF.splitNE, StrF.dropTrailingEmpty, StrF.join]
    · rw [dropTrailingEmpty_eq]
      · exact join_splitNE sep s _
      · intro h
        rcases splitNE_last_empty sep _ s h with h0 | h0
        · exact hs h0
        · exact hns h0

theorem split_drops_trailing_empty (s sep : Bytes) : (StrF.split s sep).getLast? ≠ some [] :=
  dropTrailingEmpty_getLast _

example : StrF.split [97, 44, 98, 44, 44] [44] = [[97], [98]] := by decide +kernel
example : StrF.split [32, 97, 9, 10, 98, 32] [32] = [[], [97], [98]] := by decide +kernel
example : StrF.join [44] (StrF.split [44, 97, 44, 44, 98] [44]) = [44, 97, 44, 44, 98] :=
  join_split _ _ (by decide) (Or.inr (by decide))

/-- the hypotheses of the round-trip theorems are satisfiable -/
example : StrF.split (StrF.join [44] [[97],[98,99]]) [44] = [[97],[98,99]] :=
  split_join [44] _ (by decide) (by decide) (by decide) (by decide)
example : StrF.split (StrF.join [32] [[97],[98,99]]) [32] = [[97],[98,99]] :=
  split_join_space _ (by decide) (by decide)
example : StrF.join [44] (StrF.split [97,44,44,98] [44]) = [97,44,44,98] :=
  join_split _ _ (by decide) (Or.inr (by decide))

/-! ## size, slice, truncate count characters; truncatewords counts words -/

theorem size_runes (s : Bytes) : StrF.size s = runeLen s := runeCountAux_eq s.length s

/-- `slice` selects characters: a negative start counts from the end (`sliceStart`), a start
    outside the string or a negative length ⇒ `""`, the length clamped to what is left -/
theorem slice_spec (s : Bytes) (start n : Int) :
    StrF.slice s start n =
      if sliceStart (runeLen s) start < 0 ∨ sliceStart (runeLen s) start > runeLen s ∨ n < 0 then []
      else encodeRunes (((decodeRunes s).drop (sliceStart (runeLen s) start).toNat).take n.toNat) := by
  unfold StrF.slice
  by_cases hs : s.isEmpty
  · have : s = [] := List.isEmpty_iff.mp hs
    subst this
    simp [decodeRunes, decodeRunesAux, encodeRunes]
  · simp only [hs, Bool.false_eq_true, if_false]
    show (if sliceStart (runeLen s) start < 0 ∨ sliceStart (runeLen s) start > runeLen s ∨ n < 0 then []
      else encodeRunes (((decodeRunes s).drop (sliceStart (runeLen s) start).toNat).take
        (if n > (runeLen s : Int) - sliceStart (runeLen s) start then (runeLen s : Int) - sliceStart (runeLen s) start else n).toNat)) = _
    generalize sliceStart (runeLen s) start = st
    by_cases hc : st < 0 ∨ st > (runeLen s : Int) ∨ n < 0
    · rw [if_pos hc, if_pos hc]
    · rw [if_neg hc, if_neg hc]
      congr 1
      by_cases hn : n > (runeLen s : Int) - st
      · rw [if_pos hn, List.take_of_length_le, List.take_of_length_le]
        · rw [List.length_drop]; simp only [runeLen] at hn hc ⊢; omega
        · rw [List.length_drop]; simp only [runeLen] at hn hc ⊢; omega
      · rw [if_neg hn]

/-- the result has at most `n` characters and at most as many as `s` -/
theorem slice_len_le (s : Bytes) (start n : Int) :
    (runeLen (StrF.slice s start n) : Int) ≤ max n 0 ∧ runeLen (StrF.slice s start n) ≤ runeLen s := by
  rw [slice_spec]
  split
  · simp only [runeLen_nil]; omega
  · rw [runeLen_encodeRunes]
    simp only [List.length_take, List.length_drop, runeLen]
    omega

/-- on valid UTF-8 the result is no longer than the input in bytes either -/
theorem slice_bytes_le (s : Bytes) (start n : Int) (h : ValidUtf8 s) :
    (StrF.slice s start n).length ≤ s.length := by
  rw [slice_spec]
  split
  · simp
  · conv => rhs; rw [← encodeRunes_decodeRunes_of_valid s h]
    exact (encodeRunes_sublist ((List.take_sublist _ _).trans (List.drop_sublist _ _))).length_le

/-- a string that fits is returned unchanged -/
theorem truncate_fits (s : Bytes) (n : Int) (el : Bytes) (h : (runeLen s : Int) ≤ n) :
    StrF.truncate s n el = s := by
  unfold StrF.truncate
  simp only [runeLen] at h
  simp [h]

/-- a string that does not fit: the runes kept, then the ellipsis -/
theorem truncate_of_lt (s : Bytes) (n : Int) (el : Bytes) (h : n < (runeLen s : Int)) :
    StrF.truncate s n el =
      encodeRunes ((decodeRunes s).take (if n > (runeLen el : Int) then (n - runeLen el).toNat else 0)) ++ el :=
  if_neg (Int.not_le.2 h)

/-- a longer string is cut to exactly `n` characters, the ellipsis included -/
theorem truncate_len (s : Bytes) (n : Int) (el : Bytes) (h : n < (runeLen s : Int)) (hel : (runeLen el : Int) ≤ n) :
    runeLen (StrF.truncate s n el) = n.toNat ∧ el <:+ StrF.truncate s n el ∧
    ∃ k, StrF.truncate s n el = encodeRunes ((decodeRunes s).take k) ++ el ∧ k + runeLen el = n.toNat := by
  rw [truncate_of_lt s n el h]
  generalize hkeep : (if n > (runeLen el : Int) then (n - runeLen el).toNat else 0) = keep
  have hk : keep + runeLen el = n.toNat := by rw [← hkeep]; split <;> omega
  refine ⟨?_, List.suffix_append _ _, keep, rfl, hk⟩
  rw [runeLen_encodeRunes_append, List.length_take]
  unfold runeLen at h
  omega

/-- when even the ellipsis does not fit the result is the ellipsis alone (as in Shopify Liquid) -/
theorem truncate_short (s : Bytes) (n : Int) (el : Bytes) (h : n < (runeLen s : Int)) (hel : n ≤ (runeLen el : Int)) :
    StrF.truncate s n el = el := by
  rw [truncate_of_lt s n el h, if_neg (Int.not_lt.2 hel)]
  rfl

/-- on valid UTF-8 the kept part is a prefix of the input -/
theorem truncate_prefix (s : Bytes) (n : Int) (el : Bytes) (hv : ValidUtf8 s) (h : n < (runeLen s : Int)) :
    ∃ k, k <+: s ∧ StrF.truncate s n el = k ++ el := by
  rw [truncate_of_lt s n el h]
  refine ⟨_, ?_, rfl⟩
  conv => rhs; rw [← encodeRunes_decodeRunes_of_valid s hv]
  exact encodeRunes_prefix (List.take_prefix _ _)

/-- a text of at most `n` words (`n < 1` counts as 1) is returned unchanged -/
theorem truncatewords_fits (s : Bytes) (n : Int) (el : Bytes) (h : wordCount s ≤ twLimit n) :
    StrF.truncatewords s n el = s := by
  rw [truncatewords_eq, (twKeep_none_iff (twLimit n) s).mpr h]

/-- otherwise: the original text up to the end of the `n`-th word, then the ellipsis -/
theorem truncatewords_spec (s : Bytes) (n : Int) (el : Bytes) (h : twLimit n < wordCount s) :
    ∃ k, StrF.truncatewords s n el = k ++ el ∧ k <+: s ∧ wordCount k = twLimit n ∧
      (∀ b, k.getLast? = some b → StrF.isWordSpace b = false) := by
  cases hk : StrF.twKeep (twLimit n) s with
  | none => have := (twKeep_none_iff _ _).mp hk; omega
  | some k =>
    obtain ⟨h1, h2, h3, _⟩ := twKeep_some _ s k (twLimit_pos n) hk
    refine ⟨k, ?_, h1, h2, h3⟩
    rw [truncatewords_eq, hk]

example : StrF.size [195, 169, 255, 97] = 3 := by decide +kernel
example : StrF.slice [97, 195, 169, 98] 1 2 = [195, 169, 98] := by decide +kernel
example : StrF.slice [97, 98, 99] 5 1 = [] := by decide +kernel            -- a start beyond the end (D2, DESIGN A.8)
example : StrF.slice [97, 98, 99] (-2) 9223372036854775807 = [98, 99] := by decide +kernel
example : StrF.truncate [97, 98, 99, 100, 101, 102] 4 [195, 169] = [97, 98, 99, 195, 169] := by decide +kernel
example : StrF.truncatewords [97, 32, 98, 32, 99] 2 [46] = [97, 32, 98, 46] := by decide +kernel
example : StrF.truncatewords [97, 32, 98, 32, 99] 3 [46] = [97, 32, 98, 32, 99] := by decide +kernel   -- exactly n words
example : wordCount [97, 32, 98, 32, 99] = 3 ∧ twLimit 3 = 3 ∧ twLimit (-5) = 1 := by decide +kernel

/-! ## escape, escape_once -/

/-- `escape` leaves no raw `<`, `>`, `'`, `"`, and every `&` of its output starts one of the five
    entities it produces -/
theorem escape_clean (s : Bytes) :
    (∀ b ∈ StrF.escape s, b ≠ 60 ∧ b ≠ 62 ∧ b ≠ 39 ∧ b ≠ 34) ∧
    (∀ pre post, StrF.escape s = pre ++ 38 :: post → EscEntityPrefix (38 :: post)) :=
  ⟨escape_no_raw s, fun pre post h => escape_amp_entity s pre post h⟩

/-- `html.UnescapeString(html.EscapeString(s)) == s`: never outside the modelled entity table -/
theorem unescape_escape (s : Bytes) : StrF.unescape (StrF.escape s) = some s :=
  unescapeAux_escape s _ (Nat.le_refl _)

/-- already escaped text passes through `escape_once` unchanged, for every `s` (no `_partial` hypothesis) -/
theorem escape_once_escape (s : Bytes) : StrF.escapeOnce (StrF.escape s) = some (StrF.escape s) := by
  simp [StrF.escapeOnce, unescape_escape]

/-- FULL statement wanted: `escape_once (escape_once s) = escape_once s` for every `s`. Proved:
    whenever `escape_once s` is modelled (no named entity outside `amp lt gt quot apos`).
    Missing: Go's 2231-entry entity table. -/
theorem escape_once_idem_partial (s t : Bytes) (h : StrF.escapeOnce s = some t) : StrF.escapeOnce t = some t := by
  obtain ⟨u, _, rfl⟩ := escapeOnce_some s t h
  exact escape_once_escape u

/-- FULL statement wanted: the output of `escape_once` has no raw `<` `>` `'` `"`, for every `s`. Proved: whenever
    `escape_once s` is modelled; missing as for `escape_once_idem_partial`. -/
theorem escape_once_clean_partial (s t : Bytes) (h : StrF.escapeOnce s = some t) :
    ∀ b ∈ t, b ≠ 60 ∧ b ≠ 62 ∧ b ≠ 39 ∧ b ≠ 34 := by
  obtain ⟨u, _, rfl⟩ := escapeOnce_some s t h
  exact escape_no_raw u

example : StrF.escape [60, 38, 39] = [38, 108, 116, 59, 38, 97, 109, 112, 59, 38, 35, 51, 57, 59] := by decide +kernel
example : StrF.escapeOnce [38, 108, 116, 59, 60] = some [38, 108, 116, 59, 38, 108, 116, 59] := by decide +kernel
example : StrF.escapeOnce [38, 99, 111, 112, 121, 59] = none := by decide +kernel       -- &copy; is outside the table

theorem url_roundtrip (s : Bytes) : StrF.urlDecode (StrF.urlEncode s) = some s := by
  induction s with
  | nil => rfl
  | cons c rest ih => simp [StrF.urlEncode, urlDecode_encodeByte, ih]

theorem url_encode_alphabet (s : Bytes) : ∀ b ∈ StrF.urlEncode s,
    StrF.urlUnreserved b = true ∨ b = 43 ∨ b = 37 ∨ (48 ≤ b ∧ b ≤ 57) ∨ (65 ≤ b ∧ b ≤ 70) :=
  fun b hb => (urlEncode_mem s b hb).1

example : StrF.urlEncode [32, 233, 97] = [43, 37, 69, 57, 97] := by decide +kernel
example : StrF.urlDecode [37, 122, 122] = none := by decide +kernel                      -- bad escape ⇒ error

theorem strip_html_spec (s : Bytes) :
    List.Sublist (StrF.stripHtml s) s ∧
    (∀ pre mid post, StrF.stripHtml s = pre ++ 60 :: mid ++ 62 :: post → 10 ∈ mid) ∧
    (60 ∉ s → StrF.stripHtml s = s) :=
  ⟨stripHtml_sublist s, stripHtml_no_tag s, stripHtml_of_no_lt s⟩

theorem strip_newlines_spec (s : Bytes) : StrF.stripNewlines s = s.filter (· != 10) ∧ 10 ∉ StrF.stripNewlines s :=
  ⟨rfl, fun h => absurd (List.mem_filter.mp h).2 (by decide)⟩

theorem newline_to_br_spec (s : Bytes) :
    StrF.newlineToBr s = s.flatMap (fun b => if b == 10 then [60, 98, 114, 32, 47, 62] else [b]) ∧
    10 ∉ StrF.newlineToBr s := by
  refine ⟨newlineToBr_eq_flatMap s, fun h => ?_⟩
  rw [newlineToBr_eq_flatMap, List.mem_flatMap] at h
  obtain ⟨b, -, hb⟩ := h
  split at hb
  · revert hb; decide
  · next hne => exact hne (by rw [← List.mem_singleton.1 hb]; rfl)

example : StrF.stripHtml [97, 60, 98, 62, 99, 60, 10, 62] = [97, 99, 60, 10, 62] := by decide +kernel

/-! ## receivers that are not strings are first converted to the text they print as -/

/-- nil ⇒ `""`, booleans ⇒ `true` / `false`, integers of every width ⇒ their decimal digits (the
    conversion the `strfv` driver op applies before the filter; floats are outside the model) -/
theorem recv_to_string :
    StrF.recvToString .nil = some [] ∧
    StrF.recvToString (.bool true) = some [116, 114, 117, 101] ∧
    StrF.recvToString (.bool false) = some [102, 97, 108, 115, 101] ∧
    (∀ k n, StrF.recvToString (.int k n) = some (StrF.intToBytes n)) ∧
    (∀ s, StrF.recvToString (.str s) = some s) := ⟨rfl, rfl, rfl, fun _ _ => rfl, fun _ => rfl⟩

example : StrF.intToBytes (-120) = [45, 49, 50, 48] := by decide +kernel

/-! ## valid UTF-8 in ⇒ valid UTF-8 out (every string filter except `url_decode`) -/

theorem utf8_preserved_append (s x : Bytes) (hs : ValidUtf8 s) (hx : ValidUtf8 x) :
    ValidUtf8 (StrF.append s x) ∧ ValidUtf8 (StrF.prepend s x) :=
  ⟨validUtf8_append hs hx, validUtf8_append hx hs⟩

/-- the case filters even repair invalid input (every invalid byte becomes U+FFFD) -/
theorem utf8_preserved_case (s t : Bytes) (h : StrF.upcase s = some t ∨ StrF.downcase s = some t) : ValidUtf8 t := by
  rcases h with h | h
  · exact Option.some.inj ((upcase_total s).symm.trans h) ▸ validUtf8_encodeRunes _
  · exact Option.some.inj ((downcase_total s).symm.trans h) ▸ validUtf8_encodeRunes _

/-- … for every byte string, in the total form: the result of `upcase` / `downcase` is valid UTF-8 whatever the input -/
theorem utf8_case_all (s : Bytes) : ValidUtf8 (StrF.upcaseT s) ∧ ValidUtf8 (StrF.downcaseT s) :=
  ⟨validUtf8_encodeRunes _, validUtf8_encodeRunes _⟩

/-- every image under the case tables is a scalar value (never a surrogate, never above U+10FFFF): the encoder never has
    to substitute U+FFFD for an image, so the bytes written are the images themselves -/
theorem case_images_scalar (r : Rune) (h : isScalar r = true) :
    isScalar (toUpperRune r) = true ∧ isScalar (toLowerRune r) = true :=
  ⟨toUpperRune_scalar h, toLowerRune_scalar h⟩

theorem utf8_preserved_capitalize (s t : Bytes) (hs : ValidUtf8 s) (h : StrF.capitalize s = some t) : ValidUtf8 t := by
  by_cases hne : s = []
  · subst hne; cases h; exact validUtf8_nil
  · obtain rfl := Option.some.inj ((capitalize_total s hne).symm.trans h)
    exact validUtf8_append (validUtf8_encodeRune _) (validUtf8_drop_rune s hs)

theorem utf8_preserved_strip (s : Bytes) (hs : ValidUtf8 s) :
    ValidUtf8 (StrF.strip s) ∧ ValidUtf8 (StrF.lstrip s) ∧ ValidUtf8 (StrF.rstrip s) :=
  ⟨trimRightSpace_valid _ (trimLeftSpace_valid s hs), trimLeftSpace_valid s hs, trimRightSpace_valid s hs⟩

theorem utf8_preserved_replace (s old new : Bytes) (hs : ValidUtf8 s) (ho : ValidUtf8 old) (hn : ValidUtf8 new) :
    ValidUtf8 (StrF.replace s old new) ∧ ValidUtf8 (StrF.replaceFirst s old new) ∧
    ValidUtf8 (StrF.remove s old) ∧ ValidUtf8 (StrF.removeFirst s old) :=
  ⟨replace_valid s old new hs ho hn, replaceFirst_valid s old new hs ho hn, replace_valid s old [] hs ho validUtf8_nil,
    replaceFirst_valid s old [] hs ho validUtf8_nil⟩

theorem utf8_preserved_split (s sep : Bytes) (hs : ValidUtf8 s) (hsep : ValidUtf8 sep) :
    (∀ p ∈ StrF.split s sep, ValidUtf8 p) ∧ ValidUtf8 (StrF.join sep (StrF.split s sep)) :=
  ⟨split_valid s sep hs hsep, join_valid sep _ hsep (split_valid s sep hs hsep)⟩

/-- `slice` output is valid for every input, valid or not -/
theorem utf8_preserved_slice (s : Bytes) (start n : Int) : ValidUtf8 (StrF.slice s start n) := by
  rw [slice_spec]
  split
  · exact validUtf8_nil
  · exact validUtf8_encodeRunes _

theorem utf8_preserved_truncate (s : Bytes) (n : Int) (el : Bytes) (hs : ValidUtf8 s) (he : ValidUtf8 el) :
    ValidUtf8 (StrF.truncate s n el) ∧ ValidUtf8 (StrF.truncatewords s n el) := by
  constructor
  · by_cases h : (runeLen s : Int) ≤ n
    · rw [truncate_fits s n el h]; exact hs
    · rw [truncate_of_lt s n el (Int.not_le.1 h)]; exact validUtf8_append (validUtf8_encodeRunes _) he
  · rw [truncatewords_eq]
    cases hk : StrF.twKeep (twLimit n) s with
    | none => exact hs
    | some k =>
      obtain ⟨_, _, _, b, rest, e, hb⟩ := twKeep_some _ s k (twLimit_pos n) hk
      rw [e] at hs
      exact validUtf8_append (validUtf8_of_append_ascii k b rest (isWordSpace_ascii b hb) hs).1 he

theorem utf8_preserved_escape (s : Bytes) (hs : ValidUtf8 s) :
    ValidUtf8 (StrF.escape s) ∧ (∀ t, StrF.escapeOnce s = some t → ValidUtf8 t) := by
  refine ⟨escape_valid s hs, fun t h => ?_⟩
  obtain ⟨u, hu, rfl⟩ := escapeOnce_some s t h
  exact escape_valid u (unescape_valid s u hs hu)

theorem utf8_preserved_html (s : Bytes) (hs : ValidUtf8 s) :
    ValidUtf8 (StrF.stripHtml s) ∧ ValidUtf8 (StrF.stripNewlines s) ∧ ValidUtf8 (StrF.newlineToBr s) := by
  refine ⟨stripHtml_valid s [] hs, ?_, ?_⟩
  · have e : StrF.stripNewlines s = s.flatMap fun b => [b].filter (· != 10) := by
      rw [← List.filter_flatMap, List.flatMap_singleton']; rfl
    rw [e]
    refine validUtf8_flatMap _ (fun b hb => ?_) (fun b hb c hc => ?_) s hs
    · exact List.filter_cons_of_pos (by simpa using u8_ne_of_high hb (by decide))
    · rw [List.mem_singleton.1 (List.mem_filter.1 hc).1]; exact hb
  · rw [newlineToBr_eq_flatMap]
    refine validUtf8_flatMap _ (fun b hb => if_neg (mt beq_iff_eq.1 (u8_ne_of_high hb (by decide)))) ?_ s hs
    intro b hb c hc
    split at hc
    · exact (by decide : ∀ c ∈ ([60, 98, 114, 32, 47, 62] : Bytes), c < 0x80) c hc
    · rw [List.mem_singleton.1 hc]; exact hb

/-- `url_encode` output is ASCII for every input -/
theorem utf8_preserved_url_encode (s : Bytes) : ValidUtf8 (StrF.urlEncode s) :=
  validUtf8_of_all_ascii _ fun b hb => (urlEncode_mem s b hb).2

/-- the exception: `url_decode` can produce invalid UTF-8 from valid (ASCII) input -/
theorem url_decode_not_preserving :
    ValidUtf8 [37, 70, 70] ∧ StrF.urlDecode [37, 70, 70] = some [255] ∧ ¬ ValidUtf8 [255] := by
  refine ⟨by decide, by decide, by decide⟩

example : ValidUtf8 [195, 169, 32, 240, 159, 152, 128] := by decide +kernel
example : ¬ ValidUtf8 [195] := by decide +kernel
