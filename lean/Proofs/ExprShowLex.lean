import Proofs.ExprLitLemmas
import Proofs.ExprRoundTrip
/-!
# The scanner on the printed text of a tree

`lexeme_of_ok`: the canonical spelling of a token that has one (`ETok.ok`) is a complete lexeme of its rule
(`Lexeme`, `Proofs/ExprLexemes.lean`) and `mkTok` reads it back as that token.
`fits_ok`: such a lexeme is cut off before the end of the text, a break byte (white space, `( ) [ ] , | ;` …)
and before `.name`.
`lex_spaced`: the tokens written with ANY white space between them - none at all where the printer writes
none (after `(`, `[`; before `.name`, `[`, `]`, `,`, `)`) - are read back by the scanner as exactly these tokens.
`lexesBack_of_printable` is the instance for the printer's own layout.
-/

theorem isIdentBytes_decomp (x : Bytes) (h : isIdentBytes x = true) :
    ∃ c body qm, x = c :: body ++ qm ∧ isIdStart c = true ∧ body.all isIdCont = true ∧ (qm = [] ∨ qm = [63]) := by
  cases x with
  | nil => simp [isIdentBytes] at h
  | cons c t =>
    simp only [isIdentBytes, Bool.and_eq_true] at h
    obtain ⟨hc, ht⟩ := h
    by_cases hl : t.getLast? = some 63
    · simp only [hl, BEq.rfl, if_true] at ht
      refine ⟨c, t.dropLast, [63], ?_, hc, ht, Or.inr rfl⟩
      have hne : t ≠ [] := by intro h0; subst h0; simp at hl
      have h63 : t.getLast hne = 63 := by
        rw [List.getLast?_eq_some_getLast hne] at hl; exact Option.some.inj hl
      have := List.dropLast_concat_getLast hne
      rw [h63] at this
      simp only [List.cons_append, this]
    · have hb : (t.getLast? == some 63) = false := by simpa using hl
      simp only [hb, Bool.false_eq_true, if_false] at ht
      exact ⟨c, t, [], by simp, hc, ht, Or.inl rfl⟩

theorem wordRule_eq_ident_iff (l : Bytes) : wordRule l = .rIdent ↔ reservedWords.contains l = false := by
  simp only [reservedWords, List.contains_eq_mem, List.mem_cons, List.mem_nil_iff, or_false, decide_eq_false_iff_not]
  constructor
  · intro h hm
    rcases hm with rfl | rfl | rfl | rfl | rfl | rfl | rfl <;> exact absurd h (by decide)
  · intro h
    simp only [not_or] at h
    obtain ⟨h1, h2, h3, h4, h5, h6, h7⟩ := h
    unfold wordRule
    simp [h1, h2, h3, h4, h5, h6, h7]

theorem printed_isPunct (b : UInt8) (h : printedCh b = true) : isPunct b = true := by
  simp only [printedCh, Bool.or_eq_true, beq_iff_eq] at h
  rcases h with (((((((rfl | rfl) | rfl) | rfl) | rfl) | rfl) | rfl) | rfl) | rfl <;> rfl

theorem contains_false_all_ne (s : Bytes) (q : UInt8) (h : s.contains q = false) :
    s.all (fun b => b != q) = true := by
  rw [List.all_eq_true]
  intro b hb
  simp only [bne_iff_ne, ne_eq]
  intro hq; subst hq
  simp only [List.contains_eq_mem, decide_eq_false_iff_not] at h
  exact h hb

theorem lexeme_ident (w : Bytes) (h : isIdentBytes w = true) : Lexeme (wordRule w) w := by
  obtain ⟨c, body, qm, rfl, hc, hb, hqm⟩ := isIdentBytes_decomp w h
  exact Lexeme.word c body qm hc hb hqm

theorem lexeme_float (q : Rat) : Lexeme .rFloat (showFloat q) := by
  refine Lexeme.float _ _ _ ?_ (natDec_ne_nil _) (natDec_all_digits _)
    (fun h0 => natDec_ne_nil _ (List.append_eq_nil_iff.1 h0).2)
    (by rw [List.all_append, zeros_all_digits, natDec_all_digits]; rfl)
  split
  · exact Or.inr rfl
  · exact Or.inl rfl

theorem lexeme_str (s : Bytes) (h : (!(s.contains 34 && s.contains 39)) = true) :
    Lexeme .rString (showStr s) ∧ mkTok .rString (showStr s) = .ok (some (.lit (.str s))) := by
  unfold showStr
  by_cases h34 : s.contains 34 = true
  · have h39 : s.contains 39 = false := by
      cases h' : s.contains 39 with
      | false => rfl
      | true => rw [h34, h'] at h; cases h
    rw [if_pos h34]
    exact ⟨Lexeme.string 39 s rfl (contains_false_all_ne s 39 h39), mkTok_string 39 s⟩
  · have h34' : s.contains 34 = false := by simpa using h34
    rw [if_neg h34]
    exact ⟨Lexeme.string 34 s rfl (contains_false_all_ne s 34 h34'), mkTok_string 34 s⟩

theorem lexeme_of_ok (t : ETok) (h : t.ok = true) :
    Lexeme t.lexeme.1 t.lexeme.2 ∧ mkTok t.lexeme.1 t.lexeme.2 = .ok (some t) := by
  cases t with
  | lit v =>
    cases v with
    | nil => exact ⟨lexeme_ident kwNil (by decide +kernel), rfl⟩
    | bool b =>
      cases b with
      | true => exact ⟨lexeme_ident kwTrue (by decide +kernel), rfl⟩
      | false => exact ⟨lexeme_ident kwFalse (by decide +kernel), rfl⟩
    | int k n =>
      cases k <;> first | exact ⟨lexeme_intDec n, mkTok_intDec n h⟩ | exact absurd h Bool.false_ne_true
    | flt k q =>
      cases k with
      | f64 =>
        refine ⟨lexeme_float q, ?_⟩
        have h : floatLitValue (showFloat q) = some (some q) := beq_iff_eq.1 h
        show mkTok .rFloat (showFloat q) = _
        rw [mkTok, h]
      | f32 => exact absurd h Bool.false_ne_true
    | str s => exact lexeme_str s h
    | _ => exact absurd h Bool.false_ne_true
  | ident x =>
    simp only [ETok.ok, Bool.and_eq_true, Bool.not_eq_true'] at h
    have hl := lexeme_ident x h.1
    rw [(wordRule_eq_ident_iff _).2 h.2] at hl
    exact ⟨hl, rfl⟩
  | keyword x =>
    simp only [ETok.ok] at h
    obtain ⟨c, body, qm, rfl, hc, hb, hqm⟩ := isIdentBytes_decomp x h
    exact ⟨Lexeme.keyword c body qm hc hb hqm, mkTok_keyword _⟩
  | property x =>
    simp only [ETok.ok] at h
    obtain ⟨c, body, qm, rfl, hc, hb, hqm⟩ := isIdentBytes_decomp x h
    exact ⟨Lexeme.property c body qm hc hb hqm, rfl⟩
  | assign | cycle | loop | when => exact absurd h Bool.false_ne_true
  | eq => exact ⟨Lexeme.op2 61 rfl, rfl⟩
  | neq => exact ⟨Lexeme.op2 33 rfl, rfl⟩
  | ge => exact ⟨Lexeme.op2 62 rfl, rfl⟩
  | le => exact ⟨Lexeme.op2 60 rfl, rfl⟩
  | and_ => exact ⟨lexeme_ident kwAnd (by decide +kernel), rfl⟩
  | or_ => exact ⟨lexeme_ident kwOr (by decide +kernel), rfl⟩
  | contains => exact ⟨lexeme_ident kwContains (by decide +kernel), rfl⟩
  | in_ => exact ⟨lexeme_ident kwIn (by decide +kernel), rfl⟩
  | dotdot => exact ⟨Lexeme.dotdot, rfl⟩
  | ch b =>
    simp only [ETok.ok] at h
    exact ⟨Lexeme.punct b (printed_isPunct b h), rfl⟩

theorem lexeme_ne_dot (t : ETok) (h : t.ok = true) : t.lexeme.2 ≠ [46] := by
  intro heq
  obtain ⟨hl, hm⟩ := lexeme_of_ok t h
  rw [heq] at hl hm
  -- the scanner's rule for the text `.` is `rAny`, and the printer never writes its token `.ch 46`
  rw [Cut.rule_unique (.lexeme hl (fits_nil _ _ hl)) (.lexeme (.punct 46 rfl) (fits_nil _ _ (.punct 46 rfl)))] at hm
  cases hm
  cases h

/-- the text starts with `.name` -/
def startsProp : Bytes → Bool
  | b :: c :: _ => b == 46 && isIdStart c
  | _ => false

/-- the text is empty, or starts with a break byte, or with `.name` -/
def safeRest (s : Bytes) : Bool := startsWithBreak s || startsProp s

theorem fits_dot (r : Rule) (l : Bytes) (c : UInt8) (t : Bytes) (hl : Lexeme r l) (hc : isIdStart c = true)
    (hne : l ≠ [46]) : fits r l (46 :: c :: t) = true := by
  refine fits_of hl _ ?_ (fun w => ?_) (fun c' h => fitsPunct_of c' _ rfl (fun h46 => absurd (h46 ▸ h) hne) rfl rfl rfl rfl)
  · show (!isDigit 46 && !isDigit c) = true
    rw [idStart_not_digit c hc]; rfl
  · show ((w.getLast? == some 63 || true) && true) = true
    rw [Bool.or_true]; rfl

theorem fits_ok (t : ETok) (h : t.ok = true) (rest : Bytes) (hs : safeRest rest = true) :
    fits t.lexeme.1 t.lexeme.2 rest = true := by
  have hl := (lexeme_of_ok t h).1
  simp only [safeRest, Bool.or_eq_true] at hs
  rcases hs with hs | hs
  · exact fits_startsWithBreak _ _ _ hl hs
  · match rest, hs with
    | b :: c :: r, hs =>
      simp only [startsProp, Bool.and_eq_true, beq_iff_eq] at hs
      rw [hs.1]
      exact fits_dot _ _ c r hl hs.2 (lexeme_ne_dot t h)

theorem fits_tightAfter (t : ETok) (h : tightAfter t = true) (rest : Bytes) : fits t.lexeme.1 t.lexeme.2 rest = true := by
  cases t with
  | ch b =>
    simp only [tightAfter, Bool.or_eq_true, beq_iff_eq] at h
    rcases h with rfl | rfl <;> rfl
  | _ => exact absurd h Bool.false_ne_true

theorem tightBefore_safe (t : ETok) (hok : t.ok = true) (h : tightBefore t = true) (rest : Bytes) :
    safeRest (t.lexeme.2 ++ rest) = true := by
  cases t with
  | property x =>
    simp only [ETok.ok] at hok
    obtain ⟨c, body, qm, rfl, hc, _, _⟩ := isIdentBytes_decomp x hok
    refine Bool.or_eq_true_iff.2 (Or.inr ?_)
    show ((46 : UInt8) == 46 && isIdStart c) = true
    rw [hc]; rfl
  | ch b =>
    simp only [tightBefore, Bool.or_eq_true, beq_iff_eq] at h
    rcases h with ((rfl | rfl) | rfl) | rfl <;> rfl
  | _ => exact absurd h Bool.false_ne_true

/-- the tokens with the white space written before each of them -/
def spacedToks : List (Bytes × ETok) → Bytes
  | [] => []
  | x :: xs => x.1 ++ x.2.lexeme.2 ++ spacedToks xs

def pairPieces (l : List (Bytes × ETok)) : List Piece := l.map fun x => ⟨x.1, x.2.lexeme.1, x.2.lexeme.2⟩

theorem src_pairPieces (l : List (Bytes × ETok)) : Piece.src (pairPieces l) = spacedToks l := by
  induction l with
  | nil => rfl
  | cons x xs ih => simp only [pairPieces, List.map_cons, Piece.src, spacedToks] at ih ⊢; rw [ih]

/-- **the separators are admissible**: white space only (space, `\t \n \v \f \r`), and not empty between two
    tokens unless the left one is `(` or `[` or the right one is `.name`, `[`, `]`, `,` or `)` — the places
    where the printer writes nothing (`prev`: the token before the list) -/
def SepsOK : Option ETok → List (Bytes × ETok) → Prop
  | _, [] => True
  | prev, x :: xs =>
    isSpaces x.1 = true ∧
    (match prev with
     | none => True
     | some p => x.1 = [] → (tightAfter p || tightBefore x.2) = true) ∧
    SepsOK (some x.2) xs

theorem wellSpaced_pairs (l : List (Bytes × ETok)) (w : Bytes) (hw : isSpaces w = true) :
    ∀ prev, (∀ x ∈ l, x.2.ok = true) → SepsOK prev l → WellSpaced (pairPieces l ++ [semiPiece w]) := by
  induction l with
  | nil => intro _ _ _; exact ⟨hw, lexeme_semi, rfl, trivial⟩
  | cons x xs ih =>
    intro prev hok hs
    obtain ⟨hsp, _, hrest⟩ := hs
    have hx := hok x (List.mem_cons_self ..)
    refine ⟨hsp, (lexeme_of_ok x.2 hx).1, ?_, ih (some x.2) (fun y hy => hok y (List.mem_cons_of_mem _ hy)) hrest⟩
    show fits x.2.lexeme.1 x.2.lexeme.2 (Piece.src (pairPieces xs ++ [semiPiece w])) = true
    rw [src_append, src_pairPieces]
    cases xs with
    | nil =>
      apply fits_startsWithBreak _ _ _ (lexeme_of_ok x.2 hx).1
      simpa [spacedToks, Piece.src, semiPiece] using startsWithBreak_semi w hw
    | cons y ys =>
      obtain ⟨hysp, hyt, _⟩ := hrest
      have hy := hok y (List.mem_cons_of_mem _ (List.mem_cons_self ..))
      simp only [spacedToks, List.append_assoc]
      cases hw1 : y.1 with
      | cons c t =>
        rw [hw1] at hysp
        exact fits_startsWithBreak _ _ _ (lexeme_of_ok x.2 hx).1 (startsWithBreak_spaces _ _ hysp (List.cons_ne_nil _ _))
      | nil =>
        have ht := hyt hw1
        simp only [Bool.or_eq_true] at ht
        rcases ht with ht | ht
        · exact fits_tightAfter _ ht _
        · apply fits_ok _ hx
          simpa using tightBefore_safe y.2 hy ht _

theorem lexemeToks_toks (ts : List ETok) (hok : ∀ t ∈ ts, t.ok = true) (tail : List (Rule × Bytes)) :
    lexemeToks (ts.map ETok.lexeme ++ tail) = (ts ++ (lexemeToks tail).1, (lexemeToks tail).2) := by
  induction ts with
  | nil => rfl
  | cons t ts ih =>
    have ht := (lexeme_of_ok t (hok t (List.mem_cons_self ..))).2
    simp only [List.map_cons, List.cons_append, lexemeToks, ht, consTok,
      ih (fun y hy => hok y (List.mem_cons_of_mem _ hy))]

theorem lex_spaced (l : List (Bytes × ETok)) (w : Bytes) (hok : ∀ x ∈ l, x.2.ok = true) (hs : SepsOK none l)
    (hw : isSpaces w = true) : lex (spacedToks l ++ w) = (l.map (·.2) ++ [.ch 59], none) := by
  have := lex_pieces (pairPieces l) w (wellSpaced_pairs l w hw none hok hs)
  rw [src_pairPieces] at this
  rw [this, show (pairPieces l).map Piece.lexeme = (l.map (·.2)).map ETok.lexeme by
    simp [pairPieces, Piece.lexeme, Function.comp_def], lexemeToks_toks _ (by
    intro t ht
    obtain ⟨x, hx, rfl⟩ := List.mem_map.1 ht
    exact hok x hx)]
  rfl

/-- `lex_spaced` for a list of tokens given beforehand -/
theorem lex_spaced_of_map (l : List (Bytes × ETok)) (ts : List ETok) (w : Bytes) (hl : l.map (·.2) = ts)
    (hok : ts.all ETok.ok = true) (hs : SepsOK none l) (hw : isSpaces w = true) :
    lex (spacedToks l ++ w) = (ts ++ [.ch 59], none) := by
  subst hl
  exact lex_spaced l w (fun x hx => List.all_eq_true.1 hok _ (List.mem_map.2 ⟨x, hx, rfl⟩)) hs hw

/-- the separators the printer writes -/
def showLayout : Option ETok → List ETok → List (Bytes × ETok)
  | _, [] => []
  | prev, t :: ts =>
    ((match prev with
      | none => []
      | some p => if tightAfter p || tightBefore t then [] else [32]), t) :: showLayout (some t) ts

theorem showLayout_toks (prev : Option ETok) (ts : List ETok) : (showLayout prev ts).map (·.2) = ts := by
  induction ts generalizing prev with
  | nil => rfl
  | cons t ts ih => simp [showLayout, ih]

theorem showLayout_text (prev : Option ETok) (ts : List ETok) : spacedToks (showLayout prev ts) = showToks prev ts := by
  induction ts generalizing prev with
  | nil => rfl
  | cons t ts ih => simp only [showLayout, spacedToks, showToks, ih]; rfl

theorem showLayout_ok (prev : Option ETok) (ts : List ETok) : SepsOK prev (showLayout prev ts) := by
  induction ts generalizing prev with
  | nil => trivial
  | cons t ts ih =>
    refine ⟨?_, ?_, ih _⟩
    · cases prev with
      | none => rfl
      | some p => dsimp only; split <;> rfl
    · cases prev with
      | none => trivial
      | some p =>
        dsimp only
        intro h
        split at h
        · assumption
        · cases h

theorem lexesBack_of_printable (e : Expr) (h : e.printable = true) : e.lexesBack := by
  unfold Expr.lexesBack Expr.show
  have := lex_spaced_of_map (showLayout none (e.toks 0)) _ [] (showLayout_toks none _) h (showLayout_ok none _) rfl
  rwa [List.append_nil, showLayout_text] at this
