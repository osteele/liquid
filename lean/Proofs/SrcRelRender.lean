import Proofs.SrcReline
import Proofs.Oracles
/-!
# Rendering does not depend on the line numbers of the nodes — except in the line of an error

Two node trees that differ only in their line numbers (`Node.rel g n` and `Node.rel g' n`, with `g x = 0 ↔ g' x = 0`)
render to interaction trees that make the same calls on the writer, return the same states and statuses and
fail alike, up to the LINE of the located error (`SErrRel`: same path flag, cause and message). This holds for trees
without `include` in any context (`lineRel_renderNode`), and for every tree in a context whose include handler is itself
line-independent (`IncRel`; Proofs/SrcRelInclude.lean shows that the engine's handler is): `relM_renderNode` serves both. It is the
instance of the lock-step congruence (Proofs/RenderSim.lean) for one context, equal variables, failures related by `RawRel`, statuses by
`StatusRel` and locations by `LocRel`; `ProgRel R` is `PSim .none RawRel R` (`ProgRel.sim`, `PSim.toProgRel`), and `LineMRel R`, in which
the statements are written, is `MSim .none RawRel Eq R`: from every state, related results and EQUAL final states (`LineMRel.sim`).
-/

/-- two located errors that agree in everything but (possibly) the line, which is zero in both or in neither: `wrapError` asks of the
    line of an error only whether it is 0 (an error with neither path nor line is located anew), so every wrapper keeps this relation -/
def SErrRel (e e' : SErr) : Prop := e.pathSet = e'.pathSet ∧ e.cause = e'.cause ∧ e.msg = e'.msg ∧ (e.line = 0 ↔ e'.line = 0)

theorem SErrRel.refl (e : SErr) : SErrRel e e := ⟨rfl, rfl, rfl, Iff.rfl⟩

def RawRel : RawErr → RawErr → Prop
  | .plain c, .plain c' => c = c'
  | .located e, .located e' => SErrRel e e'
  | _, _ => False

theorem RawRel.refl : ∀ e, RawRel e e
  | .plain _ => rfl
  | .located e => SErrRel.refl e

def StatusRel : Status → Status → Prop
  | .done, .done => True
  | .brk e, .brk e' => SErrRel e e'
  | .cont e, .cont e' => SErrRel e e'
  | _, _ => False

theorem StatusRel.refl : ∀ st, StatusRel st st
  | .done => True.intro
  | .brk e => SErrRel.refl e
  | .cont e => SErrRel.refl e

/-- locations with the same path flag whose lines are zero together -/
def LocRel (loc loc' : Loc) : Prop := loc.pathSet = loc'.pathSet ∧ (loc.line = 0 ↔ loc'.line = 0)

theorem wrapError_rel (path : Bytes) {loc loc' : Loc} (hl : LocRel loc loc') :
    ∀ {e e' : RawErr}, RawRel e e' → SErrRel (wrapError path e loc) (wrapError path e' loc')
  | .plain c, .plain c', h => by
    cases h
    exact ⟨hl.1, rfl, rfl, hl.2⟩
  | .located e, .located e', h => by
    obtain ⟨h1, h2, h3, h4⟩ := h
    have hb : ∀ a b : Nat, (a = 0 ↔ b = 0) → (a == 0) = (b == 0) := fun a b h =>
      Bool.eq_iff_iff.mpr (by simp only [beq_iff_eq]; exact h)
    have hne : ∀ a b : Nat, (a = 0 ↔ b = 0) → (a != 0) = (b != 0) := by
      intro a b h
      simp only [bne, hb a b h]
    have hz : loc.isZero path = loc'.isZero path := by
      unfold Loc.isZero
      rw [hl.1, hb _ _ hl.2]
    have hcond : ((e.pathSet && !path.isEmpty) || e.line != 0 || loc.isZero path) =
        ((e'.pathSet && !path.isEmpty) || e'.line != 0 || loc'.isZero path) := by
      rw [h1, hz, hne _ _ h4]
    simp only [wrapError, hcond]
    split
    · exact ⟨h1, h2, h3, h4⟩
    · exact ⟨hl.1, by simp only [h2], h3, hl.2⟩
  | .plain _, .located _, h => h.elim
  | .located _, .plain _, h => h.elim

inductive ProgRel {α : Type} (R : α → α → Prop) : Prog α → Prog α → Prop where
  | ret (a b) : R a b → ProgRel R (.ret a) (.ret b)
  | fail (e e') : RawRel e e' → ProgRel R (.fail e) (.fail e')
  | panic (w) : ProgRel R (.panic w) (.panic w)
  | unmodelled (w) : ProgRel R (.unmodelled w) (.unmodelled w)
  | call (b k k') : (∀ r, ProgRel R (k r) (k' r)) → ProgRel R (.call b k) (.call b k')

theorem ProgRel.sim {α} {R : α → α → Prop} {p q : Prog α} (h : ProgRel R p q) : PSim .none RawRel R p q := by
  induction h with
  | ret a b h => exact .ret h
  | fail e e' h => exact .fail h
  | panic w => exact .panic w
  | unmodelled w => exact .unmodelled w
  | call b k k' _ ih => exact .call b ih

theorem PSim.toProgRel {α} {R : α → α → Prop} {p q : Prog α} (h : PSim .none RawRel R p q) : ProgRel R p q := by
  induction h with
  | ret h => exact .ret _ _ h
  | fail h => exact .fail _ _ h
  | panic w => exact .panic w
  | unmodelled w => exact .unmodelled w
  | call b _ ih => exact .call b _ _ ih
  | unmL ht => cases ht
  | unmR ht => cases ht
  | failL he => exact he.elim

theorem ProgRel.bind {α β} {R : α → α → Prop} {R' : β → β → Prop} {p q : Prog α} {f f' : α → Prog β}
    (hp : ProgRel R p q) (hf : ∀ a b, R a b → ProgRel R' (f a) (f' b)) : ProgRel R' (p.bind f) (q.bind f') :=
  (hp.sim.bind fun a b h => (hf a b h).sim).toProgRel

theorem ProgRel.refl {α} {R : α → α → Prop} (hR : ∀ a, R a a) (p : Prog α) : ProgRel R p p :=
  (PSim.refl RawRel.refl hR p).toProgRel

theorem ProgRel.mono {α} {R R' : α → α → Prop} {p q : Prog α} (hp : ProgRel R p q) (h : ∀ a b, R a b → R' a b) :
    ProgRel R' p q :=
  (hp.sim.mono h).toProgRel

def LineMRel {α} (R : α → α → Prop) (m m' : M α) : Prop :=
  ∀ s, ProgRel (fun r r' : α × RS => R r.1 r'.1 ∧ r.2 = r'.2) (m s) (m' s)

theorem LineMRel.sim {α} {R : α → α → Prop} {m m' : M α} (h : LineMRel R m m') : MSim .none RawRel Eq R m m' :=
  fun s _ hs => hs.eq ▸ (h s).sim.mono (fun _ _ hr => ⟨hr.1, hr.2 ▸ ⟨rfl, rfl⟩⟩)

theorem MSim.toLineMRel {α} {R : α → α → Prop} {m m' : M α} (h : MSim .none RawRel Eq R m m') : LineMRel R m m' :=
  fun s => ((h s s ⟨rfl, rfl⟩).mono (S := fun r r' : α × RS => R r.1 r'.1 ∧ r.2 = r'.2) (fun _ _ hr => ⟨hr.1, hr.2.eq⟩)).toProgRel

theorem wrapSim_line : WrapSim RawRel StatusRel LocRel where
  reflF := RawRel.refl
  done := trivial
  kind := fun {st st'} h => by cases st <;> cases st' <;> first | rfl | exact h.elim
  brk := id
  cont := id
  wrapF path hl h := wrapError_rel path hl h
  wrapSt := @fun _ _ st st' path hl h => by
    cases st <;> cases st' <;> first | exact h.elim | trivial | exact wrapError_rel path hl (e := .located _) (e' := .located _) h
  errorf _ hl := ⟨hl.1, rfl, rfl, hl.2⟩
  invalid := ⟨rfl, Iff.rfl⟩

theorem relM_bind {α β} {R : α → α → Prop} {R' : β → β → Prop} {m m' : M α} {f f' : α → M β}
    (hm : LineMRel R m m') (hf : ∀ a b, R a b → LineMRel R' (f a) (f' b)) : LineMRel R' (m >>= f) (m' >>= f') :=
  (hm.sim.bind fun a b h => (hf a b h).sim).toLineMRel

theorem relM_refl {α} {R : α → α → Prop} (hR : ∀ a, R a a) (m : M α) : LineMRel R m m :=
  fun s => ProgRel.refl (fun r => ⟨hR r.1, rfl⟩) (m s)

theorem relM_wrapAt (path : Bytes) {loc loc' : Loc} (hl : LocRel loc loc') {m m' : M Status}
    (hm : LineMRel StatusRel m m') : LineMRel StatusRel (wrapAt path loc m) (wrapAt path loc' m') :=
  (hm.sim.wrapAt wrapSim_line path hl).toLineMRel

theorem locRel_lines {g g' : Nat → Nat} (hz : ∀ x, g x = 0 ↔ g' x = 0) (l : Nat) : LocRel ⟨g l, true⟩ ⟨g' l, true⟩ :=
  ⟨rfl, hz l⟩

/-- the include handler, called for an include tag at two lines that are zero together, answers alike up to the lines of errors -/
def IncRel (inc : Nat → Bytes → Env → Prog (Status × Bytes)) : Prop :=
  ∀ (l l' : Nat) (fn : Bytes) (env : Env), (l = 0 ↔ l' = 0) →
    ProgRel (fun r r' : Status × Bytes => StatusRel r.1 r'.1 ∧ r.2 = r'.2) (inc l fn env) (inc l' fn env)

theorem IncRel.sim {inc : Nat → Bytes → Env → Prog (Status × Bytes)} (h : IncRel inc) :
    IncSimF .none RawRel StatusRel LocRel Eq inc inc :=
  fun l l' f _ _ hl he => he ▸ (h l l' f _ hl.2).sim

/-! The include handler is consulted by include nodes only: the induction asks of each subtree that the handler be
line-independent OR that the subtree have no include node, and serves both readings. -/

section
variable (c : RCtx) {g g' : Nat → Nat} (hz : ∀ x, g x = 0 ↔ g' x = 0)
include hz

theorem relM_renderNode : ∀ n : Node, IncRel c.inc ∨ n.noIncl = true → LineMRel StatusRel (renderNode c (n.rel g)) (renderNode c (n.rel g')) :=
  fun n h => (valSim_eq.renderNodeRel wrapSim_line (ctxSim_refl c) (locRel_lines hz) n (h.imp_left IncRel.sim)).toLineMRel

theorem relM_renderList : ∀ ns : List Node, IncRel c.inc ∨ noInclList ns = true →
    LineMRel StatusRel (renderList c (relNodes g ns)) (renderList c (relNodes g' ns)) :=
  fun ns h => (valSim_eq.renderListRel wrapSim_line (ctxSim_refl c) (locRel_lines hz) ns (h.imp_left IncRel.sim)).toLineMRel

theorem relM_renderBranches : ∀ bs : List (CondT × List Node), IncRel c.inc ∨ noInclBranches bs = true →
    LineMRel StatusRel (renderBranches c (relBranches g bs)) (renderBranches c (relBranches g' bs)) :=
  fun bs h => (valSim_eq.renderBranchesRel wrapSim_line (ctxSim_refl c) (locRel_lines hz) bs (h.imp_left IncRel.sim)).toLineMRel

theorem relM_renderCases (sel : GoVal) : ∀ cs : List (Option (Nat × List Expr) × List Node), IncRel c.inc ∨ noInclCases cs = true →
    LineMRel StatusRel (renderCases c sel (relCases g cs)) (renderCases c sel (relCases g' cs)) :=
  fun cs h => (valSim_eq.renderCasesRel wrapSim_line (ctxSim_refl c) (locRel_lines hz) rfl cs (h.imp_left IncRel.sim)).toLineMRel

theorem relM_renderBlockBody (body : List Node) (h : IncRel c.inc ∨ noInclList body = true) :
    LineMRel StatusRel (renderBlockBody c (relNodes g body)) (renderBlockBody c (relNodes g' body)) :=
  (valSim_eq.renderBlockBodyRel wrapSim_line (ctxSim_refl c) (locRel_lines hz) body (h.imp_left IncRel.sim)).toLineMRel

theorem relM_renderRoot (root : List Node) (h : IncRel c.inc ∨ noInclList root = true) (env : Env) :
    ProgRel StatusRel (renderRoot c (relNodes g root) env) (renderRoot c (relNodes g' root) env) :=
  (valSim_eq.renderRootRel wrapSim_line (ctxSim_refl c) (locRel_lines hz) root (h.imp_left IncRel.sim) rfl).toProgRel
end

theorem lineRel_renderNode (c : RCtx) {g g' : Nat → Nat} (hz : ∀ x, g x = 0 ↔ g' x = 0) :
    ∀ n : Node, n.noIncl = true → LineMRel StatusRel (renderNode c (n.rel g)) (renderNode c (n.rel g')) :=
  fun n hn => relM_renderNode c hz n (.inr hn)

theorem lineRel_renderList (c : RCtx) {g g' : Nat → Nat} (hz : ∀ x, g x = 0 ↔ g' x = 0) :
    ∀ ns : List Node, noInclList ns = true → LineMRel StatusRel (renderList c (relNodes g ns)) (renderList c (relNodes g' ns)) :=
  fun ns hn => relM_renderList c hz ns (.inr hn)

theorem lineRel_renderBranches (c : RCtx) {g g' : Nat → Nat} (hz : ∀ x, g x = 0 ↔ g' x = 0) :
    ∀ bs : List (CondT × List Node), noInclBranches bs = true →
      LineMRel StatusRel (renderBranches c (relBranches g bs)) (renderBranches c (relBranches g' bs)) :=
  fun bs hn => relM_renderBranches c hz bs (.inr hn)

theorem lineRel_renderCases (c : RCtx) {g g' : Nat → Nat} (hz : ∀ x, g x = 0 ↔ g' x = 0) (sel : GoVal) :
    ∀ cs : List (Option (Nat × List Expr) × List Node), noInclCases cs = true →
      LineMRel StatusRel (renderCases c sel (relCases g cs)) (renderCases c sel (relCases g' cs)) :=
  fun cs hn => relM_renderCases c hz sel cs (.inr hn)

/-- the same output; or errors that agree in path flag, cause and message (the lines zero together); or the same panic or `unmodelled` -/
def RunResult.sameUpToLine : RunResult → RunResult → Prop
  | .ok o, .ok o' => o = o'
  | .err e, .err e' => SErrRel e e'
  | .panic w, .panic w' => w = w'
  | .unmodelled w, .unmodelled w' => w = w'
  | _, _ => False

theorem RunResult.sameUpToLine_refl : ∀ r : RunResult, r.sameUpToLine r
  | .ok _ => rfl
  | .err e => SErrRel.refl e
  | .panic _ => rfl
  | .unmodelled _ => rfl

theorem sameUpToLine_of_progRel {p q : Prog Unit} (h : ProgRel (fun _ _ => True) p q) :
    (resultOf p.runPure).sameUpToLine (resultOf q.runPure) := by
  refine h.sim.runPure_elim (fun _ _ _ _ => rfl) (fun _ e e' he => ?_) (fun _ _ => rfl) (fun _ _ => rfl) nofun nofun (fun _ _ _ he => he.elim)
  cases e <;> cases e' <;> simp only [RawRel] at he
  · subst he; exact SErrRel.refl _
  · exact he

theorem lineRel_renderList_cons (c : RCtx) {n m : Node} {a b : List Node}
    (hn : LineMRel StatusRel (renderNode c n) (renderNode c m)) (h : LineMRel StatusRel (renderList c a) (renderList c b)) :
    LineMRel StatusRel (renderList c (n :: a)) (renderList c (m :: b)) := by
  unfold renderList
  exact (hn.sim.bind fun _ _ hst => MSim.seq wrapSim_line hst h.sim).toLineMRel

/-- two roots that render alike up to the lines of errors give results that agree up to the line of the error -/
theorem runRoot_rel (P : Prims) (O : OutPrims) (cfg : Cfg) (fs : FS) (fuel : Nat) {root root' : List Node} (env : Env)
    (h : LineMRel StatusRel (renderList (mkCtx P O cfg fs fuel) root) (renderList (mkCtx P O cfg fs fuel) root')) :
    (runRoot P O cfg fs fuel root env).sameUpToLine (runRoot P O cfg fs fuel root' env) := by
  refine sameUpToLine_of_progRel (p := frender P O cfg fs fuel root env) (q := frender P O cfg fs fuel root' env) ?_
  unfold frender renderRoot
  refine ProgRel.bind (R := StatusRel) (ProgRel.bind (h _) (fun r r' hr => ?_)) (fun st st' hst => ?_)
  · obtain ⟨st, s⟩ := r
    obtain ⟨st', s'⟩ := r'
    obtain ⟨hst, hs⟩ := hr
    simp only at hst hs
    subst hs
    cases st <;> cases st' <;>
      first | exact False.elim hst | exact ProgRel.refl StatusRel.refl _ | exact .ret _ _ hst
  · cases st <;> cases st' <;>
      first | exact False.elim hst | exact .ret _ _ trivial | exact .fail (.located _) (.located _) hst
