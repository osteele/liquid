import Proofs.DecEq
import Proofs.RenderS
import Proofs.VerbatimLemmas
import Proofs.SrcWrites
/-!
# C05 — the bytes of a value and of a raw body are out of reach of a neighbour's hyphen

`render.trimWriter` trims the OUTPUT STREAM: a right hyphen strips the next `Write`, a left hyphen the
text still buffered — whoever wrote it. Through a plain `Write` of an object or a raw block the hyphen
of a NEIGHBOUR would reach into them: `{{ x -}}{{ s }}` with `s = "␠␠s"` would render `Xs`,
`{{ s }}{{- x }}` with `s = "s␠␠"` `sX`, `{{ x -}}{% raw %}␠␠y{% endraw %}` `Xy` — against C05 ("a string
value printed by an object is emitted exactly", "the body of a raw block is emitted exactly as written").
`ObjectNode.render` and `RawNode.render` (`fixes/verbatim-output-not-trimmed.patch`) write
through `trimWriter.WriteVerbatim` (`writeVerbatimM`: drop a pending right trim, write, flush; so does
what a tag writes — the output of an included file, `include_denotation_run` in `Proofs/C14.lean`):

* `object_writes_value_verbatim`, `raw_writes_body_verbatim`: from EVERY state of the trim writer (any
  text pending, a right trim pending or not) the node lets the pending text out unchanged, then its own
  bytes unchanged, and leaves NOTHING pending and no trim armed;
* `value_bytes_not_trimmed`, `raw_bytes_not_trimmed`: in every sequence `A ++ [node] ++ B` — whatever
  trees `A` and `B` are, whatever trim nodes end `A` or begin `B` — the output is what `A` puts out
  (written and pending, after ITS OWN trims), the bytes of the value / of the body, contiguous and
  unchanged, and then what `B` renders from an EMPTY trim writer (so nothing in `B` sees those bytes);
  `_root`: the same for whole templates;
* `string_value_between_hyphens`, `raw_body_between_hyphens`: `-}}`/`-%}` before and `{{-`/`{%-`
  after, directly;
* from source bytes: `value_after_right_hyphen_source`, `value_before_left_hyphen_source`,
  `raw_after_right_hyphen_source` and the three sources above as evaluated `example`s.
-/

/-- **C05 (a value is written verbatim).** An object whose expression evaluates to `v` (not nil in
    strict mode) and whose value is printed as the chunks `cs` (one `Write` of `writeObject` each;
    at least one): from EVERY state of the trim writer — any text pending, a right trim armed by a
    preceding `-}}`/`-%}` or not — the render of the object lets the pending text out unchanged,
    then the bytes of the value unchanged, ends normally, changes no variable, and leaves nothing
    pending and no trim armed (a following `{{-`/`{%-` finds nothing of the value to strip). -/
theorem object_writes_value_verbatim (c : RCtx) (line : Nat) (e : Expr) (s : RS) (v : GoVal) (cs : List Bytes)
    (hv : evaluate c.P s.env e = .ok v) (hs : (v.isNil && c.cfg.strict) = false)
    (hcs : c.O.chunks v = .ok cs) (hne : cs ≠ []) :
    (renderNode c (.obj line e) s).runPure =
      (s.tw.buf ++ cs.flatten, .ok (.done, ⟨s.env, ⟨[], false⟩⟩)) := by
  obtain ⟨env, B, t⟩ := s
  simp only [renderNode, wrapFailAt, M.mapFail, bind, M.bind, M.getEnv, Prog.bind, hv, M.ofRes, pure, M.pure, hs,
    Bool.false_eq_true, if_false, hcs]
  rw [Prog.runPure_mapFail, Prog.runPure_bind, writeAll_runPure cs hne]
  simp [Prog.runPure]

/-- **C05 (a raw body is written verbatim).** A raw node with at least one slice, from EVERY state of
    the trim writer: the pending text goes out unchanged, then the slices unchanged; nothing is left
    pending, no trim armed. -/
theorem raw_writes_body_verbatim (c : RCtx) (slices : List Bytes) (hne : slices ≠ []) (s : RS) :
    (renderNode c (.raw slices) s).runPure =
      (s.tw.buf ++ slices.flatten, .ok (.done, ⟨s.env, ⟨[], false⟩⟩)) := by
  obtain ⟨env, B, t⟩ := s
  simp only [renderNode, wrapFailAt, M.mapFail, bind, M.bind, pure, M.pure]
  rw [Prog.runPure_mapFail, Prog.runPure_bind, writeAll_runPure slices hne]
  simp [Prog.runPure]

/-! ## In a sequence

What is said of an object and of a raw block holds of every node `n` that writes `bytes` verbatim — lets the pending text out
unchanged, then `bytes`, and leaves nothing pending and no trim armed —: `verbatim_in_sequence`, `verbatim_in_root`,
`verbatim_between_hyphens` (an `include` tag whose file renders normally is such a node too: `include_denotation_run`). -/

theorem verbatim_in_sequence (c : RCtx) (A B : List Node) (n : Node) (s0 s1 : RS) (outA bytes : Bytes)
    (hA : (renderList c A s0).runPure = (outA, .ok (.done, s1)))
    (hn : (renderNode c n s1).runPure = (s1.tw.buf ++ bytes, .ok (.done, ⟨s1.env, ⟨[], false⟩⟩))) :
    (renderList c (A ++ n :: B) s0).runPure =
      (outA ++ s1.tw.buf ++ bytes ++ (renderList c B ⟨s1.env, {}⟩).runPure.1,
       (renderList c B ⟨s1.env, {}⟩).runPure.2) := by
  rw [renderList_append_run c _ A s0 s1 outA hA, renderList_cons_apply, Prog.runPure_bind, hn]
  simp only [List.append_assoc]

theorem verbatim_in_root (c : RCtx) (A B : List Node) (n : Node) (env : Env) (s1 : RS) (outA bytes : Bytes)
    (hA : (renderBlockBody c A ⟨env, {}⟩).runPure = (outA, .ok (.done, s1)))
    (hn : ∀ tw, (renderNode c n ⟨s1.env, tw⟩).runPure = (tw.buf ++ bytes, .ok (.done, ⟨s1.env, ⟨[], false⟩⟩))) :
    (renderRoot c (A ++ n :: B) env).runPure =
      (outA ++ bytes ++ (renderRoot c B s1.env).runPure.1, (renderRoot c B s1.env).runPure.2) := by
  obtain ⟨o, s', hl, rfl, henv, -⟩ := blockBody_done_run c A _ s1 outA hA
  rw [henv] at hn ⊢
  have hX : (renderList c (A ++ [n]) ⟨env, {}⟩).runPure = (o ++ s'.tw.buf ++ bytes, .ok (.done, ⟨s'.env, {}⟩)) := by
    have := verbatim_in_sequence c A [] n _ s' o bytes hl (hn s'.tw)
    simpa [renderList, pure, M.pure, Prog.runPure] using this
  have := renderRoot_of_prefix c (A ++ [n]) B env _ s'.env hX
  simpa [List.append_assoc] using this

theorem verbatim_between_hyphens (c : RCtx) (n : Node) (s : RS) (bytes : Bytes)
    (hn : ∀ t, (renderNode c n ⟨s.env, ⟨s.tw.buf, t⟩⟩).runPure = (s.tw.buf ++ bytes, .ok (.done, ⟨s.env, ⟨[], false⟩⟩))) :
    (renderList c [.trim false, n, .trim true] s).runPure = (s.tw.buf ++ bytes, .ok (.done, ⟨s.env, ⟨[], false⟩⟩)) := by
  obtain ⟨env, B, t⟩ := s
  simp only [renderList_cons_apply, Prog.runPure_bind, trimRight_node_run, hn true, trimLeft_node_run, trimRightSpace_nil, renderList, pure,
    M.pure, Prog.runPure, List.nil_append, List.append_nil]

/-- a root of two nodes that write verbatim with a trim marker between them puts out the two byte strings, whichever marker it is -/
theorem root_verbatim_trim_verbatim {c : RCtx} {n1 n2 : Node} {l : Bool} {env : Env} {b1 b2 : Bytes}
    (h1 : ∀ B t, (renderNode c n1 ⟨env, ⟨B, t⟩⟩).runPure = (B ++ b1, .ok (.done, ⟨env, ⟨[], false⟩⟩)))
    (h2 : ∀ B t, (renderNode c n2 ⟨env, ⟨B, t⟩⟩).runPure = (B ++ b2, .ok (.done, ⟨env, ⟨[], false⟩⟩))) :
    (renderRoot c [n1, .trim l, n2] env).runPure = (b1 ++ b2, .ok .done) := by
  unfold renderRoot
  rw [Prog.runPure_bind]
  cases l <;>
  simp only [renderList_cons_apply, Prog.runPure_bind, h1, h2, trimRight_node_run, trimLeft_node_run, trimRightSpace_nil, renderList, pure,
    M.pure, Prog.runPure, final_flush_clear, List.nil_append, List.append_nil]

/-- **C05 (value_bytes_not_trimmed).** For every context, all trees `A` and `B` — whatever trim nodes
    (hyphens) they contain, at their ends or anywhere —, every object and every start state: if `A`
    ends normally having written `outA` and leaving the state `s1` (its text `s1.tw.buf` still pending,
    possibly a right trim armed by a hyphen at the end of `A`), and the object prints its value as the
    chunks `cs` (at least one), then the sequence `A ++ [object] ++ B` puts out: what `A` wrote, what
    `A` left pending UNCHANGED, the bytes of the value UNCHANGED — contiguous, whatever hyphen ends `A`
    or begins `B` —, and then exactly what `B` renders from an EMPTY trim writer with the variables
    `A` left: nothing in `B` can reach the value, and no trim of `A` reaches past it. The sequence ends
    as `B` ends. -/
theorem value_bytes_not_trimmed (c : RCtx) (A B : List Node) (line : Nat) (e : Expr) (s0 s1 : RS) (outA : Bytes)
    (v : GoVal) (cs : List Bytes)
    (hA : (renderList c A s0).runPure = (outA, .ok (.done, s1)))
    (hv : evaluate c.P s1.env e = .ok v) (hs : (v.isNil && c.cfg.strict) = false)
    (hcs : c.O.chunks v = .ok cs) (hne : cs ≠ []) :
    (renderList c (A ++ .obj line e :: B) s0).runPure =
      (outA ++ s1.tw.buf ++ cs.flatten ++ (renderList c B ⟨s1.env, {}⟩).runPure.1,
       (renderList c B ⟨s1.env, {}⟩).runPure.2) :=
  verbatim_in_sequence c A B _ s0 s1 outA _ hA (object_writes_value_verbatim c line e s1 v cs hv hs hcs hne)

/-- **C05 (raw_bytes_not_trimmed).** The same for a raw block (at least one slice; the parser makes one
    slice per body token): in `A ++ [raw] ++ B` the body's bytes stand unchanged between everything `A`
    put out and what `B` renders from an empty trim writer. -/
theorem raw_bytes_not_trimmed (c : RCtx) (A B : List Node) (slices : List Bytes) (s0 s1 : RS) (outA : Bytes)
    (hA : (renderList c A s0).runPure = (outA, .ok (.done, s1))) (hne : slices ≠ []) :
    (renderList c (A ++ .raw slices :: B) s0).runPure =
      (outA ++ s1.tw.buf ++ slices.flatten ++ (renderList c B ⟨s1.env, {}⟩).runPure.1,
       (renderList c B ⟨s1.env, {}⟩).runPure.2) :=
  verbatim_in_sequence c A B _ s0 s1 outA _ hA (raw_writes_body_verbatim c slices hne s1)

/-- **C05 (value_bytes_not_trimmed, whole templates).** If the template `A`, rendered on its own from
    the variables `env`, ends normally with the output `outA` and the variables `s1.env`, and the object
    prints its value (in those variables) as the chunks `cs` (at least one), then the template
    `A ++ [object] ++ B` renders exactly `outA`, the bytes of the value, and the output of the template
    `B` rendered on its own from the variables `A` left — for all trees `A` and `B`, whatever hyphens
    they hold — and ends as `B` ends. -/
theorem value_bytes_not_trimmed_root (c : RCtx) (A B : List Node) (line : Nat) (e : Expr) (env : Env) (s1 : RS)
    (outA : Bytes) (v : GoVal) (cs : List Bytes)
    (hA : (renderBlockBody c A ⟨env, {}⟩).runPure = (outA, .ok (.done, s1)))
    (hv : evaluate c.P s1.env e = .ok v) (hs : (v.isNil && c.cfg.strict) = false)
    (hcs : c.O.chunks v = .ok cs) (hne : cs ≠ []) :
    (renderRoot c (A ++ .obj line e :: B) env).runPure =
      (outA ++ cs.flatten ++ (renderRoot c B s1.env).runPure.1, (renderRoot c B s1.env).runPure.2) :=
  verbatim_in_root c A B _ env s1 outA _ hA (fun tw => object_writes_value_verbatim c line e ⟨s1.env, tw⟩ v cs hv hs hcs hne)

theorem raw_bytes_not_trimmed_root (c : RCtx) (A B : List Node) (slices : List Bytes) (env : Env) (s1 : RS)
    (outA : Bytes) (hA : (renderBlockBody c A ⟨env, {}⟩).runPure = (outA, .ok (.done, s1))) (hne : slices ≠ []) :
    (renderRoot c (A ++ .raw slices :: B) env).runPure =
      (outA ++ slices.flatten ++ (renderRoot c B s1.env).runPure.1, (renderRoot c B s1.env).runPure.2) :=
  verbatim_in_root c A B _ env s1 outA _ hA (fun tw => raw_writes_body_verbatim c slices hne ⟨s1.env, tw⟩)

/-- **C05 (a string value, from every state).** An object that prints a variable bound to the string `b`, for
    every output layer that prints a string as one write of its bytes: whatever text `B` is pending and whether a
    right trim is armed, `B` and `b` go out unchanged and nothing stays pending. -/
theorem string_value_written_verbatim (c : RCtx) (hO : ∀ b, c.O.chunks (.str b) = .ok [b]) (line : Nat) (x b : Bytes) (env : Env)
    (B : Bytes) (t : Bool) (hx : env.get x = .str b) :
    (renderNode c (.obj line (.var x)) ⟨env, ⟨B, t⟩⟩).runPure = (B ++ b, .ok (.done, ⟨env, ⟨[], false⟩⟩)) := by
  have hev : evaluate c.P env (.var x) = .ok (.str b) := by
    simp only [evaluate, eval]; rw [hx]; rfl
  simpa using object_writes_value_verbatim c line (.var x) ⟨env, ⟨B, t⟩⟩ (.str b) [b] hev (by simp [GoVal.isNil]) (hO b) (by simp)

/-- **C05 (a string value between two hyphens).** `… -}}{{ x }}{{- …`: a right trim marker, an object
    whose variable holds the string `b`, a left trim marker — from every state of the trim writer
    (text `s.tw.buf` pending), for every output layer that prints a string as one write of its bytes
    (`stdOut_str`): the pending text and `b` go out byte for byte, the left trim issues its one (empty)
    call, nothing is pending afterwards. Leading and trailing white space of `b` included. -/
theorem string_value_between_hyphens (c : RCtx) (hO : ∀ b, c.O.chunks (.str b) = .ok [b]) (line : Nat) (x b : Bytes)
    (s : RS) (hx : s.env.get x = .str b) :
    (renderList c [.trim false, .obj line (.var x), .trim true] s).runPure =
      (s.tw.buf ++ b, .ok (.done, ⟨s.env, ⟨[], false⟩⟩)) :=
  verbatim_between_hyphens c _ s b (fun t => string_value_written_verbatim c hO line x b s.env s.tw.buf t hx)

theorem raw_body_between_hyphens (c : RCtx) (slices : List Bytes) (hne : slices ≠ []) (s : RS) :
    (renderList c [.trim false, .raw slices, .trim true] s).runPure =
      (s.tw.buf ++ slices.flatten, .ok (.done, ⟨s.env, ⟨[], false⟩⟩)) :=
  verbatim_between_hyphens c _ s _ (fun t => raw_writes_body_verbatim c slices hne ⟨s.env, ⟨s.tw.buf, t⟩⟩)

/-- `{{ x -}}{{ s }}` -/
def c05vRight : List Item := [.obj [120] false true [32] [32], .obj [115] false false [32] [32]]
/-- `{{ s }}{{- x }}` -/
def c05vLeft : List Item := [.obj [115] false false [32] [32], .obj [120] true false [32] [32]]
/-- `{{ x -}}{% raw %}␠␠y{% endraw %}` -/
def c05vRaw : List Item := [.obj [120] false true [32] [32], .tag rawName [] false false [32] [] [32], .text [32, 32, 121],
  .tag endrawName [] false false [32] [] [32]]
/-- `{% raw %}y␠␠{% endraw %}{{- x }}` -/
def c05vRawLeft : List Item := [.tag rawName [] false false [32] [] [32], .text [121, 32, 32],
  .tag endrawName [] false false [32] [] [32], .obj [120] true false [32] [32]]

example : spell Delims.default c05vRight = [123, 123, 32, 120, 32, 45, 125, 125, 123, 123, 32, 115, 32, 125, 125] ∧
    spell Delims.default c05vLeft = [123, 123, 32, 115, 32, 125, 125, 123, 123, 45, 32, 120, 32, 125, 125] ∧
    spell Delims.default c05vRaw = [123, 123, 32, 120, 32, 45, 125, 125, 123, 37, 32, 114, 97, 119, 32, 37, 125, 32, 32, 121,
      123, 37, 32, 101, 110, 100, 114, 97, 119, 32, 37, 125] ∧
    spell Delims.default c05vRawLeft = [123, 37, 32, 114, 97, 119, 32, 37, 125, 121, 32, 32,
      123, 37, 32, 101, 110, 100, 114, 97, 119, 32, 37, 125, 123, 123, 45, 32, 120, 32, 125, 125] := by decide +kernel

theorem c05vRight_compiles : compileSource [] (spell Delims.default c05vRight) 1 =
    .ok [.obj 1 (.var [120]), .trim false, .obj 1 (.var [115])] :=
  (compileSource_spell [] c05vRight 1 (by decide +kernel) (by decide +kernel)).trans (by decide +kernel)

theorem c05vLeft_compiles : compileSource [] (spell Delims.default c05vLeft) 1 =
    .ok [.obj 1 (.var [115]), .trim true, .obj 1 (.var [120])] :=
  (compileSource_spell [] c05vLeft 1 (by decide +kernel) (by decide +kernel)).trans (by decide +kernel)

theorem c05vRaw_compiles : compileSource [] (spell Delims.default c05vRaw) 1 =
    .ok [.obj 1 (.var [120]), .trim false, .raw [[32, 32, 121]]] :=
  (compileSource_spell [] c05vRaw 1 (by decide +kernel) (by decide +kernel)).trans (by decide +kernel)

theorem c05vRawLeft_compiles : compileSource [] (spell Delims.default c05vRawLeft) 1 =
    .ok [.raw [[121, 32, 32]], .trim true, .obj 1 (.var [120])] :=
  (compileSource_spell [] c05vRawLeft 1 (by decide +kernel) (by decide +kernel)).trans (by decide +kernel)

/-- **C05 (value_after_right_hyphen_source).** The source `{{ x -}}{{ s }}`, for every value layer, every
    output layer that prints a string as one write of its bytes (the standard one: `stdOut_str`), every
    file system, include depth and environment in which `x` and `s` are bound to strings `xv` and `sv` —
    ANY bytes, leading and trailing white space included: the whole pipeline `run` (tokenizer, block
    parser, compiler, renderer) returns exactly `xv ++ sv`. Through a plain `Write` the right hyphen of the
    first object would strip the leading white space of `sv`. -/
theorem value_after_right_hyphen_source (P : Prims) (O : OutPrims) (hO : ∀ b, O.chunks (.str b) = .ok [b]) (fs : FS)
    (fuel : Nat) (env : Env) (xv sv : Bytes) (hx : env.get [120] = .str xv) (hs : env.get [115] = .str sv) :
    run P O {} fs fuel (spell Delims.default c05vRight) 1 env = .ok (xv ++ sv) :=
  (run_ok_iff P O {} fs fuel _ 1 env _).mpr ⟨_, c05vRight_compiles, root_verbatim_trim_verbatim
    (fun B t => string_value_written_verbatim _ hO 1 _ _ env B t hx) (fun B t => string_value_written_verbatim _ hO 1 _ _ env B t hs)⟩

/-- **C05 (value_before_left_hyphen_source).** The source `{{ s }}{{- x }}` returns exactly `sv ++ xv`: the
    left hyphen of the second object finds nothing of the first value to strip. -/
theorem value_before_left_hyphen_source (P : Prims) (O : OutPrims) (hO : ∀ b, O.chunks (.str b) = .ok [b]) (fs : FS)
    (fuel : Nat) (env : Env) (xv sv : Bytes) (hx : env.get [120] = .str xv) (hs : env.get [115] = .str sv) :
    run P O {} fs fuel (spell Delims.default c05vLeft) 1 env = .ok (sv ++ xv) :=
  (run_ok_iff P O {} fs fuel _ 1 env _).mpr ⟨_, c05vLeft_compiles, root_verbatim_trim_verbatim
    (fun B t => string_value_written_verbatim _ hO 1 _ _ env B t hs) (fun B t => string_value_written_verbatim _ hO 1 _ _ env B t hx)⟩

/-- **C05 (raw_after_right_hyphen_source).** The source `{{ x -}}{% raw %}␠␠y{% endraw %}` returns `xv`, two
    blanks and `y`; `{% raw %}y␠␠{% endraw %}{{- x }}` returns `y`, two blanks and `xv`. -/
theorem raw_after_right_hyphen_source (P : Prims) (O : OutPrims) (hO : ∀ b, O.chunks (.str b) = .ok [b]) (fs : FS)
    (fuel : Nat) (env : Env) (xv : Bytes) (hx : env.get [120] = .str xv) :
    run P O {} fs fuel (spell Delims.default c05vRaw) 1 env = .ok (xv ++ [32, 32, 121]) ∧
    run P O {} fs fuel (spell Delims.default c05vRawLeft) 1 env = .ok ([121, 32, 32] ++ xv) :=
  ⟨(run_ok_iff P O {} fs fuel _ 1 env _).mpr ⟨_, c05vRaw_compiles, root_verbatim_trim_verbatim
      (fun B t => string_value_written_verbatim _ hO 1 _ _ env B t hx)
      (fun B t => raw_writes_body_verbatim _ _ (List.cons_ne_nil _ _) ⟨env, ⟨B, t⟩⟩)⟩,
   (run_ok_iff P O {} fs fuel _ 1 env _).mpr ⟨_, c05vRawLeft_compiles, root_verbatim_trim_verbatim
      (fun B t => raw_writes_body_verbatim _ _ (List.cons_ne_nil _ _) ⟨env, ⟨B, t⟩⟩)
      (fun B t => string_value_written_verbatim _ hO 1 _ _ env B t hx)⟩⟩

/-! ## The three sources of the file header, evaluated (standard value and output layers) -/

/-- `{{ x -}}{{ s }}` with `x = "X"`, `s = "␠␠s"` renders `X␠␠s` (not `Xs`) -/
example (fs : FS) (fuel : Nat) :
    run stdPrims stdOut {} fs fuel [123, 123, 32, 120, 32, 45, 125, 125, 123, 123, 32, 115, 32, 125, 125] 1
      [([120], .str [88]), ([115], .str [32, 32, 115])] = .ok [88, 32, 32, 115] :=
  value_after_right_hyphen_source stdPrims stdOut stdOut_str fs fuel _ [88] [32, 32, 115] rfl rfl

/-- `{{ s }}{{- x }}` with `s = "s␠␠"` renders `s␠␠X` (not `sX`) -/
example (fs : FS) (fuel : Nat) :
    run stdPrims stdOut {} fs fuel [123, 123, 32, 115, 32, 125, 125, 123, 123, 45, 32, 120, 32, 125, 125] 1
      [([120], .str [88]), ([115], .str [115, 32, 32])] = .ok [115, 32, 32, 88] :=
  value_before_left_hyphen_source stdPrims stdOut stdOut_str fs fuel _ [88] [115, 32, 32] rfl rfl

/-- `{{ x -}}{% raw %}␠␠y{% endraw %}` renders `X␠␠y` (not `Xy`) -/
example (fs : FS) (fuel : Nat) :
    run stdPrims stdOut {} fs fuel [123, 123, 32, 120, 32, 45, 125, 125, 123, 37, 32, 114, 97, 119, 32, 37, 125, 32, 32, 121,
      123, 37, 32, 101, 110, 100, 114, 97, 119, 32, 37, 125] 1 [([120], .str [88])] = .ok [88, 32, 32, 121] :=
  (raw_after_right_hyphen_source stdPrims stdOut stdOut_str fs fuel _ [88] rfl).1

/-! ## Non-vacuity of the sequence theorems on concrete trees -/

/-- `value_bytes_not_trimmed_root` with `A` = `a␠{{ x -}}` (a text, an object, a right hyphen), the value
    `␠s␠`, `B` = `{{- x }}␠b` (a left hyphen, an object, a text): `a␠X`, then `␠s␠` unchanged, then `X␠b` -/
example : (renderRoot demoCtx ([.text 1 [97, 32], .obj 1 (.var [120]), .trim false] ++ .obj 1 (.var [115]) ::
      [.trim true, .obj 1 (.var [120]), .text 1 [32, 98]]) [([120], .str [88]), ([115], .str [32, 115, 32])]).runPure =
    ([97, 32, 88] ++ [[32, 115, 32]].flatten ++ [88, 32, 98], .ok .done) := by
  have hA : (renderBlockBody demoCtx [.text 1 [97, 32], .obj 1 (.var [120]), .trim false]
      ⟨[([120], .str [88]), ([115], .str [32, 115, 32])], {}⟩).runPure =
      ([97, 32, 88], .ok (.done, ⟨[([120], .str [88]), ([115], .str [32, 115, 32])], ⟨[], true⟩⟩)) := by
    rw [renderBlockBody_eq, renderList_eq_S]
    decide +kernel
  have hB : (renderRoot demoCtx [.trim true, .obj 1 (.var [120]), .text 1 [32, 98]]
      [([120], .str [88]), ([115], .str [32, 115, 32])]).runPure = ([88, 32, 98], .ok .done) := by
    rw [renderRoot_eq_S]
    decide +kernel
  have := value_bytes_not_trimmed_root demoCtx _ [.trim true, .obj 1 (.var [120]), .text 1 [32, 98]] 1 (.var [115]) _ _ _
    (.str [32, 115, 32]) [[32, 115, 32]] hA (by simp [evaluate, eval, Env.get, GoVal.toLiquid, GoVal.unwrap]) rfl rfl (by simp)
  rw [this, hB]

/-- `raw_bytes_not_trimmed_root` with `A` = `{{ x -}}`, the body `␠y␠`, `B` = `{{- x }}` -/
example : (renderRoot demoCtx ([.obj 1 (.var [120]), .trim false] ++ .raw [[32, 121, 32]] :: [.trim true, .obj 1 (.var [120])])
      [([120], .str [88])]).runPure = ([88] ++ [[32, 121, 32]].flatten ++ [88], .ok .done) := by
  have hA : (renderBlockBody demoCtx [.obj 1 (.var [120]), .trim false] ⟨[([120], .str [88])], {}⟩).runPure =
      ([88], .ok (.done, ⟨[([120], .str [88])], ⟨[], true⟩⟩)) := by
    rw [renderBlockBody_eq, renderList_eq_S]
    decide +kernel
  have hB : (renderRoot demoCtx [.trim true, .obj 1 (.var [120])] [([120], .str [88])]).runPure = ([88], .ok .done) := by
    rw [renderRoot_eq_S]
    decide +kernel
  have := raw_bytes_not_trimmed_root demoCtx _ [.trim true, .obj 1 (.var [120])] [[32, 121, 32]] _ _ _ hA (by simp)
  rw [this, hB]

/-- `string_value_between_hyphens` from a state with the text `a␠` pending and a right trim armed: `a␠` and `␠s␠` -/
example : (renderList demoCtx [.trim false, .obj 1 (.var [115]), .trim true]
      ⟨[([115], .str [32, 115, 32])], ⟨[97, 32], true⟩⟩).runPure =
    ([97, 32] ++ [32, 115, 32], .ok (.done, ⟨[([115], .str [32, 115, 32])], ⟨[], false⟩⟩)) :=
  string_value_between_hyphens demoCtx demoOut_str 1 [115] [32, 115, 32] _ rfl

example : (renderList demoCtx [.trim false, .raw [[32, 121, 32]], .trim true] ⟨[], ⟨[97, 32], true⟩⟩).runPure =
    ([97, 32] ++ [[32, 121, 32]].flatten, .ok (.done, ⟨[], ⟨[], false⟩⟩)) :=
  raw_body_between_hyphens demoCtx [[32, 121, 32]] (by simp) _
