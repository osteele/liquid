import Proofs.TraceSites
import Proofs.Marks
/-!
# Where the end of a trace points; what follows for the line of a render error

`(traceNode c n s).fin` — the location of the error (or sentinel) the fault-free render of `n` ends with — is

* the location `⟨x, true⟩` of a tag or object of the tree (`x ∈ n.elines`: texts, raw blocks and trim markers do
  not fail on a writer that does not fail), or
* a location reported by the include handler for an include node of the tree (`IncSite`, which names the node's line
  and argument text, `Node.ilines`): the location of the handler's located error, or of the `break`/`continue` it
  hands back, when called with the file name the argument evaluates to.

Every enclosing block passes a site through `relocate`, which returns the site itself or the block tag's
location: both alternatives are kept (`fin_traceNode` … for the parts of a tree; `fin_traceRoot` for the root, on which
`render_error_eline_or_handler` rests, the lemma behind C07 `run_error_located_at_token`); they are read off the walk
`reloc_traceNode` … of Proofs/TraceSites.lean.

A tree without include nodes obeys its trace in every context, and the second alternative is empty. With what the trace
says of the fault-free run (`fin`) this gives `elines_renderNode` … (`frender_error_eline`, the same of `frender`, is
`render_error_eline_or_handler` under the engine's own handler, with the second alternative empty); with what it says of every
single-fault run as well (`calls`, Proofs/TraceSites.lean) it gives the whole-template form of C07 for every behaviour of
the writer: `lines_renderNode` …, `render_error_line_in_tree`, and from source bytes `source_error_line_is_token_line`.
-/

theorem fin_traceNode (c : RCtx) (L : List Nat) (I : List (Nat × Bytes)) :
    ∀ (n : Node) (s : RS), (∀ x, x ∈ n.elines → x ∈ L) → (∀ x, x ∈ n.ilines → x ∈ I) → (traceNode c n s).FinAt c L I :=
  fun n s hL hI => (reloc_traceNode c (fun _ => True) (· ∈ L) I n s ⟨fun _ _ => trivial, hL, hI⟩).1.finAt

theorem fin_traceList (c : RCtx) (L : List Nat) (I : List (Nat × Bytes)) :
    ∀ (ns : List Node) (s : RS), (∀ x, x ∈ elinesList ns → x ∈ L) → (∀ x, x ∈ ilinesList ns → x ∈ I) → (traceList c ns s).FinAt c L I :=
  fun ns s hL hI => (reloc_traceList c (fun _ => True) (· ∈ L) I ns s ⟨fun _ _ => trivial, hL, hI⟩).finAt

theorem fin_traceBranches (c : RCtx) (L : List Nat) (I : List (Nat × Bytes)) :
    ∀ (bs : List (CondT × List Node)) (s : RS), (∀ x, x ∈ elinesBranches bs → x ∈ L) → (∀ x, x ∈ ilinesBranches bs → x ∈ I) →
      (traceBranches c bs s).FinAt c L I :=
  fun bs s hL hI => (reloc_traceBranches c (fun _ => True) (· ∈ L) I bs s ⟨fun _ _ => trivial, hL, hI⟩).finAt

theorem fin_traceCases (c : RCtx) (L : List Nat) (I : List (Nat × Bytes)) (sel : GoVal) :
    ∀ (cs : List (Option (Nat × List Expr) × List Node)) (s : RS), (∀ x, x ∈ elinesCases cs → x ∈ L) → (∀ x, x ∈ ilinesCases cs → x ∈ I) →
      (traceCases c sel cs s).FinAt c L I :=
  fun cs s hL hI => (reloc_traceCases c (fun _ => True) (· ∈ L) I sel cs s ⟨fun _ _ => trivial, hL, hI⟩).finAt

theorem fin_traceRoot (c : RCtx) (root : List Node) (env : Env) :
    (traceRoot c root env).FinAt c (elinesList root) (ilinesList root) :=
  (reloc_traceBlockBody c (fun _ => True) (· ∈ elinesList root) (ilinesList root) root _
    ⟨fun _ _ => trivial, fun _ h => h, fun _ h => h⟩).finAt

/-- **where the error of a render is, for trees with include nodes** (fault-free writer): at a tag or object of
    the tree, with the template's path, or where the include handler says, for an include node of the tree -/
theorem render_error_eline_or_handler (c : RCtx) (hc : IncQuiet c) (root : List Node) (env : Env) (out : Bytes) (e : RawErr)
    (h : ((renderRoot c root env).bind statusToProg).runPure = (out, .err e)) :
    ∃ se, e = .located se ∧ LocOK c (elinesList root) (ilinesList root) ⟨se.line, se.pathSet⟩ := by
  obtain ⟨se, hse, hf⟩ := frenderOf_fail_located c hc root env e (Prog.pureFail_of_runPure _ _ _ h)
  obtain ⟨l, hl, hok⟩ := fin_traceRoot c root env _ hf
  cases hl
  exact ⟨se, hse, hok⟩

/-! ## Include-free trees, in any context

A tree without an include node does not consult the handler: it obeys its trace in every context, and the end of the
trace is a tag or object of the tree. -/

theorem PostOk.of_pure {α} {Q : RawErr → Prop} {R : α → Prop} : ∀ {p : Prog α},
    (∀ e, p.pureFail = some e → Q e) → (∀ a, p.pureRet = some a → R a) → PostOk Q R p
  | .ret a, _, hr => .ret a (hr a rfl)
  | .fail e, hq, _ => .fail e (hq e rfl)
  | .panic w, _, _ => .panic w
  | .unmodelled w, _, _ => .unmodelled w
  | .call b k, hq, hr => .call b k (PostOk.of_pure (p := k .ok) hq hr)

theorem SpS.ends {c : RCtx} {L : List Nat} {p : Prog (Status × RS)} {t : Tr} (h : SpS p t) (hf : t.FinAt c L []) :
    (∀ e, p.pureFail = some e → EOuter L e) ∧ (∀ a, p.pureRet = some a → EStatus L a.1) := by
  have key : ∀ se : SErr, t.fin = some (some ⟨se.line, se.pathSet⟩) → ELoc L se := by
    intro se hfin
    obtain ⟨l, hl, hok⟩ := hf _ hfin
    cases hl
    rcases hok with hok | ⟨la, hla, _⟩
    · exact hok
    · cases hla
  refine ⟨fun e he => ?_, fun a ha => ?_⟩
  · have hfin := h.fin e he
    cases e with
    | plain cause =>
      obtain ⟨l, hl, _⟩ := hf _ hfin
      cases hl
    | located se => exact key se hfin
  · obtain ⟨st, s⟩ := a
    cases st with
    | done => exact True.intro
    | brk e => exact key e (h.sent _ _ ha (by simp))
    | cont e => exact key e (h.sent _ _ ha (by simp))

theorem SpS.postOk {c : RCtx} {L : List Nat} {p : Prog (Status × RS)} {t : Tr} (h : SpS p t) (hf : t.FinAt c L []) :
    PostOk (EOuter L) (fun r => EStatus L r.1) p :=
  PostOk.of_pure (h.ends hf).1 (h.ends hf).2

/-- a program whose single-fault runs end with the writer's error at the sites `ls`: every behaviour of the writer is a
    number of accepted writes and then a refused one, or the fault-free run -/
theorem IoAt.post {α} {Q : RawErr → Prop} {R : α → Prop} {p : Prog α} {ls : List Site} (h : IoAt p ls)
    (hc : ∀ l ∈ ls, Q (ioErr l)) (hq : ∀ e, p.pureFail = some e → Q e) (hr : ∀ a, p.pureRet = some a → R a) : Post Q R p := by
  induction h with
  | ret a => exact .ret a (hr a rfl)
  | fail e => exact .fail e (hq e rfl)
  | panic w => exact .panic w
  | unmodelled w => exact .unmodelled w
  | call b k l ls hk _ ih =>
    refine .call b k (fun r => ?_)
    cases r with
    | ok => exact ih (fun l' hl' => hc l' (List.mem_cons_of_mem _ hl')) hq hr
    | failed n => rw [hk n]; exact .fail _ (hc l List.mem_cons_self)

theorem SpS.post {c : RCtx} {L : List Nat} {p : Prog (Status × RS)} {t : Tr} (h : SpS p t) (ht : t.Seq c (· ∈ L) (· ∈ L) []) :
    Post (OuterOK L) (fun r => StatusOK L r.1) p := by
  have hl := ht.located
  have hc := ht.callsIn
  have hf := ht.finAt
  refine h.io.post (fun l hmem => ?_) (fun e he => ?_) (fun a ha => ?_)
  · rcases hc l hmem with h0 | h0 | ⟨x, hx, h0⟩
    · exact absurd h0 (hl.1 l hmem)
    · subst h0; exact Or.inl rfl
    · subst h0; exact Or.inr hx
  · have := (h.ends hf).1 e he
    cases e with
    | plain cause => exact this
    | located se => exact Or.inr this.1
  · have := (h.ends hf).2 a ha
    cases h1 : a.1 with
    | done => exact True.intro
    | brk e => rw [h1] at this; exact Or.inr this.1
    | cont e => rw [h1] at this; exact Or.inr this.1

/-- the lines of an include-free subtree, as the walk over its trace asks for them -/
theorem Proj.linesIn {ms : List Mark} {L l e : List Nat} {i : List (Nat × Bytes)} {n : Bool} (h : Proj ms l e i n) (hn : n = true)
    (hL : ∀ x, x ∈ l → x ∈ L) : LinesIn (· ∈ L) (· ∈ L) [] l e i :=
  ⟨hL, fun x hx => hL x (h.lines ▸ elinesOf_sub_linesOf ms (h.elines ▸ hx)),
   fun _ hx => by rw [h.ilines, ilinesOf_of_noInclOf (h.noIncl ▸ hn)] at hx; cases hx⟩

theorem Proj.elinesIn {ms : List Mark} {L l e : List Nat} {i : List (Nat × Bytes)} {n : Bool} (h : Proj ms l e i n) (hn : n = true)
    (hL : ∀ x, x ∈ e → x ∈ L) : LinesIn (fun _ => True) (· ∈ L) [] l e i :=
  ⟨fun _ _ => trivial, hL, fun _ hx => by rw [h.ilines, ilinesOf_of_noInclOf (h.noIncl ▸ hn)] at hx; cases hx⟩

theorem elines_renderNode (c : RCtx) (L : List Nat) :
    ∀ n : Node, n.noIncl = true → (∀ x, x ∈ n.elines → x ∈ L) → PostMOk (EOuter L) (EStatus L) (renderNode c n)
  | n, hn, hL => fun s =>
    (spRel.renderNode n (.inr hn) s).postOk (reloc_traceNode c _ _ [] n s (n.proj.elinesIn hn hL)).1.finAt

theorem elines_renderBranches (c : RCtx) (L : List Nat) :
    ∀ bs : List (CondT × List Node), noInclBranches bs = true → (∀ x, x ∈ elinesBranches bs → x ∈ L) →
      PostMOk (EOuter L) (EStatus L) (renderBranches c bs)
  | bs, hn, hL => fun s =>
    (spRel.renderBranches bs (.inr hn) s).postOk
      (reloc_traceBranches c _ _ [] bs s ((projBranches bs).elinesIn hn hL)).finAt

theorem elines_renderCases (c : RCtx) (L : List Nat) (sel : GoVal) :
    ∀ cs : List (Option (Nat × List Expr) × List Node), noInclCases cs = true → (∀ x, x ∈ elinesCases cs → x ∈ L) →
      PostMOk (EOuter L) (EStatus L) (renderCases c sel cs)
  | cs, hn, hL => fun s =>
    (spRel.renderCases sel cs (.inr hn) s).postOk
      (reloc_traceCases c _ _ [] sel cs s ((projCases cs).elinesIn hn hL)).finAt

theorem elines_renderBlockBody (c : RCtx) (L : List Nat) (body : List Node) (hn : noInclList body = true)
    (hL : ∀ x, x ∈ elinesList body → x ∈ L) : PostMOk (EOuter L) (EStatus L) (renderBlockBody c body) :=
  fun s => (spRel.renderBlockBody body (.inr hn) s).postOk
    (reloc_traceBlockBody c _ _ [] body s ((projList body).elinesIn hn hL)).finAt

/-- **every error of a render into a buffer locates a tag or object of the tree, with the template's path**, on `frender` run
    against a writer that does not fail -/
theorem frender_error_eline (P : Prims) (O : OutPrims) (cfg : Cfg) (fs : FS) (fuel : Nat) (root : List Node)
    (h : noInclList root = true) (env : Env) (out : Bytes) (e : RawErr)
    (hr : (frender P O cfg fs fuel root env).runPure = (out, .err e)) :
    ∃ se, e = .located se ∧ se.line ∈ elinesList root ∧ se.pathSet = true := by
  obtain ⟨se, hse, hok⟩ := render_error_eline_or_handler (mkCtx P O cfg fs fuel) (incQuiet_mkCtx P O cfg fs fuel) root env out e hr
  rcases hok with ⟨h1, h2⟩ | ⟨la, hla, _⟩
  · exact ⟨se, hse, h1, h2⟩
  · rw [ilinesList_of_noIncl root h] at hla
    cases hla

theorem lines_renderNode (c : RCtx) (L : List Nat) :
    ∀ n : Node, n.noIncl = true → (∀ x, x ∈ n.lines → x ∈ L) → PostM (OuterOK L) (StatusOK L) (renderNode c n)
  | n, hn, hL => fun s =>
    (spRel.renderNode n (.inr hn) s).post (reloc_traceNode c _ _ [] n s (n.proj.linesIn hn hL)).1

theorem lines_renderBranches (c : RCtx) (L : List Nat) :
    ∀ bs : List (CondT × List Node), noInclBranches bs = true → (∀ x, x ∈ linesBranches bs → x ∈ L) →
      PostM (OuterOK L) (StatusOK L) (renderBranches c bs)
  | bs, hn, hL => fun s =>
    (spRel.renderBranches bs (.inr hn) s).post
      (reloc_traceBranches c _ _ [] bs s ((projBranches bs).linesIn hn hL))

theorem lines_renderCases (c : RCtx) (L : List Nat) (sel : GoVal) :
    ∀ cs : List (Option (Nat × List Expr) × List Node), noInclCases cs = true → (∀ x, x ∈ linesCases cs → x ∈ L) →
      PostM (OuterOK L) (StatusOK L) (renderCases c sel cs)
  | cs, hn, hL => fun s =>
    (spRel.renderCases sel cs (.inr hn) s).post
      (reloc_traceCases c _ _ [] sel cs s ((projCases cs).linesIn hn hL))

theorem lines_renderBlockBody (c : RCtx) (L : List Nat) (body : List Node) (hn : noInclList body = true)
    (hL : ∀ x, x ∈ linesList body → x ∈ L) : PostM (OuterOK L) (StatusOK L) (renderBlockBody c body) :=
  fun s => (spRel.renderBlockBody body (.inr hn) s).post
    (reloc_traceBlockBody c _ _ [] body s ((projList body).linesIn hn hL))

/-- **C07 (every render error locates a node of the template).** For every include-free node tree,
    every environment, value layer, configuration and *every behaviour of the writer*: a failure of
    the render is a located error (a SourceError) whose line is the line of one of the tree's tags,
    objects or texts, or 0; and a `break`/`continue` that reaches the top (reported as an error by
    `Render`) likewise. -/
theorem render_error_line_in_tree (c : RCtx) (root : List Node) (h : noInclList root = true) (env : Env) :
    Post (OuterOK (linesList root)) (StatusOK (linesList root)) (renderRoot c root env) := by
  rw [renderRoot_eq]
  exact Post.bind (lines_renderBlockBody c _ root h (fun _ hx => hx) _) (fun _ hst => .ret _ hst)

/-- the same for `Render` into a buffer (a writer that never fails): the error returned, if any,
    carries a line of the tree (or 0) -/
theorem render_error_line_in_tree_pure (c : RCtx) (root : List Node) (h : noInclList root = true) (env : Env)
    (out : Bytes) (e : RawErr) (hr : (renderRoot c root env).runPure = (out, .err e)) :
    ∃ se, e = .located se ∧ (se.line = 0 ∨ se.line ∈ linesList root) := by
  have := (render_error_line_in_tree c root h env).outcome
  rw [hr] at this
  cases e with
  | plain c => exact this.elim
  | located se => exact ⟨se, rfl, this⟩

/-- the hypothesis holds and `linesList` is `[1, 2]` for a text at line 1 and an object at line 2 -/
example : noInclList [.text 1 [97, 10], .obj 2 (.var [120])] = true ∧
    linesList [.text 1 [97, 10], .obj 2 (.var [120])] = [1, 2] := by decide

def StatusTok (toks : List Token) : Status → Prop
  | .done => True
  | .brk e => TokLine toks e.line
  | .cont e => TokLine toks e.line

/-- **C07 (source to error).** Take any source, delimiter set and start line; let `toks` be its tokens
    (whose lines are, by `scan_line_at` of Proofs/C05.lean, the start line plus the newlines before each token) and
    suppose the block parser accepts them (`C06` says when, and locates the error otherwise). Then
    * a compile-time error (a tag's or clause's syntax) carries the line of one of the tokens (or 0: `TokLine`), and
    * if compilation succeeds and the tree has no `include`, then for every value layer, configuration,
      environment and writer behaviour every render failure — and every `break`/`continue` reaching the
      top — is a located error carrying the line of one of the tokens (or 0). -/
theorem source_error_line_is_token_line (delims : List Bytes) (src : Bytes) (line : Nat) (ast : List AST)
    (hp : parseTokens stdGrammar objChk (scan delims src line) = .ok ast) :
    CPost (fun e => TokLine (scan delims src line) e.line)
      (fun root => noInclList root = true → ∀ (c : RCtx) (env : Env),
        Post (fun e => ∃ se, e = .located se ∧ TokLine (scan delims src line) se.line)
             (StatusTok (scan delims src line))
             (renderRoot c root env))
      (compileList ast) := by
  have tl := tree_lines_are_token_lines objChk (scan delims src line) ast hp
  refine (cpost_compileList (tokLinesList ast) ast (fun _ h => h)).mono (fun e he => tl _ he) (fun root hc hni c env => ?_)
  refine Post.mono (render_error_line_in_tree c root hni env) (fun e he => ?_) (fun st hst => ?_)
  · cases e with
    | plain _ => exact he.elim
    | located se => exact ⟨se, rfl, he.elim Or.inl (fun h => tl _ (hc _ h))⟩
  · cases st with
    | done => exact True.intro
    | brk e => exact hst.elim Or.inl (fun h => tl _ (hc _ h))
    | cont e => exact hst.elim Or.inl (fun h => tl _ (hc _ h))
