import Liquid.InsertionSort
import Proofs.ResLemmas
/-!
# Go's insertion sort (`Liquid/InsertionSort.lean`): permutation, sortedness, stability, agreement
with `List.mergeSort`

`lt` is the comparator handed to `sort.Sort` (`data.Less`); no property of it
is assumed unless stated. `insertionSortM` is the sort over a comparator that may not answer; the sort over one that
always answers is its `ok` instance (`insertionSortM_ok`). `Proofs/C15.lean`
restates the main results under the property's names (`insertionSort_perm`, `insertionSort_sorted`,
`insertionSort_stable`, `insertionSort_eq_mergeSort`, `insertionSort_partial`).

The sort looks at its elements only through the comparator (`insertionSortM_rel`): run on the two images `l.map p`,
`l.map q` of one list under two comparators whose outcomes on images of members of `l` go side by side (`step`), the
two runs stay side by side and, where they end, end on the two images of ONE permutation of `l` (`ret`). `Q` is any
relation between the two outcomes that `step` and `ret` keep; `step` is in continuation form, so no law about `Q` and
`bind` is asked for. Permutation, agreement of the two versions, "never panics" and invariance under a map of the
elements are instances.

`sortPath` is `sort.Sort` as the filters' models have it: the insertion sort up to 12 elements, `mergeSort` by "not
greater" beyond. On a strict weak order (`SWOn`) the insertion sort IS that `mergeSort` (`insertionSort_swo`: the first element of
the input enters the sorted rest as `mergeSort_cons` says), which is where its sortedness comes from; permutation and stability
hold for every comparator and are proved of the loop itself. So on a strict weak order the two branches are the same list
(`sortPath_swo`). On a strict total order (`TotalOn`) the sorted list does not depend on the order in which the elements arrive
(`TotalOn.insertionSort_perm`).
-/

section
variable {α β γ ε ε' : Type} {ltM : α → α → Res ε Bool} {ltM' : β → β → Res ε' Bool} {p : γ → α} {q : γ → β}
  {Q : Res ε (List α) → Res ε' (List β) → Prop} {l : List γ}
  (step : ∀ c ∈ l, ∀ d ∈ l, ∀ {k k'}, (∀ b, Q (k b) (k' b)) →
    Q ((ltM (p c) (p d)).bind k) ((ltM' (q c) (q d)).bind k'))
include step

theorem insertRevM_rel {x : γ} (hx : x ∈ l) :
    ∀ {rev : List γ}, (∀ y ∈ rev, y ∈ l) → ∀ {k k'}, (∀ m : List γ, m.Perm (x :: rev) → Q (k (m.map p)) (k' (m.map q))) →
      Q ((insertRevM ltM (p x) (rev.map p)).bind k) ((insertRevM ltM' (q x) (rev.map q)).bind k')
  | [], _, _, _, hk => hk [x] (.refl _)
  | y :: r, hr, k, k', hk => by
    simp only [List.map_cons, insertRevM, Res.bind_assoc]
    refine step x hx y (hr y List.mem_cons_self) fun b => ?_
    cases b
    · exact hk (x :: y :: r) (.refl _)
    · simp only [if_true, Res.bind_assoc, Res.bind_ok]
      exact insertRevM_rel hx (fun z hz => hr z (List.mem_cons_of_mem _ hz)) (k := fun r => k (p y :: r))
        (k' := fun r => k' (q y :: r)) fun m hm => hk (y :: m) ((hm.cons y).trans (.swap x y r))

variable (ret : ∀ m : List γ, m.Perm l → Q (.ok (m.map p)) (.ok (m.map q)))
include ret

theorem insertionLoopM_rel :
    ∀ {rest rev : List γ}, (rev.reverse ++ rest).Perm l →
      Q (insertionLoopM ltM (rev.map p) (rest.map p)) (insertionLoopM ltM' (rev.map q) (rest.map q))
  | [], rev, h => by
    simp only [List.map_nil, insertionLoopM, ← List.map_reverse]
    exact ret _ (by simpa using h)
  | x :: rest, rev, h => by
    have hm : ∀ c, c = x ∨ c ∈ rev → c ∈ l := fun c hc => h.subset (by
      rcases hc with rfl | hc <;> simp [*])
    refine insertRevM_rel step (hm x (.inl rfl)) (fun y hy => hm y (.inr hy)) fun m hp => insertionLoopM_rel ?_
    -- `m` is `x :: rev` permuted: `m.reverse ++ rest ~ x :: rev ++ rest ~ rev.reverse ++ x :: rest ~ l`
    refine (((List.reverse_perm m).trans hp).append_right rest).trans (.trans ?_ h)
    exact (((List.reverse_perm rev).symm.append_right rest).cons x).trans List.perm_middle.symm

theorem insertionSortM_rel : Q (insertionSortM ltM (l.map p)) (insertionSortM ltM' (l.map q)) :=
  insertionLoopM_rel step ret (rest := l) (rev := []) (.refl _)

end

section
variable {α β γ ε : Type}

theorem insertRevM_ok (lt : α → α → Bool) (x : α) :
    ∀ rev : List α, insertRevM (ε := ε) (fun a b => .ok (lt a b)) x rev = .ok (insertRev lt x rev)
  | [] => rfl
  | y :: r => by
    simp only [insertRevM, insertRev, Res.bind_ok, insertRevM_ok lt x r]
    cases lt x y <;> rfl

theorem insertionLoopM_ok (lt : α → α → Bool) :
    ∀ rest rev : List α, insertionLoopM (ε := ε) (fun a b => .ok (lt a b)) rev rest = .ok (insertionLoop lt rev rest)
  | [], _ => rfl
  | x :: rest, rev => by
    simp only [insertionLoopM, insertionLoop, insertRevM_ok, Res.bind_ok, insertionLoopM_ok lt rest]

theorem insertionSortM_ok (lt : α → α → Bool) (xs : List α) :
    insertionSortM (ε := ε) (fun a b => .ok (lt a b)) xs = .ok (insertionSort lt xs) :=
  insertionLoopM_ok lt xs []

/-- the total form: two comparators that agree on the images of the members of `l` apply ONE permutation -/
theorem insertionSort_rel {lt : α → α → Bool} {lt' : β → β → Bool} (p : γ → α) (q : γ → β) (l : List γ)
    (h : ∀ c ∈ l, ∀ d ∈ l, lt (p c) (p d) = lt' (q c) (q d)) :
    ∃ m : List γ, m.Perm l ∧ insertionSort lt (l.map p) = m.map p ∧ insertionSort lt' (l.map q) = m.map q := by
  have := insertionSortM_rel (ε := Unit) (ε' := Unit) (ltM := fun a b => .ok (lt a b)) (ltM' := fun a b => .ok (lt' a b))
    (Q := fun r r' => ∃ m : List γ, m.Perm l ∧ r = .ok (m.map p) ∧ r' = .ok (m.map q)) (l := l)
    (fun c hc d hd k k' hk => by simp only [Res.bind_ok, h c hc d hd]; exact hk _) (fun m hm => ⟨m, hm, rfl, rfl⟩)
  simpa only [insertionSortM_ok, Res.ok.injEq] using this

theorem insertionSort_map (f : β → α) (lt : α → α → Bool) (l : List β) :
    (insertionSort (fun a b => lt (f a) (f b)) l).map f = insertionSort lt (l.map f) := by
  obtain ⟨m, _, h, h'⟩ := insertionSort_rel (lt := fun a b => lt (f a) (f b)) (lt' := lt) id f l fun _ _ _ _ => rfl
  rw [List.map_id] at h
  rw [h, h', List.map_id]

theorem insertionSortM_perm {lt : α → α → Res ε Bool} {xs out : List α}
    (h : insertionSortM lt xs = .ok out) : out.Perm xs := by
  have := insertionSortM_rel (ltM := lt) (ltM' := lt) (p := id) (q := id)
    (Q := fun r _ => ∀ out, r = .ok out → out.Perm xs) (l := xs)
    (fun _ _ _ _ _ _ hk out h => by obtain ⟨b, _, h⟩ := Res.bind_eq_ok h; exact hk b out h)
    (fun m hm out h => by cases h; rwa [List.map_id])
  rw [List.map_id] at this
  exact this out h

theorem insertionSort_perm' (lt : α → α → Bool) (xs : List α) : (insertionSort lt xs).Perm xs :=
  insertionSortM_perm (ε := Unit) (insertionSortM_ok lt xs)

theorem insertionSortM_eq {ltM : α → α → Res ε Bool} {lt : α → α → Bool} {xs : List α}
    (hlt : ∀ a ∈ xs, ∀ b ∈ xs, ltM a b = .ok (lt a b)) :
    insertionSortM ltM xs = .ok (insertionSort lt xs) := by
  have := insertionSortM_rel (ltM := ltM) (ltM' := fun a b => (.ok (lt a b) : Res ε Bool)) (p := id) (q := id)
    (Q := Eq) (l := xs) (fun c hc d hd k k' hk => by simp only [id_eq, hlt c hc d hd]; exact hk _) (fun _ _ => rfl)
  rwa [List.map_id, insertionSortM_ok] at this

theorem insertionSortM_isPanic {lt : α → α → Res ε Bool} (hlt : ∀ a b, (lt a b).isPanic = false)
    (xs : List α) : (insertionSortM lt xs).isPanic = false := by
  have := insertionSortM_rel (ltM := lt) (ltM' := lt) (p := id) (q := id) (Q := fun r _ => r.isPanic = false) (l := xs)
    (fun c _ d _ _ _ hk => Res.isPanic_bind (hlt c d) fun b _ => hk b) (fun _ _ => rfl)
  rwa [List.map_id] at this

/-- "not greater" is transitive and total on `l`: `lt` is a strict weak order there (the hypotheses of
`insertionSort_eq_mergeSort`) -/
def SWOn (lt : α → α → Bool) (l : List α) : Prop :=
  (∀ a ∈ l, ∀ b ∈ l, ∀ c ∈ l, lt b a = false → lt c b = false → lt c a = false) ∧
  (∀ a ∈ l, ∀ b ∈ l, lt b a = false ∨ lt a b = false)

/-- `lt` is a strict weak order on a list on which it is the strict part of a total preorder of keys (the form in which C15
has the order facts of `values.Less`) -/
theorem swOn_of_key (lt : α → α → Bool) {κ : Type} (key : α → κ) (kle : κ → κ → Prop)
    (ktrans : ∀ a b c, kle a b → kle b c → kle a c) (ktotal : ∀ a b, kle a b ∨ kle b a)
    (l : List α) (h : ∀ a ∈ l, ∀ b ∈ l, (lt a b = true ↔ ¬ kle (key b) (key a))) : SWOn lt l := by
  have hf : ∀ a ∈ l, ∀ b ∈ l, (lt a b = false ↔ kle (key b) (key a)) := by
    intro a ha b hb
    rw [← Bool.not_eq_true, h a ha b hb, Classical.not_not]
  refine ⟨?_, ?_⟩
  · intro a ha b hb c hc hba hcb
    exact (hf c hc a ha).mpr (ktrans _ _ _ ((hf b hb a ha).mp hba) ((hf c hc b hb).mp hcb))
  · intro a ha b hb
    rcases ktotal (key a) (key b) with hk | hk
    · exact Or.inl ((hf b hb a ha).mpr hk)
    · exact Or.inr ((hf a ha b hb).mpr hk)

theorem sublist_insertRev (lt : α → α → Bool) (x : α) (rev : List α) : rev.Sublist (insertRev lt x rev) := by
  induction rev with
  | nil => simp
  | cons y r ih =>
    unfold insertRev
    split
    · exact ih.cons_cons y
    · exact List.sublist_cons_self x _

/-- the travelling element ends up to the right of everything it is not less than -/
theorem cons_sublist_insertRev {lt : α → α → Bool} {x : α} :
    ∀ {rev ys : List α}, ys.Sublist rev → (∀ y ∈ ys, lt x y = false) →
      (x :: ys).Sublist (insertRev lt x rev)
  | [], ys, hs, _ => by
    cases List.sublist_nil.mp hs
    simp [insertRev]
  | c :: r, ys, hs, hys => by
    unfold insertRev
    cases hxc : lt x c
    · simp only [Bool.false_eq_true, if_false]
      exact hs.cons_cons x
    · simp only [if_true]
      refine (cons_sublist_insertRev (rev := r) ?_ hys).cons c
      cases hs with
      | cons _ h => exact h
      | cons_cons _ h =>
        have := hys c List.mem_cons_self
        rw [hxc] at this
        cases this

/-- stability as an invariant of the outer loop: of a chosen subsequence of the input, `ys` is the part already inserted (it
stands reversed in `rev`) and `zs` the part still to come -/
theorem insertionLoop_stable {lt : α → α → Bool} :
    ∀ {rest rev ys zs : List α}, ys.reverse.Sublist rev → zs.Sublist rest →
      (ys ++ zs).Pairwise (fun a b => lt b a = false) → (ys ++ zs).Sublist (insertionLoop lt rev rest)
  | [], rev, ys, zs, hy, hz, _ => by
    cases List.sublist_nil.mp hz
    unfold insertionLoop
    simpa using hy.reverse
  | x :: rest, rev, ys, zs, hy, hz, hp => by
    unfold insertionLoop
    cases hz with
    | cons _ h => exact insertionLoop_stable (hy.trans (sublist_insertRev lt x rev)) h hp
    | @cons_cons zs' _ _ h =>
      have hp' : ((ys ++ [x]) ++ zs').Pairwise (fun a b => lt b a = false) := by simpa using hp
      have hx : ∀ y ∈ ys.reverse, lt x y = false := by
        intro y hy'
        rw [List.pairwise_append] at hp
        exact hp.2.2 y (List.mem_reverse.mp hy') x List.mem_cons_self
      have := insertionLoop_stable (lt := lt) (rest := rest) (rev := insertRev lt x rev) (ys := ys ++ [x]) (zs := zs')
        (by simpa using cons_sublist_insertRev hy hx) h hp'
      simpa using this

/-- the first element of the input enters the (reversed) sorted rest: it passes whatever is not
strictly below it — the step `mergeSort (a :: l)` makes (`List.mergeSort_cons`) -/
def insRevL (lt : α → α → Bool) (a : α) : List α → List α
  | [] => [a]
  | c :: r => if lt c a then a :: c :: r else c :: insRevL lt a r

theorem insRevL_append (lt : α → α → Bool) (a : α) (p q : List α)
    (hp : ∀ c ∈ p, lt c a = false) (hq : ∀ b ∈ q, lt b a = true) :
    insRevL lt a (p ++ q) = p ++ a :: q := by
  induction p with
  | nil =>
    cases q with
    | nil => rfl
    | cons b q => simp [insRevL, hq b List.mem_cons_self]
  | cons c p ih =>
    have hc := hp c List.mem_cons_self
    simp only [List.cons_append, insRevL, hc, Bool.false_eq_true, if_false]
    rw [ih (fun z hz => hp z (List.mem_cons_of_mem _ hz))]

/-- the two insertions commute (no sortedness needed): the last element of the input entering from
the right, the first one from the left -/
theorem insertRev_insRevL {lt : α → α → Bool}
    (t1 : ∀ a b c, lt a b = true → lt b c = true → lt a c = true)
    (t2 : ∀ a b c, lt a b = false → lt b c = false → lt a c = false) (x a : α) :
    ∀ rev : List α, insertRev lt x (insRevL lt a rev) = insRevL lt a (insertRev lt x rev)
  | [] => by
    simp only [insRevL, insertRev]
  | c :: r => by
    have ih := insertRev_insRevL t1 t2 x a r
    cases hca : lt c a <;> cases hxc : lt x c
    · have hxa : lt x a = false := t2 x c a hxc hca
      simp [insRevL, insertRev, hca, hxc, hxa]
    · simp [insRevL, insertRev, hca, hxc, ih]
    · cases hxa : lt x a <;> simp [insRevL, insertRev, hca, hxc, hxa]
    · have hxa : lt x a = true := t1 x c a hxc hca
      simp [insRevL, insertRev, hca, hxc, hxa]

theorem insertionLoop_insRevL {lt : α → α → Bool}
    (t1 : ∀ a b c, lt a b = true → lt b c = true → lt a c = true)
    (t2 : ∀ a b c, lt a b = false → lt b c = false → lt a c = false) (a : α) :
    ∀ rest rev : List α,
      insertionLoop lt (insRevL lt a rev) rest = (insRevL lt a (insertionLoop lt rev rest).reverse).reverse
  | [], rev => by simp [insertionLoop]
  | x :: rest, rev => by
    unfold insertionLoop
    rw [insertRev_insRevL t1 t2]
    exact insertionLoop_insRevL t1 t2 a rest _

theorem reverse_mergeSort_cons {le : α → α → Bool}
    (trans : ∀ (a b c : α), le a b → le b c → le a c) (total : ∀ (a b : α), le a b || le b a)
    (a : α) (l : List α) :
    ((a :: l).mergeSort le).reverse = insRevL (fun x y => !le y x) a (l.mergeSort le).reverse := by
  obtain ⟨l₁, l₂, h₁, h₂, h₃⟩ := List.mergeSort_cons trans total a l
  have hs := List.pairwise_mergeSort trans total (a :: l)
  rw [h₁, List.pairwise_append] at hs
  rw [h₁, h₂, List.reverse_append, List.reverse_append, List.reverse_cons, List.append_assoc]
  refine (insRevL_append _ a l₂.reverse l₁.reverse ?_ ?_).symm
  · intro c hc
    have := (List.pairwise_cons.mp hs.2.1).1 c (List.mem_reverse.mp hc)
    simp [this]
  · intro b hb
    exact h₃ b (List.mem_reverse.mp hb)

theorem insertionSort_eq_mergeSort_total {le : α → α → Bool}
    (trans : ∀ (a b c : α), le a b → le b c → le a c) (total : ∀ (a b : α), le a b || le b a)
    (l : List α) : insertionSort (fun x y => !le y x) l = l.mergeSort le := by
  have t1 : ∀ a b c : α, (!le b a) = true → (!le c b) = true → (!le c a) = true := by
    intro a b c hab hbc
    cases hca : le c a
    · rfl
    · have hbc' : le b c = true := by
        have := total b c
        cases h : le b c
        · simp [h] at this; simp [this] at hbc
        · rfl
      have := trans b c a hbc' hca
      simp [this] at hab
  have t2 : ∀ a b c : α, (!le b a) = false → (!le c b) = false → (!le c a) = false := by
    intro a b c hab hbc
    have h1 : le b a = true := by simpa using hab
    have h2 : le c b = true := by simpa using hbc
    simp [trans c b a h2 h1]
  induction l with
  | nil => simp [insertionSort, insertionLoop]
  | cons a l ih =>
    have h := insertionLoop_insRevL t1 t2 a l []
    have h0 : insRevL (fun x y => !le y x) a [] = [a] := rfl
    have h1 : insertionSort (fun x y => !le y x) (a :: l) = insertionLoop (fun x y => !le y x) [a] l := rfl
    rw [h1, ← h0, h]
    have : insertionLoop (fun x y => !le y x) [] l = l.mergeSort le := ih
    rw [this, ← reverse_mergeSort_cons trans total, List.reverse_reverse]


theorem SWOn.of_asym {lt : α → α → Bool} {l : List α} (asym : ∀ a ∈ l, ∀ b ∈ l, lt a b = true → lt b a = false)
    (ntrans : ∀ a ∈ l, ∀ b ∈ l, ∀ c ∈ l, lt a b = false → lt b c = false → lt a c = false) : SWOn lt l :=
  ⟨fun a ha b hb c hc hba hcb => ntrans c hc b hb a ha hcb hba, fun a ha b hb => by
    cases hab : lt a b
    · exact .inr rfl
    · exact .inl (asym a ha b hb hab)⟩

/-- on a strict weak order the insertion sort is the `mergeSort` by "not greater", and therefore sorted. Core's theorems about
`mergeSort` ask for an order on the whole type: the members of `l` are sorted as a type of their own. -/
theorem insertionSort_swo {lt : α → α → Bool} {l : List α} (h : SWOn lt l) :
    insertionSort lt l = l.mergeSort (fun a b => !lt b a) ∧ (insertionSort lt l).Pairwise (fun a b => lt b a = false) := by
  let le' : {x // x ∈ l} → {x // x ∈ l} → Bool := fun a b => !lt b.1 a.1
  have trans' : ∀ a b c : {x // x ∈ l}, le' a b → le' b c → le' a c := by
    intro a b c hab hbc
    have h1 : lt b.1 a.1 = false := by simpa [le'] using hab
    have h2 : lt c.1 b.1 = false := by simpa [le'] using hbc
    simp [le', h.1 a.1 a.2 b.1 b.2 c.1 c.2 h1 h2]
  have total' : ∀ a b : {x // x ∈ l}, le' a b || le' b a := by
    intro a b
    rcases h.2 a.1 a.2 b.1 b.2 with h | h <;> simp [le', h]
  have hm : (l.attach.mergeSort le').map Subtype.val = l.mergeSort (fun a b => !lt b a) := by
    have h := List.map_mergeSort (r := le') (s := fun a b => !lt b a) (f := Subtype.val) (l := l.attach)
      (fun a _ b _ => rfl)
    rw [h, List.attach_map_subtype_val]
  have hi : (insertionSort (fun x y => !le' y x) l.attach).map Subtype.val = insertionSort lt l := by
    have h := insertionSort_map (Subtype.val : {x // x ∈ l} → α) lt l.attach
    rw [List.attach_map_subtype_val] at h
    rw [← h]
    congr 2
    funext a b
    simp [le']
  rw [← hi, insertionSort_eq_mergeSort_total trans' total']
  refine ⟨hm, List.pairwise_map.mpr ((List.pairwise_mergeSort trans' total' l.attach).imp fun hab => ?_)⟩
  simpa [le'] using hab

def sortPath (lt : α → α → Bool) (xs : List α) : List α :=
  if xs.length ≤ maxInsertion then insertionSort lt xs else xs.mergeSort fun a b => !lt b a

theorem sortPath_perm (lt : α → α → Bool) (xs : List α) : (sortPath lt xs).Perm xs := by
  unfold sortPath
  split
  · exact insertionSort_perm' lt xs
  · exact List.mergeSort_perm xs _

theorem sortPath_swo {lt : α → α → Bool} {l : List α} (h : SWOn lt l) :
    sortPath lt l = l.mergeSort (fun a b => !lt b a) ∧ (sortPath lt l).Pairwise (fun a b => lt b a = false) := by
  have e := insertionSort_swo h
  have : sortPath lt l = insertionSort lt l := by
    unfold sortPath
    split
    · rfl
    · exact e.1.symm
  rwa [this]

end

section
variable {α : Type}

/-- `lt` is a strict total order on the elements of `l` (in the form `insertionSort` uses it: by the answers of `lt`) -/
structure TotalOn (lt : α → α → Bool) (l : List α) : Prop where
  asym : ∀ a ∈ l, ∀ b ∈ l, lt a b = true → lt b a = false
  ntrans : ∀ a ∈ l, ∀ b ∈ l, ∀ c ∈ l, lt a b = false → lt b c = false → lt a c = false
  tri : ∀ a ∈ l, ∀ b ∈ l, lt a b = false → lt b a = false → a = b

theorem TotalOn.perm {lt : α → α → Bool} {l l' : List α} (h : TotalOn lt l) (hp : l'.Perm l) : TotalOn lt l' :=
  ⟨fun a ha b hb => h.asym a (hp.subset ha) b (hp.subset hb),
   fun a ha b hb c hc => h.ntrans a (hp.subset ha) b (hp.subset hb) c (hp.subset hc),
   fun a ha b hb => h.tri a (hp.subset ha) b (hp.subset hb)⟩

theorem TotalOn.congr {lt lt' : α → α → Bool} {l : List α} (h : TotalOn lt l) (e : ∀ a ∈ l, ∀ b ∈ l, lt' a b = lt a b) :
    TotalOn lt' l :=
  ⟨fun a ha b hb => by rw [e a ha b hb, e b hb a ha]; exact h.asym a ha b hb,
   fun a ha b hb c hc => by rw [e a ha b hb, e b hb c hc, e a ha c hc]; exact h.ntrans a ha b hb c hc,
   fun a ha b hb => by rw [e a ha b hb, e b hb a ha]; exact h.tri a ha b hb⟩

/-- the sorted list does not depend on the order in which the elements arrive -/
theorem TotalOn.insertionSort_perm {lt : α → α → Bool} {l l' : List α} (h : TotalOn lt l) (hp : l'.Perm l) :
    insertionSort lt l' = insertionSort lt l := by
  have h' := h.perm hp
  refine List.Perm.eq_of_pairwise (le := fun a b => lt b a = false) (fun a b ha hb hab hba => ?_)
    (insertionSort_swo (.of_asym h'.asym h'.ntrans)).2 (insertionSort_swo (.of_asym h.asym h.ntrans)).2
    (((insertionSort_perm' lt l').trans hp).trans (insertionSort_perm' lt l).symm)
  exact h.tri a (hp.subset ((insertionSort_perm' lt l').subset ha)) b ((insertionSort_perm' lt l).subset hb) hba hab

end

/-! ## `List.mergeSort` of one list in two orders of delivery

An order that cannot tell two different members apart sorts every permutation of the list to the same result
(C02: map entries; the members of a JSON object, sorted by key). -/

theorem mergeSort_perm_invariant {α : Type} (le : α → α → Bool)
    (trans : ∀ a b c, le a b → le b c → le a c) (total : ∀ a b, le a b || le b a)
    {l₁ l₂ : List α} (hperm : l₁.Perm l₂) (anti : ∀ a b, a ∈ l₁ → b ∈ l₁ → le a b → le b a → a = b) :
    l₁.mergeSort le = l₂.mergeSort le := by
  apply List.Perm.eq_of_pairwise (le := fun a b => le a b = true)
  · intro a b ha hb hab hba
    have ha' : a ∈ l₁ := (List.mergeSort_perm l₁ le).subset ha
    have hb' : b ∈ l₁ := hperm.symm.subset ((List.mergeSort_perm l₂ le).subset hb)
    exact anti a b ha' hb' hab hba
  · exact List.pairwise_mergeSort trans total l₁
  · exact List.pairwise_mergeSort trans total l₂
  · exact ((List.mergeSort_perm l₁ le).trans hperm).trans (List.mergeSort_perm l₂ le).symm

theorem mergeSort_key_perm {β : Type} {le : Bytes × β → Bytes × β → Bool} (hle : ∀ a b, le a b = decide (a.1 ≤ b.1))
    {l l' : List (Bytes × β)} (hperm : l.Perm l') (hdistinct : ∀ a b, a ∈ l → b ∈ l → a.1 = b.1 → a = b) :
    l.mergeSort le = l'.mergeSort le := by
  simp only [funext fun a => funext (hle a)]
  apply mergeSort_perm_invariant _ _ _ hperm
  · intro a b ha hb hab hba
    exact hdistinct a b ha hb (List.le_antisymm (of_decide_eq_true hab) (of_decide_eq_true hba))
  · intro a b c hab hbc
    exact decide_eq_true (List.le_trans (of_decide_eq_true hab) (of_decide_eq_true hbc))
  · intro a b
    simp only [Bool.or_eq_true, decide_eq_true_eq]
    exact List.le_total a.1 b.1
