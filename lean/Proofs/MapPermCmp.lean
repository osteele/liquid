import Proofs.RepEqCmp
import Proofs.MapPerm
import Proofs.ValView
/-!
# The standard comparisons and the order of map entries (helper lemmas for C02)

`prep_mp`: the form in which the driver hands a value to `Liquid/Compare.lean` (`Cmp.prep`) keeps `MP`, side conditions
of `MP.map` included (the keys of such a map are booleans, numbers or strings, which `prep` leaves as they are).
`<` (and `>`, `<=`, `>=` through it) only orders scalars: on two related operands it gives the same
answer (`opLt_prep_mp`, exact).
-/

open GoVal MapOrder Cmp

theorem prep_goodKey {k : GoVal} (h : GoodKey k) : prep k = k := by
  cases k <;> simp [GoodKey, goodKey] at h <;> rfl

theorem isPrivMap_prep (v : GoVal) : isPrivMap (prep v) = isPrivMap v := by
  cases v with
  | map kt vt kvs => cases vt <;> simp [prep, isPrivMap]
  | _ => simp [prep, isPrivMap]

theorem prepKVs_keys_good {kvs : List (GoVal × GoVal)} (hk : ∀ kv ∈ kvs, GoodKey kv.1) :
    (prepKVs kvs).map (·.1) = kvs.map (·.1) := by
  rw [prepKVs_eq_map, List.map_map]
  apply List.map_congr_left
  intro kv hkv
  exact prep_goodKey (hk kv hkv)

theorem noPriv_prepKVs {kvs : List (GoVal × GoVal)} (hn : NoPriv kvs) : NoPriv (prepKVs kvs) := by
  intro kv hkv
  rw [prepKVs_eq_map] at hkv
  obtain ⟨kv', hkv', rfl⟩ := List.mem_map.mp hkv
  simp only [isPrivMap_prep]
  exact hn kv' hkv'

theorem noPriv_prepFields : ∀ {fs : List (Bytes × GoVal)}, NoPrivF fs → NoPriv (prepFields fs)
  | [], _ => by intro kv h; cases h
  | (k, v) :: r, hn => by
    intro kv hkv
    simp only [prepFields, List.mem_cons] at hkv
    rcases hkv with rfl | hkv
    · simp only [isPrivMap_prep]; exact hn (k, v) List.mem_cons_self
    · exact noPriv_prepFields (fun f hf => hn f (List.mem_cons_of_mem _ hf)) kv hkv

mutual
theorem prep_mp : ∀ {a b : GoVal}, MP a b → MP (prep a) (prep b)
  | _, _, .refl v => .refl _
  | _, _, .slice t hl => by simp only [prep]; exact .slice t (prepList_mp hl)
  | _, _, .array t hl => by simp only [prep]; exact .array t (prepList_mp hl)
  | _, _, @MP.map kt vt kvs mid kvs' hv hk hn hm hp ht => by
    simp only [prep]
    refine MP.map kt vt hv ?_ (noPriv_prepKVs hn) (prepKVs_mpv hm) ?_ ?_
    · exact keysOK_of_keys_eq (prepKVs_keys_good hk.1).symm hk
    · rw [prepKVs_eq_map, prepKVs_eq_map]; exact hp.map _
    · intro kv hkv
      rw [prepKVs_eq_map] at hkv
      obtain ⟨kv', hkv', rfl⟩ := List.mem_map.mp hkv
      simp only [prep_goodKey (hk.1 kv' hkv')]
      exact ht kv' hkv'
  | _, _, .mapVals kt vt hv hn hm => by
    simp only [prep]
    exact .mapVals kt vt hv (noPriv_prepKVs hn) (prepKVs_mpv hm)
  | _, _, .mapSlice hm => by simp only [prep]; exact .mapSlice (prepKVs_mpv hm)
  | _, _, .keyedMap hn hf => by
    simp only [prep]
    exact .mapVals _ _ (by simp) (noPriv_prepFields hn) (prepFields_mpf hf)
  | _, _, .struct hf => by simp only [prep]; exact .struct hf
  | _, _, .ptr h => by simp only [prep]; exact .ptr (prep_mp h)
  | _, _, .drop h => by simp only [prep]; exact .drop (prep_mp h)
theorem prepList_mp : ∀ {xs ys : List GoVal}, MPL xs ys → MPL (prepList xs) (prepList ys)
  | _, _, .nil => .nil
  | _, _, .cons hx h => by simp only [prepList]; exact .cons (prep_mp hx) (prepList_mp h)
theorem prepKVs_mpv : ∀ {kvs kvs' : List (GoVal × GoVal)}, MPV kvs kvs' → MPV (prepKVs kvs) (prepKVs kvs')
  | _, _, .nil => .nil
  | _, _, .cons k hv h => by simp only [prepKVs]; exact .cons (prep k) (prep_mp hv) (prepKVs_mpv h)
theorem prepFields_mpf : ∀ {fs fs' : List (Bytes × GoVal)}, MPF fs fs' → MPV (prepFields fs) (prepFields fs')
  | _, _, .nil => .nil
  | _, _, .cons k hv h => by simp only [prepFields]; exact .cons (.str k) (prep_mp hv) (prepFields_mpf h)
end

theorem rkind_mp {a b : GoVal} (h : MP a b) : rkind a = rkind b := by
  cases h <;> rfl

theorem scalar_mp {a b : GoVal} (h : MP a b) : scalar a = scalar b := by
  cases h <;> rfl

theorem lessTL_mp {u u' v v' : GoVal} (hu : MP u u') (hv : MP v v') : lessTL u v = lessTL u' v' := by
  rw [lessTL_eq, lessTL_eq, scalar_mp hu, scalar_mp hv]
/-- `a < b` on related operands (`stdPrims.less`) -/
theorem opLt_prep_mp {a a' b b' : GoVal} (ha : MP a a') (hb : MP b b') :
    opLt (prep a) (prep b) = opLt (prep a') (prep b') := by
  rw [opLt_prep, opLt_prep]
  exact lessTL_mp (prep_mp ha.unwrap) (prep_mp hb.unwrap)
