import Proofs.NumLemmas
import Proofs.F64Mono
/-!
# Helper lemmas for C17: the receiver conversion of the numeric filters; `round` without an argument rounds half up
(toward +∞) on every float64 below 2^52
-/

theorem convert_f64_shape (v c : GoVal) (h : convert v .f64 = .ok c) : ∃ r, c = .flt .f64 r := by
  simp only [convert] at h
  generalize v.toLiquid = w at h
  cases w <;> simp only [reduceCtorEq] at h
  case int k n =>
    cases hf : f64Round (n : Rat) <;> simp only [hf, Res.bind, reduceCtorEq, Res.ok.injEq] at h
    exact ⟨_, h.symm⟩
  case flt k q =>
    simp only [Res.ok.injEq] at h
    exact ⟨_, h.symm⟩
  case str s =>
    cases hf : parseFloatStr s <;> simp only [hf, Res.bind, reduceCtorEq, Res.ok.injEq] at h
    exact ⟨_, h.symm⟩

/-- an integer of any Go kind converts to the nearest float64 (no overflow: `|n| ≤ 2^64`) -/
theorem convert_int_f64 (k : IntKind) (n : Int) (hk : k.inRange n = true) :
    ∃ r, roundF64 (n : Rat) = some r ∧ convert (.int k n) .f64 = .ok (.flt .f64 r) := by
  have hb : -(2 ^ 64 : Int) ≤ n ∧ n ≤ (2 ^ 64 : Int) := by
    have : -(2 ^ 64 : Int) ≤ k.minVal ∧ k.maxVal ≤ (2 ^ 64 : Int) := by cases k <;> decide
    simp only [IntKind.inRange, Bool.and_eq_true, decide_eq_true_eq] at hk
    omega
  obtain ⟨r, e1, _, _⟩ := roundF64_some_of_abs_le (n : Rat) ((2 ^ 64 : Int) : Rat) (by decide +kernel)
    (by rw [← Rat.intCast_neg]; exact Rat.intCast_le_intCast.2 hb.1) (Rat.intCast_le_intCast.2 hb.2)
  refine ⟨r, e1, ?_⟩
  simp [convert, GoVal.toLiquid, f64Round, e1, Res.bind]

theorem representable_intCast (n : Int) (h1 : -(2 ^ 53) < n) (h2 : n < 2 ^ 53) : Representable (n : Rat) := by
  have c : pow2 (53 + 0) = ((2 ^ 53 : Int) : Rat) := by decide +kernel
  refine (onGrid_intCast n (Int.le_refl 0)).representable (by decide) (by decide) ?_ ?_
  · rw [c, ← Rat.intCast_neg]; exact Rat.intCast_lt_intCast.2 h1
  · rw [c]; exact Rat.intCast_lt_intCast.2 h2

theorem pow2_neg_one : pow2 (-1) = 1 / 2 := by decide +kernel

theorem onGrid_half {e : Int} (he : e ≤ -1) : OnGrid e (1 / 2) := pow2_neg_one ▸ onGrid_pow2 he

/-- the last float64s below one half are `1/2 - 2^-53` and `1/2 - 2^-54`: a point of a grid `2^e`, `e < -53`, below `2^(53+e)`
    that is not the last is at most the one before -/
theorem below_half_gap {e : Int} {x : Rat} (hg : OnGrid e x) (he : e < -53) (hhi : x < pow2 (53 + e))
    (hne : x ≠ 1 / 2 - pow2 (-54)) : x ≤ 1 / 2 - pow2 (-53) := by
  by_cases h54 : e = -54
  · subst h54
    -- two steps down the grid `2^-54` from `1/2`
    have g1 := OnGrid.add_le hg (onGrid_half (by decide)) (pow2_neg_one ▸ (show x < pow2 (-1) from hhi))
    have g2 := OnGrid.add_le (hg.add (onGrid_pow2 (Int.le_refl _))) (onGrid_half (by decide))
      (Rat.lt_of_le_of_ne g1 (by grind))
    have : pow2 (-53) = 2 * pow2 (-54) := by decide +kernel
    grind
  · have h1 := pow2_le (show 53 + e ≤ -2 by omega)
    have h2 : pow2 (-2) ≤ 1 / 2 - pow2 (-53) := by decide +kernel
    exact Rat.le_trans (Rat.le_of_lt (Std.lt_of_lt_of_le hhi h1)) h2

/-- rounding `x + 1/2` to a float64 does not change its floor, for every float64 `x` with `-2^52 ≤ x ≤ 2^52 - 1` except the
    one just below one half (`1/2 - 2^-54`, where `x + 1/2` rounds up to `1`) -/
theorem half_up_floor (x : Rat) (hx : Representable x) (h1 : ((-(2 ^ 52) : Int) : Rat) ≤ x)
    (h2 : x ≤ ((2 ^ 52 - 1 : Int) : Rat)) (hne : x ≠ 1 / 2 - pow2 (-54)) :
    ∃ y, roundF64 (x + 1 / 2) = some y ∧ y.floor = (x + 1 / 2).floor ∧ Representable ((x + 1 / 2).floor : Rat) := by
  have lo : ((-(2 ^ 52) : Int) : Rat) ≤ x + 1 / 2 := by grind
  have hi : x + 1 / 2 < ((2 ^ 52 : Int) : Rat) := by grind
  obtain ⟨y, hy, _, _⟩ := roundF64_some_of_abs_le (x + 1 / 2) _
    (representable_intCast (2 ^ 52) (by decide) (by decide)) (by rw [← Rat.intCast_neg]; exact lo) (Rat.le_of_lt hi)
  refine ⟨y, hy, ?_⟩
  generalize hn : (x + 1 / 2).floor = n
  have hn1 : (n : Rat) ≤ x + 1 / 2 := hn ▸ Rat.floor_le _
  have hn2 : x + 1 / 2 < ((n + 1 : Int) : Rat) := hn ▸ Rat.lt_floor_add_one _
  have hnlo : -(2 ^ 52) ≤ n := hn ▸ Rat.le_floor_iff.2 lo
  have hnhi : n < 2 ^ 52 := hn ▸ Rat.floor_lt_iff.2 hi
  have hnrep := representable_intCast n (by omega) (by omega)
  -- the rounding of `x + 1/2` stays below `n + 1`: some float64 lies in between
  suffices hlt : y < ((n + 1 : Int) : Rat) by
    have f1 : n ≤ y.floor := Rat.le_floor_iff.2 (roundF64_mono hn1 hnrep hy)
    have f2 : y.floor < n + 1 := Rat.floor_lt_iff.2 hlt
    exact ⟨by omega, hnrep⟩
  have hb := fun {g : Int} (hg : g ≤ 0) => onGrid_intCast (n + 1) hg
  by_cases hxn : x ≤ (n : Rat)
  · -- `n + 1/2`
    have c : pow2 (53 + -1) = ((2 ^ 52 : Int) : Rat) := by decide +kernel
    refine roundF64_lt_of_step (g := -1) (hb (by decide)) (by decide) (by decide) ?_
      (c ▸ Rat.intCast_le_intCast.2 (by omega)) ?_ hy
    · rw [c, pow2_neg_one]; grind
    · rw [pow2_neg_one]; grind
  · have hnx : (n : Rat) < x := Rat.not_le.1 hxn
    obtain ⟨e, he, hg, hlo, hhi, _⟩ := representable_grid x hx
    have hn0 := onGrid_intCast n (Int.le_refl 0)
    -- `x` is not an integer
    have hneg : e < 0 := by
      apply Classical.byContradiction
      intro hge
      have := OnGrid.add_le hn0 (hg.of_le (show 0 ≤ e by omega)) hnx
      rw [pow2_zero] at this
      grind
    have := pow2_pos e
    by_cases hd : -53 ≤ e
    · -- `n + 1 - 2^e`, the point of the grid of `x` below `n + 1`
      have hstep := OnGrid.add_le (hg.add (onGrid_half (by omega))) (hb (by omega)) hn2
      refine roundF64_lt_of_step (g := e) (hb (by omega)) he (by omega) (by grind) ?_ hstep hy
      -- `n < x < 2^(53+e)`, an integer
      have := OnGrid.add_le hn0 (onGrid_pow2 (show 0 ≤ 53 + e by omega)) (Std.lt_trans hnx hhi)
      rw [pow2_zero] at this
      grind
    · -- `|x| < 2^(53+e) ≤ 1/2`, and `x` is not the float64 just below `1/2`: `1 - 2^-53`, the float64 just below `1 ≤ n + 1`
      have h4 : pow2 (53 + e) ≤ pow2 (-1) := pow2_le (by omega)
      rw [pow2_neg_one] at h4
      have hx53 := below_half_gap hg (by omega) hhi hne
      have h0 : 0 ≤ n := hn ▸ Rat.le_floor_iff.2 (by grind)
      have hw : Representable (1 - pow2 (-53)) := by decide +kernel
      exact Std.lt_of_le_of_lt (roundF64_mono (by grind) hy hw)
        (Std.lt_of_lt_of_le (by decide +kernel) (Rat.intCast_le_intCast.2 (show 1 ≤ n + 1 by omega)))

theorem roundTo_half_up (x : Rat) (hx : Representable x) (h1 : ((-(2 ^ 52) : Int) : Rat) ≤ x)
    (h2 : x ≤ ((2 ^ 52 - 1 : Int) : Rat)) (hne : x ≠ 1 / 2 - pow2 (-54)) :
    Num.roundTo x 0 = ret (.flt .f64 ((x + 1 / 2).floor : Rat)) := by
  obtain ⟨y, hy, hfl, hrep⟩ := half_up_floor x hx h1 h2 hne
  -- the scale `math.Pow10(0)` is 1
  have hd : ∀ q : Rat, q / 1 = q := fun q => by grind
  refine roundTo_steps x 0 1 x y _ (pow10Go_small 0 (by omega)) (by decide) (by rwa [Rat.mul_one])
    (fun h0 => by simp [h0, Rat.lt_irrefl]) hy ?_
  rwa [hfl, hd]

/-- projections used to evaluate the model in `example`s (the decidable equality of `Res` and `GoVal` is in
    `Proofs/DecEq.lean`, which the files on numbers do not import) -/
def okFlt : Res Cause (Except Cause GoVal) → Option Rat
  | .ok (.ok (.flt .f64 r)) => some r
  | _ => none

def isUnmodelled : Res Cause (Except Cause GoVal) → Bool
  | .unmodelled _ => true
  | _ => false
