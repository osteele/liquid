import Proofs.ScanLemmas
import Proofs.C05
import Proofs.Utf8Lemmas
import Proofs.TwLemmas
import Proofs.TwBridge
import Proofs.C13
import Proofs.TrimLemmas
import Proofs.CaseTableLemmas
import Proofs.CaseTables
import Proofs.CaseLemmas
import Proofs.StrReplSplit
import Proofs.StrEscUrl
import Proofs.StrWords
import Proofs.StrValid
import Proofs.StrAscii
import Proofs.C16
import Proofs.NumLemmas
import Proofs.C17
import Proofs.ProgLemmas
import Proofs.RenderFile
import Proofs.RenderLogic
import Proofs.RenderStops
import Proofs.RenderSteps
import Proofs.PostLemmas
import Proofs.RunLemmas
import Proofs.LoopLemmas
import Proofs.ScopeLemmas
import Proofs.C20
import Proofs.C10
import Proofs.C11
import Proofs.C12
import Proofs.HyphenTrace
import Proofs.HyphenLemmas
import Proofs.HyphenLemmas2
import Proofs.HyphenFace
import Proofs.C13Template
import Proofs.C08
import Proofs.C07
import Proofs.C07Lines
import Proofs.C05Render
import Proofs.CompareLemmas
import Proofs.C09
import Proofs.NoPanic
import Proofs.StdNoPanicLemmas
import Proofs.ArrNoPanic
import Proofs.JsonLemmas
import Proofs.StdNoPanic
import Proofs.JsonFilter
import Proofs.DateLemmas
import Proofs.DateFormatLemmas
import Proofs.DateFilter
import Proofs.C01
import Proofs.C14
import Proofs.ToLiquidLemmas
import Proofs.WriteObjectLemmas
import Proofs.RepEq
import Proofs.RepEqOps
import Proofs.RepEqProg
import Proofs.RepEqEval
import Proofs.RenderTreeDefs
import Proofs.ProgSim
import Proofs.RenderSim
import Proofs.Oracles
import Proofs.ValView
import Proofs.FilterLogic
import Proofs.SortFilters
import Proofs.RepEqRender
import Proofs.RepEqStd
import Proofs.RepEqCmp
import Proofs.RepEqFilters
import Proofs.RepEqSort
import Proofs.C18
import Proofs.C19
import Proofs.C02
import Proofs.C03
import Proofs.ConcLemmas
import Proofs.C04
import Proofs.NestLemmas
import Proofs.ParseLemmas
import Proofs.C06
import Proofs.InsertionSort
import Proofs.ArrLemmas
import Proofs.CallLemmas
import Proofs.ResLemmas
import Proofs.C15
import Proofs.FilterSigsLemmas
import Proofs.FilterSigs
import Proofs.TokenReLemmas
import Proofs.TokenRe
import Proofs.MapIter
import Proofs.MapOrderLemmas
import Proofs.MapOrder
import Proofs.MapPerm
import Proofs.MapPermOps
import Proofs.MapPermRender
import Proofs.MapPermStd
import Proofs.MapPermCmp
import Proofs.MapPermEqual
import Proofs.MapPermFilters
import Proofs.MapPermJson
import Proofs.MapPermUniq
import Proofs.MapPermSort
import Proofs.GlobalCalls
import Proofs.E2ERun
import Proofs.C05E2E
import Proofs.VerbatimLemmas
import Proofs.C05Verbatim
import Proofs.E2EParse
import Proofs.C06E2E
import Proofs.E2ERegex
import Proofs.E2EUnits
import Proofs.E2ESpell
import Proofs.E2EToken
import Proofs.E2EScan
import Proofs.TokMap
import Proofs.E2ECompile
import Proofs.E2EEquiv
import Proofs.C19E2E
import Proofs.C05Spell
import Proofs.ExprLexLemmas
import Proofs.ExprLexemes
import Proofs.ExprSpacing
import Proofs.ExprShowParse
import Proofs.ExprRoundTrip
import Proofs.ExprShowLex
import Proofs.F64Lemmas
import Proofs.NumRound
import Proofs.F64Mono
import Proofs.F64Nearest
import Proofs.ShowFloatLemmas
import Proofs.ExprScanImage
import Proofs.ExprParseImage
import Proofs.ExprLitLemmas
import Proofs.Numerals
import Proofs.PipeAssignLemmas
import Proofs.ExprCut
import Proofs.C08Source
import Proofs.HeapLemmas
import Proofs.HeapLogic
import Proofs.HeapFilters
import Proofs.HeapStage
import Proofs.HeapCall
import Proofs.C15Heap
import Proofs.SrcCompile
import Proofs.SrcItems
import Proofs.SrcCompilesTo
import Proofs.C10Source
import Proofs.SrcLines
import Proofs.Marks
import Proofs.SrcCompileLines
import Proofs.C07Source
import Proofs.SrcTags
import Proofs.C12Source
import Proofs.SrcWrites
import Proofs.C14Source
import Proofs.SrcLoop
import Proofs.C11Source
import Proofs.C20Source
import Proofs.SrcReline
import Proofs.SrcChain
import Proofs.SrcRelRender
import Proofs.SrcClauses
import Proofs.SrcCondErr
import Proofs.SrcShiftSource
import Proofs.SrcRelInclude
import Proofs.E2ELex
import Proofs.E2ERawBody
import Proofs.HyphenSource
import Proofs.HyphenSourceCompile
import Proofs.HyphenSourceRun
import Proofs.C13Source
import Proofs.HyphenSourceFace
import Proofs.TraceLemmas
import Proofs.RenderTrace
import Proofs.C20Located
import Proofs.TraceExact
import Proofs.C07First
import Proofs.C14Errors
import Proofs.IncludeDepthLemmas
import Proofs.C14Depth
import Proofs.C01Depth
import Proofs.TraceSites
import Proofs.IncLines
import Proofs.TraceFin
import Proofs.SrcCompileLinesInc
import Proofs.RunError
import Proofs.C07LocatedLemmas
import Proofs.C07Located
import Proofs.Budget
import Proofs.DecEq
import Proofs.RenderS
